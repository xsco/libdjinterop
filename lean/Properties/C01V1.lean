/-
C01, schema 1.x (legacy layout, the eleven versions 1.6.0 … 1.18.0 os):
"a snapshot written by create_track / update reads back unchanged up to the
stated normalisation, the read-back is a fixed point, nothing is silently
corrupted (it survives or the write throws)".

Model: `TracksV1.writeSnap` (create_track when `prior = none`, update over ANY
prior rows otherwise) and `TracksV1.readSnap` (snapshot()); Spec:
`TracksV1.Spec.normalize`.  `o : FOps` (double arithmetic that only reaches raw
columns) is arbitrary: no theorem assumes anything about it.  `NoNaN` is the
property's own quantifier ("arbitrary finite doubles"; infinities are allowed).
-/
import Proofs.TracksV1RoundTrip
import Proofs.TracksV1Spec
import Proofs.TracksV1Repr
import EngineModel.TracksV1.Accessors

namespace EngineModel.Properties.C01V1

open EngineModel EngineModel.TracksV1
open Fl (FOps)

/-- Accepted snapshots are written, and a new snapshot is exactly the normalised one —
for every version, every snapshot without NaN, and every prior state of the track. -/
theorem v1_C01_roundtrip (o : FOps) (s : Schema) (x y : Snap) (prior : Option TrackRows)
    (hn : Spec.NoNaN x = true) (h : Spec.normalize s x = some y) :
    ∃ rows, writeSnap o s x prior = .ok rows ∧ readSnap o s rows = .ok y := by
  obtain ⟨ha, rfl⟩ := Spec.normalize_eq_some.mp h
  exact writeSnap_accepted o s x prior ha hn

/-- Undefined behaviour never happens in create_track / update, whatever the snapshot (NaN included). -/
theorem v1_C01_never_ub (o : FOps) (s : Schema) (x : Snap) (prior : Option TrackRows) (u : Ub) :
    writeSnap o s x prior ≠ .ub u :=
  writeSnap_defined o s x prior u

/-- Snapshots the Spec rejects are rejected with an exception: never written, never undefined. -/
theorem v1_C01_reject (o : FOps) (s : Schema) (x : Snap) (prior : Option TrackRows)
    (hn : Spec.NoNaN x = true) (h : Spec.normalize s x = none) :
    ∃ e, writeSnap o s x prior = .throw e := by
  rcases writeSnap_cases o s x prior with ⟨ha, _⟩ | ⟨_, ht⟩
  · rw [libAccepted_eq x hn, Spec.normalize_eq_none.mp h] at ha; cases ha
  · exact ht

/-- Never "ok but wrong": whenever the write returns normally, the Spec accepts the snapshot and the
read-back is the normalised snapshot. -/
theorem v1_C01_accepts (o : FOps) (s : Schema) (x : Snap) (prior : Option TrackRows) (rows : TrackRows)
    (hn : Spec.NoNaN x = true) (hw : writeSnap o s x prior = .ok rows) :
    ∃ y, Spec.normalize s x = some y ∧ readSnap o s rows = .ok y := by
  have ha := writeSnap_ok_accepted o s x prior rows hn hw
  obtain ⟨rows', hw', hr⟩ := writeSnap_accepted o s x prior ha hn
  rw [hw] at hw'
  cases hw'
  exact ⟨Spec.normFields s x, Spec.normalize_eq_some.mpr ⟨ha, rfl⟩, hr⟩

/-- The range of `normalize` consists of fixed points. -/
theorem v1_C01_fixed_point (s : Schema) (x y : Snap) (h : Spec.normalize s x = some y) :
    Spec.normalize s y = some y := by
  obtain ⟨ha, rfl⟩ := Spec.normalize_eq_some.mp h
  exact Spec.normalize_eq_some.mpr ⟨Spec.accepted_normFields s x ha, Spec.normFields_idem s x ha⟩

/-! ### "normalisation" cannot hide a corruption

Which values the 1.x layout represents exactly, per field — explicit arithmetic predicates on the INPUT
only — and the theorem that `normalize` returns exactly those values, field by field: one field outside
its representable set says nothing about (and takes nothing away from) the others. -/

/-- not one of the two zeros (they mean "absent") -/
def ReprNonZero (v : Option Bits) : Prop := v ≠ some F64.zero ∧ v ≠ some F64.negZero
/-- any double but −0.0 (SQLite's REAL cell holds it as +0.0) -/
def ReprBpm (v : Option Bits) : Prop := v ≠ some F64.negZero
/-- whole seconds (zero included: the 1.x layout keeps a zero duration) -/
def ReprDuration (d : Option UInt64) : Prop := ∀ ms, d = some ms → Prim.s64 ms % 1000 = 0
def ReprTime (t : Option UInt64) : Prop := ∀ ns, t = some ns → Prim.s64 ns % 1000000000 = 0
/-- 0..100 -/
def ReprRating (r : Option UInt32) : Prop := ∀ v, r = some v → 0 ≤ Prim.s32 v ∧ Prim.s32 v ≤ 100
def ReprCount (v : Option UInt64) : Prop := v ≠ some 0
/-- eight slots, none at the reserved "empty" offset −1.0 -/
def ReprCues (l : List (Option Impl.V1.HotCue)) : Prop := l.length = 8 ∧ ∀ q, some q ∈ l → q.off ≠ F64.negOne
def ReprLoops (l : List (Option Impl.V1.LoopV)) : Prop := l.length = 8 ∧ ∀ q, some q ∈ l → q.start ≠ F64.negOne
/-- `file_bytes` has a column only from 1.15.0 on -/
def ReprFileBytes (s : Schema) (v : Option UInt64) : Prop := s.ge .s1_15_0 = true ∨ v = none

/-- **Every field the schema can represent comes back exactly as given**: the 14 fields stored verbatim
(the high-resolution waveform and the beat grid among them) always, the other 11 whenever the given value
is one the 1.x layout represents. -/
theorem v1_C01_representable (s : Schema) (x y : Snap) (h : Spec.normalize s x = some y) :
    y.album = x.album ∧ y.artist = x.artist ∧ y.beatgrid = x.beatgrid ∧ y.bitrate = x.bitrate ∧
    y.comment = x.comment ∧ y.composer = x.composer ∧ y.genre = x.genre ∧ y.key = x.key ∧
    y.publisher = x.publisher ∧ y.relativePath = x.relativePath ∧ y.title = x.title ∧
    y.trackNumber = x.trackNumber ∧ y.waveform = x.waveform ∧ y.year = x.year ∧
    (ReprNonZero x.averageLoudness → y.averageLoudness = x.averageLoudness) ∧
    (ReprBpm x.bpm → y.bpm = x.bpm) ∧
    (ReprDuration x.duration → y.duration = x.duration) ∧
    (ReprFileBytes s x.fileBytes → y.fileBytes = x.fileBytes) ∧
    (ReprCues x.hotCues → y.hotCues = x.hotCues) ∧
    (ReprTime x.lastPlayedAt → y.lastPlayedAt = x.lastPlayedAt) ∧
    (ReprLoops x.loops → y.loops = x.loops) ∧
    (ReprNonZero x.mainCue → y.mainCue = x.mainCue) ∧
    (ReprRating x.rating → y.rating = x.rating) ∧
    (ReprCount x.sampleCount → y.sampleCount = x.sampleCount) ∧
    (ReprNonZero x.sampleRate → y.sampleRate = x.sampleRate) := by
  obtain ⟨_, rfl⟩ := Spec.normalize_eq_some.mp h
  have nz : ∀ v, ReprNonZero v → Spec.dropZero v = v := Spec.dropZero_of_repr
  refine ⟨rfl, rfl, rfl, rfl, rfl, rfl, rfl, rfl, rfl, rfl, rfl, rfl, rfl, rfl, nz _, ?_, ?_, ?_, ?_, ?_, ?_, nz _,
    ?_, ?_, nz _⟩
  · exact Spec.bpm_of_repr x.bpm
  · exact Spec.duration_of_repr x.duration
  · intro hf
    simp only [Spec.normFields]
    rcases hf with hf | hf
    · rw [if_pos hf]
    · rw [hf]; split <;> rfl
  · exact Spec.cues_of_repr x.hotCues
  · exact Spec.time_of_repr x.lastPlayedAt
  · exact Spec.loops_of_repr x.loops
  · exact Spec.rating_of_repr x.rating
  · exact Spec.count_of_repr x.sampleCount

/-- The all-or-nothing form follows: on a snapshot every field of which is representable,
`normalize` is the identity. -/
theorem v1_C01_representable_all (s : Schema) (x : Snap) (ha : Spec.accepted x = true)
    (hr : Spec.Representable s x = true) : Spec.normalize s x = some x := by
  exact Spec.normalize_eq_some.mpr ⟨ha, Spec.normFields_of_representable s x hr⟩

/-- What was stored before the write has no influence on what is read after it. -/
theorem v1_C01_prior_irrelevant (o : FOps) (s : Schema) (x : Snap) (p1 p2 : Option TrackRows) (r1 r2 : TrackRows)
    (hn : Spec.NoNaN x = true) (h1 : writeSnap o s x p1 = .ok r1) (h2 : writeSnap o s x p2 = .ok r2) :
    readSnap o s r1 = readSnap o s r2 := by
  obtain ⟨y1, hy1, hr1⟩ := v1_C01_accepts o s x p1 r1 hn h1
  obtain ⟨y2, hy2, hr2⟩ := v1_C01_accepts o s x p2 r2 hn h2
  rw [hy1] at hy2
  cases hy2
  rw [hr1, hr2]

/-- Fixed point on the rows: writing the read-back snapshot to the same track again and reading once
more yields an identical snapshot. -/
theorem v1_C01_fixed_point_rows (o : FOps) (s : Schema) (x y : Snap) (prior : Option TrackRows) (rows : TrackRows)
    (hn : Spec.NoNaN x = true) (hny : Spec.NoNaN y = true) (hw : writeSnap o s x prior = .ok rows)
    (hr : readSnap o s rows = .ok y) :
    ∃ rows', writeSnap o s y (some rows) = .ok rows' ∧ readSnap o s rows' = .ok y := by
  obtain ⟨y', hy, hr'⟩ := v1_C01_accepts o s x prior rows hn hw
  rw [hr] at hr'
  cases hr'
  exact v1_C01_roundtrip o s y y (some rows) hny (v1_C01_fixed_point s x y hy)

/-! ### the same at the level of the database (several tracks, `UNIQUE(path)`) -/

theorem v1_C01_db_roundtrip (o : FOps) (d d' : Db) (id : Int) (x : Snap) (hn : Spec.NoNaN x = true)
    (h : dbUpdate o d id x = .ok d') :
    ∃ y, Spec.normalize d.schema x = some y ∧ dbSnap o d' id = .ok y := by
  obtain ⟨prior, rows, _, hw, _, rfl⟩ := dbUpdate_eq_ok h
  obtain ⟨y, hy, hr⟩ := v1_C01_accepts o d.schema x (some prior) rows hn hw
  refine ⟨y, hy, ?_⟩
  unfold dbSnap Db.rows
  simp only [aget_aset_same]
  exact hr

/-! ### non-vacuity: concrete snapshots on both sides of the Spec -/

def exA : Snap :=
  { Snap.empty with
    title := some [65], relativePath := some [97, 47, 98, 46, 109, 112, 51],
    duration := some 185500, rating := some 150, bpm := some 0x405e200000000000,
    hotCues := [some ⟨[97], 0x40c3880000000000, ⟨255, 1, 2, 3⟩⟩, some ⟨[98], F64.negOne, ⟨0, 0, 0, 0⟩⟩],
    beatgrid := [⟨0, 0⟩, ⟨4, 0x40e5888000000000⟩],
    sampleCount := some 8000000, sampleRate := some 0x40e5888000000000,
    waveform := [⟨1, 2, 3, 4, 5, 6⟩] }

example : Spec.NoNaN exA = true := by decide
example : Spec.accepted exA = true := by decide
example : (Spec.normalize .s1_6_0 exA).map (·.duration) = some (some 185000) := by decide
example : (Spec.normalize .s1_6_0 exA).map (·.rating) = some (some 100) := by decide
example : (Spec.normalize .s1_6_0 exA).map (·.hotCues.length) = some 8 := by decide
/-- nine loops must be rejected -/
example : Spec.normalize .s1_18_0_os { exA with loops := List.replicate 9 none } = none := by decide
/-- a waveform without a sample rate must be rejected -/
example : Spec.normalize .s1_6_0 { exA with sampleRate := none } = none := by decide
/-- a one-marker grid must be rejected -/
example : Spec.normalize .s1_6_0 { exA with beatgrid := [⟨0, 0⟩] } = none := by decide
/-- the `Repr…` premises are satisfiable by non-trivial values, and genuinely restrictive -/
example : ReprCues (some ⟨[99], 0x40f5888000000000, ⟨255, 1, 2, 3⟩⟩ :: List.replicate 7 none) ∧
    ReprDuration (some 61000) ∧ ReprDuration (some 0) ∧ ReprRating (some 0) ∧ ReprRating (some 100) ∧
    ReprTime (some 1700000000000000000) ∧ ReprBpm (some 0x405e000000000000) ∧ ReprNonZero (some F64.negOne) ∧
    ReprCount (some 1) ∧ ReprFileBytes .s1_15_0 (some 5) ∧ ReprFileBytes .s1_6_0 none := by
  refine ⟨⟨rfl, ?_⟩, ?_, ?_, ?_, ?_, ?_, by unfold ReprBpm; decide, ⟨by decide, by decide⟩, by unfold ReprCount; decide,
    Or.inl rfl, Or.inr rfl⟩
  · intro q hq
    simp only [List.mem_cons, Option.some.injEq, List.mem_replicate, reduceCtorEq, and_false, or_false] at hq
    subst hq; decide
  · intro ms h; cases h; decide
  · intro ms h; cases h; decide
  · intro v h; cases h; decide
  · intro v h; cases h; decide
  · intro ns h; cases h; decide
example : ¬ ReprDuration (some 185500) := fun h => absurd (h 185500 rfl) (by decide)
example : ¬ ReprRating (some 150) := fun h => absurd (h 150 rfl).2 (by decide)
example : ¬ ReprFileBytes .s1_13_2 (some 5) := fun h => by rcases h with h | h <;> cases h
/-- one unrepresentable field (rating 150) does not void the statement for the others: the duration of
`exA` with whole seconds comes back exactly -/
example : ((Spec.normalize .s1_6_0 { exA with duration := some 185000 }).map (·.duration)) = some (some 185000) ∧
    ((Spec.normalize .s1_6_0 { exA with duration := some 185000 }).map (·.rating)) = some (some 100) := by decide
/-- a representable snapshot -/
example : Spec.Representable .s1_15_0
    { exA with duration := some 185000, rating := some 100, hotCues := List.replicate 8 none,
               loops := List.replicate 8 none, fileBytes := some 5 } = true := by decide

end EngineModel.Properties.C01V1
