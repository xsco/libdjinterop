/-
C20 on the function REGENERATED from the source.

`Gen.Beatgrid.normalize` is rewritten by tools/tr_beatgrid.py from clang's typed AST of
`normalize_beatgrid` (src/djinterop/engine/engine.cpp) on every run of the check.  `C20Gen_eq_partial`
says it is the hand model `Pure.Beatgrid.normalize` for EVERY arithmetic — so for the hardware-`Float`
instance the driver runs against the real library and for the exact rationals of the C20 theorems at
once — and the main C20 theorems are restated on it (one rewriting step each).  The statements
mention names only (their lock hashes do not depend on the translation); the proofs unfold the
regenerated blocks (Proofs/BeatgridGenEq.lean), so a change of the C++ that changes what the function
computes breaks a proof obligation here.

Two hypotheses appear beside those of C20, because the regenerated function is more literal than the
hand model (both are facts about every grid the C++ can be handed):
  `Idx32 g`  beat indices are `int` values — the type of the field (the source stores the new last
             index through `static_cast<int32_t>`);
  `Len31 g`  at most 2^31 markers (the source computes `int32_t last = size() - 1`).
-/
import Properties.C20
import Proofs.BeatgridGenEq

namespace EngineModel.Properties.C20Gen
open EngineModel EngineModel.Pure.Beatgrid EngineModel.Properties.C20

/-- The grid has at most 2^31 markers (a `std::vector` of 16-byte markers that `int32_t last =
size() - 1` can index). -/
def Len31 {α : Type} (g : List (Marker α)) : Prop := g.length ≤ 2147483648

instance {α : Type} (g : List (Marker α)) : Decidable (Len31 g) := by unfold Len31; infer_instance

/-- **Regenerated = hand model**, for every arithmetic, every grid of `int` indices the C++ can hold,
every sample count.  (Full statement without `Idx32` / `Len31`: false only for grids outside the C++
types — Proofs/BeatgridGenEq.lean, header.) -/
theorem C20Gen_eq_partial {α : Type} (num : Num α) (g : List (Marker α)) (n : Int) (hi : Idx32 g)
    (hl : Len31 g) : Gen.Beatgrid.normalize num g n = normalize num g n :=
  normalizeGen_eq_partial num g n hi hl

/-- … in particular for the hardware-float instance (what `bg.normgen` runs against the library) -/
theorem C20Gen_eq_float_partial (g : List (Marker Float)) (n : Int) (hi : Idx32 g) (hl : Len31 g) :
    Gen.Beatgrid.normalize floatNum g n = normalize floatNum g n :=
  normalizeGen_eq_partial floatNum g n hi hl

/-- … and for the exact rationals the quantitative theorems are about. -/
theorem C20Gen_eq_rat_partial (g : List (Marker ℚ)) (n : Int) (hi : Idx32 g) (hl : Len31 g) :
    Gen.Beatgrid.normalize ratNum g n = normalize ratNum g n :=
  normalizeGen_eq_partial ratNum g n hi hl

section generic
variable {α : Type} (num : Num α)

/-- **Defined**: a grid or `invalid_argument`, never undefined behaviour — this covers every checked
operation of the translation (iterator arithmetic, `erase`, `operator[]`, `int` / `int64_t`
arithmetic, the `double → int32_t` conversion). -/
theorem C20Gen_defined (hc : num.Ceil32Ok) (g : List (Marker α)) (n : Int) (hi : Idx32 g)
    (hl : Len31 g) : ∀ u, Gen.Beatgrid.normalize num g n ≠ .ub u := by
  rw [C20Gen_eq_partial num g n hi hl]; exact C20_defined num hc g n hi

theorem C20Gen_ok_or_invalid (hc : num.Ceil32Ok) (g : List (Marker α)) (n : Int) (hi : Idx32 g)
    (hl : Len31 g) :
    (∃ out, Gen.Beatgrid.normalize num g n = .ok out) ∨
      Gen.Beatgrid.normalize num g n = .throw .invalid_argument := by
  rw [C20Gen_eq_partial num g n hi hl]; exact C20_ok_or_invalid num hc g n hi

/-- First index −4, length and interior positions of the trimmed grid, `int` indices again. -/
theorem C20Gen_gen_shape (hc : num.Ceil32Ok) (g out : List (Marker α)) (n : Int) (hi : Idx32 g)
    (hl : Len31 g) (h : Gen.Beatgrid.normalize num g n = .ok out) (hne : g ≠ []) :
    (∃ m, out.head? = some m ∧ m.index = -4) ∧
    out.length = (trim num g n).length ∧
    (∀ i, 0 < i → i + 1 < out.length → out[i]? = (trim num g n)[i]?) ∧ Idx32 out := by
  rw [C20Gen_eq_partial num g n hi hl] at h
  exact ⟨C20_gen_first_index num hc g out n hi h hne, (C20_gen_interior_unchanged num hc g out n hi h hne).1,
    (C20_gen_interior_unchanged num hc g out n hi h hne).2, C20_gen_out_idx32 num hc g out n hi h hne⟩

theorem C20Gen_gen_reject_of (g : List (Marker α)) (n : Int) (hi : Idx32 g) (hl : Len31 g) (hne : g ≠ [])
    (hc : (trim num g n).length < 2 ∨ ∃ m1, (trim num g n)[1]? = some m1 ∧ m1.index ≤ -4) :
    Gen.Beatgrid.normalize num g n = .throw .invalid_argument := by
  rw [C20Gen_eq_partial num g n hi hl]; exact C20_gen_reject_of num g n hne hc

end generic

/-- The comparison-only clauses for the regenerated function over hardware floats. -/
theorem C20Gen_float (g : List (Marker Float)) (n : Int) (hi : Idx32 g) (hl : Len31 g) :
    (∀ u, Gen.Beatgrid.normalize floatNum g n ≠ .ub u) ∧
    (∀ out, Gen.Beatgrid.normalize floatNum g n = .ok out → g ≠ [] →
      (∃ m, out.head? = some m ∧ m.index = -4) ∧
      out.length = (trim floatNum g n).length ∧
      (∀ i, 0 < i → i + 1 < out.length → out[i]? = (trim floatNum g n)[i]?) ∧ Idx32 out) ∧
    (g ≠ [] → ((trim floatNum g n).length < 2 ∨
        ∃ m1, (trim floatNum g n)[1]? = some m1 ∧ m1.index ≤ -4) →
      Gen.Beatgrid.normalize floatNum g n = .throw .invalid_argument) := by
  rw [C20Gen_eq_float_partial g n hi hl]; exact C20_float g n hi

/-- **The rejection set, exactly** (`C20_reject_iff`). -/
theorem C20Gen_reject_iff (g : List (Marker ℚ)) (n : Int) (hs : Sorted g) (hi : Idx32 g) (hl : Len31 g)
    (hn : 0 < n) (hne : g ≠ []) :
    Gen.Beatgrid.normalize ratNum g n = .throw .invalid_argument ↔
      ((window ratNum g n).length < 2 ∨
       (∃ m1, (window ratNum g n)[1]? = some m1 ∧ m1.index ≤ -4) ∨
       (∃ m0 m1, window ratNum g n = [m0, m1] ∧
          (n : ℚ) ≤ m0.off + (((-4 - m0.index : Int)) : ℚ) * tempo m0 m1) ∨
       (∃ p l, (window ratNum g n)[(window ratNum g n).length - 2]? = some p ∧
          (window ratNum g n)[(window ratNum g n).length - 1]? = some l ∧
          2 ≤ (window ratNum g n).length ∧
          (¬ In32 (beatsToEnd p l n) ∨ 2147483647 < l.index + beatsToEnd p l n))) := by
  rw [C20Gen_eq_rat_partial g n hi hl]; exact C20_reject_iff g n hs hi hn hne

theorem C20Gen_reject_out_of_range (g : List (Marker ℚ)) (n : Int) (hi : Idx32 g) (hl : Len31 g)
    (hne : g ≠ [])
    (h : g.length < 2 ∨ (∀ m ∈ g, m.off ≤ 0) ∨ (∀ m ∈ g, (n : ℚ) ≤ m.off)) :
    Gen.Beatgrid.normalize ratNum g n = .throw .invalid_argument := by
  rw [C20Gen_eq_rat_partial g n hi hl]; exact C20_reject_out_of_range g n hne h

/-- **Acceptance** (`C20_accept_of_overlap`). -/
theorem C20Gen_accept_of_overlap (g : List (Marker ℚ)) (n : Int) (hs : Sorted g) (hi : Idx32 g)
    (hl : Len31 g)
    (hn : 0 < n) (h2 : 2 ≤ g.length) (hpos : ∃ m ∈ g, 0 < m.off) (hend : ∃ m ∈ g, m.off < (n : ℚ))
    (h4 : ∀ m1, (window ratNum g n)[1]? = some m1 → -4 < m1.index)
    (hb : ∀ m0 m1, window ratNum g n = [m0, m1] →
      m0.off + (((-4 - m0.index : Int)) : ℚ) * tempo m0 m1 < (n : ℚ))
    (hrep : ∀ p l, (window ratNum g n)[(window ratNum g n).length - 2]? = some p →
      (window ratNum g n)[(window ratNum g n).length - 1]? = some l →
      In32 (beatsToEnd p l n) ∧ l.index + beatsToEnd p l n ≤ 2147483647) :
    ∃ out, Gen.Beatgrid.normalize ratNum g n = .ok out := by
  rw [C20Gen_eq_rat_partial g n hi hl]; exact C20_accept_of_overlap g n hs hi hn h2 hpos hend h4 hb hrep

theorem C20Gen_first_index (g out : List (Marker ℚ)) (n : Int) (hi : Idx32 g) (hl : Len31 g)
    (h : Gen.Beatgrid.normalize ratNum g n = .ok out) (hne : g ≠ []) :
    ∃ m, out.head? = some m ∧ m.index = -4 := by
  rw [C20Gen_eq_rat_partial g n hi hl] at h; exact C20_first_index g out n hi h hne

/-- **Interior markers unchanged** (`C20_interior_kept`, `C20_interior_inside`,
`C20_interior_unchanged`). -/
theorem C20Gen_interior_kept (g out : List (Marker ℚ)) (n : Int) (hs : Sorted g) (hi : Idx32 g)
    (hl : Len31 g) (h : Gen.Beatgrid.normalize ratNum g n = .ok out) (hne : g ≠ []) (m : Marker ℚ)
    (hm : m ∈ g) (h0 : 0 < m.off) (h1 : m.off < (n : ℚ))
    (hbefore : ∃ x ∈ g, x.off < m.off) (hafter : ∃ y ∈ g, m.off < y.off) :
    m ∈ out.dropLast.tail := by
  rw [C20Gen_eq_rat_partial g n hi hl] at h
  exact C20_interior_kept g out n hs hi h hne m hm h0 h1 hbefore hafter

theorem C20Gen_interior_inside (g out : List (Marker ℚ)) (n : Int) (hs : Sorted g) (hi : Idx32 g)
    (hl : Len31 g) (h : Gen.Beatgrid.normalize ratNum g n = .ok out) (hne : g ≠ []) (m : Marker ℚ)
    (hm : m ∈ out.dropLast.tail) : m ∈ g ∧ 0 < m.off ∧ m.off < (n : ℚ) := by
  rw [C20Gen_eq_rat_partial g n hi hl] at h; exact C20_interior_inside g out n hs hi h hne m hm

theorem C20Gen_interior_unchanged (g out : List (Marker ℚ)) (n : Int) (hs : Sorted g) (hi : Idx32 g)
    (hl : Len31 g) (hn : 0 < n) (h : Gen.Beatgrid.normalize ratNum g n = .ok out) (hne : g ≠ []) :
    out.length = (window ratNum g n).length ∧
    ∀ i, 0 < i → i + 1 < out.length → out[i]? = (window ratNum g n)[i]? := by
  rw [C20Gen_eq_rat_partial g n hi hl] at h; exact C20_interior_unchanged g out n hs hi hn h hne

/-- **Tempo kept** (`C20_tempo_kept`). -/
theorem C20Gen_tempo_kept (g out : List (Marker ℚ)) (n : Int) (hs : Sorted g) (hi : Idx32 g)
    (hl : Len31 g) (hn : 0 < n) (h : Gen.Beatgrid.normalize ratNum g n = .ok out) (hne : g ≠ []) :
    let t := window ratNum g n
    (∀ a b a' b', t[0]? = some a → t[1]? = some b → out[0]? = some a' → out[1]? = some b' →
        tempo a' b' = tempo a b) ∧
    (∀ a b a' b', t[t.length - 2]? = some a → t[t.length - 1]? = some b →
        out[out.length - 2]? = some a' → out[out.length - 1]? = some b' → tempo a' b' = tempo a b) := by
  rw [C20Gen_eq_rat_partial g n hi hl] at h; exact C20_tempo_kept g out n hs hi hn h hne

/-- **Bracket** (`C20_bracket`): the last marker lies in `[n, n + beat)`. -/
theorem C20Gen_bracket (g out : List (Marker ℚ)) (n : Int) (hs : Sorted g) (hi : Idx32 g)
    (hl : Len31 g) (h : Gen.Beatgrid.normalize ratNum g n = .ok out) (hne : g ≠ []) :
    ∃ p l, out[out.length - 2]? = some p ∧ out[out.length - 1]? = some l ∧
      (n : ℚ) ≤ l.off ∧ l.off < (n : ℚ) + tempo p l := by
  rw [C20Gen_eq_rat_partial g n hi hl] at h; exact C20_bracket g out n hs hi h hne

theorem C20Gen_sorted (g out : List (Marker ℚ)) (n : Int) (hs : Sorted g) (hi : Idx32 g)
    (hl : Len31 g) (h : Gen.Beatgrid.normalize ratNum g n = .ok out) (hne : g ≠ []) :
    Sorted out ∧ Idx32 out ∧ Len31 out := by
  rw [C20Gen_eq_rat_partial g n hi hl] at h
  refine ⟨(C20_sorted g out n hs hi h hne).1, (C20_sorted g out n hs hi h hne).2, ?_⟩
  exact Nat.le_trans ((C20_gen_interior_unchanged ratNum ratNum_ceil32Ok g out n hi h hne).1 ▸
    trim_length_le ratNum g n) hl

/-- **Idempotence** of the regenerated function (`C20_idempotent`). -/
theorem C20Gen_idempotent (g out : List (Marker ℚ)) (n : Int) (hs : Sorted g) (hi : Idx32 g)
    (hl : Len31 g) (hn : 0 < n) (h : Gen.Beatgrid.normalize ratNum g n = .ok out) (hne : g ≠ []) :
    Gen.Beatgrid.normalize ratNum out n = .ok out := by
  obtain ⟨-, hio, hlo⟩ := C20Gen_sorted g out n hs hi hl h hne
  rw [C20Gen_eq_rat_partial g n hi hl] at h
  rw [C20Gen_eq_rat_partial out n hio hlo]; exact C20_idempotent g out n hs hi hn h hne

/-- The empty grid is returned unchanged (the regenerated function, computed). -/
theorem C20Gen_empty (n : Int) : Gen.Beatgrid.normalize ratNum ([] : List (Marker ℚ)) n = .ok [] := rfl

/-! ### non-vacuity -/

/-- The regenerated function itself, evaluated by the kernel. -/
example : Gen.Beatgrid.normalize ratNum [⟨0, 0⟩, ⟨4, 400⟩, ⟨8, 800⟩] 1000 =
    .ok [⟨-4, -400⟩, ⟨4, 400⟩, ⟨10, 1000⟩] := by decide +kernel

example : Gen.Beatgrid.normalize ratNum [⟨-6, -100⟩, ⟨-4, 100⟩, ⟨0, 500⟩] 1000 =
    .throw .invalid_argument := by decide +kernel

/-- `Idx32`, `Len31`, `Sorted` are met by a concrete grid. -/
example : Sorted [⟨0, 0⟩, ⟨4, 400⟩, ⟨8, 800⟩] ∧ Idx32 ([⟨0, 0⟩, ⟨4, 400⟩, ⟨8, 800⟩] : List (Marker ℚ)) ∧
    Len31 ([⟨0, 0⟩, ⟨4, 400⟩, ⟨8, 800⟩] : List (Marker ℚ)) := by
  refine ⟨?_, ?_, ?_⟩
  · unfold Sorted; decide +kernel
  · unfold Idx32; decide +kernel
  · decide

end EngineModel.Properties.C20Gen
