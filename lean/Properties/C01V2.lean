/-
C01, schema 2.x — Track data written through a snapshot reads back unchanged.

Model: `writeSnap` = `snapshot_to_row`, `tablePut` = the Track table as a store
of rows, `readSnap` = `snapshot()` (EngineModel/TracksV2/Model.lean);
`Db.create` / `Db.update` = `create_track` / `track::update` over a table with
the `UNIQUE (path)` constraint (Lens.lean).  Spec: `Spec.normalize`
(EngineModel/TracksV2/Spec.lean), written from the property text.
All theorems hold for every schema-2.x version `s`, every snapshot `x` (no size
bound) and every instance `ops` of the floating-point operations whose results
are stored but never read back.
-/
import Proofs.TracksV2RoundTrip
import Proofs.TracksV2Idem
import Proofs.TracksV2Db
import Proofs.TracksV2Wf
import Proofs.TracksV2Bridge

namespace EngineModel.Properties.C01V2
open EngineModel EngineModel.TracksV2 EngineModel.Prim

/-- Write then read of one track: exactly the normalised snapshot. -/
theorem v2_C01_roundtrip (ops : FOps) (s : Schema) (x y : Snap) (h : Spec.normalize s x = some y) :
    (writeStore ops s x).bind (readSnap ops) = .ok y :=
  writeRead_of_normalize ops s x y h

/-- A snapshot the library must reject is rejected with an exception — never
accepted, never undefined behaviour. -/
theorem v2_C01_reject (ops : FOps) (s : Schema) (x : Snap) (h : Spec.normalize s x = none) :
    ∃ e, writeStore ops s x = .throw e :=
  writeStore_throw_of_reject ops s x h

/-- Whatever the snapshot, a write either succeeds or throws. -/
theorem v2_C01_total (ops : FOps) (s : Schema) (x : Snap) :
    (∃ r, writeStore ops s x = .ok r) ∨ (∃ e, writeStore ops s x = .throw e) :=
  writeStore_total ops s x

/-- The read-back snapshot is a fixed point of the normalisation … -/
theorem v2_C01_fixed_point (s : Schema) (x y : Snap) (h : Spec.normalize s x = some y) :
    Spec.normalize s y = some y := by
  obtain ⟨p, wv, hp, hnw, rfl, hext, hc, hl, hlc, hll⟩ := Spec.normalize_eq_some h
  have e1 : (Spec.pad8 (x.hotCues.map Spec.normCue)).length = 8 := Spec.pad8_length _ (by simpa using hc)
  have e2 : (Spec.pad8 x.loops).length = 8 := Spec.pad8_length _ hl
  have e3 : Spec.pad8 ((Spec.pad8 (x.hotCues.map Spec.normCue)).map Spec.normCue) =
      Spec.pad8 (x.hotCues.map Spec.normCue) := by
    rw [Spec.map_normCue_pad8, List.map_map]
    have : (Spec.normCue ∘ Spec.normCue) = Spec.normCue := funext Spec.normCue_idem
    rw [this, Spec.pad8_of_length _ e1]
  have e4 : Spec.pad8 (Spec.pad8 x.loops) = Spec.pad8 x.loops := Spec.pad8_of_length _ e2
  have e5 : Spec.labelsOk HotCue.label (Spec.pad8 (x.hotCues.map Spec.normCue)) = true := by
    rw [Spec.labelsOk_pad8]; exact Spec.labelsOk_map_normCue _ hlc
  have e6 : Spec.labelsOk LoopV.label (Spec.pad8 x.loops) = true := by
    rw [Spec.labelsOk_pad8]; exact hll
  have e7 := Spec.normWaveform_idem _ _ _ _ hnw
  simp only [Spec.normalize, hp, hext, e1, e2, e3, e4, e5, e6, e7, Bool.not_true, Bool.false_eq_true,
    if_false, Spec.normZeroAbsent_idem, Spec.normBpm_idem, Spec.normDuration_idem, Spec.normTime_idem,
    Spec.normRating_idem, Spec.normCount_idem, Nat.lt_irrefl, or_self]

/-- … hence writing it to the same track again and reading once more yields the
identical snapshot. -/
theorem v2_C01_second_write (ops : FOps) (s : Schema) (x y : Snap) (h : Spec.normalize s x = some y) :
    (writeStore ops s y).bind (readSnap ops) = .ok y :=
  v2_C01_roundtrip ops s y y (v2_C01_fixed_point s x y h)


/-! ### "normalisation" cannot hide a corruption

Which values the schema represents exactly, per field (decidable, stated on the
input only), and the theorem that `normalize` returns exactly those values. -/

/-- whole, non-zero seconds -/
def ReprDuration (d : Option UInt64) : Prop := ∀ ms, d = some ms → s64 ms % 1000 = 0 ∧ s64 ms ≠ 0
/-- whole seconds -/
def ReprTime (t : Option UInt64) : Prop := ∀ ns, t = some ns → s64 ns % 1000000000 = 0
/-- 1..100 -/
def ReprRating (r : Option UInt32) : Prop := ∀ v, r = some v → 1 ≤ s32 v ∧ s32 v ≤ 100
/-- not one of the two zeros (they mean "absent") -/
def ReprNonZero (v : Option F) : Prop := v ≠ some 0 ∧ v ≠ some F64.negZero
def ReprCount (v : Option UInt64) : Prop := v ≠ some 0
/-- a number other than −0.0 -/
def ReprBpm (v : Option F) : Prop := ∀ b, v = some b → F64.isNaN b = false ∧ b ≠ F64.negZero
/-- eight slots, none at the "empty" offset −1 -/
def ReprCues (l : List (Option HotCue)) : Prop := l.length = 8 ∧ ∀ q, some q ∈ l → q.off ≠ F64.negOne
def ReprLoops (l : List (Option LoopV)) : Prop := l.length = 8
/-- empty, or already an overview waveform: the recommended number of entries, opacity 255 -/
def ReprWaveform (x : Snap) : Prop :=
  x.waveform = [] ∨
  (x.waveform.length = 1024 ∧ (∀ e ∈ x.waveform, e.lo = 255 ∧ e.mo = 255 ∧ e.ho = 255) ∧
    ∃ n r t, x.sampleCount = some n ∧ x.sampleRate = some r ∧ Spec.integerPart r = some t ∧
      Pure.Waveform.ovSize n.toNat t.natAbs = 1024)

/-- Every field the schema can represent comes back exactly as given: the 14
fields stored verbatim always, the others whenever the given value is one the
schema represents. -/
theorem v2_C01_representable (s : Schema) (x y : Snap) (h : Spec.normalize s x = some y) :
    y.album = x.album ∧ y.artist = x.artist ∧ y.beatgrid = x.beatgrid ∧ y.bitrate = x.bitrate ∧
    y.comment = x.comment ∧ y.composer = x.composer ∧ y.fileBytes = x.fileBytes ∧ y.genre = x.genre ∧
    y.key = x.key ∧ y.publisher = x.publisher ∧ y.relativePath = x.relativePath ∧ y.title = x.title ∧
    y.trackNumber = x.trackNumber ∧ y.year = x.year ∧
    (ReprNonZero x.averageLoudness → y.averageLoudness = x.averageLoudness) ∧
    (ReprBpm x.bpm → y.bpm = x.bpm) ∧
    (ReprDuration x.duration → y.duration = x.duration) ∧
    (ReprCues x.hotCues → y.hotCues = x.hotCues) ∧
    (ReprTime x.lastPlayedAt → y.lastPlayedAt = x.lastPlayedAt) ∧
    (ReprLoops x.loops → y.loops = x.loops) ∧
    (ReprNonZero x.mainCue → y.mainCue = x.mainCue) ∧
    (ReprRating x.rating → y.rating = x.rating) ∧
    (ReprCount x.sampleCount → y.sampleCount = x.sampleCount) ∧
    (ReprNonZero x.sampleRate → y.sampleRate = x.sampleRate) ∧
    (ReprWaveform x → y.waveform = x.waveform) := by
  obtain ⟨p, wv, hp, hnw, rfl, _⟩ := Spec.normalize_eq_some h
  have nz : ∀ v, ReprNonZero v → Spec.normZeroAbsent v = v := by
    intro v ⟨h1, h2⟩
    cases v with
    | none => rfl
    | some b =>
      have : ¬ (b = 0 ∨ b = F64.negZero) := by
        rintro (hh | hh) <;> subst hh
        · exact h1 rfl
        · exact h2 rfl
      simp [Spec.normZeroAbsent, this]
  refine ⟨rfl, rfl, rfl, rfl, rfl, rfl, rfl, rfl, rfl, rfl, ?relativePath, rfl, rfl, rfl, nz _, ?bpm, ?duration,
    ?hotCues, ?lastPlayedAt, ?loops, nz _, ?rating, ?sampleCount, nz _, ?waveform⟩
  case relativePath =>
    simp
  case bpm =>
    intro hb
    cases hv : x.bpm with
    | none => rfl
    | some b =>
      obtain ⟨h1, h2⟩ := hb b hv
      simp [Spec.normBpm, h1, h2]
  case duration =>
    intro hd
    cases hv : x.duration with
    | none => rfl
    | some ms =>
      obtain ⟨h1, h2⟩ := hd ms hv
      have e := tdiv_mul_of_dvd (s64 ms) 1000 h1
      have hq : ¬ Int.tdiv (s64 ms) 1000 = 0 := fun hh => by rw [hh] at e; omega
      simp only [Spec.normDuration, hq, if_false, Spec.wholeSeconds, e, u64OfInt_s64]
  case hotCues =>
    intro ⟨h8, hoff⟩
    show Spec.pad8 (x.hotCues.map Spec.normCue) = x.hotCues
    have : x.hotCues.map Spec.normCue = x.hotCues := by
      conv => rhs; rw [← List.map_id x.hotCues]
      apply List.map_congr_left
      intro c hc
      cases c with
      | none => rfl
      | some q => simp [Spec.normCue, hoff q hc]
    rw [this, Spec.pad8_of_length _ h8]
  case lastPlayedAt =>
    intro ht
    cases hv : x.lastPlayedAt with
    | none => rfl
    | some ns =>
      have e := tdiv_mul_of_dvd (s64 ns) 1000000000 (ht ns hv)
      simp only [Spec.normTime, Option.map_some, Spec.wholeSeconds, e, u64OfInt_s64]
  case loops =>
    intro h8
    exact Spec.pad8_of_length _ h8
  case rating =>
    intro hr
    cases hv : x.rating with
    | none => rfl
    | some v =>
      obtain ⟨h1, h2⟩ := hr v hv
      have a : ¬ s32 v ≤ 0 := by omega
      have b : ¬ 100 < s32 v := by omega
      simp [Spec.normRating, a, b]
  case sampleCount =>
    intro hc
    cases hv : x.sampleCount with
    | none => rfl
    | some n =>
      have : ¬ n = 0 := fun hh => hc (by rw [hv, hh])
      simp [Spec.normCount, this]
  case waveform =>
    intro hw
    show wv = x.waveform
    rcases hw with hw | ⟨hlen, hop, n, r, t, hn, hr, ht, hsz⟩
    · simp [Spec.normWaveform, hw] at hnw; rw [hw]; exact hnw
    · have hne : x.waveform ≠ [] := by intro hh; rw [hh] at hlen; simp at hlen
      simp only [Spec.normWaveform, hne, if_false, hn, hr, ht, hsz, (by decide : ¬ (1024 : Nat) = 0),
        Option.some.injEq] at hnw
      rw [← hnw]
      exact Spec.overviewOf_fixed _ hlen hop


/-! ### the same on the table: `create_track`, `update` over any prior row, other tracks -/

theorem path_of_written (ops : FOps) (s : Schema) (x : Snap) (r : Row) (hw : writeStore ops s x = .ok r) :
    x.relativePath = some r.path :=
  (writeStore_eq_ok hw).path

theorem written_row (ops : FOps) (s : Schema) (x y : Snap) (h : Spec.normalize s x = some y) :
    ∃ r p, writeStore ops s x = .ok r ∧ readSnap ops r = .ok y ∧ x.relativePath = some p ∧ r.path = p := by
  obtain ⟨r, hw, hr⟩ := Res.bind_eq_ok.mp (v2_C01_roundtrip ops s x y h)
  exact ⟨r, r.path, hw, hr, path_of_written ops s x r hw, rfl⟩

/-- `create_track` of an acceptable snapshot whose path no track has yet: a new
track whose snapshot is the normalised input; every other track's row is untouched. -/
theorem v2_C01_db_create (ops : FOps) (s : Schema) (db : Db) (hf : db.Fresh) (x y : Snap)
    (h : Spec.normalize s x = some y)
    (hfree : ∀ p, x.relativePath = some p → db.pathTaken 0 p = false) :
    ∃ db', db.create ops s x = (db', .ok db.nextId) ∧ db'.snapshot ops db.nextId = .ok y ∧ db'.Fresh ∧
      ∀ id, id ≠ db.nextId → db'.get id = db.get id := by
  obtain ⟨r, _, hw, h1, hp, rfl⟩ := written_row ops s x y h
  have hnt := hfree r.path hp
  refine ⟨⟨db.rows ++ [(db.nextId, r)], db.nextId + 1⟩, ?_, ?_, ?_, ?_⟩
  · simp [Db.create, hw, hnt]
  · simp only [Db.snapshot, Db.get_append_new db hf r, if_true]
    exact h1
  · intro e he
    simp only [List.mem_append, List.mem_singleton] at he
    rcases he with he | he
    · have := hf e he; show e.1 < db.nextId + 1; omega
    · subst he; show db.nextId < db.nextId + 1; omega
  · intro id hid
    rw [Db.get_append_new db hf r]; simp [hid]

/-- `update` of a track with an acceptable snapshot, whatever was stored for it
before: afterwards its snapshot is the normalised input and every other
track's row is untouched. -/
theorem v2_C01_db_update (ops : FOps) (s : Schema) (db : Db) (id : Nat) (r0 : Row) (hex : db.get id = some r0)
    (x y : Snap) (h : Spec.normalize s x = some y)
    (hfree : ∀ p, x.relativePath = some p → db.pathTaken id p = false) :
    ∃ db', db.update ops s id x = (db', .ok ()) ∧ db'.snapshot ops id = .ok y ∧
      ∀ id', id' ≠ id → db'.get id' = db.get id' := by
  obtain ⟨r, _, hw, h1, hp, rfl⟩ := written_row ops s x y h
  have hnt := hfree r.path hp
  refine ⟨db.put id r, ?_, ?_, ?_⟩
  · simp [Db.update, hw, hnt, hex]
  · simp only [Db.snapshot, Db.get_put_same db id r r0 hex]
    exact h1
  · intro id' hid
    exact Db.get_put_other db id id' r hid

/-- A rejected snapshot changes nothing: `create_track` / `update` throw and the
table is as before. -/
theorem v2_C01_db_reject (ops : FOps) (s : Schema) (db : Db) (id : Nat) (x : Snap)
    (h : Spec.normalize s x = none) :
    (∃ e, db.create ops s x = (db, .throw e)) ∧ (∃ e, db.update ops s id x = (db, .throw e)) := by
  obtain ⟨e, he⟩ := v2_C01_reject ops s x h
  exact ⟨⟨e, by simp [Db.create, he]⟩, ⟨e, by simp [Db.update, he]⟩⟩


/-! ### total statements on the statement-level Track table

`TDb` (EngineModel/TracksV2/Table.lean) has the `UNIQUE (path)` constraint, the
origin trigger and the statements `create_track` / `update` really issue; `Inv`
holds in every reachable state (C11V2Tracks).  Nothing is excluded: the
colliding path, the absent track and the rejected snapshot all have their
outcome stated. -/

/-- **`create_track`, every case.**  A snapshot the Spec rejects: exception, table
unchanged.  An acceptable snapshot whose path another track has: refused
(`sqlite_error`), table unchanged.  Otherwise: a new row with the next id whose
`snapshot()` is the normalised input; every other row untouched. -/
theorem v2_C01_table_create (ops : FOps) (s : Schema) (db : TDb) (hI : Inv db) (x : Snap) :
    match Spec.normalize s x with
    | none => ∃ e, callCreate ops s x db = (db, .throw e)
    | some y => ∃ r p, writeStore ops s x = .ok r ∧ x.relativePath = some p ∧ readSnap ops r = .ok y ∧
        callCreate ops s x db =
          if pathTaken' db 0 p then (db, .throw .sqlite_error)
          else ({ db with rows := db.rows ++ [db.created r], seq := db.seq + 1 }, .ok (db.seq + 1)) := by
  rw [callCreate_eq ops s x hI.s]
  cases hn : Spec.normalize s x with
  | none =>
    obtain ⟨e, he⟩ := v2_C01_reject ops s x hn
    exact ⟨e, by rw [he]⟩
  | some y =>
    obtain ⟨r, p, hw, hr, hp, rfl⟩ := written_row ops s x y hn
    exact ⟨r, _, hw, hp, hr, by rw [hw]⟩

/-- **`track::update`, every case**, whatever was stored for the track before.
Rejected snapshot: exception, table unchanged.  The track does not exist (its
handle outlived `remove_track`): `track_deleted`, nothing is written (since the
`fix:` 8862536 `track_impl::update` tests `rows_modified()`; before, the call
returned normally and the snapshot was dropped silently — C01: "it either
survives the round trip or the write is rejected with an exception").  The path is
another track's: refused, table unchanged.  Otherwise the row's `snapshot()` is
the normalised input, key and origin columns as before, every other row
untouched. -/
theorem v2_C01_table_update (ops : FOps) (s : Schema) (db : TDb) (hI : Inv db) (id : Nat) (x : Snap) :
    match Spec.normalize s x with
    | none => ∃ e, callUpdate ops s id x db = (db, .throw e)
    | some y =>
      match db.find id with
      | none => callUpdate ops s id x db = (db, .throw (.dj "track_deleted"))
      | some t => ∃ r p, writeStore ops s x = .ok r ∧ x.relativePath = some p ∧ readSnap ops r = .ok y ∧
          callUpdate ops s id x db =
            if pathTaken' db id p then (db, .throw .sqlite_error) else (db.rep t r, .ok ()) := by
  rw [callUpdate_eq ops s id x hI.s]
  cases hn : Spec.normalize s x with
  | none =>
    obtain ⟨e, he⟩ := v2_C01_reject ops s x hn
    exact ⟨e, by rw [he]⟩
  | some y =>
    obtain ⟨r, p, hw, hr, hp, rfl⟩ := written_row ops s x y hn
    cases hf : db.find id with
    | none => simp only [hw]
    | some t => exact ⟨r, _, hw, hp, hr, by simp only [hw]⟩

/-- **The fixed point on the same track.**  After `update(x)` of an existing
track succeeded, its `snapshot()` is `y = normalize x`; writing `y` to the same
track again succeeds (its own path is not a collision) and `snapshot()` is `y`
once more. -/
theorem v2_C01_table_second_write (ops : FOps) (s : Schema) (db : TDb) (hI : Inv db) (id : Nat) (t : TRow)
    (hf : db.find id = some t) (x y : Snap) (hn : Spec.normalize s x = some y)
    (hok : (callUpdate ops s id x db).2 = .ok ()) :
    let db1 := (callUpdate ops s id x db).1
    (∃ t1, db1.find id = some t1 ∧ readSnap ops t1.row = .ok y) ∧
    (callUpdate ops s id y db1).2 = .ok () ∧
    ∃ t2, (callUpdate ops s id y db1).1.find id = some t2 ∧ readSnap ops t2.row = .ok y := by
  intro db1
  obtain ⟨ht, hid⟩ := find_mem hf
  have h1 := v2_C01_table_update ops s db hI id x
  rw [hn] at h1
  simp only [hf] at h1
  obtain ⟨r, p, hw, hp, hr, hcall⟩ := h1
  cases hc : pathTaken' db id p with
  | true => rw [hcall, hc] at hok; cases hok
  | false =>
    have e1 : db1 = db.rep t r := by show (callUpdate ops s id x db).1 = _; rw [hcall, hc]; rfl
    have hrp : r.path = p := by
      have h3 := path_of_written ops s x r hw
      rw [hp] at h3; exact (Option.some.inj h3).symm
    have hI1 : Inv db1 := by
      have := inv_step ops s (.update id x) hI
      rwa [show (db.step ops s (.update id x)).1 = db1 from congrArg Prod.fst (M.bind_pure _ _ _)] at this
    have hf1 : db1.find id = some { t with row := r } := by rw [e1, find_rep, hf]; simp [hid]
    have hfix := v2_C01_fixed_point s x y hn
    have h2 := v2_C01_table_update ops s db1 hI1 id y
    rw [hfix] at h2
    simp only [hf1] at h2
    obtain ⟨r2, p2, _, hp2, hr2, hcall2⟩ := h2
    have hp2' : p2 = p := by
      have h3 := (v2_C01_representable s x y hn).2.2.2.2.2.2.2.2.2.2.1
      rw [h3, hp] at hp2
      exact (Option.some.inj hp2).symm
    have hc2 : pathTaken' db1 id p2 = false := by
      have hm : ({ t with row := r } : TRow) ∈ db1.rows := (find_mem hf1).1
      have := pathTaken_same hI1.s hm
      rw [hp2', ← hrp]
      simpa [hid] using this
    refine ⟨⟨_, hf1, hr⟩, by rw [hcall2, hc2]; rfl, ?_⟩
    rw [hcall2, hc2]
    refine ⟨{ ({ t with row := r } : TRow) with row := r2 }, ?_, hr2⟩
    show (db1.rep { t with row := r } r2).find id = _
    rw [find_rep, hf1]; simp [hid]


/-! ### every supported schema version: the per-version column lists

`tablePut s` is the row store the theorems above use for `track_table`.  Here it
is tied, for each of the seven 2.x versions, to C18's model of `track_table`
(`EngineModel/Table/Track.lean`) instantiated with the INSERT / UPDATE / SELECT
column lists that are **regenerated from `track_table.cpp` on every run**
(`Gen/Bindings.lean`; three distinct lists: 2.18.0, 2.20.1–2.20.2, 2.20.3+):
`toTable` presents a `Row` (plus id, origin pair, `date_added`,
`last_edit_time`) as the typed `track_row` of that model. -/

/-- **`create_track` on each version.**  With the statements of version `s`: if
`track_table::add` of the row `snapshot_to_row` built (id 0, origin (uuid, 0))
returns id `i`, then `tablePut s r` is defined and `track_table::get(i)` is that
row with id `i`, origin (uuid, `i`) (trigger), `date_added` at whole seconds,
and `last_edit_time` as written (2.20.3+) or the epoch (before). -/
theorem v2_C01_schema_create (s : Schema) :
    ∃ st, Table.genStmts s.to2 = some st ∧
    ∀ (d d' : Table.TDb) (u : Bytes) (r : Row) (da le i : Int),
      d.Wf → d.uuid = .text u → Table.in64 da = true → Table.in64 le = true →
      Table.tAdd st d (toTable 0 u 0 da le r) = (d', .ok i) →
      ∃ r', tablePut s r = .ok r' ∧
        Table.tGet st d' i = .ok (some (toTable i u i (Table.truncSec da * 1000000000)
          (if s.to2.ge .s2_20_3 then Table.truncSec le * 1000000000 else 0) r')) :=
  tablePut_is_get_add s

/-- **`track::update` on each version**: `get ∘ update` of the row built for an
existing track is `tablePut s r` with the origin pair repaired and
`last_edit_time` stamped by the database from 2.20.3 on; every other row is
untouched. -/
theorem v2_C01_schema_update (s : Schema) :
    ∃ st, Table.genStmts s.to2 = some st ∧
    ∀ (d d' : Table.TDb) (u : Bytes) (r : Row) (da le i : Int) (old : Table.Raw Table.TCol),
      d.uuid = .text u → Table.in64 i = true → Table.in64 da = true → Table.in64 le = true →
      Table.findRow .id d.rows i = some old → Table.in64 (d.clock * 1000000000) = true →
      Table.tUpdate s.to2 st d (toTable i u 0 da le r) = (d', .ok ()) →
      ∃ r', tablePut s r = .ok r' ∧
        Table.tGet st d' i = .ok (some (toTable i u i (Table.truncSec da * 1000000000)
          (if s.to2.ge .s2_20_3 then d.clock * 1000000000 else 0) r')) ∧
        ∀ j, j ≠ i → Table.findRow .id d'.rows j = Table.findRow .id d.rows j :=
  tablePut_is_get_update s

/-- The versions are not interchangeable: the row a 2.18.0 library reads back
differs from the one a 2.20.1 library reads back (`active_on_load_loops`); and
the `last_edit_time` member has a column from 2.20.3 on and none before (so in
`v2_C01_schema_create` / `_update` it reads back as written or stamped on the
one side, as the constant on the other). -/
theorem v2_C01_schema_matters :
    tablePut .s2_18_0 (default : Row) ≠ tablePut .s2_20_1 { (default : Row) with activeOnLoadLoops := some 0 } ∧
    tablePut .s2_18_0 { (default : Row) with activeOnLoadLoops := some 0 } ≠
      tablePut .s2_20_1 { (default : Row) with activeOnLoadLoops := some 0 } ∧
    Table.TField.present Schema.s2_20_2.to2 .last_edit_time = false ∧
    Table.TField.present Schema.s2_20_3.to2 .last_edit_time = true := by
  refine ⟨by decide, by decide, rfl, rfl⟩

/-! ### non-vacuity -/

def exOps : FOps := ⟨fun _ => 0, fun _ => 0, fun _ _ => 0⟩

/-- a snapshot that needs every kind of normalisation -/
def exSnap : Snap :=
  { Snap.empty with
    relativePath := some [97, 47, 98, 46, 109, 112, 51]          -- "a/b.mp3"
    title := some [120]
    duration := some 61500                                        -- 61.5 s
    rating := some 250
    mainCue := some F64.negZero
    bpm := some F64.negZero
    hotCues := [none, some ⟨[99], 0x40f5888000000000, ⟨255, 1, 2, 3⟩⟩, some ⟨[100], F64.negOne, ⟨0, 0, 0, 0⟩⟩]
    loops := [some ⟨[], 0, 0x40f5888000000000, ⟨255, 0, 0, 0⟩⟩]
    beatgrid := [⟨0xfffffffc, 0⟩, ⟨4, 0x40f5888000000000⟩]
    sampleCount := some 100000
    sampleRate := some 0x40e5888000000000                         -- 44100.0
    waveform := [⟨1, 2, 3, 9, 9, 9⟩, ⟨4, 5, 6, 0, 0, 0⟩] }

/-- The facts below about the normal form of `exSnap`, evaluated together (its 1024-entry overview
waveform is most of each evaluation). -/
theorem exSnap_facts :
    (Spec.normalize .s2_21_2 exSnap).isSome = true ∧
    (Spec.normalize .s2_21_2 exSnap).map (·.duration) = some (some 61000) ∧
    (Spec.normalize .s2_21_2 exSnap).map (·.waveform.length) = some 1024 ∧
    (Spec.normalize .s2_21_2 exSnap) ≠ some exSnap ∧
    ((writeStore exOps .s2_21_2 exSnap).bind (readSnap exOps)) = (match Spec.normalize .s2_21_2 exSnap with
      | some y => .ok y | none => .throw .logic_error) := by
  decide +kernel

example : (Spec.normalize .s2_21_2 exSnap).isSome = true := exSnap_facts.1
example : (Spec.normalize .s2_21_2 exSnap).map (·.duration) = some (some 61000) := exSnap_facts.2.1
example : (Spec.normalize .s2_21_2 exSnap).map (·.waveform.length) = some 1024 := exSnap_facts.2.2.1
example : (Spec.normalize .s2_21_2 exSnap) ≠ some exSnap := exSnap_facts.2.2.2.1
example : ((writeStore exOps .s2_21_2 exSnap).bind (readSnap exOps)) = (match Spec.normalize .s2_21_2 exSnap with
    | some y => .ok y | none => .throw .logic_error) := exSnap_facts.2.2.2.2
/-- rejected inputs exist, of each class -/
example : Spec.normalize .s2_18_0 Snap.empty = none := by decide +kernel
example : Spec.normalize .s2_18_0 { exSnap with sampleRate := none } = none := by decide +kernel
example : Spec.normalize .s2_18_0 { exSnap with hotCues := List.replicate 9 none } = none := by decide +kernel
example : Spec.normalize .s2_18_0 { exSnap with relativePath := some [97, 46, 98, 47, 99] } = none := by decide +kernel
example : writeStore exOps .s2_18_0 { exSnap with loops := [some ⟨List.replicate 256 65, 0, 0, ⟨0, 0, 0, 0⟩⟩] }
    = .throw .invalid_argument := by decide +kernel
/-- the `Repr…` premises are satisfiable by non-trivial values -/
example : ReprCues (some ⟨[99], 0x40f5888000000000, ⟨255, 1, 2, 3⟩⟩ :: List.replicate 7 none) ∧
    ReprLoops (List.replicate 8 (some ⟨[], 0, 0, ⟨0, 0, 0, 0⟩⟩)) ∧ ReprDuration (some 61000) ∧ ReprRating (some 100) ∧
    ReprTime (some 1700000000000000000) ∧ ReprBpm (some 0x405e000000000000) ∧ ReprNonZero (some F64.negOne) ∧
    ReprCount (some 1) := by
  refine ⟨⟨rfl, ?_⟩, rfl, ?_, ?_, ?_, ?_, ⟨by unfold F64.negOne; decide, by unfold F64.negOne F64.negZero; decide⟩, by unfold ReprCount; decide⟩
  · intro q hq
    simp [List.replicate] at hq
    subst hq; decide
  · intro ms h; cases h; decide
  · intro v h; cases h; decide
  · intro ns h; cases h; decide
  · intro b h; cases h; decide

end EngineModel.Properties.C01V2
