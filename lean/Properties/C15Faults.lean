/-
C15 on states left behind by FAILED calls — "every public operation … on any state reachable through the API …
completes or throws …; never undefined behaviour".  A state is also "reachable through the API" when a mutating
call before it FAILED half-way: an SQLite statement failing (I/O error) at any statement position, BEGIN and
COMMIT included, or a statement refused by a constraint (UNIQUE (title, parentListId) refusing the last UPDATE of
a 2.x crate move).

Model (`Api/FaultsV2.lean`): `callF d op plan` executes a public mutating call as its STATEMENT
PROGRAM — the program `Db/V2CratesStmts.stmts` that C14 proves all-or-nothing (`C14_crates_v2_program`:
the program is the modelled call; `C14_crates_v2_shape`: atomic shape) — on the connection of `Spec/Txn.lean`
under a fault plan, with the RAII rollback; `runF` is a history of such calls, each under its own plan (or
none).  The theorems compose

    all-or-nothing (C14)  ⇒  the state after a failed call is the state before
                          ⇒  the invariant of the crates package (`Inv`: Chain.R of both tables, forest, …) survives
                          ⇒  the fault-free no-`ub` theorems (`queryG_defined`, `step_defined`) apply,

for ALL histories × ALL fault plans × ALL arguments.  `…_without_scope_counterexample`: the same move executed
WITHOUT the transaction scope reaches, under a UNIQUE refusal or a fault at its last statement, a state on which
the ordered walk is `ub oob_read` — what seeded/C15-3 breaks.
-/
import Proofs.C15FaultsV2
import Proofs.C15FaultsV1
import Properties.C15CratesV1

namespace EngineModel.Properties.C15Faults
open EngineModel EngineModel.Db.Chain EngineModel.Db.V2 EngineModel.Api.GuardedV2 EngineModel.Api.FaultsV2
open EngineModel.Spec.Txn EngineModel.Spec.Stmts EngineModel.Proofs.C15FaultsV2
open EngineModel.Api EngineModel.Proofs

/-- **Whatever makes the statement program of a 2.x crate / membership call raise** — a fault injected at any
statement position (`fault = some k`), or a statement refusing by itself (`fault = none`: the UNIQUE constraint
on the last UPDATE of a move or rename), with or without SQLite's own rollback — the connection is afterwards
at rest on exactly the prior tables. -/
theorem v2c_C15_failed_call_restores (d : Db) (op : Op) (fault : Option Nat) (auto : Bool)
    (hr : (call fault auto (stmts d op) d).raised = true) :
    (call fault auto (stmts d op) d).conn = Conn.idle d :=
  raised_restores d op fault auto hr

/-- A fault position inside the call (`k < positions d op` = the number of faultable statements the call issues
on this prior state): the call throws and the next call starts from exactly the prior state. -/
theorem v2c_C15_fault_inside_throws (d : Db) (op : Op) (p : Plan) (hk : p.k < positions d op)
    (hu : ∀ u, (stepG d op).2 ≠ .ub u) : callF d op (some p) = (d, .throw .sqlite_error) :=
  callF_fault_inside d op p hk hu

/-- One call under ANY plan, on ANY state: the state afterwards is the prior one or the one the fault-free
call produces, and the outcome is the fault-free call's or the failing statement's exception. -/
theorem v2c_C15_call_under_faults (d : Db) (op : Op) (plan : Option Plan) :
    ((callF d op plan).1 = d ∨ (callF d op plan).1 = (step d op).1) ∧
    ((callF d op plan).2 = (step d op).2 ∨ (callF d op plan).2 = .throw .sqlite_error) :=
  ⟨callF_state d op plan, callF_outcome d op plan⟩

/-- **The invariant survives every history with failures**: from a state satisfying the crates-2.x invariant
(`Inv` = `ChInv` (both tables represent lists: `Chain.R`) ∧ `PlInv` (forest) ∧ `MemInv`), after any calls with any
arguments, each under any fault plan or none. -/
theorem v2c_C15_after_faults_inv {S : Ord} {d : Db} (hI : Inv S d) (hist : List FCall)
    (hm : (hist.all fun c => memOp c.1) = true) : ∃ S', Inv S' (runF d hist) :=
  inv_runF hist hI hm

/-- **C15 after failed calls, 2.x crates**: for ALL histories of public-API calls (crate, membership, track
operations, any arguments) × ALL fault plans (a fault at any statement position of any of the calls, BEGIN / COMMIT
included, positions beyond the call included, or none) from the empty library:
no call of the history has undefined behaviour; on the state after the history every query (any crate id / name)
is a value or an exception and terminates; and so is every further mutating call, with or without a fault plan. -/
theorem v2c_C15_after_faults_no_ub (hist : List FCall) (hapi : (hist.all fun c => apiOp c.1) = true) :
    (∀ r ∈ outcomesF Db.empty hist, ∀ u, r ≠ .ub u) ∧
    (∀ q u, queryG (runF Db.empty hist) q ≠ .ub u) ∧
    (∀ op u, (stepG (runF Db.empty hist) op).2 ≠ .ub u) ∧
    (∀ op plan u, (callF (runF Db.empty hist) op plan).2 ≠ .ub u) := by
  have hm : (hist.all fun c => memOp c.1) = true := by
    rw [List.all_eq_true] at hapi ⊢
    exact fun c hc => memOp_of_apiOp (hapi c hc)
  obtain ⟨S', hI⟩ := inv_runF hist inv_empty hm
  refine ⟨outcomesF_defined hist inv_empty hm, ?_, ?_, ?_⟩
  · exact fun q u => queryG_defined _ hI.ch.rk hI.ch.re hI.pl.wf q u
  · exact fun op u => stepG_defined _ hI.pl.wf op u
  · exact fun op plan u => callF_defined hI op plan u

/-- The interleaved form: queries between the calls of a history with failures (each query runs on the state
some prefix of the history has left behind). -/
theorem v2c_C15_after_faults_prefix_queries_no_ub (hist rest : List FCall)
    (hapi : ((hist ++ rest).all fun c => apiOp c.1) = true) (q : Query) (u : Ub) :
    queryG (runF Db.empty hist) q ≠ .ub u := by
  have h1 : (hist.all fun c => apiOp c.1) = true := by
    rw [List.all_append, Bool.and_eq_true] at hapi; exact hapi.1
  exact (v2c_C15_after_faults_no_ub hist h1).2.1 q u

def nm (c : Char) : Bytes := [c.toNat.toUInt8]

/-- roots P1 (1), P2 (2); X (3) under P1; X (4) and Y (5) under P2 -/
def cxDb : Db := run Db.empty [.createRoot (nm 'P'), .createRoot (nm 'Q'), .createSub 1 (nm 'X'), .createSub 2 (nm 'X'),
  .createSub 2 (nm 'Y')]

/-- **The scope is what the theorem rests on** (seeded/C15-3: the `sqlite_transaction` of
`playlist_table::update` dropped).  Moving crate 3 (`X` under 1) under crate 2, which already has an `X`:
the last of the four UPDATEs is refused by UNIQUE (title, parentListId).
* With the scope (the program C14 and the theorems above are about) the call raises, nothing is left behind and
  every ordered query answers; the same under a fault injected at each of its 3 positions.
* WITHOUT the scope (`unscoped`: the four UPDATEs in autocommit mode) the refusal leaves the first three UPDATEs
  behind: crate 3 keeps a negative `nextListId` in its old sibling list and the tail of the new sibling list points
  at it — neither list has a tail, and `children()` of either parent dereferences `end()`: `ub oob_read`.
* The same for a move that would succeed (crate 5 `Y` under 1) WITHOUT the scope under a fault injected at its last
  statement (position 3 of its four UPDATEs); with the scope a fault at its last statement (position 2, the COMMIT)
  leaves nothing behind. -/
theorem v2c_C15_without_scope_counterexample :
    let op : Op := .setParent 3 (some 2)
    (step cxDb op).2 = .throw .sqlite_error ∧
    -- with the scope
    (call none false (stmts cxDb op) cxDb).raised = true ∧
    (call none false (stmts cxDb op) cxDb).conn = Conn.idle cxDb ∧
    (∀ k, k < 3 → callF cxDb op (some ⟨k, false⟩) = (cxDb, .throw .sqlite_error)) ∧
    queryG cxDb (.children 1) = .ok () ∧ queryG cxDb (.children 2) = .ok () ∧
    -- without: the UNIQUE refusal alone
    (call none false (unscoped cxDb op) cxDb).raised = true ∧
    queryG (call none false (unscoped cxDb op) cxDb).conn.view (.children 1) = .ub .oob_read ∧
    queryG (call none false (unscoped cxDb op) cxDb).conn.view (.children 2) = .ub .oob_read ∧
    -- without: a move that succeeds when nothing fails, under a fault at its last statement
    (step cxDb (.setParent 5 (some 1))).2 = .ok none ∧
    (call none false (unscoped cxDb (.setParent 5 (some 1))) cxDb).conn = Conn.idle (step cxDb (.setParent 5 (some 1))).1 ∧
    (call (some 3) false (unscoped cxDb (.setParent 5 (some 1))) cxDb).raised = true ∧
    queryG (call (some 3) false (unscoped cxDb (.setParent 5 (some 1))) cxDb).conn.view (.children 1) = .ub .oob_read ∧
    callF cxDb (.setParent 5 (some 1)) (some ⟨2, false⟩) = (cxDb, .throw .sqlite_error) := by
  decide +kernel

/-! #### non-vacuity -/

/-- a history with failures: a fault on the COMMIT of a move, a refused move, a fault on the INSERT of a creation, a
fault position beyond the call (does not fire), then successful calls -/
def exHist : List FCall :=
  [(.createRoot (nm 'P'), none), (.createRoot (nm 'Q'), none), (.createSub 1 (nm 'X'), none), (.createSub 2 (nm 'X'), none),
   (.createSub 2 (nm 'Y'), some ⟨0, false⟩), (.createSub 2 (nm 'Y'), none),
   (.setParent 5 (some 1), some ⟨2, true⟩), (.setParent 3 (some 2), none), (.setParent 3 (some 2), some ⟨1, false⟩),
   (.createTrack, none), (.addTrack 1 1, some ⟨1, false⟩), (.addTrack 1 1, some ⟨7, false⟩), (.removeCrate 2, some ⟨3, false⟩)]

example : (exHist.all fun c => apiOp c.1) = true := by decide +kernel
example : runF Db.empty exHist = run cxDb [.createTrack, .addTrack 1 1] := by decide +kernel
example : (outcomesF Db.empty exHist).map Res.isOk =
    [true, true, true, true, false, true, false, false, false, true, false, true, false] := by decide +kernel
example : positions cxDb (.setParent 5 (some 1)) = 3 ∧ positions cxDb (.removeCrate 2) = 8 ∧
    positions cxDb (.createRoot (nm 'Z')) = 1 := by decide +kernel
example : ∀ u, (stepG cxDb (.setParent 5 (some 1))).2 ≠ .ub u :=
  stepG_defined cxDb (plInv_run plInv_empty _).wf _
example : ∃ S, Inv S cxDb := by
  obtain ⟨S', _, h, _⟩ := inv_run inv_empty [.createRoot (nm 'P'), .createRoot (nm 'Q'), .createSub 1 (nm 'X'),
    .createSub 2 (nm 'X'), .createSub 2 (nm 'Y')] (by decide)
  exact ⟨S', h⟩
/-- the program of the refused move raises without any injected fault: the hypothesis of
`v2c_C15_failed_call_restores` with `fault = none` is satisfiable -/
example : (call none true (stmts cxDb (.setParent 3 (some 2))) cxDb).raised = true := by decide +kernel

/-! ### schema 1.x crates / memberships

The same composition over `Api.CratesV1.step`, its statement programs `CratesV1.stmts` (`C14_crates_v1_program`,
`C14_crates_v1_shape`: every INSERT / UPDATE / DELETE of every loop iteration and of every level of the
`update_path` recursion is a statement of its own, so the fault positions are the real ones) and the invariant
`CInv` of Proofs/NoUbCratesV1.lean (forest invariant `FInv` + the AUTOINCREMENT bound).  The one `ub` of this
model is the unbounded `update_path` recursion on a cyclic parent list. -/
section v1
open EngineModel.Api.CratesV1 EngineModel.Api.CratesV1.C15 EngineModel.Pure.Detect

/-- Whatever makes the statement program of a 1.x crate / membership call raise (a fault at any statement
position, or a statement failing by itself), the connection is afterwards at rest on exactly the prior tables. -/
theorem v1c_C15_failed_call_restores (s : Schema) (d : CratesV1.Db) (op : CratesV1.Op) (fault : Option Nat) (auto : Bool)
    (hr : (call fault auto (CratesV1.stmts s d op) d).raised = true) :
    (call fault auto (CratesV1.stmts s d op) d).conn = Conn.idle d :=
  C15FaultsV1.raised_restores s d op fault auto hr

/-- A fault position inside the call: the call throws and the next call starts from exactly the prior state. -/
theorem v1c_C15_fault_inside_throws (s : Schema) (d : CratesV1.Db) (op : CratesV1.Op) (p : FaultsV1.Plan)
    (hk : p.k < FaultsV1.positions s d op) (hu : ∀ u, (CratesV1.step s d op).2 ≠ .ub u) :
    FaultsV1.callF s d op (some p) = (d, .throw .sqlite_error) :=
  C15FaultsV1.callF_fault_inside s d op p hk hu

/-- One call under ANY plan, on ANY state: prior state or the fault-free call's; the fault-free outcome or the
failing statement's exception. -/
theorem v1c_C15_call_under_faults (s : Schema) (d : CratesV1.Db) (op : CratesV1.Op) (plan : Option FaultsV1.Plan) :
    ((FaultsV1.callF s d op plan).1 = d ∨ (FaultsV1.callF s d op plan).1 = (CratesV1.step s d op).1) ∧
    ((FaultsV1.callF s d op plan).2 = (CratesV1.step s d op).2 ∨ (FaultsV1.callF s d op plan).2 = .throw .sqlite_error) :=
  ⟨C15FaultsV1.callF_state s d op plan, C15FaultsV1.callF_outcome s d op plan⟩

/-- The invariant survives every history with failures (any operations, any arguments, any plans). -/
theorem v1c_C15_after_faults_inv (s : Schema) {d : CratesV1.Db} (hI : CInv s d) (hist : List FaultsV1.FCall) :
    CInv s (FaultsV1.runF s d hist) :=
  C15FaultsV1.cinv_runF s hist hI

/-- **C15 after failed calls, 1.x crates**: for ALL schema versions × ALL histories of calls (any arguments) ×
ALL fault plans from the empty library: no call of the history has undefined behaviour (no `update_path`
recursion runs away), the state afterwards satisfies the forest invariant, and every further call — with or
without a fault plan — and `crate::name` (the one query of the 1.x crate paths with a dereference site) are free
of `ub`. -/
theorem v1c_C15_after_faults_no_ub (s : Schema) (hist : List FaultsV1.FCall) :
    (∀ r ∈ FaultsV1.outcomesF s CratesV1.Db.empty hist, ∀ u, r ≠ .ub u) ∧
    FInv (FaultsV1.runF s CratesV1.Db.empty hist) ∧
    (∀ op u, (CratesV1.step s (FaultsV1.runF s CratesV1.Db.empty hist) op).2 ≠ .ub u) ∧
    (∀ op plan u, (FaultsV1.callF s (FaultsV1.runF s CratesV1.Db.empty hist) op plan).2 ≠ .ub u) ∧
    (∀ c u, GuardedCratesV1.crateNameSrc (FaultsV1.runF s CratesV1.Db.empty hist) c ≠ .ub u) := by
  have hI := C15FaultsV1.cinv_runF s hist (cinv_empty s)
  refine ⟨C15FaultsV1.outcomesF_defined s hist (cinv_empty s), hI.finv, ?_, ?_, ?_⟩
  · exact fun op u => step_defined s hI.finv op u
  · exact fun op plan u => C15FaultsV1.callF_defined hI op plan u
  · exact fun c u => (EngineModel.Properties.C15CratesV1.v1c_C15_queries_no_ub _ c u).2.1

def n1 (c : Char) : CratesV1.Name := [c.toNat.toUInt8]

/-- roots A (1), B (2); C (3) under A -/
def cxDb1 : CratesV1.Db :=
  CratesV1.run .schema_1_18_0_os CratesV1.Db.empty [.createRoot (n1 'A'), .createRoot (n1 'B'), .createSub 1 (n1 'C')]

/-- **The scope is what the theorem rests on, 1.x**: `crate::set_parent` (A under B) executed WITHOUT its
`sqlite_transaction` scope (`unscoped`: the same 6 writing statements in autocommit mode), a fault on its third
writing statement — the first INSERT INTO CrateHierarchy, after CrateParentList has been rewritten: the parent
link A → B is durable, the ancestor closure is not.  The cycle test of `set_parent` reads the closure, so the
reverse move (B under A) is then ACCEPTED, the parent list is cyclic and the `update_path` recursion of that very
call never returns: `ub nontermination`.  With the scope, a fault at each of the 8 positions (BEGIN, the 6 writes, COMMIT) leaves the tables
as they were and the reverse move is an ordinary move. -/
theorem v1c_C15_without_scope_counterexample :
    let s : Schema := .schema_1_18_0_os
    let op : CratesV1.Op := .setParent 1 (some 2)
    let r := call (some 2) false (FaultsV1.unscoped s cxDb1 op) cxDb1
    r.raised = true ∧
    (CratesV1.step s r.conn.view (.setParent 2 (some 1))).2 = .ub .nontermination ∧
    FaultsV1.positions s cxDb1 op = 8 ∧
    (∀ k, k < 8 → FaultsV1.callF s cxDb1 op (some ⟨k, false⟩) = (cxDb1, .throw .sqlite_error)) ∧
    (CratesV1.step s cxDb1 (.setParent 2 (some 1))).2 = .ok .unit := by
  decide +kernel

/-- a history with failures on 1.x: faults on BEGIN, on a DELETE in the middle of a move, on COMMIT, beyond the call -/
def exHist1 : List FaultsV1.FCall :=
  [(.createRoot (n1 'A'), some ⟨0, false⟩), (.createRoot (n1 'A'), none), (.createRoot (n1 'B'), none),
   (.createSub 1 (n1 'C'), some ⟨3, true⟩), (.createSub 1 (n1 'C'), none),
   (.setParent 1 (some 2), some ⟨4, false⟩), (.setParent 1 (some 2), some ⟨7, false⟩), (.rename 1 (n1 'Z'), some ⟨99, false⟩),
   (.rename 1 (n1 'A'), none), (.removeCrate 1, some ⟨5, false⟩)]

example : FaultsV1.runF .schema_1_18_0_os CratesV1.Db.empty exHist1 = cxDb1 := by decide +kernel
example : (FaultsV1.outcomesF .schema_1_18_0_os CratesV1.Db.empty exHist1).map Res.isOk =
    [false, true, true, false, true, false, false, true, true, false] := by decide +kernel
example : CInv .schema_1_18_0_os cxDb1 := run_cinv _ _ _ (cinv_empty _)
example : (CratesV1.step .schema_1_18_0_os cxDb1 (.setParent 1 (some 2))).2 = .ok .unit := by decide +kernel

end v1

end EngineModel.Properties.C15Faults
