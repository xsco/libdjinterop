/-
C16, the static route — no observing entry point, as the source is written, can reach a writing SQL statement.

`EngineModel.Gen.SqlSites.observers` (regenerated from clang's typed AST on every run): the skeletons of every
observing entry point (getters, listings, lookups, verify, snapshot) of the impl classes behind djinterop::track /
crate / database of both schema generations and of the const / `get*` / `find*` / `*_ids` methods of the public 2.x
table classes, calls resolved transitively.
-/
import EngineModel.Gen.SqlSites
import Proofs.SqlSites
import Properties.C16

namespace EngineModel.Properties.C16Sites
open EngineModel.Spec.Txn hiding Ev
open EngineModel.Spec.SqlSites EngineModel.Proofs.SqlSites

/-- **Soundness**: a skeleton without a reachable writing statement site only has traces without a writing
statement, so (`C16_no_write_no_change`) any concrete call with such a trace — under any fault plan, scopes opened
or not — leaves the committed database as it was. -/
theorem C16_sites_sound {α : Type} (sk : Sk) (h : sk.noWrite = true) (evs : List Ev) (f : Bool) (hr : Run sk evs f)
    (cs : List (Cmd α)) (hk : cs.map Cmd.kind = conc 0 evs) (fault : Option Nat) (auto : Bool) (db : α) :
    (call fault auto cs db).conn.committed = db := by
  have hw := conc_noWrite evs 0 (noWrite_run hr h)
  apply EngineModel.Properties.C16.C16_no_write_no_change
  intro x hx
  apply hw
  rw [← hk]
  exact List.mem_map_of_mem hx

/-- A skeleton with reading statement sites only (and no scope) has only traces the monitor of C16 classifies as
observer (`readOnlyShape`). -/
theorem C16_sites_readonly_sound (sk : Sk) (h : sk.readOnly = true) (evs : List Ev) (f : Bool) (hr : Run sk evs f) :
    readOnlyShape (conc 0 evs) = true :=
  conc_readOnly evs 0 (readOnly_run hr h)

/-- Observing entry points that can reach a writing statement in the current source, with the reason.  Empty. -/
def exceptions : List (String × String) := []

/-- **No observing entry point of the current source can reach a writing SQL statement** (whatever the branch, the
state or the arguments). -/
theorem C16_sites_observers_read_only :
    ∀ e ∈ EngineModel.Gen.SqlSites.observers, e.1 ∉ exceptions.map (·.1) → e.2.noWrite = true := by
  decide +kernel

/-- some statement site or scope is reachable -/
def hasSite : Sk → Bool
  | .eps => false
  | .ev _ => true
  | .seq a b => hasSite a || hasSite b
  | .alt a b => hasSite a || hasSite b
  | .star a => hasSite a
  | .scope _ => true
  | .ret a => hasSite a

/-- Not vacuous: well over a hundred observers with a reachable (reading) statement site; and the mutators are
not accepted by the same predicate. -/
theorem C16_sites_coverage :
    120 ≤ (EngineModel.Gen.SqlSites.observers.filter (fun e => hasSite e.2)).length ∧
    100 ≤ (EngineModel.Gen.SqlSites.mutators.filter (fun e => !e.2.noWrite)).length := by
  exact ⟨by decide +kernel, mutators_writing⟩

/-! ### non-vacuity -/
example : (Sk.seqs [.r, .star (.alts [.r, .eps])]).noWrite = true := by decide
example : (Sk.scope (.seqs [.r, .c])).noWrite = true ∧ (Sk.scope (.seqs [.r, .c])).readOnly = false := by decide
example : (Sk.seqs [.r, .ret .w]).noWrite = false := by decide
example : Run (.seq .r (.star .r)) ([.read] ++ ([.read] ++ [])) false :=
  Run.seqN (Run.ev .read) (Run.starN (Run.ev .read) Run.starNil)

end EngineModel.Properties.C16Sites
