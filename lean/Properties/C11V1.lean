/-
C11 — The stored database stays a well-formed Engine library.   Schema 1.x half (crate tables,
membership table, and the per-track derived columns).

`WfRaw` (EngineModel/Api/CratesV1Wf.lean) is an EXECUTABLE predicate on a raw dump of Crate,
CrateParentList, CrateHierarchy, CrateTrackList (stored rows) and Track, written from the property text:
the three redundant encodings of the crate forest — path strings, parent list, flattened hierarchy —
describe the same forest (`absForest`, read off the parent list, judged with the Spec's own `isAncestor`
and `pathOf`), ids are keys, names are valid, no row mentions a crate or track that does not exist,
memberships are duplicate-free.  The tie evaluates the same function on the rows an independent reader
takes from the real database after every step.
-/
import Proofs.CratesV1Suffix
import Proofs.TracksV1PathCols
import Proofs.TracksV1Table
import Proofs.TracksV1AcceptHist

namespace EngineModel.Properties.C11V1
open EngineModel EngineModel.Api.CratesV1 EngineModel.Spec EngineModel.Pure.Detect
open EngineModel.Api.TrackColsV1 EngineModel.Spec.PathParts

/-- Reachable ⇒ well-formed: after every history of crate / membership / track operations (any arguments)
on any 1.x schema version the raw tables satisfy `WfRaw`. -/
theorem C11_reachable_wellformed (s : Schema) (ops : List Op) : WfRaw (run s Db.empty ops) = true :=
  wfRaw_of_inv (inv_run s ops inv_empty)

/-- … i.e. the list of failing conjuncts the driver prints is empty. -/
theorem C11_no_failing_conjunct (s : Schema) (ops : List Op) : wfFailures (run s Db.empty ops) = [] :=
  wfFailures_of_inv (inv_run s ops inv_empty)

/-- The three encodings agree, spelled out as propositions: in every reachable state, with `f` the forest
read off CrateParentList,
  * every Crate.path is the names from the root down to the crate, each followed by ';';
  * CrateHierarchy is exactly the strict-ancestor relation of `f`;
  * CrateParentList has exactly one row per live crate: its parent, or itself for a root. -/
theorem C11_encodings_agree (s : Schema) (ops : List Op) :
    let db := run s Db.empty ops
    let f := absForest db
    (∀ r ∈ db.crate, r.path = pathOf f r.id) ∧
    (∀ a c, (a, c) ∈ db.ch ↔ f.isAncestor a c = true) ∧
    (∀ c p, (c, p) ∈ db.cpl ↔ (f.live c = true ∧ (f.parentOf c = some p ∨ (f.parentOf c = none ∧ p = c)))) ∧
    (db.cpl.map (·.1)).Nodup ∧ db.ch.Nodup := by
  intro db f
  have h : Inv db := inv_run s ops inv_empty
  have hf := h.toFInv
  refine ⟨path_eq_pathOf h, fun a c => (isAncestor_iff hf a c).symm, ?_, hf.cplNodup, hf.chNodup⟩
  intro c p
  show _ ↔ ((absForest db).live c = true ∧ _)
  rw [abs_live, abs_parentOf hf]
  constructor
  · intro hm
    have hc : c ∈ ids db := (hf.cplTotal c).mp (List.mem_map_of_mem (f := (·.1)) hm)
    refine ⟨hc, ?_⟩
    by_cases hpc : p = c
    · right
      obtain ⟨r, hr, rfl⟩ := exists_row hc
      exact ⟨(root_row_iff hf hr).mpr (hpc ▸ hm), hpc⟩
    · exact Or.inl ((parentOf_eq_some hf).mpr ⟨hm, hpc⟩)
  · rintro ⟨hc, hp | ⟨hp, rfl⟩⟩
    · exact ((parentOf_eq_some hf).mp hp).1
    · obtain ⟨r, hr, rfl⟩ := exists_row hc
      exact (root_row_iff hf hr).mp hp

/-- `WfRaw` is EXACTLY the invariant: for any raw state whatsoever (reachable or not — e.g. the rows read back
from the real database), the executable predicate holds iff `Inv` does.  So a dump that passes the run-time
check satisfies everything the C07 / C08 query agreements are derived from, and a dump that fails it violates
a named part of the invariant. -/
theorem C11_wfRaw_iff_invariant (db : Db) : WfRaw db = true ↔ Inv db := wfRaw_iff_inv db

/-- Well-formedness is preserved by every operation from ANY well-formed raw state (a loaded library that passes
the check), not only along histories from the empty library. -/
theorem C11_step_preserves_wellformedness (s : Schema) (db : Db) (hw : WfRaw db = true) (op : Op) :
    WfRaw (step s db op).1 = true :=
  wfRaw_of_inv (step_ok s (inv_of_wfRaw hw) op).1

/-- "foreign-key checks are clean", for the modelled tables: `fkViolations` lists what `PRAGMA foreign_key_check`
reports for CrateParentList / CrateHierarchy / CrateTrackList (child rows whose Crate or Track row is missing);
it is empty on every well-formed state, hence after every history. -/
theorem C11_foreign_key_check_clean (db : Db) (hw : WfRaw db = true) : fkViolations db = [] :=
  ((wfRaw_iff db).mp hw).fk_clean

theorem C11_foreign_key_check_clean_reachable (s : Schema) (ops : List Op) : fkViolations (run s Db.empty ops) = [] :=
  fk_clean (inv_run s ops inv_empty)

/-- non-vacuity of `fkViolations`: the state remove_crate left before 1ccf623 (parent-list and membership rows of
the removed crate 1) is reported. -/
example : fkViolations ⟨[], [(1, 1)], [], [(1, 1)], [⟨1, true⟩], 0⟩
    = [("CrateParentList", 1, 1), ("CrateTrackList", 1, 1)] := by decide +kernel

/-- Memberships are stored once, and only between crates and tracks that exist. -/
theorem C11_membership_rows_wellformed (s : Schema) (ops : List Op) :
    let db := run s Db.empty ops
    db.ctl.Nodup ∧ (∀ r ∈ db.ctl, crateIsValid db r.1 = .ok true ∧ r.2 ∈ dbTracks db) ∧
    (db.track.map (·.id)).Nodup := by
  intro db
  have h : Inv db := inv_run s ops inv_empty
  refine ⟨h.ctlNodup, ?_, h.trackNodup⟩
  intro r hr
  exact ⟨(isValid_iff h.toFInv r.1).mpr (h.ctlLive r hr).1, (mem_dbTracks db r.2).mpr (h.ctlLive r hr).2⟩

/-- `WfRaw` is not vacuous: the raw states the pre-fix code produced are rejected — a parent-list row
surviving its crate (remove_crate before 1ccf623), a hierarchy and paths left behind by a re-parenting
(set_parent before 69e5e90: a;b;c; with b moved under d), a membership row of a removed track. -/
theorem C11_wfRaw_rejects_known_damage :
    WfRaw ⟨[], [(1, 1)], [], [], [], 0⟩ = false ∧
    WfRaw ⟨[⟨1, [97], [97, 59]⟩, ⟨2, [98], [97, 59, 98, 59]⟩, ⟨3, [99], [97, 59, 98, 59, 99, 59]⟩, ⟨4, [100], [100, 59]⟩],
           [(1, 1), (3, 2), (4, 4), (2, 4)], [(1, 3), (2, 3), (4, 2)], [], [], 0⟩ = false ∧
    WfRaw ⟨[⟨1, [97], [97, 59]⟩], [(1, 1)], [], [(1, 1)], [], 0⟩ = false := by
  decide +kernel

/-- … while the corresponding repaired states are accepted. -/
example :
    WfRaw ⟨[⟨1, [97], [97, 59]⟩, ⟨2, [98], [100, 59, 98, 59]⟩, ⟨3, [99], [100, 59, 98, 59, 99, 59]⟩, ⟨4, [100], [100, 59]⟩],
           [(1, 1), (3, 2), (4, 4), (2, 4)], [(2, 3), (4, 2), (4, 3)], [(3, 1)], [⟨1, true⟩], 0⟩ = true := by
  decide +kernel

/-! ### derived per-track columns

Model: the multi-track database `TracksV1.Db` with `dbCreate` (create_track), `dbUpdate`
(track::update), `dbSet` (all 26 single-field setters, `set_relative_path` among them) and `dbRemove`; histories
`TOp` / `tRun` in `EngineModel/Api/TrackColsV1.lean` (a throwing call leaves the database as it was).
Spec: `EngineModel/Spec/PathParts.lean` — "file name = longest suffix without '/'", "extension = longest suffix of
the file name without '.', if it contains one" — independent of the library's `rfind` / `substr` arithmetic. -/

/-- Every operation preserves `derivedOk` from ANY database that satisfies it (a loaded library): an entry of the new
table is an old entry, the row `writeSnap` produced, or the row a setter derived from an old one. -/
theorem C11_track_derived_columns_step (o : TracksV1.Fl.FOps) (d : TracksV1.Db) (h : derivedOk d = true) (op : TOp) :
    derivedOk (tStep o d op) = true := by
  unfold derivedOk at h ⊢
  rw [List.all_eq_true] at h ⊢
  have hd : ∀ e ∈ d.tracks, rowDerivedOk e.2 = true := h
  cases op with
  | create x =>
    show ∀ e ∈ (match TracksV1.dbCreate o d x with | .ok (d', _) => d' | _ => d).tracks, rowDerivedOk e.2 = true
    split
    · next d' id h =>
      obtain ⟨rows, hw, _, rfl, _⟩ := TracksV1.dbCreate_eq_ok h
      intro e he
      rcases List.mem_append.mp he with he | he
      · exact hd e he
      · rw [List.mem_singleton.mp he]; exact rowDerivedOk_writeSnap o d.schema x none rows hw
    · exact hd
  | update id x =>
    show ∀ e ∈ (match TracksV1.dbUpdate o d id x with | .ok d' => d' | _ => d).tracks, rowDerivedOk e.2 = true
    split
    · next d' h =>
      obtain ⟨prior, rows, _, hw, _, rfl⟩ := TracksV1.dbUpdate_eq_ok h
      intro e he
      rcases TracksV1.mem_aset_weak id rows d.tracks e he with rfl | he
      · exact rowDerivedOk_writeSnap o d.schema x (some prior) rows hw
      · exact hd e he
    · exact hd
  | set id f v =>
    show ∀ e ∈ (match TracksV1.dbSet o d id f v with | .ok d' => d' | _ => d).tracks, rowDerivedOk e.2 = true
    split
    · next d' h =>
      obtain ⟨r, r', hr, hs, rfl⟩ := TracksV1.dbSet_ok o d d' id f v h
      intro e he
      rcases TracksV1.mem_aset_weak id r' d.tracks e he with rfl | he
      · by_cases hf : f = .relativePath
        · subst hf; cases hs; exact rowDerivedOk_setPath r v
        · rw [rowDerivedOk_of_cells (TracksV1.set_cells o hf hs)]; exact hd (id, r) (TracksV1.aget_mem d.tracks id r hr)
      · exact hd e he
    · exact hd
  | remove id => exact fun e he => hd e (List.mem_filter.mp he).1

/-- … hence after EVERY history of track operations, on every 1.x schema version: every stored track has a path,
`Track.filename` is the file-name part of that path and the MetaData text row of type 13 holds the extension of
that file name (NULL when it has none) — `derivedOk`, the executable predicate the tie also evaluates. -/
theorem C11_track_derived_columns_after_every_history (o : TracksV1.Fl.FOps) (s : TracksV1.Schema) (ops : List TOp) :
    derivedOk (tRun o ⟨s, []⟩ ops) = true := by
  have key : ∀ (ops : List TOp) (d : TracksV1.Db), derivedOk d = true → derivedOk (tRun o d ops) = true := by
    intro ops
    induction ops with
    | nil => exact fun _ h => h
    | cons op ops ih => exact fun d h => ih _ (C11_track_derived_columns_step o d h op)
  exact key ops _ rfl

/-- The library's index arithmetic computes the Spec's parts: `get_filename` (rfind '/' + substr) is the longest
'/'-free suffix; the stored extension (`get_file_extension` of the file name: rfind '.' + substr, none without a
dot) is the Spec's extension of the Spec's file name. -/
theorem C11_path_parts_agree_with_spec (p : Bytes) :
    TracksV1.getFilename p = fileNamePart p ∧
    TracksV1.getExtension (TracksV1.getFilename p) = extensionPart (fileNamePart p) :=
  ⟨TracksV1.getFilename_spec p, TracksV1.getExtension_spec p⟩

/-- non-vacuity: create "a/b.mp3", then set_relative_path "d.e/f.g.h": the stored cells follow the new path;
and `derivedOk` is false on rows whose filename was left behind. -/
example :
    ((tRun ⟨fun _ => 0, fun _ => 0, fun _ _ => 0, fun x => x⟩ ⟨.s1_6_0, []⟩
      [.create { TracksV1.Snap.empty with relativePath := some [97, 47, 98, 46, 109, 112, 51] },
       .set 1 .relativePath [100, 46, 101, 47, 102, 46, 103, 46, 104]]).tracks.map
        fun e => (e.1, e.2.track.filename, TracksV1.aget 13 e.2.mstr))
      = [(1, some [102, 46, 103, 46, 104], some (some [104]))] := by
  decide +kernel

example : fileNamePart [100, 46, 101, 47, 102] = [102] ∧ extensionPart [102] = none ∧
    extensionPart [46, 102] = some [102] ∧ extensionPart [102, 46] = some [] := by decide +kernel

example : rowDerivedOk ⟨{ TracksV1.TrackRow.blank with path := some [97, 47, 98], filename := some [97] }, [], [], none⟩ = false := by
  decide +kernel

end EngineModel.Properties.C11V1
