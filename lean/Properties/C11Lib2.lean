/-
C11 on the WHOLE schema-2.x library.

Model: `EngineModel/Lib/V2.lean` — one state `Lib2` holding the Track table (the statement-level table of the
track package, with its UNIQUE constraints, triggers and transaction scopes), Playlist + PlaylistEntity (the crate
package's tables), the Information row (uuid, version), the ChangeLog rows `trigger_after_update_Track` writes
(schemas before 2.20.3), AlbumArt ids and PreparelistEntity; one alphabet `Call` = every public operation of
`database`, `crate` and `track`; `step` delegates to the package models and adds the cross-table interactions
(`database::remove_track`'s transaction over PlaylistEntity, ChangeLog, PreparelistEntity and Track;
`crate::add_track`'s existence test on the real Track table; the library's own uuid in every entry; the ChangeLog
trigger).

Histories range over the public alphabet (`Call.isApi`: everything but the two steps of other software:
`foreignEntry`, an entry of another database being added, and `plantPrepare`, Engine putting a track on its prepare
list — C08Lib2 and C01Lib2, over `Call.admissible`, cover those).
`LibInv` (Proofs/Lib2Inv.lean) = the package invariants + cross-table referential integrity; `libInv`
(Lib/V2.lean) is its executable form — the SAME function the driver evaluates on the dump of the real
database after every step of the tie (mode `lib2`, command `lib2.inv`).
-/
import Proofs.Lib2Exec
import Proofs.CratesV2WfConv

namespace EngineModel.Properties.C11Lib2
open EngineModel EngineModel.Db.Chain EngineModel.TracksV2 EngineModel.Lib.V2
open EngineModel.Table (Schema2)

/-- **`LibInv` is inductive over every public call**, whatever the call answers (a call that throws included),
from ANY library satisfying it. -/
theorem C11Lib2_step_preserves (ops : FOps) (s : Schema2) (L : Lib2) (h : LibInv s L) (c : Call) (hc : c.isApi = true) :
    LibInv s (step ops s L c).1 :=
  libInv_step ops s h c hc

/-- **Reachable ⇒ `LibInv`**: after every finite history of public calls on the library the creator of version
`s` wrote — interleaving track, crate and membership calls in any order, failed calls included; the quantifier
over histories covers every prefix. -/
theorem C11Lib2_reachable (ops : FOps) (s : Schema2) (uuid : Bytes) (hist : List Call) (hapi : hist.all Call.isApi = true) :
    LibInv s (run ops s (Lib2.empty s uuid) hist) :=
  libInv_run ops s (libInv_empty s uuid) hist hapi

/-- The executable check IS the invariant: ⇐ every reachable state passes it; ⇒ ANY library whose dump passes it (a
loaded one, not only one grown from the empty library) satisfies the proof-level invariant. -/
theorem C11Lib2_exec_iff (s : Schema2) (L : Lib2) : libInv s L = true ↔ LibInv s L := by
  unfold libInv libChecks
  simp only [List.all_cons, List.all_nil, Bool.and_true, Bool.and_eq_true, logOk_iff, artOk_iff]
  constructor
  -- the fourth check, `entityRefsOk`, adds nothing: the crate invariant with `own` implies it (`entry_refs`, in the converse direction)
  · rintro ⟨h1, h2, h3, _, ⟨h5, h6, h7⟩, ⟨h8, h9⟩, h10⟩
    exact { tr := inv_of_tracksWf h1, cr := ⟨_, EngineModel.Db.V2.inv_of_wfRaw h2⟩, own := (allOwn_iff L).mp h3,
            logNone := h5, logIds := h6, logLive := h7, art := h8, prep := h9, ver := by simpa [infoOk] using h10 }
  · intro h
    obtain ⟨S, hS⟩ := h.cr
    refine ⟨tracksWf_of_inv h.tr, EngineModel.Db.V2.wfRaw_of_inv hS h.own, (allOwn_iff L).mpr h.own, ?_,
      ⟨h.logNone, h.logIds, h.logLive⟩, ⟨h.art, h.prep⟩, by simp [infoOk, h.ver]⟩
    unfold entityRefsOk
    rw [List.all_eq_true]
    intro e he
    obtain ⟨⟨p, hp, e1⟩, t, ht, e2⟩ := entry_refs hS he (entry_own h.own he)
    simp only [Bool.or_eq_true, Bool.and_eq_true]
    exact .inr ⟨(trackExists_iff L _).mpr (e2 ▸ List.mem_map_of_mem ht), (plAny_iff L _).mpr (e1 ▸ List.mem_map_of_mem hp)⟩

/-- Reachable states, in the executable form the tie evaluates on the real dump. -/
theorem C11Lib2_reachable_exec (ops : FOps) (s : Schema2) (uuid : Bytes) (hist : List Call) (hapi : hist.all Call.isApi = true) :
    libInv s (run ops s (Lib2.empty s uuid) hist) = true :=
  (C11Lib2_exec_iff _ _).mpr (C11Lib2_reachable ops s uuid hist hapi)

/-- Hence from ANY library whose dump passes the check (one written by Engine and loaded, not only one grown
from the empty library) every history keeps it. -/
theorem C11Lib2_from_any_wellformed (ops : FOps) (s : Schema2) (L : Lib2) (h : libInv s L = true) (hist : List Call)
    (hapi : hist.all Call.isApi = true) : libInv s (run ops s L hist) = true :=
  (C11Lib2_exec_iff _ _).mpr (libInv_run ops s ((C11Lib2_exec_iff _ _).mp h) hist hapi)

theorem referential_integrity {s : Schema2} {L : Lib2} (h : LibInv s L) :
    (∀ e ∈ L.pe, e.val.uuid = 0 ∧ (∃ p ∈ L.pl, p.id = e.key) ∧ ∃ t ∈ L.tdb.rows, (t.id : Int) = e.val.track) ∧
    (∀ r ∈ L.log, ∀ t, r.track = some t → ∃ x ∈ L.tdb.rows, x.id = t) ∧
    (∀ t ∈ L.tdb.rows, t.originUuid = L.uuid ∧ t.originId = t.id) ∧
    (hasChangeLog s = false → L.log = []) ∧
    (∀ t ∈ L.tdb.rows, t.row.albumArtId.toNat ∈ L.art) :=
  let ⟨_, hS⟩ := h.cr
  ⟨fun _ he => ⟨entry_own h.own he, entry_refs hS he (entry_own h.own he)⟩,
    fun r hr t ht => List.mem_map.mp (h.logLive r hr t ht), h.tr.s.origin, h.logNone, h.art.2⟩

/-- **Cross-table referential integrity, in logical form.**  After every history:
every PlaylistEntity row carries this database's uuid (tag 0 = `Information.uuid`), its `listId` is the id of
a Playlist row and its `trackId` the id of a row of table Track (a ROW of the Track table of the same state, not
an id-level stand-in); every ChangeLog row is NULL or names a Track row; every Track row's origin columns are
(`Information.uuid`, its own id); ChangeLog exists only before 2.20.3; every `Track.albumArtId` names an
AlbumArt row. -/
theorem C11Lib2_referential_integrity (ops : FOps) (s : Schema2) (uuid : Bytes) (hist : List Call)
    (hapi : hist.all Call.isApi = true) :
    let L := run ops s (Lib2.empty s uuid) hist
    (∀ e ∈ L.pe, e.val.uuid = 0 ∧ (∃ p ∈ L.pl, p.id = e.key) ∧ ∃ t ∈ L.tdb.rows, (t.id : Int) = e.val.track) ∧
    (∀ r ∈ L.log, ∀ t, r.track = some t → ∃ x ∈ L.tdb.rows, x.id = t) ∧
    (∀ t ∈ L.tdb.rows, t.originUuid = L.uuid ∧ t.originId = t.id) ∧
    (hasChangeLog s = false → L.log = []) ∧
    (∀ t ∈ L.tdb.rows, t.row.albumArtId.toNat ∈ L.art) :=
  referential_integrity (C11Lib2_reachable ops s uuid hist hapi)

/-- **`PRAGMA foreign_key_check` is clean**, from the invariant: over every table of the 2.x schemas that
declares a foreign key (Track.albumArtId → AlbumArt, ChangeLog.trackId → Track before 2.20.3,
PlaylistEntity.listId → Playlist, PreparelistEntity.trackId → Track — read off schema_2_*.cpp) no child row
with a non-NULL key lacks its parent row. -/
theorem C11Lib2_foreign_key_check_clean (s : Schema2) (L : Lib2) (h : LibInv s L) : fkCheck L = [] := by
  obtain ⟨S, hS⟩ := h.cr
  unfold fkCheck
  simp only [List.append_eq_nil_iff, List.filterMap_eq_nil_iff]
  refine ⟨⟨⟨?_, ?_⟩, ?_⟩, ?_⟩
  · intro t ht
    have := h.art.2 t ht
    simp [this]
  · intro r hr
    cases ht : r.track with
    | none => rfl
    | some t =>
      have := (find_isSome_iff L.tdb t).mpr (h.logLive r hr t ht)
      simp [Lib2.trackLive, this]
  · intro e he
    obtain ⟨p, hp, e1⟩ := (entry_refs hS he (entry_own h.own he)).1
    simp [(plAny_iff L e.key).mpr (e1 ▸ List.mem_map_of_mem hp)]
  · intro r hr
    cases ht : r.track with
    | none => rfl
    | some t =>
      have := (find_isSome_iff L.tdb t).mpr (h.prep r hr t ht)
      simp [Lib2.trackLive, this]

/-- `fkCheck` is empty after every history of public calls, failed calls included. -/
theorem C11Lib2_reachable_foreign_key_check_clean (ops : FOps) (s : Schema2) (uuid : Bytes) (hist : List Call)
    (hapi : hist.all Call.isApi = true) : fkCheck (run ops s (Lib2.empty s uuid) hist) = [] :=
  C11Lib2_foreign_key_check_clean s _ (C11Lib2_reachable ops s uuid hist hapi)

/-- **A call that does not return normally leaves every table of the library as it was** — in particular
`database::remove_track` of a track that does not exist: the memberships it had already deleted and the
ChangeLog rows it had already cleared are rolled back with the failing `track_table::remove` (fix 516c689),
proved from the statement sequence inside `M2.transaction`, not assumed. -/
theorem C11Lib2_failed_call_unchanged (ops : FOps) (s : Schema2) (L : Lib2) (h : LibInv s L) (c : Call)
    (hf : ∀ v, (step ops s L c).2 ≠ .ok v) : (step ops s L c).1 = L :=
  failed_unchanged ops s h.tr c hf

/-- The executable check is not vacuous: it is false on the state `remove_track` left before 37b35a5 (no membership
loop) — a library whose Track table is empty while a PlaylistEntity row of its own database still names track 1. -/
theorem C11Lib2_unscoped_counterexample :
    let L : Lib2 := { Lib2.empty .s2_18_0 [85] with
      tdb := ⟨[85], 1, []⟩, pl := [⟨1, 0, 0, [97]⟩], plSeq := 1, pe := [⟨1, 1, 0, ⟨1, 0⟩⟩], peSeq := 1 }
    libInv .s2_18_0 L = false := by
  decide

/-- The prepare list matters (`fix:` 39a8ec7): Engine puts a track on its prepare list
(`plantPrepare`, not a call of the library), the library removes the track — `remove_track` deletes the
PreparelistEntity row with it (the model after the fix: `fkCheck = []`, the row is gone); had it not (the code
before the fix: the state below with the row left in place), `PRAGMA foreign_key_check` reports the row. -/
theorem C11Lib2_prepare_list_counterexample :
    let ops : FOps := ⟨fun _ => 0, fun _ => 0, fun _ _ => 0⟩
    let x : Snap := { Snap.empty with relativePath := some [97, 46, 98] }
    let L := run ops .s2_21_2 (Lib2.empty .s2_21_2 [85]) [.createTrack x, .plantPrepare 1]
    let L' := (step ops .s2_21_2 L (.removeTrack 1)).1
    L.prep = [⟨1, some 1⟩] ∧ L'.prep = [] ∧ fkCheck L' = [] ∧
    fkCheck { L' with prep := L.prep } = [⟨"PreparelistEntity", 1, "Track"⟩] := by
  decide +kernel

/-! ### non-vacuity: an interleaved history with refused calls, on a schema with the ChangeLog table -/

def exOps : FOps := ⟨fun _ => 0, fun _ => 0, fun _ _ => 0⟩
/-- "a/<n>.mp3" -/
def exSnap (n : UInt8) : Snap := { Snap.empty with relativePath := some [97, 47, n, 46, 109, 112, 51], title := some [n] }

/-- two tracks, a crate with a sub-crate, memberships, a refused re-pathing (UNIQUE(path)), an update, a track
removed while it is in two crates, calls through the stale handle (remove again, update, add to a crate), a crate
removed with its contents -/
def exHist : List Call :=
  [.createTrack (exSnap 49), .createTrack (exSnap 50), .createRootCrate [65], .crateCreateSub 1 [66],
   .crateAddTrack 1 1, .crateAddTrack 2 1, .crateAddTrack 2 2, .trackSet 2 (.relativePath [97, 47, 49, 46, 109, 112, 51]),
   .trackSet 1 (.title none), .trackUpdate 2 (exSnap 51), .removeTrack 1, .removeTrack 1, .trackUpdate 1 (exSnap 52),
   .crateAddTrack 1 1, .crateTracks 2, .removeCrate 2, .createTrack (exSnap 53)]

example : exHist.all Call.isApi = true := by decide
/-- the answers: the refused re-pathing, the second removal, update and add_track through the stale handle -/
example : (exHist.foldl (fun (acc : Lib2 × List (Res Out)) c => ((step exOps .s2_18_0 acc.1 c).1, acc.2 ++ [(step exOps .s2_18_0 acc.1 c).2]))
    (Lib2.empty .s2_18_0 [85], [])).2 =
    [.ok (.id 1), .ok (.id 2), .ok (.id 1), .ok (.id 2), .ok .unit, .ok .unit, .ok .unit, .throw .sqlite_error, .ok .unit,
     .ok .unit, .ok .unit, .throw .invalid_argument, .throw (.dj "track_deleted"), .throw (.dj "track_deleted"),
     .ok (.ids [2]), .ok .unit, .ok (.id 3)] := by decide +kernel
/-- the final tables: track 1 gone, its two memberships gone, its ChangeLog rows cleared, ids never reused -/
example : let L := run exOps .s2_18_0 (Lib2.empty .s2_18_0 [85]) exHist
    L.tdb.rows.map (·.id) = [2, 3] ∧ L.pl.map (·.id) = [1] ∧ L.pe = [] ∧ L.peSeq = 3 ∧
    L.log.map (fun r => (r.id, r.track)) = [(1, none), (2, some 2), (3, none), (4, some 2), (5, some 2), (6, some 3)] := by
  decide +kernel
example : libInv .s2_18_0 (run exOps .s2_18_0 (Lib2.empty .s2_18_0 [85]) exHist) = true := by decide +kernel
/-- from 2.20.3 on there is no ChangeLog table -/
example : (run exOps .s2_21_2 (Lib2.empty .s2_21_2 [85]) exHist).log = [] := by decide +kernel

end EngineModel.Properties.C11Lib2
