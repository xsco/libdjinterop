/-
C10 on the WHOLE schema-2.x library: everything observed before closing is observed
after reopening.

What could a reload lose?  (a) state kept in handles — there is none: `v2::track_impl` / `v2::crate_impl` hold
the library pointer, table accessors and the id (Lib/V2.lean, "everything observable"); a `Call` takes ids;
(b) an open transaction — `Session.reload` = `Conn.reopen` of `Spec/Txn.lean` drops the working copy.  So the
content of C10 on the model is: no call of the composite leaves a transaction open, whatever happens inside it.
For the single-table calls that is the packages' (`stmts_run`, `topStmts_run`: their statement programs, run on
the connection, make exactly the step's result durable); here it is proved for the one call that spans several
tables, `database::remove_track`, and lifted to all histories, every prefix, reload after every call.
-/
import Proofs.Lib2Stmts
import Properties.C10

namespace EngineModel.Properties.C10Lib2
open EngineModel EngineModel.TracksV2 EngineModel.Lib.V2 EngineModel.Spec.Txn EngineModel.Spec.Observe
open EngineModel.Properties.C10
open EngineModel.Table (Schema2)

/-- the composite step as a state transformer (a call that throws leaves what `step` says — nothing, by
`C11Lib2_failed_call_unchanged`) -/
def next (ops : FOps) (s : Schema2) (L : Lib2) (c : Call) : Lib2 := (step ops s L c).1

/-- **`remove_track` settles**: under every fault plan — any statement failing, SQLite rolling back by itself
or not — the statement program of `database::remove_track` leaves no transaction open. -/
theorem C10Lib2_remove_track_settles (s : Schema2) (L : Lib2) (t : Nat) (fault : Option Nat) (auto : Bool) :
    (⟨removeTrackStmts s L t, fault, auto⟩ : Call Lib2).settles :=
  C10_atomic_calls_settle _ (removeTrack_shape_atomic s L t)

/-- When nothing fails, what the statement program of `remove_track` makes durable is exactly what the composite
`step` returns: memberships, ChangeLog and Track table together. -/
theorem C10Lib2_remove_track_durable (ops : FOps) (s : Schema2) (L : Lib2) (t : Nat) (auto : Bool)
    (h : (L.tdb.find t).isSome = true) :
    (exec none auto (removeTrackStmts s L t) 0 0 (Conn.idle L)).conn = Conn.idle (next ops s L (.removeTrack t)) :=
  (removeTrack_stmts_run ops s L t auto h).2

/-- When any statement of the program of `remove_track` fails, nothing of it is durable. -/
theorem C10Lib2_remove_track_fault_leaves_nothing (s : Schema2) (L : Lib2) (t : Nat) (k : Nat) (auto : Bool)
    (hk : k < countFaultable ((removeTrackStmts s L t).map Cmd.kind)) :
    (exec (some k) auto (removeTrackStmts s L t) 0 0 (Conn.idle L)).conn = Conn.idle L :=
  (removeTrack_all_or_nothing s L t k auto hk).2

/-- **Every prefix, reload after every call.**  A history of composite calls, each made durable by its (settled)
statement program; the session is closed and loaded again after EVERY call, all handles released: what is then
observed — every observer of database / crate / track on every crate and track, through the database or through
any ids the client kept — is what the one-session run of the model observes, at every prefix. -/
theorem C10Lib2_reload_every_prefix (ops : FOps) (s : Schema2) (L0 : Lib2) (hist : List Call) (n : Nat)
    (crateHandles : List Int) (trackHandles : List Nat) :
    observeAll ops s (runCallsReopen (Conn.idle L0) ((hist.take n).map (apiCall (next ops s)))).view crateHandles trackHandles
      = observeAll ops s (run ops s L0 (hist.take n)) crateHandles trackHandles ∧
    observeAll ops s (runCalls (Conn.idle L0) ((hist.take n).map (apiCall (next ops s)))).reopen.view crateHandles trackHandles
      = observeAll ops s (run ops s L0 (hist.take n)) crateHandles trackHandles := by
  obtain ⟨h1, h2⟩ := C10_api_model_reopen (next ops s) hist L0 n
  rw [h2, h1]
  -- `run` is the `foldl` of `next` by definition
  exact ⟨rfl, rfl⟩

/-- **`observe (reload S) = observe S`** for a session at rest (what every history reaches), seen through the
database: releasing the handles and loading again changes no answer of any observer on any crate or track the
database lists; a handle re-obtained by id answers as the one held before (a handle is its id). -/
theorem C10Lib2_reload_observes (ops : FOps) (s : Schema2) (L : Lib2) (crateHandles : List Int) (trackHandles : List Nat) :
    let S : Session := ⟨Conn.idle L, crateHandles, trackHandles⟩
    (S.reload).observe ops s = observeAll ops s L [] [] ∧
    (∀ c ∈ observers L [] [], (c, (step ops s L c).2) ∈ S.observe ops s) ∧
    observeAll ops s (S.reload).conn.view crateHandles trackHandles = S.observe ops s := by
  intro S
  refine ⟨rfl, ?_, rfl⟩
  intro c hc
  refine List.mem_map.mpr ⟨c, ?_, rfl⟩
  show c ∈ observers L crateHandles trackHandles
  simp only [observers, List.mem_append, List.mem_flatMap, List.append_nil] at hc ⊢
  rcases hc with ((((h | h) | h) | ⟨x, hx, h⟩) | ⟨x, hx, h⟩)
  · exact Or.inl (Or.inl (Or.inl (Or.inl h)))
  · exact Or.inl (Or.inl (Or.inl (Or.inr h)))
  · exact Or.inl (Or.inl (Or.inr h))
  · exact Or.inl (Or.inr ⟨x, Or.inl hx, h⟩)
  · exact Or.inr ⟨x, Or.inl hx, h⟩

/-- The hypothesis matters: a session with a transaction left open DOES observe differently after reload — the
uncommitted membership is gone (so "no call leaves a transaction open" is what carries C10). -/
theorem C10Lib2_open_transaction_is_lost :
    let ops : FOps := ⟨fun _ => 0, fun _ => 0, fun _ _ => 0⟩
    let x : Snap := { Snap.empty with relativePath := some [97, 46, 98] }
    let L := run ops .s2_18_0 (Lib2.empty .s2_18_0 [85]) [.createTrack x, .createRootCrate [65]]
    let L' := (step ops .s2_18_0 L (.crateAddTrack 1 1)).1
    let S : Session := ⟨⟨L, some L'⟩, [], []⟩
    (step ops .s2_18_0 S.conn.view (.crateTracks 1)).2 = .ok (.ids [1]) ∧
    (step ops .s2_18_0 S.reload.conn.view (.crateTracks 1)).2 = .ok (.ids []) := by
  decide +kernel

end EngineModel.Properties.C10Lib2
