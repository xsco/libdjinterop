/-
C19 — Recommended waveform extents cover the track exactly.

`Gen.TrackUtils.*` is regenerated from src/djinterop/engine/track_utils.hpp on
every run (tools/tr_trackutils.py); `C19_gen_*` (instances of `gen_hi_of_toI64` /
`gen_ov_of_toI64`, Proofs/Waveform.lean) re-prove, against whatever the
source says, that the generated code computes the hand model
(`Pure.Waveform`) without undefined behaviour on the property's domain
(n ≤ 2^62, 0 ≤ ⌊rate⌋ ≤ 2^31).  The remaining theorems are the property,
stated on the hand model over unbounded naturals.
-/
import Proofs.Waveform
import Proofs.Cxx

namespace EngineModel.Properties.C19
open EngineModel EngineModel.Pure.Waveform EngineModel.Cxx

variable {F : Type}

/-! ### the generated code is the hand model (translator tie) -/

theorem gen_qn (ops : FloatOps F) (rate : F) (r : Nat)
    (hr : ops.toI64 rate = some (r : Int)) (hr2 : r ≤ 2147483648) :
    Gen.TrackUtils.waveform_quantisation_number ops rate = some ((qn r : Nat) : Int) :=
  gen_qn_of_toI64 ops rate r hr (Nat.le_trans hr2 (by decide))

theorem C19_gen_hi (ops : FloatOps F) (rate : F) (r n : Nat)
    (hr : ops.toI64 rate = some (r : Int)) (hr2 : r ≤ 2147483648) (hn : n ≤ 4611686018427387904) :
    Gen.TrackUtils.calculate_high_resolution_waveform_extents ops n rate
      = some (hiSize n r, ops.ofI64 (hiSpan n r : Nat)) :=
  gen_hi_of_toI64 ops rate r n hr (Nat.le_trans hr2 (by decide))
    (Nat.lt_of_le_of_lt (Nat.add_le_add hn (qn_bound hr2)) (by decide))

theorem C19_gen_ov (ops : FloatOps F) (rate : F) (r n : Nat)
    (hr : ops.toI64 rate = some (r : Int)) (hr2 : r ≤ 2147483648) (hn : n ≤ 4611686018427387904) :
    Gen.TrackUtils.calculate_overview_waveform_extents ops n rate
      = some (ovSize n r,
          if n = 0 ∨ qn r = 0 then ops.ofI64 0 else ops.div (ops.ofU64 (ovRounded n r)) (ops.ofU64 1024)) :=
  gen_ov_of_toI64 ops rate r n hr (Nat.le_trans hr2 (by decide)) (Nat.lt_of_le_of_lt hn (by decide))

/-! ### the property, on the hand model (all `n`, all `r`) -/

/-- Minimal cover with less than one entry of slack. -/
theorem C19_hi_cover (n r : Nat) (hn : n ≠ 0) (hq : qn r ≠ 0) :
    n ≤ hiSize n r * qn r ∧ (hiSize n r - 1) * qn r < n :=
  ⟨le_hiSize_mul hn hq, Nat.lt_of_not_le fun h =>
    Nat.not_le.mpr (Nat.pred_lt (hiSize_ne_zero hn hq)) ((hiSize_le_iff hn hq).mpr h)⟩

/-- The entry span is the quantisation number. -/
theorem C19_hi_span (n r : Nat) (hn : n ≠ 0) (hq : qn r ≠ 0) : hiSpan n r = qn r :=
  if_neg (not_or.mpr ⟨hn, hq⟩)

/-- No smaller number of entries covers the track. -/
theorem C19_hi_minimal (n r k : Nat) (hn : n ≠ 0) (hq : qn r ≠ 0) (hk : n ≤ k * qn r) :
    hiSize n r ≤ k :=
  (hiSize_le_iff hn hq).mpr hk

theorem C19_ov_size (n r : Nat) (hn : n ≠ 0) (hq : qn r ≠ 0) : ovSize n r = 1024 :=
  if_neg (not_or.mpr ⟨hn, hq⟩)

/-- The overview spans the sample count rounded *down* to the quantisation number. -/
theorem C19_ov_rounded (n r : Nat) (hn : n ≠ 0) (hq : qn r ≠ 0) :
    ovRounded n r ≤ n ∧ n < ovRounded n r + qn r ∧ ovRounded n r % qn r = 0 := by
  rw [ovRounded_of_ne hn hq]
  exact ⟨Nat.div_mul_le_self _ _, Nat.lt_div_mul_add (Nat.pos_of_ne_zero hq), Nat.mul_mod_left _ _⟩

/-- Both waveforms are empty exactly when there is no audio or the rate is too low to quantise. -/
theorem C19_empty_iff (n r : Nat) :
    (hiSize n r = 0 ↔ n = 0 ∨ r < 210) ∧ (ovSize n r = 0 ↔ n = 0 ∨ r < 210) := by
  rw [← qn_eq_zero_iff]
  by_cases h0 : n = 0 ∨ qn r = 0
  · exact ⟨iff_of_true (extents_of_empty h0).1 h0, iff_of_true (extents_of_empty h0).2.2.1 h0⟩
  · obtain ⟨hn, hq⟩ := not_or.mp h0
    refine ⟨iff_of_false ?_ h0, iff_of_false ?_ h0⟩
    · exact hiSize_ne_zero hn hq
    · rw [C19_ov_size n r hn hq]; decide

/-- Sizes are monotone in the sample count. -/
theorem C19_mono (n n' r : Nat) (h : n ≤ n') : hiSize n r ≤ hiSize n' r ∧ ovSize n r ≤ ovSize n' r := by
  by_cases h0 : n = 0 ∨ qn r = 0
  · rw [(extents_of_empty h0).1, (extents_of_empty h0).2.2.1]
    exact ⟨Nat.zero_le _, Nat.zero_le _⟩
  · obtain ⟨hn, hq⟩ := not_or.mp h0
    have hn' : n' ≠ 0 := Nat.ne_of_gt (Nat.lt_of_lt_of_le (Nat.pos_of_ne_zero hn) h)
    rw [C19_ov_size n r hn hq, C19_ov_size n' r hn' hq]
    exact ⟨(hiSize_le_iff hn hq).mpr (Nat.le_trans h (le_hiSize_mul hn' hq)), Nat.le_refl _⟩

/-! ### non-vacuity: a concrete track (44.1 kHz, 10 s) meets the hypotheses -/
example : (441000 : Nat) ≠ 0 ∧ qn 44100 ≠ 0 ∧ hiSize 441000 44100 = 1050 ∧ qn 44100 = 420
    ∧ ovRounded 441000 44100 = 441000 := by decide
example : hiSize 441001 44100 = 1051 ∧ ovRounded 441001 44100 = 441000 := by decide

end EngineModel.Properties.C19
