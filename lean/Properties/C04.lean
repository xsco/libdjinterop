/-
C04 — Re-encoding a decoded foreign blob preserves every byte (schema 2.x).

From the generic `Exact` law of the codec combinators (whatever a layout's
decoder accepts *is* the encoding of the decoded value followed by the
remainder, which the 2.x structs keep as `extra_data`), transferred to the
Model of the C++ by the agreement theorems `decode*_eq` / `encode*_ok`.
Payload level (the compressed bytes are not compared).

Then the setter frame: a read-modify-write setter of `v2::track_impl` changes
only the bytes of the field it names (`C04_setter_frame_*`, machinery in
`Proofs/SetterFrame.lean`), first about the payloads as functions of the decoded
row, then about the stored bytes before and after the call (`C04_*_bytes`).
-/
import Proofs.ImplV2Lists
import Proofs.SetterFrame

namespace EngineModel.Properties.C04
open EngineModel EngineModel.Codec EngineModel.V2 EngineModel.Impl.V2

theorem C04_v2_track_reencode (bs : Bytes) (v : Track) (extra : Bytes)
    (h : decodeTrack bs = .ok (v, extra)) : encodeTrack v extra = .ok bs := by
  rw [encodeTrack_ok, ← decodeTrack_exact h]

theorem C04_v2_beat_reencode (bs : Bytes) (v : Beat) (extra : Bytes)
    (h : decodeBeat bs = .ok (v, extra)) : encodeBeat v extra = .ok bs := by
  rw [encodeBeat_ok, ← (decodeBeat_exact h).2]

theorem C04_v2_ovw_reencode (bs : Bytes) (hlen : bs.length < maxCount) (v : Ovw) (extra : Bytes)
    (h : decodeOvw bs = .ok (v, extra)) : encodeOvw v extra = .ok bs := by
  obtain ⟨hv, e⟩ := decodeOvw_exact hlen h
  rw [encodeOvw_ok v hv, ← e]

theorem C04_v2_loops_reencode (bs : Bytes) (v : Loops) (extra : Bytes)
    (h : decodeLoops bs = .ok (v, extra)) : encodeLoops v extra = .ok bs := by
  obtain ⟨hv, e⟩ := decodeLoops_exact h
  rw [encodeLoops_ok v hv.2, ← e]

/-- The one permitted normalisation: the `is_main_cue_adjusted` byte of a
quick-cues payload, any non-zero value becoming 1; identity on everything the
layout does not accept. -/
def normBool (bs : Bytes) : Bytes :=
  match cuesRaw.dec bs with
  | some (raw, extra) => cuesRaw.enc raw.normFlag ++ extra
  | none => bs

theorem normBool_of_dec {bs : Bytes} {raw : CuesRaw} {extra : Bytes} (h : cuesRaw.dec bs = some (raw, extra)) :
    normBool bs = cuesRaw.enc raw.normFlag ++ extra := by
  unfold normBool; rw [h]

theorem cuesRaw_enc_eq (raw : CuesRaw) : cuesRaw.enc raw =
    (counted u64be cue).enc raw.cues ++ (u64be.enc raw.adjMain ++ raw.isAdj :: u64be.enc raw.defMain) := rfl

/-- What the quick-cues decoder accepts is, up to `normBool`, the encoding of what it returns. -/
theorem cues_reencode {bs : Bytes} {v : Cues} {extra : Bytes} (h : decodeCues bs = .ok (v, extra)) :
    CuesFit v ∧ cues.enc v ++ extra = normBool bs := by
  obtain ⟨raw, hraw, rfl⟩ := decodeCues_raw h
  refine ⟨(cuesRaw_exact _ _ _ hraw).1.2, ?_⟩
  rw [normBool_of_dec hraw, ← toRaw_toCues]
  rfl

theorem C04_v2_cues_reencode (bs : Bytes) (v : Cues) (extra : Bytes)
    (h : decodeCues bs = .ok (v, extra)) : encodeCues v extra = .ok (normBool bs) := by
  obtain ⟨hf, e⟩ := cues_reencode h
  rw [encodeCues_ok v hf, e]

/-- `normBool` rewrites exactly one byte — the flag — and nothing else. -/
theorem C04_normBool_one_byte (bs : Bytes) (raw : CuesRaw) (extra : Bytes)
    (h : cuesRaw.dec bs = some (raw, extra)) :
    ∃ pre post, bs = pre ++ raw.isAdj :: post ∧
      normBool bs = pre ++ (if raw.isAdj != 0 then 1 else 0) :: post := by
  refine ⟨(counted u64be cue).enc raw.cues ++ u64be.enc raw.adjMain, u64be.enc raw.defMain ++ extra, ?_, ?_⟩
  · rw [(cuesRaw_exact _ _ _ h).2]
    simp only [cuesRaw_enc_eq, List.append_assoc, List.cons_append]
  · simp only [normBool_of_dec h, cuesRaw_enc_eq, CuesRaw.normFlag, List.append_assoc, List.cons_append]

/-- …and is the identity on blobs whose flag byte is already 0 or 1 (in
particular on everything the library itself writes). -/
theorem C04_normBool_id (bs : Bytes) (raw : CuesRaw) (extra : Bytes)
    (h : cuesRaw.dec bs = some (raw, extra)) (hflag : raw.isAdj = 0 ∨ raw.isAdj = 1) :
    normBool bs = bs := by
  have : raw.normFlag = raw := by
    cases raw with
    | mk c a i d => rcases hflag with rfl | rfl <;> rfl
  rw [normBool_of_dec h, this, ← (cuesRaw_exact _ _ _ h).2]

/-- Non-vacuity: a foreign quick-cues payload with flag byte 7 and two trailing bytes. -/
example : decodeCues ([0,0,0,0,0,0,0,0] ++ [0,0,0,0,0,0,0,1] ++ [7] ++ [0,0,0,0,0,0,0,2] ++ [0xaa, 0xbb])
    = .ok (⟨[], 1, true, 2⟩, [0xaa, 0xbb]) := rfl

/-! ## setter frame: a read-modify-write setter changes only the bytes of the field it names

`TracksV2.applySetter` (lean/EngineModel/TracksV2/Lens.lean, the Model of `v2::track_impl`'s setters on
one Track row whose five BLOB columns are kept as decoded value + trailing `extra_data`) is related to
the stored payload bytes through the Spec encoders (`payloadTrack … payloadLoops`): for each of the eleven
read-modify-write setters every other column's payload is unchanged and, inside the touched column,
only the byte range of the named field may differ (`AgreeOutside a b`: equal length, equal before `a`
and from `b` on).  The row is arbitrary — foreign entry counts, labelled or coloured empty slots, odd
flag bytes (already normalised by decoding: `C04_v2_cues_reencode`), any trailing bytes. -/
section SetterFrame
open EngineModel.SetterFrame EngineModel.TracksV2

/-- the performance-data columns a read-modify-write setter names -/
def touchesTrack : Setter → Bool
  | .averageLoudness _ | .key _ | .sampleCount _ | .sampleRate _ => true | _ => false
def touchesBeat : Setter → Bool
  | .beatgrid _ | .sampleCount _ | .sampleRate _ => true | _ => false
def touchesCues : Setter → Bool
  | .hotCueAt _ _ | .hotCues _ | .mainCue _ => true | _ => false
def touchesLoops : Setter → Bool
  | .loopAt _ _ | .loops _ => true | _ => false
def touchesOvw : Setter → Bool
  | .waveform _ => true | _ => false

/-- **All 26 setters: a performance-data column the setter does not name is not changed at all** (decoded
value and trailing bytes) — in particular the fifteen column-only setters change none of the five. -/
theorem C04_setter_untouched_columns (ops : FOps) (σ : Setter) (r r' : Row) (h : applySetter ops σ r = .ok r') :
    (touchesTrack σ = false → r'.trackData = r.trackData) ∧ (touchesOvw σ = false → r'.ovw = r.ovw) ∧
    (touchesBeat σ = false → r'.beat = r.beat) ∧ (touchesCues σ = false → r'.cues = r.cues) ∧
    (touchesLoops σ = false → r'.loops = r.loops) := by
  -- per setter: `nofun` at a column it names (the hypothesis reads `true = false`), `rfl` at the others
  cases σ
  case hotCueAt i v =>
    obtain ⟨-, -, -, rfl⟩ := hotCueAt_row h
    exact ⟨fun _ => rfl, fun _ => rfl, fun _ => rfl, nofun, fun _ => rfl⟩
  case hotCues v =>
    obtain ⟨cs, -, -, rfl⟩ := hotCues_row h
    exact ⟨fun _ => rfl, fun _ => rfl, fun _ => rfl, nofun, fun _ => rfl⟩
  case loopAt i v =>
    obtain ⟨-, -, -, rfl⟩ := loopAt_row h
    exact ⟨fun _ => rfl, fun _ => rfl, fun _ => rfl, fun _ => rfl, nofun⟩
  case loops v =>
    obtain ⟨ls, -, -, rfl⟩ := loops_row h
    exact ⟨fun _ => rfl, fun _ => rfl, fun _ => rfl, fun _ => rfl, nofun⟩
  case waveform w =>
    obtain ⟨o, -, rfl⟩ := waveform_row h
    exact ⟨fun _ => rfl, nofun, fun _ => rfl, fun _ => rfl, fun _ => rfl⟩
  -- the other 21 return at once: the row with the named fields replaced
  case averageLoudness v | key v =>
    cases h
    exact ⟨nofun, fun _ => rfl, fun _ => rfl, fun _ => rfl, fun _ => rfl⟩
  case sampleCount v | sampleRate v =>
    cases h
    exact ⟨nofun, fun _ => rfl, nofun, fun _ => rfl, fun _ => rfl⟩
  case beatgrid g =>
    cases h
    exact ⟨fun _ => rfl, fun _ => rfl, nofun, fun _ => rfl, fun _ => rfl⟩
  case mainCue v =>
    cases h
    exact ⟨fun _ => rfl, fun _ => rfl, fun _ => rfl, nofun, fun _ => rfl⟩
  all_goals
    cases h
    exact ⟨fun _ => rfl, fun _ => rfl, fun _ => rfl, fun _ => rfl, fun _ => rfl⟩

theorem setter_frame_payloads {ops : FOps} {σ : Setter} {r r' : Row} (h : applySetter ops σ r = .ok r') :
    (touchesTrack σ = false → payloadTrack r' = payloadTrack r) ∧
    (touchesOvw σ = false → payloadOvw r' = payloadOvw r) ∧
    (touchesBeat σ = false → payloadBeat r' = payloadBeat r) ∧
    (touchesCues σ = false → payloadCues r' = payloadCues r) ∧
    (touchesLoops σ = false → payloadLoops r' = payloadLoops r) := by
  obtain ⟨h1, h2, h3, h4, h5⟩ := C04_setter_untouched_columns ops σ r r' h
  refine ⟨fun t => ?_, fun t => ?_, fun t => ?_, fun t => ?_, fun t => ?_⟩
  · rw [payloadTrack, h1 t, payloadTrack]
  · rw [payloadOvw, h2 t, payloadOvw]
  · rw [payloadBeat, h3 t, payloadBeat]
  · rw [payloadCues, h4 t, payloadCues]
  · rw [payloadLoops, h5 t, payloadLoops]

/-- `set_hot_cue_at(i, v)`: only the entry of slot `i` of the quick-cues blob changes; every other entry, the
count, the main-cue fields and the trailing bytes are byte-identical (`frame_hotCueAt_located` says where `pre`
and `post` end), and no other column is touched. -/
theorem C04_setter_frame_hot_cue_at (ops : FOps) (i : UInt32) (v : Option HotCue) (r r' : Row)
    (h : applySetter ops (.hotCueAt i v) r = .ok r') :
    payloadTrack r' = payloadTrack r ∧ payloadOvw r' = payloadOvw r ∧ payloadBeat r' = payloadBeat r ∧
    payloadLoops r' = payloadLoops r ∧
    ∃ pre post old, payloadCues r = pre ++ V2.cue.enc old ++ post ∧
      payloadCues r' = pre ++ V2.cue.enc (writeHotCue v) ++ post ∧ r.cues.1.cues[i.toNat]? = some old := by
  obtain ⟨ft, fo, fb, -, fl⟩ := setter_frame_payloads h
  obtain ⟨hk, h1, h2⟩ := frame_hotCueAt_located ops i v r r' h
  exact ⟨ft rfl, fo rfl, fb rfl, fl rfl, _, _, _, h1, h2, List.getElem?_eq_getElem hk⟩

/-- `set_loop_at(i, v)`: only the entry of slot `i` of the loops blob changes. -/
theorem C04_setter_frame_loop_at (ops : FOps) (i : UInt32) (v : Option LoopV) (r r' : Row)
    (h : applySetter ops (.loopAt i v) r = .ok r') :
    payloadTrack r' = payloadTrack r ∧ payloadOvw r' = payloadOvw r ∧ payloadBeat r' = payloadBeat r ∧
    payloadCues r' = payloadCues r ∧
    ∃ pre post old, payloadLoops r = pre ++ V2.loop.enc old ++ post ∧
      payloadLoops r' = pre ++ V2.loop.enc (writeLoop v) ++ post ∧ r.loops.1[i.toNat]? = some old := by
  obtain ⟨ft, fo, fb, fc, -⟩ := setter_frame_payloads h
  obtain ⟨hk, h1, h2⟩ := frame_loopAt_located ops i v r r' h
  exact ⟨ft rfl, fo rfl, fb rfl, fc rfl, _, _, _, h1, h2, List.getElem?_eq_getElem hk⟩

/-- `set_main_cue(v)`: only the 17 bytes adjusted main cue / flag / default main cue may change. -/
theorem C04_setter_frame_main_cue (ops : FOps) (v : Option F) (r r' : Row)
    (h : applySetter ops (.mainCue v) r = .ok r') :
    payloadTrack r' = payloadTrack r ∧ payloadOvw r' = payloadOvw r ∧ payloadBeat r' = payloadBeat r ∧
    payloadLoops r' = payloadLoops r ∧
    ∃ pre mid mid', payloadCues r = pre ++ mid ++ r.cues.2 ∧ payloadCues r' = pre ++ mid' ++ r.cues.2 ∧
      mid.length = 17 ∧ mid'.length = 17 := by
  obtain ⟨ft, fo, fb, -, fl⟩ := setter_frame_payloads h
  cases h
  exact ⟨ft rfl, fo rfl, fb rfl, fl rfl, _, _, _, by rw [payloadCues, cues_enc_eq], by rw [payloadCues, cues_enc_eq],
    cuesTail_enc_length _, cuesTail_enc_length _⟩

/-- `set_hot_cues(v)`: the list is replaced; the main-cue fields and the trailing bytes are preserved. -/
theorem C04_setter_frame_hot_cues (ops : FOps) (v : List (Option HotCue)) (r r' : Row)
    (h : applySetter ops (.hotCues v) r = .ok r') :
    payloadTrack r' = payloadTrack r ∧ payloadOvw r' = payloadOvw r ∧ payloadBeat r' = payloadBeat r ∧
    payloadLoops r' = payloadLoops r ∧
    ∃ head head' tail, payloadCues r = head ++ tail ∧ payloadCues r' = head' ++ tail ∧
      tail.length = 17 + r.cues.2.length := by
  obtain ⟨ft, fo, fb, -, fl⟩ := setter_frame_payloads h
  obtain ⟨cs, -, -, rfl⟩ := hotCues_row h
  refine ⟨ft rfl, fo rfl, fb rfl, fl rfl, u64be.enc (UInt64.ofNat r.cues.1.cues.length) ++ encL V2.cue r.cues.1.cues,
    u64be.enc (UInt64.ofNat cs.length) ++ encL V2.cue cs,
    cuesTail.enc (r.cues.1.adjMain, (if r.cues.1.isAdj then 1 else 0), r.cues.1.defMain) ++ r.cues.2, ?_, ?_, ?_⟩
  · rw [payloadCues, cues_enc_eq, List.append_assoc]
  · rw [payloadCues, cues_enc_eq, List.append_assoc]
  · rw [List.length_append, cuesTail_enc_length]

/-- `set_average_loudness(v)`: bytes 20..43 of the track-data blob (the three loudness doubles). -/
theorem C04_setter_frame_average_loudness (ops : FOps) (v : Option F) (r r' : Row)
    (h : applySetter ops (.averageLoudness v) r = .ok r') :
    AgreeOutside 20 44 (payloadTrack r) (payloadTrack r') ∧ payloadOvw r' = payloadOvw r ∧
    payloadBeat r' = payloadBeat r ∧ payloadCues r' = payloadCues r ∧ payloadLoops r' = payloadLoops r := by
  obtain ⟨-, fo, fb, fc, fl⟩ := setter_frame_payloads h
  cases h
  exact ⟨agree_loudness r _, fo rfl, fb rfl, fc rfl, fl rfl⟩

/-- `set_key(v)`: bytes 16..19 of the track-data blob. -/
theorem C04_setter_frame_key (ops : FOps) (v : Option UInt32) (r r' : Row)
    (h : applySetter ops (.key v) r = .ok r') :
    AgreeOutside 16 20 (payloadTrack r) (payloadTrack r') ∧ payloadOvw r' = payloadOvw r ∧
    payloadBeat r' = payloadBeat r ∧ payloadCues r' = payloadCues r ∧ payloadLoops r' = payloadLoops r := by
  obtain ⟨-, fo, fb, fc, fl⟩ := setter_frame_payloads h
  cases h
  exact ⟨agree_key r _, fo rfl, fb rfl, fc rfl, fl rfl⟩

/-- `set_sample_count(v)`: bytes 8..15 of the track-data blob and bytes 8..15 of the beat-data blob (the setter
writes both columns). -/
theorem C04_setter_frame_sample_count (ops : FOps) (v : Option UInt64) (r r' : Row)
    (h : applySetter ops (.sampleCount v) r = .ok r') :
    AgreeOutside 8 16 (payloadTrack r) (payloadTrack r') ∧ AgreeOutside 8 16 (payloadBeat r) (payloadBeat r') ∧
    payloadOvw r' = payloadOvw r ∧ payloadCues r' = payloadCues r ∧ payloadLoops r' = payloadLoops r := by
  obtain ⟨-, fo, -, fc, fl⟩ := setter_frame_payloads h
  cases h
  exact ⟨agree_samples_track r _, agree_samples_beat r _, fo rfl, fc rfl, fl rfl⟩

/-- `set_sample_rate(v)`: bytes 0..7 of the track-data blob and bytes 0..7 of the beat-data blob. -/
theorem C04_setter_frame_sample_rate (ops : FOps) (v : Option F) (r r' : Row)
    (h : applySetter ops (.sampleRate v) r = .ok r') :
    AgreeOutside 0 8 (payloadTrack r) (payloadTrack r') ∧ AgreeOutside 0 8 (payloadBeat r) (payloadBeat r') ∧
    payloadOvw r' = payloadOvw r ∧ payloadCues r' = payloadCues r ∧ payloadLoops r' = payloadLoops r := by
  obtain ⟨-, fo, -, fc, fl⟩ := setter_frame_payloads h
  cases h
  exact ⟨agree_sampleRate_track r _, agree_sampleRate_beat r _, fo rfl, fc rfl, fl rfl⟩

/-- `set_beatgrid(g)`: the first 16 bytes (sample rate, sample count) and the trailing bytes of the
beat-data blob are preserved. -/
theorem C04_setter_frame_beatgrid (ops : FOps) (g : List GMarker) (r r' : Row)
    (h : applySetter ops (.beatgrid g) r = .ok r') :
    payloadTrack r' = payloadTrack r ∧ payloadOvw r' = payloadOvw r ∧ payloadCues r' = payloadCues r ∧
    payloadLoops r' = payloadLoops r ∧
    ∃ mid mid', payloadBeat r = (payloadBeat r).take 16 ++ mid ++ r.beat.2 ∧
      payloadBeat r' = (payloadBeat r).take 16 ++ mid' ++ r.beat.2 := by
  obtain ⟨ft, fo, -, fc, fl⟩ := setter_frame_payloads h
  cases h
  have ht : (payloadBeat r).take 16 = u64be.enc r.beat.1.sampleRate ++ u64be.enc r.beat.1.samples := by
    rw [payloadBeat, beat_enc_eq, ← List.append_assoc, List.append_assoc]
    exact List.take_left' (by rw [List.length_append, u64be_enc_length, u64be_enc_length])
  refine ⟨ft rfl, fo rfl, fc rfl, fl rfl,
    [r.beat.1.isSet] ++ (V2.grid.enc r.beat.1.dflt ++ V2.grid.enc r.beat.1.adj),
    [if (writeGridMarkers g).isEmpty then 0 else 1] ++
      (V2.grid.enc (writeGridMarkers g) ++ V2.grid.enc (writeGridMarkers g)), ?_, ?_⟩ <;>
    (rw [ht]; simp only [payloadBeat, beat_enc_eq, List.append_assoc])

/-- non-vacuity: the hypotheses are satisfiable on a foreign-looking row (3 cue entries, a labelled and
coloured empty slot, flag set, two trailing bytes) -/
example : ∃ r', applySetter ops0 (.hotCueAt 0 (some cue0)) row0 = .ok r' := ⟨_, rfl⟩

/-- `set_loops` (read-modify-write since `fix:` bee2c23; before that commit the known finding
`v2-set-loops-waveform-drop-extra-data`): the loops payload is the encoding of the loop list followed by the
trailing `extra_data`; the call replaces the list by the new (padded) one and keeps the trailing bytes; every
other column is byte-identical. -/
theorem C04_setter_frame_loops (ops : FOps) (v : List (Option LoopV)) (r r' : Row)
    (h : applySetter ops (.loops v) r = .ok r') :
    payloadTrack r' = payloadTrack r ∧ payloadOvw r' = payloadOvw r ∧ payloadBeat r' = payloadBeat r ∧
    payloadCues r' = payloadCues r ∧
    ∃ ls, writeLoops v = .ok ls ∧ payloadLoops r = V2.loops.enc r.loops.1 ++ r.loops.2 ∧
      payloadLoops r' = V2.loops.enc ls ++ r.loops.2 := by
  obtain ⟨ft, fo, fb, fc, -⟩ := setter_frame_payloads h
  obtain ⟨ls, hw, -, rfl⟩ := loops_row h
  exact ⟨ft rfl, fo rfl, fb rfl, fc rfl, ls, hw, rfl, rfl⟩

/-- `set_waveform` (likewise repaired): only the samples-per-entry / points / maximum fields of the overview
waveform payload are replaced; its trailing bytes and every other column are byte-identical. -/
theorem C04_setter_frame_waveform (ops : FOps) (w : List WEntry) (r r' : Row)
    (h : applySetter ops (.waveform w) r = .ok r') :
    payloadTrack r' = payloadTrack r ∧ payloadBeat r' = payloadBeat r ∧ payloadCues r' = payloadCues r ∧
    payloadLoops r' = payloadLoops r ∧
    ∃ o, writeWaveform ops w (getSampleCount r) (getSampleRate r) = .ok o ∧
      payloadOvw r = V2.ovw.enc r.ovw.1 ++ r.ovw.2 ∧ payloadOvw r' = V2.ovw.enc o ++ r.ovw.2 := by
  obtain ⟨ft, -, fb, fc, fl⟩ := setter_frame_payloads h
  obtain ⟨o, hw, rfl⟩ := waveform_row h
  exact ⟨ft rfl, fb rfl, fc rfl, fl rfl, o, hw, rfl, rfl⟩

/-- the frame theorems applied to concrete calls on the foreign-looking row -/
example := C04_setter_frame_hot_cue_at ops0 1 (some cue0) row0 _ rfl
example := C04_setter_frame_loop_at ops0 1 (some loop0) row0 _ rfl
example := C04_setter_frame_main_cue ops0 (some 0x4059000000000000) row0 _ rfl
example := C04_setter_frame_hot_cues ops0 [none, some cue0] row0 _ rfl
example := C04_setter_frame_average_loudness ops0 (some 0x3fd0000000000000) row0 _ rfl
example := C04_setter_frame_key ops0 (some 11) row0 _ rfl
example := C04_setter_frame_sample_count ops0 (some 2000) row0 _ rfl
example := C04_setter_frame_sample_rate ops0 (some 0x40e7700000000000) row0 _ rfl
example := C04_setter_frame_beatgrid ops0 [⟨0, 0x4059000000000000⟩, ⟨8, 0x40e5888000000000⟩] row0 _ rfl
example := C04_setter_frame_loops ops0 [none, some loop0] rowL _ rfl
example := C04_setter_frame_waveform ops0 [] row0 _ rfl

/-- the 15 setters that write plain columns only -/
def columnOnly : Setter → Bool
  | .album _ | .artist _ | .bitrate _ | .bpm _ | .comment _ | .composer _ | .duration _ | .genre _
  | .lastPlayedAt _ | .publisher _ | .rating _ | .relativePath _ | .title _ | .trackNumber _ | .year _ => true
  | _ => false

theorem columnOnly_eq (σ : Setter) : columnOnly σ =
    !(touchesTrack σ || touchesOvw σ || touchesBeat σ || touchesCues σ || touchesLoops σ) := by
  cases σ <;> rfl

theorem columnOnly_touches {σ : Setter} (hσ : columnOnly σ = true) :
    touchesTrack σ = false ∧ touchesOvw σ = false ∧ touchesBeat σ = false ∧ touchesCues σ = false ∧
    touchesLoops σ = false := by
  simpa only [columnOnly_eq, Bool.not_eq_true', Bool.or_eq_false_iff, and_assoc] using hσ

theorem C04_column_only_setters (ops : FOps) (σ : Setter) (hσ : columnOnly σ = true) (r r' : Row)
    (h : applySetter ops σ r = .ok r') :
    r'.trackData = r.trackData ∧ r'.ovw = r.ovw ∧ r'.beat = r.beat ∧ r'.cues = r.cues ∧ r'.loops = r.loops := by
  obtain ⟨t1, t2, t3, t4, t5⟩ := columnOnly_touches hσ
  obtain ⟨h1, h2, h3, h4, h5⟩ := C04_setter_untouched_columns ops σ r r' h
  exact ⟨h1 t1, h2 t2, h3 t3, h4 t4, h5 t5⟩

/-- **The other 15 setters** (`set_album` … `set_year`, incl. `set_bpm`, `set_relative_path`) leave the payload
of all five performance-data columns byte-identical.  Together with the eleven theorems above every one of
the 26 setters is covered. -/
theorem C04_setter_frame_column_setters (ops : FOps) (σ : Setter) (hσ : columnOnly σ = true) (r r' : Row)
    (h : applySetter ops σ r = .ok r') :
    payloadTrack r' = payloadTrack r ∧ payloadOvw r' = payloadOvw r ∧ payloadBeat r' = payloadBeat r ∧
    payloadCues r' = payloadCues r ∧ payloadLoops r' = payloadLoops r := by
  obtain ⟨t1, t2, t3, t4, t5⟩ := columnOnly_touches hσ
  obtain ⟨f1, f2, f3, f4, f5⟩ := setter_frame_payloads h
  exact ⟨f1 t1, f2 t2, f3 t3, f4 t4, f5 t5⟩

example : columnOnly (.title (some [65])) = true ∧ columnOnly (.key none) = false := ⟨rfl, rfl⟩

/-- non-vacuity, on the rows that showed the finding before the repair: `set_loops(loops())` on a loops column
with a foreign trailing byte 0xcc, `set_waveform(waveform())` on an overview column with a trailing 0x09 — both
calls succeed and the payload, foreign byte included, is exactly the old one. -/
example : ∃ r', applySetter ops0 (.loops (getLoops rowL)) rowL = .ok r' ∧
    payloadLoops r' = payloadLoops rowL ∧ (payloadLoops r').getLast? = some 0xcc :=
  loops_setter_keeps_extra_example
example : ∃ r', applySetter ops0 (.waveform (getWaveform row0)) row0 = .ok r' ∧
    payloadOvw r' = payloadOvw row0 ∧ (payloadOvw r').getLast? = some 0x09 :=
  waveform_setter_keeps_extra_example

end SetterFrame

/-! ## the same, about STORED BYTES

The frame theorems above speak about `payloadX r = Spec.X.enc (decoded value) ++ extra`.  The next
theorems tie that to the bytes of the columns before and after the call: if the five stored payloads
`B` decode (Model decoders) to the row `r`, the setter turns `r` into `r'`, and `r'` encodes (Model
encoders) to `B'`, then `payloadX r` IS the stored payload `B.X` (quick cues: `normBool B.c`, the one
permitted normalisation) and `payloadX r'` IS `B'.X`.  Hence every frame theorem is a statement about
stored bytes; the composed forms are stated for the fifteen column-only setters, for the four
fixed-field setters and for the per-slot setters. -/
section StoredBytes
open EngineModel.SetterFrame EngineModel.TracksV2

/-- the five uncompressed performance-data payloads of one Track row -/
structure Stored where
  t : Bytes
  o : Bytes
  b : Bytes
  c : Bytes
  l : Bytes

/-- what `from_blob` makes of the stored payloads is the row's decoded columns -/
def DecodesTo (B : Stored) (r : Row) : Prop :=
  decodeTrack B.t = .ok r.trackData ∧ decodeOvw B.o = .ok r.ovw ∧ decodeBeat B.b = .ok r.beat ∧
  decodeCues B.c = .ok r.cues ∧ decodeLoops B.l = .ok r.loops

/-- what `to_blob` makes of the row's decoded columns is the stored payloads -/
def EncodesTo (r : Row) (B : Stored) : Prop :=
  encodeTrack r.trackData.1 r.trackData.2 = .ok B.t ∧ encodeOvw r.ovw.1 r.ovw.2 = .ok B.o ∧
  encodeBeat r.beat.1 r.beat.2 = .ok B.b ∧ encodeCues r.cues.1 r.cues.2 = .ok B.c ∧
  encodeLoops r.loops.1 r.loops.2 = .ok B.l

theorem C04_stored_payloads (B : Stored) (r : Row) (hlen : B.o.length < maxCount) (h : DecodesTo B r) :
    payloadTrack r = B.t ∧ payloadOvw r = B.o ∧ payloadBeat r = B.b ∧ payloadCues r = normBool B.c ∧
    payloadLoops r = B.l := by
  obtain ⟨ht, ho, hb, hc, hl⟩ := h
  exact ⟨(decodeTrack_exact ht).symm, (decodeOvw_exact hlen ho).2.symm, (decodeBeat_exact hb).2.symm,
    (cues_reencode hc).2, (decodeLoops_exact hl).2.symm⟩

theorem C04_written_payloads (r : Row) (B : Stored) (hv : r.ovw.1.Valid) (h : EncodesTo r B) :
    payloadTrack r = B.t ∧ payloadOvw r = B.o ∧ payloadBeat r = B.b ∧ payloadCues r = B.c ∧ payloadLoops r = B.l := by
  obtain ⟨ht, ho, hb, hc, hl⟩ := h
  refine ⟨?_, ?_, ?_, ?_, ?_⟩
  · rw [encodeTrack_ok] at ht; injection ht
  · rw [encodeOvw_ok _ hv] at ho; injection ho
  · rw [encodeBeat_ok] at hb; injection hb
  · by_cases hf : CuesFit r.cues.1
    · rw [encodeCues_ok _ hf] at hc; injection hc
    · rw [encodeCues_reject _ hf] at hc; cases hc
  · by_cases hf : LoopsFit r.loops.1
    · rw [encodeLoops_ok _ hf] at hl; injection hl
    · rw [encodeLoops_reject _ hf] at hl; cases hl

/-- Around a call that does not name the overview column (so the written row's waveform is the decoded one,
which is valid) the ten payloads ARE the stored bytes before and after.  Rewriting with these equations turns a
frame theorem into its stored-bytes form. -/
theorem stored_bytes {ops : FOps} {σ : Setter} {B B' : Stored} {r r' : Row} (hlen : B.o.length < maxCount)
    (hd : DecodesTo B r) (he : EncodesTo r' B') (h : applySetter ops σ r = .ok r') (hσ : touchesOvw σ = false) :
    (payloadTrack r = B.t ∧ payloadOvw r = B.o ∧ payloadBeat r = B.b ∧ payloadCues r = normBool B.c ∧
      payloadLoops r = B.l) ∧
    (payloadTrack r' = B'.t ∧ payloadOvw r' = B'.o ∧ payloadBeat r' = B'.b ∧ payloadCues r' = B'.c ∧
      payloadLoops r' = B'.l) := by
  refine ⟨C04_stored_payloads B r hlen hd, C04_written_payloads r' B' ?_ he⟩
  rw [(C04_setter_untouched_columns ops σ r r' h).2.1 hσ]
  exact (decodeOvw_exact hlen hd.2.1).1

/-- Stored-bytes form, fifteen column-only setters: decode the five stored payloads, apply the setter,
encode — every payload is byte-identical (quick cues: up to `normBool`). -/
theorem C04_column_only_setters_bytes (ops : FOps) (σ : Setter) (hσ : columnOnly σ = true) (B B' : Stored)
    (r r' : Row) (hlen : B.o.length < maxCount) (hd : DecodesTo B r)
    (h : applySetter ops σ r = .ok r') (he : EncodesTo r' B') :
    B'.t = B.t ∧ B'.o = B.o ∧ B'.b = B.b ∧ B'.c = normBool B.c ∧ B'.l = B.l := by
  simpa only [stored_bytes hlen hd he h (columnOnly_touches hσ).2.1] using
    C04_setter_frame_column_setters ops σ hσ r r' h

/-- Stored-bytes form, the four fixed-field setters: the track-data payload changes only inside the byte
range of the named field (and the beat-data payload for the two sample setters); overview, quick cues
(up to `normBool`) and loops are byte-identical. -/
theorem C04_fixed_field_setters_bytes (ops : FOps) (B B' : Stored) (r r' : Row)
    (hlen : B.o.length < maxCount) (hd : DecodesTo B r) (he : EncodesTo r' B') :
    (∀ v, applySetter ops (.averageLoudness v) r = .ok r' →
      AgreeOutside 20 44 B.t B'.t ∧ B'.o = B.o ∧ B'.b = B.b ∧ B'.c = normBool B.c ∧ B'.l = B.l) ∧
    (∀ v, applySetter ops (.key v) r = .ok r' →
      AgreeOutside 16 20 B.t B'.t ∧ B'.o = B.o ∧ B'.b = B.b ∧ B'.c = normBool B.c ∧ B'.l = B.l) ∧
    (∀ v, applySetter ops (.sampleCount v) r = .ok r' →
      AgreeOutside 8 16 B.t B'.t ∧ AgreeOutside 8 16 B.b B'.b ∧ B'.o = B.o ∧ B'.c = normBool B.c ∧ B'.l = B.l) ∧
    (∀ v, applySetter ops (.sampleRate v) r = .ok r' →
      AgreeOutside 0 8 B.t B'.t ∧ AgreeOutside 0 8 B.b B'.b ∧ B'.o = B.o ∧ B'.c = normBool B.c ∧ B'.l = B.l) := by
  refine ⟨fun v h => ?_, fun v h => ?_, fun v h => ?_, fun v h => ?_⟩
  · simpa only [stored_bytes hlen hd he h rfl] using C04_setter_frame_average_loudness ops v r r' h
  · simpa only [stored_bytes hlen hd he h rfl] using C04_setter_frame_key ops v r r' h
  · simpa only [stored_bytes hlen hd he h rfl] using C04_setter_frame_sample_count ops v r r' h
  · simpa only [stored_bytes hlen hd he h rfl] using C04_setter_frame_sample_rate ops v r r' h

/-- Stored-bytes form, the per-slot setters: in the stored quick-cues (loops) payload only the bytes of
entry `i` are replaced; the other four payloads are byte-identical. -/
theorem C04_slot_setters_bytes (ops : FOps) (B B' : Stored) (r r' : Row)
    (hlen : B.o.length < maxCount) (hd : DecodesTo B r) (he : EncodesTo r' B') :
    (∀ i v, applySetter ops (.hotCueAt i v) r = .ok r' →
      B'.t = B.t ∧ B'.o = B.o ∧ B'.b = B.b ∧ B'.l = B.l ∧
      ∃ pre post old, normBool B.c = pre ++ V2.cue.enc old ++ post ∧
        B'.c = pre ++ V2.cue.enc (writeHotCue v) ++ post ∧ r.cues.1.cues[i.toNat]? = some old) ∧
    (∀ i v, applySetter ops (.loopAt i v) r = .ok r' →
      B'.t = B.t ∧ B'.o = B.o ∧ B'.b = B.b ∧ B'.c = normBool B.c ∧
      ∃ pre post old, B.l = pre ++ V2.loop.enc old ++ post ∧
        B'.l = pre ++ V2.loop.enc (writeLoop v) ++ post ∧ r.loops.1[i.toNat]? = some old) := by
  refine ⟨fun i v h => ?_, fun i v h => ?_⟩
  · simpa only [stored_bytes hlen hd he h rfl] using C04_setter_frame_hot_cue_at ops i v r r' h
  · simpa only [stored_bytes hlen hd he h rfl] using C04_setter_frame_loop_at ops i v r r' h

example : columnOnly (.title (some [65])) = true ∧ columnOnly (.key none) = false := by decide

theorem payloads_decode_encode (r : Row) (hb : r.beat.1.Valid) (ho : r.ovw.1.Valid)
    (hlen : (payloadOvw r).length < maxCount) (hc : r.cues.1.Valid) (hl : LoopsValid r.loops.1) :
    DecodesTo ⟨payloadTrack r, payloadOvw r, payloadBeat r, payloadCues r, payloadLoops r⟩ r ∧
    EncodesTo r ⟨payloadTrack r, payloadOvw r, payloadBeat r, payloadCues r, payloadLoops r⟩ := by
  -- bring the payloads into the form `enc v ++ extra` first: `Codec.dec` is a projection, the kernel does not
  -- compare its arguments before unfolding it, and would run the decoders on the symbolic payloads
  simp only [DecodesTo, EncodesTo, payloadTrack, payloadOvw, payloadBeat, payloadCues, payloadLoops] at hlen ⊢
  exact ⟨⟨(decodeTrack_eq _).trans (liftDec_of_dec (track_sound _ trivial _)),
    (decodeOvw_eq _ hlen).trans (liftDec_of_dec (ovw_sound _ ho _)),
    (decodeBeat_eq _).trans (liftDec_of_dec (beat_sound _ hb _)),
    (decodeCues_eq _).trans (liftDec_of_dec (cues_sound _ hc _)),
    (decodeLoops_eq _).trans (liftDec_of_dec (loops_sound _ hl _))⟩,
   encodeTrack_ok _ _, encodeOvw_ok _ ho _, encodeBeat_ok _ _, encodeCues_ok _ hc.2 _, encodeLoops_ok _ hl.2 _⟩

/-- non-vacuity: the foreign-looking row of the frame section (three cue entries, a labelled empty slot,
trailing bytes in every column) is what its own payloads decode to and encode from -/
example : DecodesTo ⟨payloadTrack row0, payloadOvw row0, payloadBeat row0, payloadCues row0, payloadLoops row0⟩ row0 ∧
    EncodesTo row0 ⟨payloadTrack row0, payloadOvw row0, payloadBeat row0, payloadCues row0, payloadLoops row0⟩ :=
  payloads_decode_encode row0 (by unfold Beat.Valid maxCount; decide) (by unfold Ovw.Valid maxCount; decide)
    (by unfold maxCount; decide) (by unfold Cues.Valid maxCount; decide) (by unfold LoopsValid maxCount; decide)

end StoredBytes

end EngineModel.Properties.C04
