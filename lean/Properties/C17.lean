/-
C17: `verify()` reports `database_inconsistency` for any single structural deviation from
the declared schema.

* The generic `validate … ++iter … validate_no_more` walk accepts exactly the
  expected sequence; without the terminator it accepts every extension.
* `verifyDb` with every block terminated is a conjunction of equalities of
  key-ordered sets; for the closed expectation `expOf c` it is `sameCat c`.
* Every applicable single-element mutation of a well-formed catalog deviates
  (`sameCat` fails), so the complete validator rejects it.
* Concrete instances, and what an open block / an uncovered index loses.
* The same for arbitrary closed expectation tables (`C17_closed_tables_unique`,
  `C17_closed_tables_complete`).
* For well-formed catalogs `sameCat` is plain set comparison (`deviatesPlain`).
-/
import EngineModel.Spec.Catalog
import EngineModel.Spec.Validator
import Proofs.Validator

namespace EngineModel.Properties.C17
open EngineModel.Spec.SchemaDump (Str)
open EngineModel.Spec.Catalog EngineModel.Spec.Validator

section walk
variable {α : Type} [DecidableEq α]

theorem walk_complete (E act : List α) : walk true E act = true ↔ act = E := by
  induction E generalizing act with
  | nil => cases act <;> simp [walk]
  | cons e es ih => cases act <;> simp [walk, ih]

/-- What a missing `validate_no_more` accepts: any extension. -/
theorem walk_open (E act : List α) : walk false E act = true ↔ E <+: act := by
  induction E generalizing act with
  | nil => cases act <;> simp [walk]
  | cons e es ih =>
    cases act with
    | nil => simp [walk]
    | cons a as =>
      simp only [walk, Bool.and_eq_true, decide_eq_true_eq, ih, List.cons_prefix_cons]
      exact ⟨fun ⟨h1, h2⟩ => ⟨h1.symm, h2⟩, fun ⟨h1, h2⟩ => ⟨h1.symm, h2⟩⟩

theorem walk_mono (b : Bool) (E act : List α) : walk true E act = true → walk b E act = true := by
  intro h
  cases b with
  | true => exact h
  | false =>
    rw [walk_complete] at h
    rw [walk_open, h]
    exact List.prefix_refl _

end walk

example : walk true [1, 2] [1, 2] = true := by decide
example : walk false [1, 2] [1, 2, 3] = true ∧ walk true [1, 2] [1, 2, 3] = false := by decide

theorem verifyDb_iff (E : DbExp) (h : allNoMore E = true) (c : Db) :
    verifyDb E c = true ↔
      (setNames (tableNames c) = E.tables ∧ setNames c.views = E.views ∧
       ∀ te ∈ E.perTable, setCols (tableInfo c te.name) = te.cols ∧
         setIdxs (indexList c te.name) = te.idxs ∧
         ∀ x ∈ te.idxCols, setIdxCols (indexInfo c x.index) = x.cols) := by
  simp only [allNoMore, Bool.and_eq_true, List.all_eq_true] at h
  obtain ⟨⟨h1, h2⟩, h3⟩ := h
  simp only [verifyDb, h1, h2, walk_complete, Bool.and_eq_true, List.all_eq_true, and_assoc]
  refine and_congr_right fun _ => and_congr_right fun _ => ?_
  refine forall_congr' fun te => ?_
  refine imp_congr_right fun hte => ?_
  obtain ⟨⟨h4, h5⟩, h6⟩ := h3 te hte
  simp only [verifyTable, h4, h5, walk_complete, Bool.and_eq_true, List.all_eq_true, and_assoc]
  refine and_congr_right fun _ => and_congr_right fun _ => ?_
  refine forall_congr' fun x => ?_
  refine imp_congr_right fun hx => ?_
  simp only [verifyIdxCols, h6 x hx, walk_complete]

theorem verifyDb_expOf_iff (c c' : Db) : verifyDb (expOf c) c' = true ↔ sameCat c c' = true := by
  rw [sameCat_iff]
  simp only [verifyDb, verifyTable, verifyIdxCols, expOf, expOfTable, walk_complete, Bool.and_eq_true,
    List.all_eq_true, List.mem_map, and_assoc, forall_exists_index, and_imp, forall_apply_eq_imp_iff₂]

theorem expOf_closed (c : Db) (_h : wf c = true) : closed (expOf c) = true := by
  simp only [closed, allNoMore_expOf, covers_expOf, Bool.and_self]

theorem sameCat_refl (c : Db) (h : wf c = true) : sameCat c c = true := by
  rw [sameCat_iff]
  refine ⟨rfl, rfl, fun t ht => ?_⟩
  have hm := mem_tables_of_user ht
  refine ⟨by rw [tableInfo_of_find (findTable_self h hm)],
    by rw [indexList_of_find (findTable_self h hm)], fun i hi => by rw [indexInfo_self h hm hi]⟩

/-- Accepting side: the complete validator for `c` accepts `c`. -/
theorem verifyDb_expOf_self (c : Db) (h : wf c = true) : verifyDb (expOf c) c = true :=
  (verifyDb_expOf_iff c c).2 (sameCat_refl c h)

theorem mutation_deviates (c : Db) (m : Mutation) (hwf : wf c = true) (happ : applicable m c = true) :
    sameCat c (apply m c) = false := by
  cases hs : sameCat c (apply m c) with
  | false => rfl
  | true =>
    exfalso
    cases m <;> simp only [applicable, Bool.and_eq_true, Bool.not_eq_true', and_assoc] at happ
    case dropTable t => exact dev_dropTable hwf happ hs
    case addTable t => exact dev_addTable happ.1 hs
    case renameTable t new => exact dev_renameTable happ.1 happ.2.1 hs
    case dropView v => exact dev_dropView hwf happ hs
    case addView v => exact dev_addView happ hs
    case renameView v new => exact dev_renameView happ.1 happ.2 hs
    case dropCol t cn => exact dev_dropCol hwf happ.1 happ.2 hs
    case addCol t col => exact dev_addCol happ.1 happ.2 hs
    case updCol t cn new =>
      obtain ⟨h1, h2⟩ := happ
      split at h2
      · next old hold =>
        simp only [Bool.and_eq_true, bne_iff_ne, ne_eq, Bool.or_eq_true, beq_iff_eq,
          Bool.not_eq_true'] at h2
        exact dev_updCol hwf h1 hold h2.1 hs
      · cases h2
    case dropIdx t i => exact dev_dropIdx hwf happ.1 happ.2 hs
    case addIdx t ix => exact dev_addIdx happ.1 happ.2.1 hs
    case updIdx t i new =>
      obtain ⟨h1, h2, h3⟩ := happ
      split at h3
      · next old hold =>
        simp only [Bool.and_eq_true, bne_iff_ne, ne_eq, Bool.or_eq_true, beq_iff_eq,
          Bool.not_eq_true'] at h3
        exact dev_updIdx hwf h1 ((nodupB_iff _).1 h2) hold h3.1 hs
      · cases h3

theorem mutation_changes (c : Db) (m : Mutation) (hwf : wf c = true) (happ : applicable m c = true) :
    apply m c ≠ c := by
  intro h
  have := mutation_deviates c m hwf happ
  rw [h, sameCat_refl c hwf] at this
  cases this

/-! ### concrete instances (non-vacuity) -/

/-- Two tables (`tr`: two columns, one index over both; `in`: one column) and one view. -/
def cA : Db :=
  { tables :=
      [ ⟨"tr".toList,
          [⟨"id".toList, "INT".toList, 0, [], 1⟩, ⟨"nm".toList, "TXT".toList, 1, "x".toList, 0⟩],
          [⟨⟨"ix".toList, 0, "c".toList, 0⟩, [⟨0, "id".toList⟩, ⟨1, "nm".toList⟩]⟩]⟩,
        ⟨"in".toList, [⟨"k".toList, "TXT".toList, 0, [], 0⟩], []⟩ ]
    views := ["vw".toList] }

example : wf cA = true := by decide +kernel
example : allNoMore (expOf cA) = true := by decide +kernel
example : closed (expOf cA) = true := by decide +kernel
example : verifyDb (expOf cA) cA = true := by decide +kernel
example : sameCat cA cA = true := by decide +kernel

/-- One mutation of every kind. -/
def mutsA : List Mutation :=
  [ .dropTable "in".toList,
    .addTable ⟨"zz".toList, [⟨"a".toList, "INT".toList, 0, [], 0⟩], [⟨⟨"iz".toList, 1, "c".toList, 0⟩, [⟨0, "a".toList⟩]⟩]⟩,
    .renameTable "tr".toList "ts".toList,
    .dropView "vw".toList,
    .addView "vx".toList,
    .renameView "vw".toList "vy".toList,
    .dropCol "tr".toList "nm".toList,
    .addCol "in".toList ⟨"j".toList, "INT".toList, 0, [], 0⟩,
    .updCol "tr".toList "nm".toList ⟨"nm".toList, "TXT".toList, 0, "x".toList, 0⟩,   -- NOT NULL lost
    .updCol "tr".toList "nm".toList ⟨"nn".toList, "TXT".toList, 1, "x".toList, 0⟩,   -- renamed
    .updCol "tr".toList "id".toList ⟨"id".toList, "INT".toList, 0, [], 0⟩,           -- no longer the key
    .dropIdx "tr".toList "ix".toList,
    .addIdx "in".toList ⟨⟨"ik".toList, 0, "c".toList, 0⟩, [⟨0, "k".toList⟩]⟩,
    .updIdx "tr".toList "ix".toList ⟨⟨"ix".toList, 1, "c".toList, 0⟩, [⟨0, "id".toList⟩, ⟨1, "nm".toList⟩]⟩, -- now UNIQUE
    .updIdx "tr".toList "ix".toList ⟨⟨"iy".toList, 0, "c".toList, 0⟩, [⟨0, "id".toList⟩, ⟨1, "nm".toList⟩]⟩, -- renamed
    .updIdx "tr".toList "ix".toList ⟨⟨"ix".toList, 0, "c".toList, 0⟩, [⟨0, "nm".toList⟩, ⟨1, "id".toList⟩]⟩, -- columns swapped
    .updIdx "tr".toList "ix".toList ⟨⟨"ix".toList, 0, "c".toList, 0⟩, [⟨0, "id".toList⟩]⟩ ]                  -- a column fewer

example : mutsA.all (fun m => applicable m cA) = true := by decide +kernel
example : mutsA.all (fun m => !verifyDb (expOf cA) (apply m cA)) = true := by decide +kernel
example : mutsA.all (fun m => !sameCat cA (apply m cA)) = true := by decide +kernel
example : mutsA.all (fun m => decide (apply m cA ≠ cA)) = true := by decide +kernel

example : applicable (.dropCol "tr".toList "nm".toList) cA = true := by decide +kernel
example : verifyDb (expOf cA) (apply (.dropCol "tr".toList "nm".toList) cA) = false := by decide +kernel
example : applicable (.addIdx "in".toList ⟨⟨"ik".toList, 0, "c".toList, 0⟩, [⟨0, "k".toList⟩]⟩) cA = true := by
  decide +kernel
example : verifyDb (expOf cA)
    (apply (.addIdx "in".toList ⟨⟨"ik".toList, 0, "c".toList, 0⟩, [⟨0, "k".toList⟩]⟩) cA) = false := by
  decide +kernel

/-- Mutations that are *not* applicable (they change nothing, or name nothing): the hypothesis is not trivial. -/
example : applicable (.updCol "tr".toList "nm".toList ⟨"nm".toList, "TXT".toList, 1, "x".toList, 0⟩) cA = false := by
  decide +kernel
example : applicable (.dropCol "tr".toList "qq".toList) cA = false := by decide +kernel
example : applicable (.updIdx "tr".toList "ix".toList
    ⟨⟨"ix".toList, 0, "c".toList, 0⟩, [⟨1, "nm".toList⟩, ⟨0, "id".toList⟩]⟩) cA = false := by decide +kernel

/-- The hypotheses of the `std::set` lemmas of `Proofs/Validator.lean` hold for the orders and keys used. -/
example : ∀ x y : Str, ltStr x y = false → ltStr y x = false → x = y := ltStr_total
example : ∀ x y : Int, ltInt x y = false → ltInt y x = false → x = y := ltInt_total
example : ((tableNames cA).map id).Nodup := by decide +kernel
example : setNames (tableNames cA) = ["in".toList, "tr".toList] := by decide +kernel

/-! ### what an incomplete table loses -/

/-- `expOf cA` with the `validate_no_more` of the column block of `tr` deleted. -/
def eOpen : DbExp :=
  { expOf cA with
    perTable := (expOf cA).perTable.map fun te =>
      if te.name == "tr".toList then { te with colsNoMore := false } else te }

def cExtraCol : Db := apply (.addCol "tr".toList ⟨"zz".toList, "INT".toList, 0, [], 0⟩) cA

/-- A deleted `validate_no_more`: an extra column is accepted. -/
theorem open_block_counterexample :
    ∃ (E : DbExp) (c c' : Db), verifyDb E c = true ∧ verifyDb E c' = true ∧ sameCat c c' = false :=
  ⟨eOpen, cA, cExtraCol, by decide +kernel⟩

/-- `expOf cA` without the `index_info` block of `ix`. -/
def eUncovered : DbExp :=
  { expOf cA with
    perTable := (expOf cA).perTable.map fun te =>
      { te with idxCols := te.idxCols.filter fun x => !(x.index == "ix".toList) } }

def cSwappedIdx : Db :=
  apply (.updIdx "tr".toList "ix".toList
    ⟨⟨"ix".toList, 0, "c".toList, 0⟩, [⟨0, "nm".toList⟩, ⟨1, "id".toList⟩]⟩) cA

/-- An index whose columns are never inspected: a changed index column list is accepted. -/
theorem uncovered_index_counterexample :
    ∃ (E : DbExp) (c c' : Db), verifyDb E c = true ∧ verifyDb E c' = true ∧ sameCat c c' = false :=
  ⟨eUncovered, cA, cSwappedIdx, by decide +kernel⟩

example : allNoMore eOpen = false ∧ covers eOpen = true := by decide +kernel
example : allNoMore eUncovered = true ∧ covers eUncovered = false := by decide +kernel
example : applicable (.addCol "tr".toList ⟨"zz".toList, "INT".toList, 0, [], 0⟩) cA = true := by decide +kernel

/-! ### Arbitrary closed expectation tables (not only `expOf c`) -/

/-- A closed expectation table that accepts a well-formed catalog `c` accepts only catalogs
with the structure of `c`. -/
theorem C17_closed_tables_unique (E : DbExp) (c c' : Db) (hE : closed E = true) (hwf : wf c = true)
    (hacc : verifyDb E c = true) : verifyDb E c' = true → sameCat c c' = true := by
  intro hacc'
  simp only [closed, Bool.and_eq_true] at hE
  obtain ⟨hno, hcov⟩ := hE
  obtain ⟨a1, a2, a3⟩ := (verifyDb_iff E hno c).1 hacc
  obtain ⟨b1, b2, b3⟩ := (verifyDb_iff E hno c').1 hacc'
  obtain ⟨cov1, cov2⟩ := (covers_iff E).1 hcov
  rw [sameCat_iff]
  refine ⟨by rw [a1, b1], by rw [a2, b2], fun t ht => ?_⟩
  have hm := mem_tables_of_user ht
  obtain ⟨hin, hint⟩ := user_name_mem_setNames hwf ht
  rw [a1] at hin
  obtain ⟨te, hte, hten⟩ := cov1 _ hin hint
  obtain ⟨a4, a5, a6⟩ := a3 te hte
  obtain ⟨b4, b5, b6⟩ := b3 te hte
  rw [hten] at a4 a5 b4 b5
  rw [tableInfo_of_find (findTable_self hwf hm)] at a4
  rw [indexList_of_find (findTable_self hwf hm)] at a5
  refine ⟨by rw [a4, b4], by rw [a5, b5], fun i hi => ?_⟩
  have hie := entry_mem_setIdxs hwf hm hi
  rw [a5] at hie
  obtain ⟨x, hx, hxi⟩ := cov2 te hte _ hie
  have a7 := a6 x hx
  have b7 := b6 x hx
  rw [hxi] at a7 b7
  rw [indexInfo_self hwf hm hi] at a7
  rw [a7, b7]

/-- C17 for any closed expectation tables: if `verify()` accepts `c`, it throws on every
single-element mutation of `c`. -/
theorem C17_closed_tables_complete (E : DbExp) (c : Db) (m : Mutation)
    (hE : closed E = true) (hwf : wf c = true) (hacc : verifyDb E c = true)
    (happ : applicable m c = true) : verifyDb E (apply m c) = false := by
  cases h : verifyDb E (apply m c) with
  | false => rfl
  | true =>
    have := C17_closed_tables_unique E c (apply m c) hE hwf hacc h
    rw [mutation_deviates c m hwf happ] at this
    cases this

/-- The core of C17: the complete validator for `c` throws on every single-element mutation of `c`
(`expOf c` is closed and accepts `c`). -/
theorem C17_complete_validator_rejects (c : Db) (m : Mutation) (hwf : wf c = true)
    (happ : applicable m c = true) : verifyDb (expOf c) (apply m c) = false :=
  C17_closed_tables_complete (expOf c) c m (expOf_closed c hwf) hwf (verifyDb_expOf_self c hwf) happ

/-- The hypotheses are satisfiable together: `E := expOf cA`, `c := cA`, every mutation of `mutsA`. -/
example : closed (expOf cA) = true ∧ wf cA = true ∧ verifyDb (expOf cA) cA = true ∧
    mutsA.all (fun m => applicable m cA) = true := by decide +kernel

/-- A closed table that is *not* `expOf` of the catalog it accepts (it describes every
table twice): the general theorem applies where `verifyDb_expOf_iff` does not. -/
def eDup : DbExp :=
  { expOf cA with perTable := (expOf cA).perTable ++ (expOf cA).perTable }

example : closed eDup = true ∧ verifyDb eDup cA = true ∧ decide (eDup ≠ expOf cA) = true ∧
    mutsA.all (fun m => !verifyDb eDup (apply m cA)) = true := by decide +kernel

/-- Without closedness the conclusion fails (`eOpen`, `eUncovered` above accept a mutated catalog). -/
example : closed eOpen = false ∧ closed eUncovered = false := by decide +kernel

/-! ### `sameCat` is plain set comparison at every level -/

theorem sameCat_iff_plain (c c' : Db) (h : wf c = true) (h' : wf c' = true) :
    sameCat c c' = true ↔ deviatesPlain c c' = false := by
  rw [sameCat_iff]
  simp only [deviatesPlain, Bool.not_eq_false', Bool.and_eq_true, List.all_eq_true, and_assoc]
  refine and_congr (setNames_eq_iff (wf_tables_nodup h) (wf_tables_nodup h'))
    (and_congr (setNames_eq_iff (wf_views_nodup h) (wf_views_nodup h')) ?_)
  refine forall_congr' fun t => imp_congr_right fun ht => ?_
  have hm := mem_tables_of_user ht
  refine and_congr (setCols_eq_iff (wf_cols_nodup h hm) (tableInfo_nodup h' _)) (and_congr ?_ ?_)
  · refine setIdxs_eq_iff ?_ (indexList_nodup h' _)
    rw [List.map_map]; exact wf_idxs_nodup h hm
  · refine forall_congr' fun i => imp_congr_right fun hi => ?_
    exact setIdxCols_eq_iff (seq_nodup_of_find h hm hi) (indexInfo_nodup h' _)

example : wf cA = true ∧ wf cExtraCol = true := by decide +kernel
example : sameCat cA cExtraCol = false ∧ deviatesPlain cA cExtraCol = true := by decide +kernel
example : sameCat cA cA = true ∧ deviatesPlain cA cA = false := by decide +kernel

/-- The order hypotheses of `toSet_eq_iff_mem` hold for both orders used. -/
example : (∀ x : Str, ltStr x x = false) ∧
    (∀ x y z : Str, ltStr x y = true → ltStr y z = true → ltStr x z = true) :=
  ⟨ltStr_irrefl, ltStr_trans⟩
example : (∀ x : Int, ltInt x x = false) ∧
    (∀ x y z : Int, ltInt x y = true → ltInt y z = true → ltInt x z = true) :=
  ⟨ltInt_irrefl, ltInt_trans⟩

end EngineModel.Properties.C17
