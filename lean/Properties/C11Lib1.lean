/-
C11 — The stored database stays a well-formed Engine library.   Whole-library part for schema 1.x.

Model  : EngineModel/Lib/V1.lean — ONE transition system `step : FOps → VSchema → Lib1 → Call → Lib1 × Res Out` over every
         public operation of database / crate / track, delegating to the crates package (Api/CratesV1.lean) and the
         tracks package (TracksV1/*.lean) and adding the interactions between the table families.
Spec   : `libInvRaw` — an executable predicate on a RAW DUMP of all tables of m.db and p.db (`Raw1`), written from the
         property text: the crate encodings agree (the crates package's `WfRaw`), `PRAGMA foreign_key_check` over every
         declared key of the 1.x creators is clean (`fkViolationsAll`), no MetaData / MetaDataInteger / PerformanceData
         row of a missing track, every live Track row references an existing AlbumArt row, a NULL-path placeholder row
         only on the AUTOINCREMENT schemas, one stamped Information row per file.  The driver evaluates this same
         function on the dump of the real files after every step.

Every theorem quantifies over ALL eleven 1.x versions `s`, ALL float-operation instances `o`, and ALL histories `cs :
List Call` (any arguments: removed handles, ids that never existed, snapshots the library rejects) from the library
`create_database` leaves.
-/
import Proofs.Lib1Raw
import Proofs.Lib1Proj
import Proofs.Lib1Blobs
import Proofs.Lib1Clean

namespace EngineModel.Properties.C11Lib1
open EngineModel EngineModel.Lib.V1 EngineModel.Api
open EngineModel.TracksV1 (Snap Field)
open EngineModel.TracksV1.Fl (FOps)

/-- **The whole-library invariant holds after every history**, failed calls included: the crates package's `Inv`, the
tracks package's `TableOk` (primary key, `UNIQUE(path)`, row invariant `DbInv`) and the referential integrity between
the table families (`coupled`, `art`, `noPlaceholder`, version stamps). -/
theorem C11_lib1_invariant_after_every_history (o : FOps) (s : VSchema) (um up dir : Bytes) (cs : List Call) :
    LibInv s (run o s (Lib1.empty s um up dir) cs) :=
  libInv_run o cs (libInv_empty s um up dir)

/-- … and is kept by every single call from ANY state satisfying it (a loaded library). -/
theorem C11_lib1_step_preserves_invariant (o : FOps) (s : VSchema) (L : Lib1) (h : LibInv s L) (c : Call) :
    LibInv s (step o s L c).1 := libInv_step o h c

/-- **The executable raw check is true of the dump of every reachable state** — the predicate the driver evaluates on
the dump of the REAL files after every step of every generated history. -/
theorem C11_lib1_raw_check_after_every_history (o : FOps) (s : VSchema) (um up dir : Bytes) (cs : List Call) :
    libInvRaw s (raw (run o s (Lib1.empty s um up dir) cs)) = true :=
  libInvRaw_of_libInv (C11_lib1_invariant_after_every_history o s um up dir cs)

/-- … i.e. the list of failing conjuncts the driver prints is empty. -/
theorem C11_lib1_no_failing_conjunct (o : FOps) (s : VSchema) (um up dir : Bytes) (cs : List Call) :
    libFailures s (raw (run o s (Lib1.empty s um up dir) cs)) = [] :=
  CratesV1.failing_eq_nil.mpr (C11_lib1_raw_check_after_every_history o s um up dir cs)

/-- **`PRAGMA foreign_key_check` is clean over ALL declared foreign keys of the 1.x schemas** (the three crate tables;
MetaData.id, MetaDataInteger.id → Track.id; Track.idAlbumArt → AlbumArt.id; every other table with a key to Track), from
the invariant — hence after every history. -/
theorem C11_lib1_foreign_key_check_clean (s : VSchema) (L : Lib1) (h : LibInv s L) : fkViolationsAll (raw L) = [] :=
  fkAll_clean h

theorem C11_lib1_foreign_key_check_clean_reachable (o : FOps) (s : VSchema) (um up dir : Bytes) (cs : List Call) :
    fkViolationsAll (raw (run o s (Lib1.empty s um up dir) cs)) = [] :=
  fkAll_clean (C11_lib1_invariant_after_every_history o s um up dir cs)

/-- **Cross-table referential integrity, spelled out**: in every reachable state every MetaData / MetaDataInteger /
PerformanceData row belongs to a track that `tracks()` lists (a Track row with a path), the PerformanceData ids have no
duplicates, every such Track row references album-art row 1 and that row exists, and a NULL-path Track row exists on the
AUTOINCREMENT schemas only. -/
theorem C11_lib1_dependent_rows_of_live_tracks (o : FOps) (s : VSchema) (um up dir : Bytes) (cs : List Call) :
    let L := run o s (Lib1.empty s um up dir) cs
    (∀ m ∈ (raw L).metaStr, m.1 ∈ CratesV1.dbTracks L.cr) ∧ (∀ m ∈ (raw L).metaInt, m.1 ∈ CratesV1.dbTracks L.cr) ∧
    (∀ i ∈ (raw L).perf, i ∈ CratesV1.dbTracks L.cr) ∧ (raw L).perf.Nodup ∧
    (∀ t ∈ (raw L).trackArt, t.1 ∈ CratesV1.dbTracks L.cr → t.2 = some 1) ∧ (raw L).albumArt = [1] ∧
    (CratesV1.trackAutoinc (toDetect s) = false → ∀ r ∈ L.cr.track, r.hasPath = true) := by
  intro L
  have h : LibInv s L := C11_lib1_invariant_after_every_history o s um up dir cs
  obtain ⟨_, _, c3, c4, c5, c6, _, c8, _⟩ := (libInvRaw_iff s _).mp (libInvRaw_of_libInv h)
  have e : ∀ x, x ∈ liveIds (raw L) ↔ x ∈ CratesV1.dbTracks L.cr := fun x =>
    (mem_liveIds_raw L x).trans (CratesV1.mem_dbTracks _ _).symm
  refine ⟨fun m hm => (e _).mp (c3 m hm), fun m hm => (e _).mp (c4 m hm), fun i hi => (e _).mp (c5 i hi), c6, ?_, h.albumArt,
    h.noPlaceholder⟩
  intro t ht hl
  obtain ⟨a, ha, hm⟩ := c8 t ht ((e _).mpr hl)
  rw [show (raw L).albumArt = [1] from h.albumArt, List.mem_singleton] at hm
  rw [ha, hm]

/-- **A call that does not return normally changes nothing** — in any of the tables of either file.  For the calls the
tracks package owns this is the package's all-or-nothing statement model (`v1_C01_txn_*`); for the crate calls it is the
crates package's theorem `step_throw_unchanged`, used here on the composite. -/
theorem C11_lib1_failed_call_changes_nothing (o : FOps) (s : VSchema) (L : Lib1) (h : LibInv s L) (c : Call)
    (hr : (step o s L c).2.isOk = false) : (step o s L c).1 = L := by
  cases step_eff o s L c with
  | idle e _ _ =>
    exact e
  | crate op _ _ e _ =>
    -- a crate call: the crates package's `step_throw_unchanged`
    rw [e] at hr ⊢
    have h2 : (CratesV1.step (toDetect s) L.cr op).2.isOk = false := by
      cases hh : (CratesV1.step (toDetect s) L.cr op).2 with
      | ok a => rw [show (viaCrates s L op).2 = mapRes convOut (CratesV1.step (toDetect s) L.cr op).2 from rfl, hh] at hr; cases hr
      | throw e => rfl
      | ub u => rfl
    show ({ L with cr := (CratesV1.step (toDetect s) L.cr op).1 } : Lib1) = L
    rw [CratesV1.step_throw_unchanged (toDetect s) h.crates op h2]
  | create x id seq rows _ _ _ _ e =>
    rw [e] at hr; cases hr
  | remove t =>
    -- `remove_track` always returns
    have hr' : (mapRes convOut (CratesV1.removeTrack (toDetect s) L.cr t).2).isOk = false := hr
    rw [(CratesV1.removeTrack_spec (toDetect s) h.crates t).1] at hr'
    cases hr'
  | write t r r' _ _ _ e =>
    rw [e] at hr; cases hr

/-- **The raw check is not vacuous**: it is false on the raw states the code produced before the repairs the composite
rests on — MetaData rows of a removed track (b5e9c9c), a membership row of a missing track (05ed2a5 / 7f16946), a Track
row referencing a missing AlbumArt row (7ba238d), a PerformanceData row without a track, a placeholder row on a rowid
schema, MetaData rows of the placeholder row (a5d64c8). -/
theorem C11_lib1_raw_check_rejects_known_damage :
    let good : Raw1 := ⟨⟨[⟨1, [97], [97, 59]⟩], [(1, 1)], [], [(1, 1)], [⟨1, true⟩], 0⟩, [(1, some 1)], [(1, 1), (1, 13)],
      [(1, 4)], [1], [1], [], [⟨[77], (1, 6, 0)⟩], [⟨[80], (1, 6, 0)⟩]⟩
    libInvRaw .s1_6_0 good = true ∧
    libFailures .s1_6_0 { good with metaStr := good.metaStr ++ [(2, 1)] } = ["foreign-keys-clean", "metadata-of-live-tracks"] ∧
    libFailures .s1_6_0 { good with cr := { good.cr with ctl := [(1, 1), (1, 5)] } } =
      ["crates-wellformed", "foreign-keys-clean"] ∧
    libFailures .s1_6_0 { good with albumArt := [] } = ["foreign-keys-clean", "live-track-has-album-art"] ∧
    libFailures .s1_6_0 { good with perf := [1, 2] } = ["perfdata-mirrors-music"] ∧
    libFailures .s1_6_0 { good with cr := ({ good.cr with track := [⟨1, true⟩, ⟨2, false⟩] } : CratesV1.Db), trackArt := [(1, some 1), (2, none)] } =
      ["placeholder-only-autoincrement"] ∧
    libFailures .s1_17_0 { good with cr := ({ good.cr with track := [⟨1, true⟩, ⟨2, false⟩] } : CratesV1.Db), trackArt := [(1, some 1), (2, none)], metaStr := good.metaStr ++ [(2, 1)], infoM := [⟨[77], (1, 17, 0)⟩], infoP := [⟨[80], (1, 17, 0)⟩] } =
      ["metadata-of-live-tracks"] := by
  decide +kernel

/-- non-vacuity of the theorems that assume `LibInv` (`…_step_preserves_invariant`, `…_foreign_key_check_clean`,
`…_failed_call_changes_nothing`): the created library of every version satisfies it, and a failing call exists (add_track of
a track that does not exist, on a live crate: `track_deleted`). -/
example : ∀ s, LibInv s (Lib1.empty s [77] [80] []) := fun s => libInv_empty s _ _ _

example :
    let o : FOps := ⟨fun _ => 0, fun n => if n = 0 then 0 else F64.one, fun _ _ => 0, fun b => b⟩
    let L := run o .s1_9_1 (Lib1.empty .s1_9_1 [77] [80] []) [.createRootCrate [97]]
    Res.isOk (step o .s1_9_1 L (.addTrack 1 5)).2 = false ∧ Res.isOk (step o .s1_9_1 L (.set 5 .title none)).2 = false ∧
    Res.isOk (step o .s1_9_1 L (.createTrack Snap.empty)).2 = false := by
  decide +kernel

/-! ### every stored performance blob decodes -/

/-- "The stored blob of this column decodes": the bytes the library's encoder produces for the stored value exist, and
the library's decoder reads exactly that value back from them (`Impl/V1.lean`: the byte-level mirrors of
performance_data_format.cpp, tied to the real bytes by C02–C05). -/
def blobDecodes {α} (enc : α → Res Bytes) (dec : Bytes → Res α) (col : α) : Prop := ∃ b, enc col = .ok b ∧ dec b = .ok col

theorem blobDecodes_of_viaBytes {α} (enc : α → Res Bytes) (dec : Bytes → Res α) (col : α)
    (h : TracksV1.viaBytes enc dec col = .ok col) : blobDecodes enc dec col := by
  unfold TracksV1.viaBytes at h
  cases he : enc col with
  | ok b => rw [he] at h; exact ⟨b, he, h⟩
  | throw e => rw [he] at h; cases h
  | ub u => rw [he] at h; cases h

/-- **Every stored performance blob decodes**, from the codec-fixed-point invariant `BlobsFix`: for every track and each of
the six PerformanceData columns the encoder's bytes of the stored value decode to that very value — track data, beat data
and quick cues unconditionally; loops and the two waveforms for columns below the size any C++ vector can have (the
hypothesis of the codecs package's round-trip theorems, an explicit arithmetic bound on the stored column itself). -/
theorem C11_lib1_stored_blobs_decode (L : Lib1) (h : BlobsFix L) (id : Int) (r : TracksV1.TrackRows) (p : TracksV1.PerfRow)
    (hr : L.tr.rows id = some r) (hp : r.perf = some p) :
    blobDecodes Impl.V1.encodeTrack Impl.V1.decodeTrack p.trackData ∧
    blobDecodes Impl.V1.encodeBeat Impl.V1.decodeBeat p.beat ∧
    blobDecodes Impl.V1.encodeCues Impl.V1.decodeCues p.cues ∧
    (p.loops.length < Codec.maxCount → blobDecodes Impl.V1.encodeLoops Impl.V1.decodeLoops p.loops) ∧
    (30 + 6 * p.hires.entries.length < Codec.maxCount → blobDecodes Impl.V1.encodeHires Impl.V1.decodeHires p.hires) ∧
    (27 + 3 * p.overview.entries.length < Codec.maxCount → blobDecodes Impl.V1.encodeOvw Impl.V1.decodeOvw p.overview) := by
  obtain ⟨f1, f2, f3, f4, f5⟩ := h id r hr p hp
  refine ⟨?_, ?_, ?_, ?_, ?_, ?_⟩
  · apply blobDecodes_of_viaBytes; rw [TracksV1.bridge_track, f1]
  · apply blobDecodes_of_viaBytes; rw [TracksV1.bridge_beat, f2]
  · apply blobDecodes_of_viaBytes
    have := TracksV1.bridge_cues p.cues
    rw [f3] at this
    exact TracksV1.Res.agree_ok this
  · intro hl
    apply blobDecodes_of_viaBytes
    have := TracksV1.bridge_loops p.loops hl
    rw [f4] at this
    exact TracksV1.Res.agree_ok this
  · intro hl
    apply blobDecodes_of_viaBytes; rw [TracksV1.bridge_hires _ hl]; rfl
  · intro hl
    apply blobDecodes_of_viaBytes; rw [TracksV1.bridge_ovw _ hl, f5]

/-- … in every state reachable through the composite step, on every schema version, after every history. -/
theorem C11_lib1_stored_blobs_decode_reachable (o : FOps) (s : VSchema) (um up dir : Bytes) (cs : List Call) :
    BlobsFix (run o s (Lib1.empty s um up dir) cs) :=
  blobsFix_run o s cs (blobsFix_empty s um up dir)

/-! ### the tracks package's `DbClean` on the composite -/

/-- FULL STATEMENT (not provable: NaN is outside the quantifier of C01 / C06, and a track created from a snapshot with a NaN
sample rate holds a beat-data blob that no longer passes the decode-after-encode guard): "`DbClean` after every history".
PROVED PART: under the tracks package's float law, for every history whose `create_track` / `update` snapshots are NaN-free
(`noNaNCalls cs = true`, decidable), every stored track is `Clean` — the hypothesis of the package's acceptance theorems
(`v1_C06_accepts`: which setter calls return normally), which therefore apply in every such state of the composite. -/
theorem C11_lib1_clean_after_every_history_partial (o : FOps) (hl : TracksV1.FloatLaw o) (s : VSchema) (um up dir : Bytes)
    (cs : List Call) (hn : noNaNCalls cs = true) : TracksV1.DbClean (run o s (Lib1.empty s um up dir) cs).tr :=
  clean_run o hl s cs (L := Lib1.empty s um up dir) (by intro id r h; cases h) hn

/-- non-vacuity of `noNaNCalls` (the float law's own non-vacuity example is in Properties/C06V1Accept.lean). -/
example : noNaNCalls [.createRootCrate [97], .createTrack { Snap.empty with relativePath := some [98], bpm := some 0x405e000000000000 },
    .set 1 .bpm (some 0x7ff8000000000001), .update 1 { Snap.empty with relativePath := some [99] }, .removeTrack 1] = true ∧
    noNaNCalls [.createTrack { Snap.empty with relativePath := some [98], bpm := some 0x7ff8000000000001 }] = false := by
  decide +kernel

/-- non-vacuity of `C11_lib1_stored_blobs_decode`: a reachable state with a stored PerformanceData row whose columns are
within the size bounds (so all six conclusions apply). -/
example :
    let o : FOps := ⟨fun _ => 0, fun n => if n = 0 then 0 else F64.one, fun _ _ => 0, fun b => b⟩
    let L := run o .s1_15_0 (Lib1.empty .s1_15_0 [77] [80] []) [.createTrack { Snap.empty with relativePath := some [98] }]
    ((L.tr.rows 1).bind (·.perf)).isSome = true ∧
    (((L.tr.rows 1).bind (·.perf)).map fun p => (p.loops.length, p.hires.entries.length, p.overview.entries.length)) = some (8, 0, 0) := by
  decide +kernel

end EngineModel.Properties.C11Lib1
