/-
C19 — the property stated on the REGENERATED functions applied to doubles.

`Properties/C19.lean` proves (i) that the code regenerated from track_utils.hpp computes the
hand model whenever `ops.toI64 rate = some r` and (ii) the property on the hand model.  Here the
floating-point side is made concrete: `Fl.FOps.cxx o` is the instance whose
`static_cast<int64_t>` is defined bit for bit (`TracksV1.Fl.toI64`; the remaining operations
`ofI64 / ofU64 / div` stay a parameter `o`, hardware doubles in the driver).  For a finite,
non-negative rate of value ≤ 2^31 the cast is the floor of the value (`Proofs/F64Val.lean`), so
the hypothesis "r = ⌊rate⌋" of (i) is discharged and the property becomes a statement about
`Gen.TrackUtils.*` itself.
-/
import Properties.C19
import Proofs.F64Val

namespace EngineModel.Properties.C19
open EngineModel EngineModel.Pure.Waveform EngineModel.Cxx EngineModel.TracksV1

/-- The property's domain for the sample rate: a finite double of value in [0, 2^31]
(sign bit clear; `-0.0` is covered by the tie only). -/
def RateOk (rate : F64.Bits) : Prop :=
  F64.isFinite rate = true ∧ F64.signOf rate = false ∧ F64.toRat rate ≤ 2147483648

def rateFloor (rate : F64.Bits) : Nat := ⌊F64.toRat rate⌋.toNat

theorem toRat_nonneg_of_sign (rate : F64.Bits) (hs : F64.signOf rate = false) :
    0 ≤ F64.toRat rate := by
  unfold F64.toRat; rw [hs, if_neg Bool.false_ne_true]; exact F64.magRat_nonneg rate

theorem rateFloor_cast (rate : F64.Bits) (hs : F64.signOf rate = false) :
    ((rateFloor rate : Nat) : Int) = ⌊F64.toRat rate⌋ :=
  Int.toNat_of_nonneg (Int.floor_nonneg.mpr (toRat_nonneg_of_sign rate hs))

/-- **The cast is the floor**: for a rate in the domain, `static_cast<int64_t>(rate)` (bit-exact)
is `⌊rate⌋`, and `⌊rate⌋ ≤ 2^31`. -/
theorem C19_rate_floor (rate : F64.Bits) (h : RateOk rate) :
    Fl.toI64 rate = some ((rateFloor rate : Nat) : Int) ∧ rateFloor rate ≤ 2147483648 ∧
    ((rateFloor rate : Nat) : ℚ) ≤ F64.toRat rate ∧ F64.toRat rate < (rateFloor rate : Nat) + 1 := by
  obtain ⟨hf, hs, hb⟩ := h
  have hcast := rateFloor_cast rate hs
  have hq : ((rateFloor rate : Nat) : ℚ) = (⌊F64.toRat rate⌋ : ℚ) := by
    rw [← hcast, Int.cast_natCast]
  refine ⟨?_, ?_, ?_, ?_⟩
  · rw [hcast]; exact F64.toI64_of_nonneg rate hf hs (lt_of_le_of_lt hb (by decide))
  · exact Int.ofNat_le.mp (hcast ▸ (Int.floor_mono hb).trans_eq (Int.floor_ofNat _))
  · rw [hq]; exact Int.floor_le _
  · rw [hq]; exact Int.lt_floor_add_one _

theorem rate_lt_210_iff (rate : F64.Bits) (h : RateOk rate) :
    rateFloor rate < 210 ↔ F64.toRat rate < 210 := by
  rw [← Int.ofNat_lt, rateFloor_cast rate h.2.1, Nat.cast_ofNat, Int.floor_lt, Int.cast_ofNat]

/-- What `calculate_high_resolution_waveform_extents` (regenerated) returns on doubles. -/
theorem C19_hi_on_doubles (o : Fl.FOps) (rate : F64.Bits) (n : Nat) (h : RateOk rate)
    (hn : n ≤ 4611686018427387904) :
    Gen.TrackUtils.calculate_high_resolution_waveform_extents o.cxx n rate =
      some (hiSize n (rateFloor rate), o.ofI64 (hiSpan n (rateFloor rate) : Nat)) :=
  C19_gen_hi o.cxx rate (rateFloor rate) n (C19_rate_floor rate h).1 (C19_rate_floor rate h).2.1 hn

/-- What `calculate_overview_waveform_extents` (regenerated) returns on doubles. -/
theorem C19_ov_on_doubles (o : Fl.FOps) (rate : F64.Bits) (n : Nat) (h : RateOk rate)
    (hn : n ≤ 4611686018427387904) :
    Gen.TrackUtils.calculate_overview_waveform_extents o.cxx n rate =
      some (ovSize n (rateFloor rate),
        if n = 0 ∨ qn (rateFloor rate) = 0 then o.ofI64 0
        else o.div (o.ofU64 (ovRounded n (rateFloor rate))) (o.ofU64 1024)) :=
  C19_gen_ov o.cxx rate (rateFloor rate) n (C19_rate_floor rate h).1 (C19_rate_floor rate h).2.1 hn

/-- **The high-resolution clause of C19 on the regenerated function**: for every sample count
≤ 2^62 and every rate in [0, 2^31] the call is defined; the result is empty exactly when there is
no audio or the rate is below 210; otherwise the entry span is the quantisation number
`q = (⌊rate⌋ / 210) · 2`, `size` entries cover the track with less than one entry of slack, and no
smaller number of entries does. -/
theorem C19_hi_property (o : Fl.FOps) (rate : F64.Bits) (n : Nat) (h : RateOk rate)
    (hn : n ≤ 4611686018427387904) :
    ∃ size spe, Gen.TrackUtils.calculate_high_resolution_waveform_extents o.cxx n rate
        = some (size, spe) ∧
      (size = 0 ↔ n = 0 ∨ F64.toRat rate < 210) ∧
      (n ≠ 0 → ¬ F64.toRat rate < 210 →
        let q := qn (rateFloor rate)
        q ≠ 0 ∧ spe = o.ofI64 (q : Nat) ∧ n ≤ size * q ∧ (size - 1) * q < n ∧
        ∀ k, n ≤ k * q → size ≤ k) := by
  refine ⟨_, _, C19_hi_on_doubles o rate n h hn, ?_, ?_⟩
  · rw [(C19_empty_iff n (rateFloor rate)).1, rate_lt_210_iff rate h]
  · intro hn0 hr
    have hq : qn (rateFloor rate) ≠ 0 := by
      rw [Ne, qn_eq_zero_iff, rate_lt_210_iff rate h]; exact hr
    have hc := C19_hi_cover n (rateFloor rate) hn0 hq
    refine ⟨hq, by rw [C19_hi_span n _ hn0 hq], hc.1, hc.2, ?_⟩
    intro k hk
    exact C19_hi_minimal n (rateFloor rate) k hn0 hq hk

/-- **The overview clause of C19 on the regenerated function**: empty under the same condition;
otherwise exactly 1024 entries, and the per-entry span is `rounded / 1024` computed in doubles,
where `rounded` is the sample count rounded down to the quantisation number. -/
theorem C19_ov_property (o : Fl.FOps) (rate : F64.Bits) (n : Nat) (h : RateOk rate)
    (hn : n ≤ 4611686018427387904) :
    ∃ size spe, Gen.TrackUtils.calculate_overview_waveform_extents o.cxx n rate
        = some (size, spe) ∧
      (size = 0 ↔ n = 0 ∨ F64.toRat rate < 210) ∧
      (n ≠ 0 → ¬ F64.toRat rate < 210 →
        let q := qn (rateFloor rate)
        let rounded := ovRounded n (rateFloor rate)
        size = 1024 ∧ spe = o.div (o.ofU64 rounded) (o.ofU64 1024) ∧
        rounded ≤ n ∧ n < rounded + q ∧ rounded % q = 0) := by
  refine ⟨_, _, C19_ov_on_doubles o rate n h hn, ?_, ?_⟩
  · rw [(C19_empty_iff n (rateFloor rate)).2, rate_lt_210_iff rate h]
  · intro hn0 hr
    have hq : qn (rateFloor rate) ≠ 0 := by
      rw [Ne, qn_eq_zero_iff, rate_lt_210_iff rate h]; exact hr
    have hro := C19_ov_rounded n (rateFloor rate) hn0 hq
    have hne : ¬ (n = 0 ∨ qn (rateFloor rate) = 0) := fun hc => hc.elim hn0 hq
    exact ⟨C19_ov_size n _ hn0 hq, by rw [if_neg hne], hro.1, hro.2.1, hro.2.2⟩

/-- **Sizes are monotone in the sample count**, on the regenerated functions. -/
theorem C19_mono_property (o : Fl.FOps) (rate : F64.Bits) (n n' : Nat) (h : RateOk rate)
    (hnn : n ≤ n') (hn' : n' ≤ 4611686018427387904) :
    ∃ s s' e e' t t' f f',
      Gen.TrackUtils.calculate_high_resolution_waveform_extents o.cxx n rate = some (s, e) ∧
      Gen.TrackUtils.calculate_high_resolution_waveform_extents o.cxx n' rate = some (s', e') ∧
      Gen.TrackUtils.calculate_overview_waveform_extents o.cxx n rate = some (t, f) ∧
      Gen.TrackUtils.calculate_overview_waveform_extents o.cxx n' rate = some (t', f') ∧
      s ≤ s' ∧ t ≤ t' := by
  have hm := C19_mono n n' (rateFloor rate) hnn
  have hn := Nat.le_trans hnn hn'
  exact ⟨_, _, _, _, _, _, _, _, C19_hi_on_doubles o rate n h hn,
    C19_hi_on_doubles o rate n' h hn', C19_ov_on_doubles o rate n h hn,
    C19_ov_on_doubles o rate n' h hn', hm.1, hm.2⟩

/-! ### `1024 · samples_per_entry = rounded` -/

/-- The exactness of the two floating-point operations behind the overview span, for integers
that a double holds exactly: converting `m ≤ 2^53` and dividing by 1024 (a power of two) loses
nothing.  True of IEEE-754 arithmetic; an explicit hypothesis here because `o` is opaque, and
sampled on the hardware by the tie (`exact_span` in the evidence). -/
def SpanExact (o : Fl.FOps) : Prop :=
  ∀ m : Nat, m ≤ 9007199254740992 →
    F64.isFinite (o.div (o.ofU64 m) (o.ofU64 1024)) = true ∧
    F64.toRat (o.div (o.ofU64 m) (o.ofU64 1024)) * 1024 = (m : ℚ)

/-- With exact scaling, **1024 entries of `samples_per_entry` samples span exactly the sample count
rounded down to the quantisation number** (sample counts up to 2^53). -/
theorem C19_ov_span_exact (o : Fl.FOps) (hx : SpanExact o) (rate : F64.Bits) (n : Nat)
    (h : RateOk rate) (hn : n ≤ 9007199254740992) (hn0 : n ≠ 0) (hr : ¬ F64.toRat rate < 210) :
    ∃ spe, Gen.TrackUtils.calculate_overview_waveform_extents o.cxx n rate = some (1024, spe) ∧
      F64.toRat spe * 1024 = (ovRounded n (rateFloor rate) : ℚ) ∧
      ovRounded n (rateFloor rate) ≤ n ∧ n < ovRounded n (rateFloor rate) + qn (rateFloor rate) := by
  obtain ⟨size, spe, hcall, -, hne⟩ := C19_ov_property o rate n h (Nat.le_trans hn (by decide))
  obtain ⟨hs, hspe, h1, h2, -⟩ := hne hn0 hr
  refine ⟨spe, by rw [hcall, hs], ?_, h1, h2⟩
  rw [hspe]
  exact (hx _ (Nat.le_trans h1 hn)).2

/-! ### outside the domain (registered witnesses) -/

/-- Where the conversion of the rate to `int64_t` is undefined, so are both functions. -/
theorem gen_none_of_toI64 {F : Type} (ops : FloatOps F) (n : Nat) (rate : F)
    (h : ops.toI64 rate = none) :
    Gen.TrackUtils.calculate_high_resolution_waveform_extents ops n rate = none ∧
    Gen.TrackUtils.calculate_overview_waveform_extents ops n rate = none := by
  unfold Gen.TrackUtils.calculate_high_resolution_waveform_extents
    Gen.TrackUtils.calculate_overview_waveform_extents Gen.TrackUtils.waveform_quantisation_number
  rw [h]
  exact ⟨rfl, rfl⟩

/-- A NaN or infinite sample rate: the conversion to `int64_t` is undefined behaviour (the
generated code returns `none`; UBSan: "nan is outside the range of representable values of type
'long int'", replayed on the library). -/
theorem C19_nan_counterexample (o : Fl.FOps) (n : Nat) :
    Gen.TrackUtils.calculate_high_resolution_waveform_extents o.cxx n 0x7ff8000000000000 = none ∧
    Gen.TrackUtils.calculate_overview_waveform_extents o.cxx n 0x7ff0000000000000 = none :=
  ⟨(gen_none_of_toI64 o.cxx n _ (F64.toI64_of_not_finite _ (by decide))).1,
   (gen_none_of_toI64 o.cxx n _ (F64.toI64_of_not_finite _ (by decide))).2⟩

/-- A sample rate of 2^63 (or more): the same undefined conversion. -/
theorem C19_huge_rate_counterexample (o : Fl.FOps) (n : Nat) :
    Gen.TrackUtils.calculate_high_resolution_waveform_extents o.cxx n 0x43e0000000000000 = none :=
  (gen_none_of_toI64 o.cxx n 0x43e0000000000000 (by decide : Fl.toI64 0x43e0000000000000 = none)).1

/-- A negative sample rate is converted without undefined behaviour but the property fails:
−44100 Hz gives the quantisation number −420 and a waveform whose entries span −420 samples each —
no number of such entries covers 1000 samples.  The restriction `0 ≤ rate` of the domain is needed.
(Only the span is stated: the entry *count* out of the domain depends on how the ceiling division
is written, wrap-around included.) -/
theorem C19_negative_rate_counterexample (o : Fl.FOps) :
    (Gen.TrackUtils.calculate_high_resolution_waveform_extents o.cxx 1000 0xc0e5888000000000).map
      Prod.snd = some (o.ofI64 (-420)) := by
  rfl

/-! ### non-vacuity -/
/-- 44.1 kHz is in the domain and its floor is 44100. -/
example : RateOk 0x40e5888000000000 ∧ rateFloor 0x40e5888000000000 = 44100 := by
  unfold RateOk rateFloor; decide +kernel

end EngineModel.Properties.C19
