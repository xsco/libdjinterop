/-
C01, schema 1.x — the database level, the statements, the bytes, and NaN.

`Properties/C01V1.lean` is about the rows of one track (`writeSnap` / `readSnap`).  This file states the
property on a library of several tracks (`dbCreate` = `database::create_track`, `dbUpdate` =
`track::update`, `dbSnap` = `track::snapshot()`):

  * round trip through both calls, and the acceptance converse (what the Spec accepts is written, given a
    free path);
  * rejection, `UNIQUE(path)` (from 1.11.1) and the frame (other tracks untouched);
  * "a failed call leaves the database unchanged" NOT by the shape of the value-level model but on the
    statement sequence `BEGIN; Track; MetaData; MetaDataInteger; PerformanceData; COMMIT`
    (EngineModel/TracksV1/Txn.lean over the connection model of Spec/Txn.lean) with a failure — a
    statement's own, or injected — at any position;
  * the blob columns (held at value level in the model) are what the byte-level decoders of Impl/V1.lean
    read from what its encoders write (from the read-back lemmas that C03 registers);
  * what happens with NaN (outside the property's quantifier).
-/
import Properties.C01V1
import Proofs.TracksV1Txn
import Proofs.TracksV1BlobBytes
import Proofs.TracksV1NaN

namespace EngineModel.Properties.C01V1

open EngineModel EngineModel.TracksV1
open Fl (FOps)
open EngineModel.Spec.Txn (call Conn)

/-- `create_track` returns normally ⇒ the Spec accepts the snapshot and `snapshot()` of the new track is
the normalised one. -/
theorem v1_C01_db_create_roundtrip (o : FOps) (d d' : Db) (id : Int) (x : Snap) (hn : Spec.NoNaN x = true)
    (h : dbCreate o d x = .ok (d', id)) :
    id = nextId d ∧ ∃ y, Spec.normalize d.schema x = some y ∧ dbSnap o d' id = .ok y := by
  obtain ⟨rows, hw, _, hd', hid⟩ := dbCreate_eq_ok h
  refine ⟨hid, ?_⟩
  obtain ⟨y, hy, hr⟩ := v1_C01_accepts o d.schema x none rows hn hw
  refine ⟨y, hy, ?_⟩
  subst hd' hid
  unfold dbSnap Db.rows
  simp only
  rw [aget_append_fresh _ _ _ (aget_nextId d)]
  exact hr

/-- **Acceptance, `create_track`.**  A snapshot the Spec accepts, whose path no other track holds, IS
written, and `snapshot()` of the new track is the normalised snapshot. -/
theorem v1_C01_db_create_accepts (o : FOps) (d : Db) (x y : Snap) (p : Bytes) (hn : Spec.NoNaN x = true)
    (h : Spec.normalize d.schema x = some y) (hp : x.relativePath = some p) (hfree : pathTaken d (nextId d) p = false) :
    ∃ d', dbCreate o d x = .ok (d', nextId d) ∧ dbSnap o d' (nextId d) = .ok y := by
  obtain ⟨rows, hw, hr⟩ := v1_C01_roundtrip o d.schema x y none hn h
  refine ⟨{ d with tracks := d.tracks ++ [(nextId d, rows)] }, ?_, ?_⟩
  · rw [dbCreate_of_rows o d x rows p hp hw, hfree]
    rfl
  · unfold dbSnap Db.rows
    simp only
    rw [aget_append_fresh _ _ _ (aget_nextId d)]
    exact hr

/-- **Acceptance, `update`.** -/
theorem v1_C01_db_update_accepts (o : FOps) (d : Db) (id : Int) (prior : TrackRows) (x y : Snap) (p : Bytes)
    (hn : Spec.NoNaN x = true) (hrow : d.rows id = some prior) (h : Spec.normalize d.schema x = some y)
    (hp : x.relativePath = some p) (hfree : pathTaken d id p = false) :
    ∃ d', dbUpdate o d id x = .ok d' ∧ dbSnap o d' id = .ok y := by
  obtain ⟨rows, hw, hr⟩ := v1_C01_roundtrip o d.schema x y (some prior) hn h
  refine ⟨{ d with tracks := aset id rows d.tracks }, ?_, ?_⟩
  · rw [dbUpdate_of_rows o d id x prior rows p hrow hp hw, hfree]
    rfl
  · unfold dbSnap Db.rows
    simp only [aget_aset_same]
    exact hr

/-- **Rejection on the database**: a snapshot the Spec rejects makes both calls throw — never `ok`, never
`ub` — whatever the database holds. -/
theorem v1_C01_db_reject (o : FOps) (d : Db) (id : Int) (x : Snap) (hn : Spec.NoNaN x = true)
    (h : Spec.normalize d.schema x = none) :
    (∃ e, dbCreate o d x = .throw e) ∧ (∃ e, dbUpdate o d id x = .throw e) := by
  constructor
  · refine (dbCreate_defined o d x).throws fun r hc => ?_
    obtain ⟨_, y, hy, _⟩ := v1_C01_db_create_roundtrip o d r.1 r.2 x hn hc
    rw [h] at hy; cases hy
  · refine (dbUpdate_defined o d id x).throws fun d' hc => ?_
    obtain ⟨y, hy, _⟩ := v1_C01_db_roundtrip o d d' id x hn hc
    rw [h] at hy; cases hy

/-- **`UNIQUE(path)`** (from 1.11.1): an acceptable snapshot whose path another track holds is refused by
both calls with an SQLite error. -/
theorem v1_C01_db_unique_path (o : FOps) (d : Db) (id : Int) (prior : TrackRows) (x y : Snap) (p : Bytes)
    (hn : Spec.NoNaN x = true) (h : Spec.normalize d.schema x = some y) (hp : x.relativePath = some p) :
    (pathTaken d (nextId d) p = true → dbCreate o d x = .throw .sqlite_error) ∧
    (d.rows id = some prior → pathTaken d id p = true → dbUpdate o d id x = .throw .sqlite_error) := by
  constructor
  · intro ht
    obtain ⟨rows, hw, _⟩ := v1_C01_roundtrip o d.schema x y none hn h
    rw [dbCreate_of_rows o d x rows p hp hw, ht]
    rfl
  · intro hrow ht
    obtain ⟨rows, hw, _⟩ := v1_C01_roundtrip o d.schema x y (some prior) hn h
    rw [dbUpdate_of_rows o d id x prior rows p hrow hp hw, ht]
    rfl

/-- **Frame**: `create_track` and `update` leave the rows — hence `snapshot()` and every getter — of every
other track as they were; `create_track` takes an id no track has. -/
theorem v1_C01_db_frame (o : FOps) (d : Db) (x : Snap) :
    (∀ d' id, dbCreate o d x = .ok (d', id) → d.rows id = none ∧ ∀ id', id' ≠ id → d'.rows id' = d.rows id') ∧
    (∀ d' id, dbUpdate o d id x = .ok d' → ∀ id', id' ≠ id → d'.rows id' = d.rows id') := by
  constructor
  · intro d' id h
    obtain ⟨rows, _, _, hd', hid⟩ := dbCreate_eq_ok h
    subst hd'
    refine ⟨by rw [hid]; exact aget_nextId d, ?_⟩
    intro id' hne
    exact aget_append_other _ _ _ _ (hid ▸ hne)
  · intro d' id h id' hne
    obtain ⟨prior, rows, _, _, _, hd'⟩ := dbUpdate_eq_ok h
    subst hd'
    exact aget_aset_other _ _ _ _ hne

/-! ### a failed call leaves the database unchanged — statement by statement

`writeCall` (Txn.lean): `prepare` (before the transaction; nothing is stepped if it throws), then
`BEGIN; Track; MetaData; MetaDataInteger; PerformanceData; COMMIT` on SQLite's connection model, with
`fault = some k` failing the k-th of these six statements and `auto` choosing whether SQLite rolls back by
itself.  Each write changes its own table; a statement may also fail by itself (`UNIQUE(path)`, no `Track`
row for the id, an encoder throwing). -/

/-- **All or nothing, `create_track`, any fault position.**  If the statement run raises, the connection is
back in autocommit mode on exactly the database it started from — although the working copy had by then
received up to four tables' worth of rows; if it does not raise, the committed database is the one the
value-level `dbCreate` returns.  Without an injected fault the run raises exactly when `dbCreate` throws. -/
theorem v1_C01_txn_create (o : FOps) (d : Db) (x : Snap) (pr : Prep) (hp : prepare o x = .ok pr)
    (fault : Option Nat) (auto : Bool) :
    let out := call fault auto (writeCmds o d.schema x pr (nextId d) false) d
    (out.raised = true → out.conn = Conn.idle d) ∧
    (out.raised = false → out.conn.working = none ∧ dbCreate o d x = .ok (out.conn.committed, nextId d)) ∧
    (fault = none → (out.raised = true ↔ ∃ e, dbCreate o d x = .throw e)) :=
  txn_outcome o d x pr (nextId d) false fault auto (dbCreate_statements o d x pr hp)

/-- **All or nothing, `update`, any fault position** (the track need not exist: then the `UPDATE` finds no
row, the call throws `track_deleted` and the three dependent tables are never touched — the `fix:` 353e3ca). -/
theorem v1_C01_txn_update (o : FOps) (d : Db) (id : Int) (x : Snap) (pr : Prep) (hp : prepare o x = .ok pr)
    (fault : Option Nat) (auto : Bool) :
    let out := call fault auto (writeCmds o d.schema x pr id true) d
    (out.raised = true → out.conn = Conn.idle d) ∧
    (out.raised = false → out.conn.working = none ∧ dbUpdate o d id x = .ok out.conn.committed) ∧
    (fault = none → (out.raised = true ↔ ∃ e, dbUpdate o d id x = .throw e)) :=
  txn_outcome o d x pr id true fault auto (dbUpdate_statements o d id x pr hp)

/-- An exception while the values are prepared (no relative path, a waveform without sample count / rate,
nine loops) is thrown before `BEGIN`: both calls throw it and no statement is stepped; preparing is never
undefined. -/
theorem v1_C01_txn_prepare (o : FOps) (d : Db) (id : Int) (x : Snap) :
    (∀ e, prepare o x = .throw e → dbCreate o d x = .throw e ∧ dbUpdate o d id x = .throw e ∧
      ∀ upd fault auto, writeCall o d x id upd fault auto = (d, true)) ∧
    (∀ u, prepare o x ≠ .ub u) := by
  refine ⟨?_, prepare_defined o x⟩
  intro e he
  refine ⟨dbCreate_prepare_throw o d x e he, dbUpdate_prepare_throw o d id x e he, ?_⟩
  intro upd fault auto
  unfold writeCall
  rw [he]

/-- The whole call in one statement: whatever the snapshot, the fault position and SQLite's rollback mode —
`writeCall` raised ⇒ the database is the one before the call. -/
theorem v1_C01_db_reject_unchanged (o : FOps) (d : Db) (x : Snap) (id : Int) (upd : Bool) (fault : Option Nat)
    (auto : Bool) (h : (writeCall o d x id upd fault auto).2 = true) : (writeCall o d x id upd fault auto).1 = d := by
  unfold writeCall at h ⊢
  cases hp : prepare o x with
  | ok pr =>
    rw [hp] at h
    simp only at h ⊢
    have hs := (Proofs.Txn.shape_sound _ (writeCmds_shape o d.schema x pr id upd) fault auto d).1 h
    rw [hs]; rfl
  | throw e => rfl
  | ub u => rfl

/-! ### the blob columns are the byte-level codecs composed

`viaBytes enc dec v = (enc v).bind dec` with `enc` / `dec` the statement-by-statement mirrors of
performance_data_format.cpp in Impl/V1.lean.  Proved (Proofs/TracksV1BlobBytes.lean) from the read-back lemmas of
Proofs/ImplV1Roundtrip.lean, the ones C03 registers. -/

/-- Track data, beat data, high-resolution and overview waveform: the model's `norm…` is `decode ∘ encode`,
outcome for outcome. -/
theorem v1_C01_codec_bridge (t : Impl.V1.Track) (b : Impl.V1.Beat) (w : Impl.V1.Wave)
    (hh : 30 + 6 * w.entries.length < Codec.maxCount) :
    viaBytes Impl.V1.encodeTrack Impl.V1.decodeTrack t = .ok (normTrack t) ∧
    viaBytes Impl.V1.encodeBeat Impl.V1.decodeBeat b = normBeat b ∧
    viaBytes Impl.V1.encodeHires Impl.V1.decodeHires w = .ok (normHires w) ∧
    viaBytes Impl.V1.encodeOvw Impl.V1.decodeOvw w = .ok (normOvw w) :=
  ⟨bridge_track t, bridge_beat b, bridge_hires w hh, bridge_ovw w (by omega)⟩

/-- Quick cues and loops: the same value when accepted, an exception on both sides otherwise (the class of
the exception is compared by the tie; the C03 `…_reject` theorems conclude "throws"). -/
theorem v1_C01_codec_bridge_slots (c : Impl.V1.Cues) (l : Impl.V1.Loops) (hl : l.length < Codec.maxCount) :
    Res.agree (viaBytes Impl.V1.encodeCues Impl.V1.decodeCues c) (normCues c) ∧
    Res.agree (viaBytes Impl.V1.encodeLoops Impl.V1.decodeLoops l) (normLoops l) :=
  ⟨bridge_cues c, bridge_loops l hl⟩

/-- What a stored column holds: the decoder's reading of the encoder's bytes for the value `v` that the
conversion built. -/
def blobStored {α} (enc : α → Res Bytes) (dec : Bytes → Res α) (v c : α) : Prop := ∃ b, enc v = .ok b ∧ dec b = .ok c

theorem blobStored_of {α} (enc : α → Res Bytes) (dec : Bytes → Res α) (v c : α) (h : viaBytes enc dec v = .ok c) :
    blobStored enc dec v c :=
  Res.bind_eq_ok.mp h

/-- **The round trip really passes through the encoders and decoders.**  For every accepted snapshot
(waveform below the size any C++ vector has) the write succeeds, each of the six blob columns of the
written PerformanceData row is `decode b` for the bytes `b = encode v` of the value `v` that
`to_track_data` / `to_beat_data` / `to_cues_data` / `to_loops_data` / `to_*_waveform_data` built from the
snapshot, and `snapshot()` of the rows is the normalised snapshot. -/
theorem v1_C01_roundtrip_through_bytes (o : FOps) (s : Schema) (x y : Snap) (prior : Option TrackRows)
    (hn : Spec.NoNaN x = true) (h : Spec.normalize s x = some y)
    (hlen : 30 + 6 * x.waveform.length < Codec.maxCount) :
    ∃ rows p pr, writeSnap o s x prior = .ok rows ∧ rows.perf = some p ∧ prepare o x = .ok pr ∧
      blobStored Impl.V1.encodeTrack Impl.V1.decodeTrack ⟨x.sampleRate, x.sampleCount, x.averageLoudness, x.key⟩ p.trackData ∧
      blobStored Impl.V1.encodeBeat Impl.V1.decodeBeat
        ⟨x.sampleRate, x.sampleCount.map (fun n => o.ofU64 n.toNat), x.beatgrid, x.beatgrid⟩ p.beat ∧
      blobStored Impl.V1.encodeCues Impl.V1.decodeCues (toCues x.hotCues x.mainCue) p.cues ∧
      blobStored Impl.V1.encodeLoops Impl.V1.decodeLoops pr.loops p.loops ∧
      blobStored Impl.V1.encodeHires Impl.V1.decodeHires pr.hires p.hires ∧
      blobStored Impl.V1.encodeOvw Impl.V1.decodeOvw pr.ovw p.overview ∧
      readSnap o s rows = .ok y := by
  obtain ⟨rows, hw, hr⟩ := v1_C01_roundtrip o s x y prior hn h
  obtain ⟨pr, c, hpr, hc, rfl⟩ := writeSnap_eq_ok.mp hw
  obtain ⟨hbt, hcs, hlp⟩ := perfCols_eq_ok.mp hc
  -- the sizes: the stored waveforms are the given one and its (at most 1024-entry) resampling
  obtain ⟨_, hov, hhi, hls⟩ := prepare_parts o x pr hpr
  have hls8 : pr.loops.length < Codec.maxCount := by
    rcases toLoops_cases x.loops with ⟨h8, ht⟩ | ⟨_, ht⟩
    · rw [ht] at hls; rw [← Res.ok.inj hls, padTo8_length _ h8]; decide
    · rw [ht] at hls; cases hls
  have hhil := toHires_entries o _ _ _ _ hhi
  have hovl := toOverview_entries o _ _ _ _ hov
  refine ⟨_, _, _, hw, rfl, hpr, ?_, ?_, ?_, ?_, ?_, ?_, hr⟩
  · exact blobStored_of _ _ _ _ (bridge_track _)
  · exact blobStored_of _ _ _ _ (by rw [bridge_beat]; exact hbt)
  · have := bridge_cues (toCues x.hotCues x.mainCue)
    rw [hcs] at this
    exact blobStored_of _ _ _ _ (Res.agree_ok this)
  · have := bridge_loops pr.loops hls8
    rw [hlp] at this
    exact blobStored_of _ _ _ _ (Res.agree_ok this)
  · refine blobStored_of _ _ _ _ (bridge_hires pr.hires ?_)
    unfold Codec.maxCount at hlen ⊢
    rcases hhil with h1 | h1 <;> omega
  · refine blobStored_of _ _ _ _ (bridge_ovw pr.ovw ?_)
    unfold Codec.maxCount
    omega

/-! ### NaN (outside the property's quantifier): what the library does -/

/-- **Every snapshot, NaN included**: the write is accepted exactly when `Spec.libAccepted`, then reads
back as `Spec.normFieldsNaN`; otherwise it throws; it is never undefined (`v1_C01_never_ub`). -/
theorem v1_C01_nan_total (o : FOps) (s : Schema) (x : Snap) (prior : Option TrackRows) :
    (∀ y, Spec.normalizeNaN s x = some y → ∃ rows, writeSnap o s x prior = .ok rows ∧ readSnap o s rows = .ok y) ∧
    (Spec.normalizeNaN s x = none → ∃ e, writeSnap o s x prior = .throw e) := by
  obtain ⟨h1, h2⟩ := writeSnap_total o s x prior
  unfold Spec.normalizeNaN
  constructor
  · intro y hy
    by_cases ha : Spec.libAccepted x = true
    · rw [if_pos ha] at hy; cases hy; exact h1 ha
    · rw [if_neg ha] at hy; cases hy
  · intro hy
    by_cases ha : Spec.libAccepted x = true
    · rw [if_pos ha] at hy; cases hy
    · rw [if_neg ha] at hy
      cases hh : Spec.libAccepted x with
      | true => exact absurd hh ha
      | false => exact h2 hh

/-- On snapshots without NaN this is the property's `normalize`. -/
theorem v1_C01_nan_agrees (s : Schema) (x : Snap) (hn : Spec.NoNaN x = true) :
    Spec.normalizeNaN s x = Spec.normalize s x := by
  unfold Spec.normalizeNaN Spec.normalize
  rw [libAccepted_eq x hn]
  rw [normFieldsNaN_of_finite s x (noNaN_unpack x hn).bpm]

/-- What changes when a NaN is stored: nothing, bit for bit — average loudness, main cue, sample rate, cue
and loop offsets, grid offsets all come back as `normalize` would return them for any other bit pattern —
except the BPM, which comes back absent. -/
theorem v1_C01_nan_fields (s : Schema) (x y : Snap) (h : Spec.normalizeNaN s x = some y) :
    y = { Spec.normFields s x with bpm := y.bpm } ∧
    (∀ b, x.bpm = some b → F64.isNaN b = true → y.bpm = none) ∧
    (∀ b, x.bpm = some b → F64.isNaN b = false → y.bpm = some (if b = F64.negZero then F64.zero else b)) ∧
    (∀ b, x.averageLoudness = some b → F64.isNaN b = true → y.averageLoudness = some b) ∧
    (∀ b, x.mainCue = some b → F64.isNaN b = true → y.mainCue = some b) ∧
    (∀ b, x.sampleRate = some b → F64.isNaN b = true → y.sampleRate = some b) := by
  unfold Spec.normalizeNaN at h
  split at h
  · cases h
    have nz : ∀ b, F64.isNaN b = true → Spec.dropZero (some b) = some b := by
      intro b hb
      have h1 : b ≠ F64.zero := by intro e; rw [e] at hb; revert hb; decide
      have h2 : b ≠ F64.negZero := by intro e; rw [e] at hb; revert hb; decide
      exact if_neg (not_or.mpr ⟨h1, h2⟩)
    refine ⟨rfl, ?_, ?_, ?_, ?_, ?_⟩
    · intro b hb hnan
      have hnz : b ≠ F64.negZero := by intro e; rw [e] at hnan; revert hnan; decide
      show Spec.dropNaN (x.bpm.map _) = none
      rw [hb]
      simp only [Option.map_some, Spec.dropNaN, Option.bind_some, if_neg hnz, hnan, if_true]
    · intro b hb hnan
      show Spec.dropNaN (x.bpm.map _) = _
      rw [hb]
      simp only [Option.map_some, Spec.dropNaN, Option.bind_some]
      by_cases hz : b = F64.negZero
      · simp only [hz, if_true]; rfl
      · simp only [hz, if_false, hnan]; rfl
    · intro b hb hnan
      show Spec.dropZero x.averageLoudness = some b
      rw [hb]; exact nz b hnan
    · intro b hb hnan
      show Spec.dropZero x.mainCue = some b
      rw [hb]; exact nz b hnan
    · intro b hb hnan
      show Spec.dropZero x.sampleRate = some b
      rw [hb]; exact nz b hnan
  · cases h

/-- The library accepts beat grids that the Spec's test rejects only when they contain NaN:
`validate_beatgrid` tests `!(next <= prev)`; witness with a NaN offset in the middle. -/
theorem v1_C01_nan_grid_counterexample :
    ∃ x : Snap, Spec.libAccepted x = true ∧ Spec.accepted x = false ∧ Spec.NoNaN x = false :=
  ⟨{ Snap.empty with relativePath := some [97], beatgrid := [⟨0, 0⟩, ⟨4, 0x7ff8000000000001⟩, ⟨8, 0x40e5888000000000⟩] },
    by decide, by decide, by decide⟩

/-! ### non-vacuity -/

def exOps : FOps := ⟨fun _ => 0, fun n => if n = 0 then 0 else F64.one, fun _ _ => 0, fun b => b⟩
def exEmpty : Db := ⟨.s1_15_0, []⟩
def exDb1 : Db := ((dbCreate exOps exEmpty exA).toOption.map (·.1)).getD exEmpty
def exB : Snap := { exA with relativePath := some [120, 46, 109, 112, 51], title := some [66] }
def exThrown {α} : Res α → Option Exn
  | .throw e => some e
  | _ => none

/-- What is recorded below of `exDb1` and of the calls with `exB` on it, evaluated together: creating a track
resamples its waveform, which dwarfs the rest of each line, and the kernel builds `exDb1` and prepares `exB`
once per declaration. -/
theorem exDb1_outcomes :
    exDb1.tracks.length = 1 ∧
    exThrown (dbCreate exOps exDb1 exA) = some .sqlite_error ∧
    ((dbCreate exOps exDb1 exB).toOption.map fun r => (r.1.rows 1 == exDb1.rows 1, r.2)) = some (true, 2) ∧
    (prepare exOps exB).isOk = true ∧
    ((writeCall exOps exDb1 exB 2 false none false).2 = false ∧
      (writeCall exOps exDb1 exB 2 false none false).1.tracks.length = 2) ∧
    (∀ k ∈ [0, 1, 2, 3, 4, 5], ∀ auto ∈ [false, true],
      (writeCall exOps exDb1 exB 2 false (some k) auto).2 = true ∧
      (writeCall exOps exDb1 exB 2 false (some k) auto).1.tracks.length = 1) ∧
    (writeCall exOps exDb1 exB 2 false (some 6) false).2 = false ∧
    ((prepare exOps exB).toOption.map fun pr =>
      ((call none false ((writeCmds exOps .s1_15_0 exB pr 2 false).take 4) exDb1).conn.working.map
        fun w => (w.tracks.length, (w.rows 2).map fun r => (r.mstr.length, r.mint.length, r.perf.isSome)))) =
      some (some (2, some (15, 12, false))) ∧
    ((writeCall exOps exDb1 exB 7 true none false).2 = true ∧
      (writeCall exOps exDb1 exB 7 true none false).1.tracks.length = 1) := by
  decide +kernel

/-- one track created, a second snapshot with the same path is refused by `UNIQUE(path)`, one with another
path is written and leaves the first track alone -/
example : exDb1.tracks.length = 1 := exDb1_outcomes.1
example : exThrown (dbCreate exOps exDb1 exA) = some .sqlite_error := exDb1_outcomes.2.1
example : ((dbCreate exOps exDb1 exB).toOption.map fun r => (r.1.rows 1 == exDb1.rows 1, r.2)) = some (true, 2) :=
  exDb1_outcomes.2.2.1
/-- `prepare` succeeds for `exB`; the fault-free statement run does not raise; a fault at each of the six
statements raises and gives back the database it started from — while the working copy before the fault at
the fifth statement already held the track's Track, MetaData and MetaDataInteger rows -/
example : (prepare exOps exB).isOk = true := exDb1_outcomes.2.2.2.1
example : (writeCall exOps exDb1 exB 2 false none false).2 = false ∧
    (writeCall exOps exDb1 exB 2 false none false).1.tracks.length = 2 := exDb1_outcomes.2.2.2.2.1
example : ∀ k ∈ [0, 1, 2, 3, 4, 5], ∀ auto ∈ [false, true],
    (writeCall exOps exDb1 exB 2 false (some k) auto).2 = true ∧
    (writeCall exOps exDb1 exB 2 false (some k) auto).1.tracks.length = 1 := exDb1_outcomes.2.2.2.2.2.1
example : (writeCall exOps exDb1 exB 2 false (some 6) false).2 = false := exDb1_outcomes.2.2.2.2.2.2.1
example : ((prepare exOps exB).toOption.map fun pr =>
    ((call none false ((writeCmds exOps .s1_15_0 exB pr 2 false).take 4) exDb1).conn.working.map
      fun w => (w.tracks.length, (w.rows 2).map fun r => (r.mstr.length, r.mint.length, r.perf.isSome)))) =
    some (some (2, some (15, 12, false))) := exDb1_outcomes.2.2.2.2.2.2.2.1
/-- an update of an absent track raises at the `UPDATE Track` statement: nothing is written -/
example : (writeCall exOps exDb1 exB 7 true none false).2 = true ∧
    (writeCall exOps exDb1 exB 7 true none false).1.tracks.length = 1 := exDb1_outcomes.2.2.2.2.2.2.2.2
/-- NaN: a NaN BPM reads back absent, a NaN main cue survives -/
example : ((Spec.normalizeNaN .s1_6_0 { exA with bpm := some 0x7ff8000000000001, mainCue := some 0x7ff8000000000001 }).map
    fun y => (y.bpm, y.mainCue)) = some (none, some 0x7ff8000000000001) := by decide
example : 30 + 6 * exA.waveform.length < Codec.maxCount := by decide

end EngineModel.Properties.C01V1
