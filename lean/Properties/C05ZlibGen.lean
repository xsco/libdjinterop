/-
C05 on `zlib_uncompress` REGENERATED from the C++ (`Gen/ZlibGen.lean`, tools/tr_zlib.py): the statements
registered about the hand loops (`Properties/C05.lean`, `C05_uncompress_total` / `_no_ub`) transferred through
`Gen.Zlib.uncompress_eq_partial` (Proofs/ZlibGenEq.lean).  The proofs depend on the regenerated bodies: a
change of the C++ loops that changes the translation breaks `lake build`.
-/
import Proofs.ZlibGenEq

namespace EngineModel.Properties.C05ZlibGen
open EngineModel EngineModel.Impl.Zlib

/-- The regenerated function IS the hand model: every oracle that keeps to the sizes it was given (`Sized`: it
never claims more input than its window nor more output than `avail_out`), every stream state, every fuel
(the same number on both sides), every input, every initial content of the by-value parameter.
Full statement (no `Sized`) false: see the end of Proofs/ZlibGenEq.lean. -/
theorem C05_gen_uncompress_eq_partial {σ : Type} (o : Oracle σ) (hsz : Gen.Zlib.Sized o) (s0 : σ) (fuel : Nat)
    (buf u0 : Bytes) :
    Gen.Zlib.uncompress o s0 fuel buf u0 = uncompress o s0 buf.length fuel buf :=
  Gen.Zlib.uncompress_eq_partial o hsz s0 fuel buf u0

/-- For every inflate oracle honouring the call contract, every stream state, every input and every fuel of
at least `fuelBound` (linear in the input): the REGENERATED `zlib_uncompress` returns a value or throws
`system_error` / `length_error`. -/
theorem C05_gen_uncompress_total {σ : Type} (o : Oracle σ) (c : Contract o) (s0 : σ) (buf u0 : Bytes)
    (fuel : Nat) (hf : fuelBound c s0 buf.length ≤ fuel) :
    (∃ out, Gen.Zlib.uncompress o s0 fuel buf u0 = .ok out) ∨
    Gen.Zlib.uncompress o s0 fuel buf u0 = .throw .system_error ∨
    Gen.Zlib.uncompress o s0 fuel buf u0 = .throw .length_or_alloc := by
  rw [Gen.Zlib.uncompress_eq_partial o (Gen.Zlib.Sized.of_contract c) s0 fuel buf u0]
  exact uncompress_total o c s0 buf fuel hf

/-- Under the same contract and fuel the regenerated `zlib_uncompress` is never `ub`: no region outside the input
vector handed to `inflate()`, no write outside the local array, no pointer moved past the end, no read of the array
beyond what was written, the loops end. -/
theorem C05_gen_uncompress_no_ub {σ : Type} (o : Oracle σ) (c : Contract o) (s0 : σ) (buf u0 : Bytes)
    (fuel : Nat) (hf : fuelBound c s0 buf.length ≤ fuel) (u : Ub) :
    Gen.Zlib.uncompress o s0 fuel buf u0 ≠ .ub u := by
  rcases C05_gen_uncompress_total o c s0 buf u0 fuel hf with ⟨out, h⟩ | h | h <;> rw [h] <;> simp

/-- non-vacuity: the pass-through oracle honours the contract (`copyContract`), fuel `4·(n − 4) + 1`. -/
example : fuelBound copyContract () 104 = 401 := by decide
example : Gen.Zlib.Sized copyOracle := Gen.Zlib.Sized.of_contract copyContract

end EngineModel.Properties.C05ZlibGen
