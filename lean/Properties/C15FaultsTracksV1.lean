/-
C15 on states left behind by FAILED calls, schema 1.x TRACKS (all eleven 1.x versions).

Model (`Api/FaultsTracksV1.lean`): `callF o d op plan` executes `create_track` / `track::update` / any `set_*` /
`remove_track` as its statement program (`TracksV1/Stmts.topStmts`: the program C14 proves all-or-nothing,
`C14_tracks_v1_program` / `C14_tracks_v1_shape`) on the connection of `Spec/Txn.lean` under a fault plan; `runF` is a
history of such calls.  The programs run over the same tables `TracksV1.Db` as the C15 API model
(`Api/C15TracksV1.step`, `GuardedTracksV1.stepG`), so no projection is needed: the composition is

    all-or-nothing (C14) ⇒ the tables after a failed call are the tables before ⇒ `DbInv` survives ⇒ `step_defined`.

LIMIT (C14's): the programs of `TracksV1/Stmts` have no statement level (that of create_track / update is
`TracksV1/Txn`, C01's `v1_C01_txn_*`) — a call is ONE write (the joint effect of its
INSERT OR REPLACE / UPDATE statements) inside the scope the C++ gives it, so the fault positions of this model are
BEGIN, that write and COMMIT; a fault BETWEEN two statements of a scoped call is covered by the scope table
(`Field.scoped`, compared with the real skeleton by C14's tie) and by the fault stream on the harness, not by a
statement-level theorem.  `CeilInRange o` is the one law of double arithmetic the 1.x setters need (a theorem for the
bit-exact `ceilBits`: `v1t_C15_ceil_exact`).
-/
import Proofs.C15FaultsTracksV1
import Properties.C15TracksV1

namespace EngineModel.Properties.C15FaultsTracksV1
open EngineModel EngineModel.TracksV1 EngineModel.Api.C15TracksV1 EngineModel.Api.GuardedTracksV1
open EngineModel.Api.FaultsTracksV1 EngineModel.Spec.Txn EngineModel.Spec.Stmts
open EngineModel.Proofs.C15FaultsTracksV1
open Fl (FOps)

/-- Whatever makes the statement program of a 1.x track call raise (a fault at any of its positions, or the write
refusing: the call throws by itself), the connection is afterwards at rest on exactly the prior tables. -/
theorem v1t_C15_failed_call_restores (o : FOps) (d : Db) (op : TOp) (fault : Option Nat) (auto : Bool)
    (hr : (call fault auto (topStmts o op) d).raised = true) : (call fault auto (topStmts o op) d).conn = Conn.idle d :=
  raised_restores o d op fault auto hr

/-- A fault position inside the call: the call throws and the next call starts from exactly the prior tables. -/
theorem v1t_C15_fault_inside_throws (o : FOps) (d : Db) (op : TOp) (p : Plan) (hk : p.k < positions o op)
    (hu : ∀ u, (stepG o d (toOp op)).2 ≠ .ub u) : callF o d op (some p) = (d, .throw .sqlite_error) :=
  callF_fault_inside o d op p hk hu

/-- One call under ANY plan, on ANY tables: prior tables or the fault-free call's; the fault-free outcome or the
failing statement's exception. -/
theorem v1t_C15_call_under_faults (o : FOps) (hc : CeilInRange o) (d : Db) (op : TOp) (plan : Option Plan) :
    ((callF o d op plan).1 = d ∨ (callF o d op plan).1 = (step o d (toOp op)).1) ∧
    ((callF o d op plan).2 = (step o d (toOp op)).2 ∨ (callF o d op plan).2 = .throw .sqlite_error) :=
  ⟨callF_state o hc d op plan, callF_outcome o hc d op plan⟩

/-- **C14 on this semantics**: a call — under any plan or none — that does not return normally leaves the tables
EQUAL to the prior ones, hence every observation (`stepG` of any operation: `snapshot()`, every getter, `is_valid()`)
and every later call is what it would have been.  Any tables. -/
theorem v1t_C14_failed_call_unchanged (o : FOps) (hc : CeilInRange o) (d : Db) (op : TOp) (plan : Option Plan)
    (hfail : ¬ ∃ v, (callF o d op plan).2 = .ok v) :
    (callF o d op plan).1 = d ∧ (∀ q, stepG o (callF o d op plan).1 q = stepG o d q) ∧
    (∀ op' plan', callF o (callF o d op plan).1 op' plan' = callF o d op' plan') := by
  have h := callF_failed_unchanged o hc d op plan hfail
  refine ⟨h, ?_, ?_⟩ <;> intros <;> rw [h]

/-- The invariant of the tracks-1.x package survives every history with failures, from any tables satisfying it. -/
theorem v1t_C15_after_faults_inv (o : FOps) (hc : CeilInRange o) {d : Db} (hd : DbInv d) (hist : List FCall) :
    DbInv (runF o d hist) :=
  inv_runF o hc hist hd

/-- **Reachability**: the tables after any history with failures are the tables the FAULT-FREE C15 model reaches by a
sub-list of the history (the calls that took effect), in order. -/
theorem v1t_C15_after_faults_reachable (o : FOps) (hc : CeilInRange o) (d : Db) (hist : List FCall) :
    ∃ l : List Op, l.Sublist (hist.map fun c => toOp c.1) ∧ runF o d hist = run o d l :=
  runF_reachable o hc hist d

/-- **C15 after failed calls, 1.x tracks**: for ALL schema versions × ALL histories of `create_track` / `update` /
`set_*` / `remove_track` (any arguments) × ALL fault plans from the empty library: no call of the history has
undefined behaviour; afterwards every public operation of the guarded model (`snapshot()`, every getter at any index,
`is_valid()`, `id()`, copies, every mutating call), the whole `database` / `track` alphabet, and every further
mutating call under any fault plan is a value or an exception. -/
theorem v1t_C15_after_faults_no_ub (o : FOps) (hc : CeilInRange o) (s : Schema) (hist : List FCall) :
    (∀ r ∈ outcomesF o ⟨s, []⟩ hist, ∀ u, r ≠ .ub u) ∧
    (∀ op u, (stepG o (runF o ⟨s, []⟩ hist) op).2 ≠ .ub u) ∧
    (∀ c u, (callG o (runF o ⟨s, []⟩ hist) c).2 ≠ .ub u) ∧
    (∀ op plan u, (callF o (runF o ⟨s, []⟩ hist) op plan).2 ≠ .ub u) := by
  have hI := inv_runF o hc hist (dbInv_empty s)
  refine ⟨outcomesF_defined o hc hist (dbInv_empty s), ?_, ?_, ?_⟩
  · intro op u; rw [stepG_eq o hc]; exact step_defined o hc _ hI op u
  · exact fun c u => callG_defined o hc _ hI c u
  · exact fun op plan u => callF_defined o hc hI op plan u

/-! ### non-vacuity -/

def exOps : FOps := C15TracksV1.exOps
example : CeilInRange exOps := ceilInRange_of_bounded (fun _ h => h)
/-- scoped calls have 3 fault positions (BEGIN, the write, COMMIT), the eleven single-statement setters 1 -/
example : positions exOps (.remove 1) = 3 ∧ positions exOps (.create Snap.empty) = 3 ∧
    positions exOps (.set 1 .title none) = 1 ∧ positions exOps (.set 1 .bpm none) = 3 := by decide

/-- a history with failures on 1.17-style tables: a fault on the BEGIN of a creation, the creation, a fault on the
COMMIT of `set_bpm`, on the single statement of `set_title`, a position beyond the call (does not fire), a setter that
throws by itself under a plan, a fault on the write of `remove_track`, the removal, `is_valid` afterwards -/
def exHist : List FCall :=
  [(.create C15TracksV1.exSnap, some ⟨0, false⟩), (.create C15TracksV1.exSnap, none),
   (.set 1 .bpm (some 0x405e000000000000), some ⟨2, true⟩), (.set 1 .title (some [90]), some ⟨0, false⟩),
   (.set 1 .title (some [90]), some ⟨5, false⟩), (.set 1 (.hotCueAt 8) none, some ⟨7, false⟩),
   (.remove 1, some ⟨1, false⟩), (.remove 1, none)]

/-- The history creates the track three times (each creation resamples the waveform, the dear step), so what is
recorded of it below is evaluated in one go. -/
theorem exHist_outcomes :
    (outcomesF exOps (⟨.s1_15_0, []⟩ : Db) exHist).map Res.isOk = [false, true, false, false, true, false, false, true] ∧
    void (stepG exOps (runF exOps (⟨.s1_15_0, []⟩ : Db) (exHist.take 7)) (.isValid 1)).2 = .ok () ∧
    (runF exOps (⟨.s1_15_0, []⟩ : Db) (exHist.take 7)).tracks.length = 1 ∧
    (runF exOps (⟨.s1_15_0, []⟩ : Db) exHist).tracks.length = 0 := by
  decide +kernel

example : (outcomesF exOps (⟨.s1_15_0, []⟩ : Db) exHist).map Res.isOk = [false, true, false, false, true, false, false, true] :=
  exHist_outcomes.1
example : void (stepG exOps (runF exOps (⟨.s1_15_0, []⟩ : Db) (exHist.take 7)) (.isValid 1)).2 = .ok () ∧
    (runF exOps (⟨.s1_15_0, []⟩ : Db) (exHist.take 7)).tracks.length = 1 ∧
    (runF exOps (⟨.s1_15_0, []⟩ : Db) exHist).tracks.length = 0 := exHist_outcomes.2

end EngineModel.Properties.C15FaultsTracksV1
