/-
C16 — Observing a library never modifies it.

The Lean side is deliberately small (the weight of C16 is the tie: change
counters, statement kinds, raw dumps and file hashes on the real library).
What is proved: in the uniform `step` over operations (statement sequences on
the `Spec.Txn` connection), an operation the monitor classifies as an observer
— every statement it steps is read-only — is the identity on the connection
state *by proof*, returns the answer computed from the unchanged database, can
be repeated and interleaved freely; and the weaker criterion "no writing
statement" already fixes the committed database, under every fault plan.
-/
import EngineModel.Spec.Txn
import EngineModel.Spec.Observe
import Proofs.Observe
import EngineModel.Api.CratesV1
import EngineModel.Db.V2Crates
import EngineModel.TracksV2.Lens
import EngineModel.Spec.Dir
import EngineModel.TracksV1.Stmts
import Proofs.Dir

namespace EngineModel.Properties.C16
open EngineModel.Spec.Txn EngineModel.Spec.Observe EngineModel.Proofs.Txn EngineModel.Proofs.Observe

variable {α β : Type}

/-- An observer is the identity on the connection state (committed database,
open transaction if any), whatever that state is. -/
theorem C16_observers_pure (c : Conn α) (op : Op α β) (h : isObserver op = true) : (step c op).1 = c := by
  rw [step_observer c op h]

/-- An observer answers from the database the connection saw before the call. -/
theorem C16_observer_answer (c : Conn α) (op : Op α β) (h : isObserver op = true) :
    (step c op).2 = some (op.answer c.view) := by
  rw [step_observer c op h]

/-- Under every fault plan the injector can express (read-only statements are never
failed) and at any point of a call, an observer leaves the connection as it is and does not raise. -/
theorem C16_observers_pure_any_plan (fault : Option Nat) (auto : Bool) (seen scopes : Nat)
    (c : Conn α) (op : Op α β) (h : isObserver op = true) :
    (exec fault auto op.cmds seen scopes c).conn = c ∧ (exec fault auto op.cmds seen scopes c).raised = false :=
  readonly_exec fault auto op.cmds seen scopes c (observer_reads op h)

/-- Repeated observation: any sequence of observers leaves the state as it was
and each answers as if it were applied first (so applying one twice gives equal
answers). -/
theorem C16_repeat (c : Conn α) (ops : List (Op α β)) (h : ∀ op ∈ ops, isObserver op = true) :
    run c ops = (c, ops.map fun op => some (op.answer c.view)) :=
  Prod.ext (isRun_ops.idle C16_observers_pure ops c h)
    ((isOutcomes_ops.idle C16_observers_pure ops c h).trans
      (List.map_congr_left fun op ho => C16_observer_answer c op (h op ho)))

/-- Observers can be dropped from (or inserted into) any history without
changing the state it reaches. -/
theorem C16_frame (c : Conn α) (ops : List (Op α β)) :
    (run c ops).1 = (run c (ops.filter fun op => !isObserver op)).1 :=
  (isRun_ops.filter_idle C16_observers_pure ops c).symm

/-- A weaker criterion that still fixes the stored database: a call without any
writing statement — scopes, failures and all — leaves the committed database
as it was (`verify()`-style calls that might open a read transaction). -/
theorem C16_no_write_no_change (cs : List (Cmd α)) (h : ∀ x ∈ cs, x.kind ≠ .write)
    (fault : Option Nat) (auto : Bool) (db : α) :
    (call fault auto cs db).conn.committed = db :=
  nowrite_exec fault auto cs 0 0 (Conn.idle db) h (Linked.idle db) (Or.inl rfl)

/-! ### the accessors of the concrete API models

`Api.CratesV1`, `Db.V2` and `TracksV2.Db` define every public accessor as a
function of the stored tables (and an id).  Put into the monitor's alphabet
(`apiObserver`: the reads it issues + that function as the answer) each of them
is an observer, so — by the theorems above, not by its type — it can be
interleaved anywhere in a history of the model's mutating calls without
changing the state reached, and it answers from the state the mutating calls
alone produce. -/

theorem C16_api_observer {γ : Type} (n : Nat) (q : α → γ) : isObserver (apiObserver n q) = true := by
  simp [isObserver, apiObserver, readOnlyShape, Cmd.kind]

/-- A history whose items are either a mutating call of a model (`left i = some op`) or an
observer: the state reached is the model's fold over the mutating calls alone. -/
theorem run_history {ι ω : Type} (toOp : ι → Op α β) (left : ι → Option ω) (stp : α → ω → α)
    (hm : ∀ db i op, left i = some op → (step (Conn.idle db) (toOp i)).1 = Conn.idle (stp db op))
    (ho : ∀ i, left i = none → isObserver (toOp i) = true) (items : List ι) (db : α) :
    (run (Conn.idle db) (items.map toOp)).1 = Conn.idle ((items.filterMap left).foldl stp db) :=
  (isRun_ops.map toOp).abstracts_filterMap Conn.idle left stp hm
    (fun _ i hl => C16_observers_pure _ _ (ho i hl)) items db

/-- State reached by a history of model calls with accessors interleaved = the
model's fold over the mutating calls alone. -/
theorem C16_api_history {ω : Type} (stp : α → ω → α) (ans : α → β) (items : List (ω ⊕ (Nat × (α → β)))) (db : α) :
    (run (Conn.idle db) (items.map (histOp stp ans))).1
      = Conn.idle ((items.filterMap Sum.getLeft?).foldl stp db) := by
  refine run_history _ _ stp (fun db i op hl => ?_) (fun i hl => ?_) items db
  · obtain rfl : i = .inl op := by cases i <;> simp_all
    exact exec_tot (stp · op) db
  · obtain ⟨nq, rfl⟩ : ∃ nq, i = .inr nq := by cases i <;> simp_all
    exact C16_api_observer nq.1 nq.2

/-- The answers: each accessor answers from the state the mutating calls before
it produce (so two applications with only accessors in between agree). -/
theorem C16_api_answers {ω : Type} (stp : α → ω → α) (ans : α → β) (pre : List (ω ⊕ (Nat × (α → β))))
    (n : Nat) (q : α → β) (db : α) :
    (step (run (Conn.idle db) (pre.map (histOp stp ans))).1 (apiObserver n q)).2
      = some (q ((pre.filterMap Sum.getLeft?).foldl stp db)) := by
  rw [C16_api_history, C16_observer_answer _ _ (C16_api_observer n q)]
  rfl

open EngineModel.Api in
/-- The items of a schema-1.x crate history in the monitor's alphabet: a
mutating call of `Api.CratesV1`, or the model's full observation (`n` read
statements) for the crate handles `h`, track handles `t` and probe names `nm`. -/
def cratesV1Op (s : Pure.Detect.Schema) :
    CratesV1.Op ⊕ (Nat × List CratesV1.Id × List CratesV1.Id × List CratesV1.Name) → Op CratesV1.Db CratesV1.Obs
  | .inl op => histOp (fun d op => (CratesV1.step s d op).1) (fun d => CratesV1.observe s d [] [] []) (.inl op)
  | .inr (n, h, t, nm) => apiObserver n (fun d => CratesV1.observe s d h t nm)

open EngineModel.Api in
/-- Schema-1.x crates (`Api.CratesV1`, every version): the full observation —
`crates`, `root_crates`, `tracks`, and per handle `is_valid`, `name`, `parent`,
`children`, `descendants`, `tracks`, `crate_by_id`, `sub_crate_by_name`,
`containing_crates`, `crates_by_name`, `root_crate_by_name` — interleaved
anywhere, any number of times, in any history leaves the tables exactly as the
history without it. -/
theorem C16_crates_v1 (s : Pure.Detect.Schema)
    (items : List (CratesV1.Op ⊕ (Nat × List CratesV1.Id × List CratesV1.Id × List CratesV1.Name)))
    (db : CratesV1.Db) :
    (run (Conn.idle db) (items.map (cratesV1Op s))).1
      = Conn.idle (CratesV1.run s db (items.filterMap Sum.getLeft?)) := by
  refine run_history _ _ (fun d op => (CratesV1.step s d op).1) (fun db i op hl => ?_) (fun i hl => ?_) items db
  · obtain rfl : i = .inl op := by cases i <;> simp_all
    exact exec_tot (fun d => (CratesV1.step s d op).1) db
  · obtain ⟨⟨n, h, t, nm⟩, rfl⟩ : ∃ q, i = .inr q := by cases i <;> simp_all
    exact C16_api_observer n _

/-- Schema-2.x crates (`Db.V2`): any query of the model interleaved anywhere. -/
theorem C16_crates_v2 {γ : Type} (items : List (Db.V2.Op ⊕ (Nat × (Db.V2.Db → γ)))) (ans : Db.V2.Db → γ) (db : Db.V2.Db) :
    (run (Conn.idle db) (items.map (histOp (fun d op => (Db.V2.step d op).1) ans))).1
      = Conn.idle ((items.filterMap Sum.getLeft?).foldl (fun d op => (Db.V2.step d op).1) db) :=
  C16_api_history _ _ _ _

/-- Schema-2.x tracks (`TracksV2.Db`): `snapshot()` (and with it every getter,
each a projection of it — C06) interleaved anywhere in a history of setters. -/
theorem C16_tracks_v2 (o : TracksV2.FOps)
    (items : List ((Nat × TracksV2.Setter) ⊕ (Nat × (TracksV2.Db → Res TracksV2.Snap)))) (db : TracksV2.Db) (id : Nat) :
    (run (Conn.idle db) (items.map (histOp (fun d c => (TracksV2.Db.set o d c.1 c.2).1)
        (fun d => TracksV2.Db.snapshot o d id)))).1
      = Conn.idle ((items.filterMap Sum.getLeft?).foldl (fun d c => (TracksV2.Db.set o d c.1 c.2).1) db) :=
  C16_api_history _ _ _ _

/-- One public mutating track call of the 1.x model (`create_track`, `track::update`, a setter, `remove_track`) as a
state transformer: a call that throws leaves the tables as they were. -/
def tracksV1Step (o : EngineModel.TracksV1.Fl.FOps) (d : TracksV1.Db) (op : TracksV1.TOp) : TracksV1.Db :=
  match TracksV1.topStep o d op with
  | .ok d' => d'
  | _ => d

/-- Schema-1.x tracks (`TracksV1`): any accessor of the model — a getter `dbGet o · id f`, `snapshot()`
(`dbSnap`), `is_valid` — interleaved anywhere, any number of times, in a history of track calls leaves the tables
exactly as the history without it, and answers from the state the mutating calls before it produce. -/
theorem C16_tracks_v1 {γ : Type} (o : EngineModel.TracksV1.Fl.FOps) (items : List (TracksV1.TOp ⊕ (Nat × (TracksV1.Db → γ))))
    (ans : TracksV1.Db → γ) (db : TracksV1.Db) :
    (run (Conn.idle db) (items.map (histOp (tracksV1Step o) ans))).1
      = Conn.idle ((items.filterMap Sum.getLeft?).foldl (tracksV1Step o) db) ∧
    ∀ (pre : List (TracksV1.TOp ⊕ (Nat × (TracksV1.Db → γ)))) (n : Nat) (q : TracksV1.Db → γ),
      (step (run (Conn.idle db) (pre.map (histOp (tracksV1Step o) ans))).1 (apiObserver n q)).2
        = some (q ((pre.filterMap Sum.getLeft?).foldl (tracksV1Step o) db)) :=
  ⟨C16_api_history _ _ _ _, fun pre n q => C16_api_answers _ _ pre n q db⟩

/-! ### loading, `database_exists`, `create_or_load_database` on an existing library: observers of the directory

`Spec/Dir.lean` models the directory (state of `m.db`, `p.db`, `Database2/`, `Database2/m.db`) and the static
entry points from file-system primitives that *do* create files (SQLite opens read-write-create).  That they
leave the directory alone is therefore a statement about the `path_exists` guards of the code. -/
section dir
open EngineModel.Spec.Dir EngineModel.Proofs.Dir EngineModel.Pure.Detect

/-- `load_database` leaves every directory exactly as it was — whatever is (or is not) in it. -/
theorem C16_load_database_pure (d : Dir) : (loadDatabase d).1 = d := loadDatabase_dir d

/-- `database_exists` (a trial load) likewise. -/
theorem C16_database_exists_pure (d : Dir) : (databaseExists d).1 = d := databaseExists_dir d

/-- `engine::v2::engine_library::load` and `::exists` likewise. -/
theorem C16_engine_library_load_pure (d : Dir) : (v2Load d).1 = d ∧ (v2Exists d).1 = d := ⟨v2Load_dir d, rfl⟩

/-- `create_or_load_database` on a directory that holds a library — in whatever state, both layouts included —
is an observer: nothing is created, the directory is as before. -/
theorem C16_create_or_load_existing_pure (d : Dir) (req : Schema) (h : legacyExists d = true ∨ db2Exists d = true) :
    (createOrLoadAt d req).dir = d ∧ (createOrLoadAt d req).created = false := by
  rw [createOrLoadAt_existing d req h]
  exact ⟨rfl, rfl⟩

/-- Repeated observation of a directory: the second application of each entry point answers as the first. -/
theorem C16_dir_repeat (d : Dir) :
    (loadDatabase (loadDatabase d).1).2 = (loadDatabase d).2 ∧
    (databaseExists (databaseExists d).1).2 = (databaseExists d).2 ∧
    (v2Load (v2Load d).1).2 = (v2Load d).2 := by
  rw [loadDatabase_dir, databaseExists_dir, v2Load_dir]; exact ⟨rfl, rfl, rfl⟩

/-- The guard matters (the defect repaired by 6269a0f): attaching `p.db` without checking that it exists creates
it — loading a 1.x library whose `p.db` is missing modified the directory.  Replayed on the real library:
corpus/C16/load-creates-pdb.txt. -/
theorem C16_load_unguarded_counterexample :
    let d : Dir := ⟨true, .valid, .absent, false, .absent, stampOf .schema_1_18_0_os, stampOf .schema_2_21_2⟩
    (loadDatabaseWith loadLegacySqliteUnguarded loadDb2Sqlite d).1 ≠ d ∧
    (loadDatabaseWith loadLegacySqliteUnguarded loadDb2Sqlite d).1.p = .zero ∧
    (loadDatabase d) = (d, .throw inconsistency) := by
  decide

/-- Likewise for the 2.x loader (the seeded change C16-2: open instead of `path_exists`): with `Database2/` present
but empty, `engine_library::load` creates a zero-byte `Database2/m.db` and later observations answer differently. -/
theorem C16_engine_library_load_unguarded_counterexample :
    let d : Dir := ⟨true, .absent, .absent, true, .absent, stampOf .schema_1_18_0_os, stampOf .schema_2_21_2⟩
    (v2LoadWith loadDb2SqliteUnguarded d).1.dm = .zero ∧
    (v2Exists d).2 = .ok false ∧ (v2Exists (v2LoadWith loadDb2SqliteUnguarded d).1).2 = .ok true ∧
    (v2Load d) = (d, .throw notFound) := by
  decide

end dir

/-! ### non-vacuity: the classification is not trivially true -/

/-- an observer with three reads -/
example : isObserver (⟨[.read, .read, .read], fun n => n + 1⟩ : Op Nat Nat) = true := by decide
example : step (Conn.idle 5) (⟨[.read, .read], fun n => n * 2⟩ : Op Nat Nat) = (Conn.idle 5, some 10) := by rfl
/-- a "getter" that issues an UPDATE is not classified as an observer, and does modify -/
example : isObserver (⟨[.read, .write (fun n => some (n + 1))], fun n => n⟩ : Op Nat Nat) = false := by decide
example : (step (Conn.idle 5) (⟨[.read, .write (fun n => some (n + 1))], fun n => n⟩ : Op Nat Nat)).1
    = Conn.idle 6 := by rfl
/-- a mutating call between two observations changes the second answer, not the first -/
example : (run (Conn.idle 0) [(⟨[.read], id⟩ : Op Nat Nat), ⟨[.write (fun n => some (n + 1))], id⟩, ⟨[.read], id⟩]).2
    = [some 0, some 1, some 1] := by decide

/-- concrete models: a 1.x crate history with the full observation interleaved is not trivial -/
example : (EngineModel.Api.CratesV1.run .schema_1_18_0_os EngineModel.Api.CratesV1.Db.empty
    [.createRoot [65], .createSub 1 [66]]).crate.length = 2 := by decide +kernel

end EngineModel.Properties.C16
