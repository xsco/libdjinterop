/-
C20 — Beat-grid normalisation brackets the track and keeps its tempo.

The Model `Pure.Beatgrid.normalize` is generic over the arithmetic `Num α`; the
driver runs it over hardware `Float` (`floatNum`, tied bit for bit to the C++)
and over exact rationals (`ratNum`, core `Rat`, the Float-vs-ℚ stream).

Three groups of theorems:
  A. for EVERY arithmetic (so also for `Float`): totality on `int` indices
     (`C20_defined`: a grid or `invalid_argument`, never undefined behaviour),
     first index −4, interior positions untouched, the two unconditional
     rejections, and — under the four order laws `OrdLaws` that IEEE comparisons
     satisfy even with NaN — `trim = window`;
  B. over exact rationals, about the INPUT grid `g` (through the Spec `window`,
     not through the model's own `trim`): which grids are accepted / rejected,
     bracket, tempo, interior markers, sortedness, idempotence;
  C. registered witnesses (`_counterexample`) showing which hypotheses are needed.

A is proved in Proofs/BeatgridNum.lean and Proofs/BeatgridWindow.lean
(`trim = window`); B here, from the trimming facts, the shape of a successful
normalisation and the normal form of its result in Proofs/Beatgrid.lean (`trim_parts`,
`normalize_ok_sshape`, `Normalized`).
-/
import EngineModel.Pure.Beatgrid
import EngineModel.Pure.BeatgridRat
import EngineModel.Pure.BeatgridFloat
import Proofs.Beatgrid
import Mathlib.Data.Rat.Floor

namespace EngineModel.Properties.C20
open EngineModel EngineModel.Pure.Beatgrid

/-! ## A. every arithmetic (in particular the `Float` instance the driver runs) -/

section generic
variable {α : Type} (num : Num α)

/-- **Totality.**  On grids whose beat indices are `int` values (the type of the C++ field) and
for any sample count, normalisation returns a grid or throws `invalid_argument`: no `int`
overflow, no out-of-range `double → int` conversion.  (Before the `fix:` to `normalize_beatgrid`
this was false: see `C20_defined_counterexample` for what is left outside.) -/
theorem C20_defined (hc : num.Ceil32Ok) (g : List (Marker α)) (n : Int) (hi : Idx32 g) :
    ∀ u, normalize num g n ≠ .ub u :=
  normalize_defined num hc g n hi

/-- The outcome alphabet, positively: a grid or `invalid_argument`, nothing else. -/
theorem C20_ok_or_invalid (hc : num.Ceil32Ok) (g : List (Marker α)) (n : Int) (hi : Idx32 g) :
    (∃ out, normalize num g n = .ok out) ∨ normalize num g n = .throw .invalid_argument :=
  gen_ok_or_invalid hc hi

/-- The trimmed grid is a contiguous part of the input. -/
theorem C20_trim_infix (g : List (Marker α)) (n : Int) : trim num g n <:+: g :=
  trim_infix num g n

/-- The first marker of a result has beat index −4. -/
theorem C20_gen_first_index (hc : num.Ceil32Ok) (g out : List (Marker α)) (n : Int) (hi : Idx32 g)
    (h : normalize num g n = .ok out) (hne : g ≠ []) :
    ∃ m, out.head? = some m ∧ m.index = -4 :=
  gen_first_index hc hi h hne

/-- A result has as many markers as the trimmed grid and every position but the first and the
last holds the very marker (index and offset) of the trimmed grid. -/
theorem C20_gen_interior_unchanged (hc : num.Ceil32Ok) (g out : List (Marker α)) (n : Int)
    (hi : Idx32 g) (h : normalize num g n = .ok out) (hne : g ≠ []) :
    out.length = (trim num g n).length ∧
    ∀ i, 0 < i → i + 1 < out.length → out[i]? = (trim num g n)[i]? :=
  gen_interior_unchanged hc hi h hne

/-- A result again has `int` beat indices. -/
theorem C20_gen_out_idx32 (hc : num.Ceil32Ok) (g out : List (Marker α)) (n : Int) (hi : Idx32 g)
    (h : normalize num g n = .ok out) (hne : g ≠ []) : Idx32 out :=
  gen_out_idx32 hc hi h hne

/-- Fewer than two usable markers, or beat −4 not before the second usable marker: rejected. -/
theorem C20_gen_reject_of (g : List (Marker α)) (n : Int) (hne : g ≠ [])
    (hc : (trim num g n).length < 2 ∨ ∃ m1, (trim num g n)[1]? = some m1 ∧ m1.index ≤ -4) :
    normalize num g n = .throw .invalid_argument :=
  gen_reject_of hne hc

/-- **Trimming keeps exactly the Spec's window** — the last marker at or before sample 0 (or the
first marker), every marker strictly inside the track, the first marker at or beyond the end (or
the last marker) — for any comparisons satisfying `OrdLaws`. -/
theorem C20_trim_spec (L : OrdLaws num) (g : List (Marker α)) (n : Int) (hs : SortedBy num g)
    (hn : num.lt (num.ofInt 0) (num.ofInt n) = true) :
    trim num g n = window num g n :=
  trim_eq_window L hs hn

end generic

/-- The hardware-float instance keeps its `ceil32` contract, … -/
theorem C20_float_ceil32Ok : floatNum.Ceil32Ok := floatNum_ceil32Ok

/-- … so the comparison-only clauses hold of the very code the driver runs against the C++. -/
theorem C20_float (g : List (Marker Float)) (n : Int) (hi : Idx32 g) :
    (∀ u, normalize floatNum g n ≠ .ub u) ∧
    (∀ out, normalize floatNum g n = .ok out → g ≠ [] →
      (∃ m, out.head? = some m ∧ m.index = -4) ∧
      out.length = (trim floatNum g n).length ∧
      (∀ i, 0 < i → i + 1 < out.length → out[i]? = (trim floatNum g n)[i]?) ∧ Idx32 out) ∧
    (g ≠ [] → ((trim floatNum g n).length < 2 ∨
        ∃ m1, (trim floatNum g n)[1]? = some m1 ∧ m1.index ≤ -4) →
      normalize floatNum g n = .throw .invalid_argument) :=
  ⟨normalize_defined floatNum floatNum_ceil32Ok g n hi,
   fun _ h hne => ⟨gen_first_index floatNum_ceil32Ok hi h hne,
     (gen_interior_unchanged floatNum_ceil32Ok hi h hne).1,
     (gen_interior_unchanged floatNum_ceil32Ok hi h hne).2,
     gen_out_idx32 floatNum_ceil32Ok hi h hne⟩,
   fun hne hc => gen_reject_of hne hc⟩

/-! ## B. exact rationals: the property, about the input grid -/

/-- Strictly increasing in beat index and in sample offset (positive tempo everywhere). -/
def Sorted (g : List (Marker ℚ)) : Prop :=
  g.Pairwise (fun a b => a.index < b.index ∧ a.off < b.off)

/-- Samples per beat of the segment between two markers. -/
def tempo (a b : Marker ℚ) : ℚ := (b.off - a.off) / ((b.index - a.index : Int) : ℚ)

/-- Number of beats from the last marker `l` to the first beat at or beyond the end `n`, along the
last segment `p`–`l`. -/
def beatsToEnd (p l : Marker ℚ) (n : Int) : Int := ⌈((n : ℚ) - l.off) / tempo p l⌉

/-- The exact-rational instance satisfies the order laws and the `ceil32` contract. -/
theorem C20_rat_laws : OrdLaws ratNum ∧ ratNum.Ceil32Ok := ⟨qNum_ordLaws, ratNum_ceil32Ok⟩

/-- What trimming keeps, over ℚ: the Spec's window. -/
theorem C20_window_spec (g : List (Marker ℚ)) (n : Int) (hs : Sorted g) (hn : 0 < n) :
    trim ratNum g n = window ratNum g n :=
  trim_eq_window_q hs hn

/-- **"Overlaps the track"**: the window has two or more markers exactly when the grid has at
least two markers, one of them after sample 0 and one of them before the end. -/
theorem C20_overlap_iff (g : List (Marker ℚ)) (n : Int) (hs : Sorted g) (hn : 0 < n) :
    2 ≤ (window ratNum g n).length ↔
      2 ≤ g.length ∧ (∃ m ∈ g, 0 < m.off) ∧ (∃ m ∈ g, m.off < (n : ℚ)) := by
  rw [← trim_eq_window_q hs hn]
  have hn' : (0 : ℚ) < n := Int.cast_pos.mpr hn
  refine ⟨trim_two_le, ?_⟩
  rintro ⟨hlen, ⟨m1, hm1, hpos⟩, ⟨m2, hm2, hend⟩⟩
  obtain ⟨A, C, hg, -, h6, h2, -⟩ := trim_parts g n
  generalize trim qNum g n = B at hg h6 h2 ⊢
  subst hg
  obtain ⟨hsAB, -, hABC⟩ := List.pairwise_append.mp hs
  rcases B with _ | ⟨h, _ | ⟨y, r⟩⟩
  · -- nothing kept: then nothing was erased, the grid is empty
    obtain rfl : A = [] := h2.resolve_right (by rintro ⟨h, hh, -⟩; cases hh)
    obtain rfl : C = [] := h6.resolve_right (by rintro ⟨l, hl, -⟩; cases hl)
    cases hlen
  · exfalso
    rcases h2 with rfl | ⟨h', hh, hh0⟩
    · -- one marker kept, nothing before it: it is at or beyond the end, and so is `m2`
      obtain ⟨l, hl, hle⟩ := h6.resolve_left (by rintro rfl; exact absurd hlen (Nat.not_succ_le_self 1))
      cases hl
      rcases List.mem_cons.mp hm2 with rfl | hm2
      · exact absurd hend (not_lt.mpr hle)
      · have := (hABC h (List.mem_cons_self ..) m2 hm2).2
        exact absurd (hle.trans_lt this) (not_lt.mpr hend.le)
    · -- one marker kept, at or before sample 0: nothing follows it, and `m1` is not after it
      cases hh
      obtain rfl : C = [] := h6.resolve_right (by
        rintro ⟨l, hl, hle⟩
        rw [List.getLast?_concat] at hl
        cases hl
        exact absurd (hn'.trans_le hle) (not_lt.mpr hh0))
      rw [List.append_nil] at hm1
      rcases List.mem_append.mp hm1 with hm1 | hm1
      · have := ((List.pairwise_append.mp hsAB).2.2 m1 hm1 h (List.mem_cons_self ..)).2
        exact absurd (hpos.trans this) (not_lt.mpr hh0)
      · cases List.mem_singleton.mp hm1
        exact absurd hpos (not_lt.mpr hh0)
  · exact Nat.le_add_left 2 r.length

/-- A single marker, a grid wholly at or before sample 0, or wholly at or beyond the end, is
rejected with `invalid_argument` (no sortedness, no index bound needed). -/
theorem C20_reject_out_of_range (g : List (Marker ℚ)) (n : Int) (hne : g ≠ [])
    (h : g.length < 2 ∨ (∀ m ∈ g, m.off ≤ 0) ∨ (∀ m ∈ g, (n : ℚ) ≤ m.off)) :
    normalize ratNum g n = .throw .invalid_argument := by
  refine gen_reject_of hne (Or.inl (Nat.lt_of_not_le fun h2 => ?_))
  obtain ⟨hlen, ⟨m1, hm1, hpos⟩, ⟨m2, hm2, hend⟩⟩ := trim_two_le h2
  rcases h with h | h | h
  · exact absurd hlen (Nat.not_le.mpr h)
  · exact absurd hpos (not_lt.mpr (h m1 hm1))
  · exact absurd hend (not_lt.mpr (h m2 hm2))

/-- **The rejection set, exactly**, in terms of the window of the input grid:
fewer than two markers overlap the track; or beat −4 would not lie before the second window
marker; or (two window markers) the track ends at or before beat −4 of their segment; or the last
beat index cannot be represented (`beatsToEnd` not an `int32_t`, or the new index above
`INT32_MAX`). -/
theorem C20_reject_iff (g : List (Marker ℚ)) (n : Int) (hs : Sorted g) (hi : Idx32 g) (hn : 0 < n)
    (hne : g ≠ []) :
    normalize ratNum g n = .throw .invalid_argument ↔
      ((window ratNum g n).length < 2 ∨
       (∃ m1, (window ratNum g n)[1]? = some m1 ∧ m1.index ≤ -4) ∨
       (∃ m0 m1, window ratNum g n = [m0, m1] ∧
          (n : ℚ) ≤ m0.off + (((-4 - m0.index : Int)) : ℚ) * tempo m0 m1) ∨
       (∃ p l, (window ratNum g n)[(window ratNum g n).length - 2]? = some p ∧
          (window ratNum g n)[(window ratNum g n).length - 1]? = some l ∧
          2 ≤ (window ratNum g n).length ∧
          (¬ In32 (beatsToEnd p l n) ∨ 2147483647 < l.index + beatsToEnd p l n))) := by
  rw [← trim_eq_window_q hs hn, show @tempo = @qtempo from rfl, show @beatsToEnd = @adjOf from rfl]
  have hdl := trim_dropLast_lt g n
  rcases normalize_front qNum ratNum_ceil32Ok n hne hi with
    hrej | ⟨a, b, rest, pre, p, l, ht, hb4, hf, heq⟩
  · exact iff_of_true hrej.2 (hrej.1.elim .inl (.inr ∘ .inl))
  · have st : QSorted (a :: b :: rest) := ht ▸ QSorted.trim hs
    have hab := (List.pairwise_cons.mp st).1 b (List.mem_cons_self ..)
    have hpl := sorted_pl (hf ▸ sorted_first st hb4)
    rw [heq, lastStep_q_throw_iff hpl.1 hpl.2, ht]
    have hlen : ¬ (a :: b :: rest).length < 2 := Nat.not_lt.mpr (Nat.le_add_left 2 _)
    have h1 : ¬ ∃ m1, (a :: b :: rest)[1]? = some m1 ∧ m1.index ≤ -4 := by
      rintro ⟨m1, hm1, hidx⟩; cases hm1; exact Int.not_le.mpr hb4 hidx
    rw [ht] at hdl
    rcases shape_cases hf with ⟨rfl, rfl, rfl, rfl⟩ | ⟨pre', rfl, hbr⟩
    · -- two markers left: the previous marker is the moved first one
      unfold Unrepr
      rw [firstOf_q, adjOf_first' hab.1 hb4, first'_off_neg]
      constructor
      · rintro (h | h)
        · exact .inr (.inr (.inr ⟨a, l, rfl, rfl, Nat.le_refl 2, h⟩))
        · exact .inr (.inr (.inl ⟨a, l, rfl, h⟩))
      · rintro (h | h | ⟨m0, m1, hm, h⟩ | ⟨p1, l1, hp1, hl1, -, h⟩)
        · exact absurd h hlen
        · exact absurd h h1
        · cases hm; exact .inr h
        · cases hp1; cases hl1; exact .inl h
    · -- three or more: the previous marker is one of the trimmed grid, before the end
      rw [hbr, ← List.cons_append] at hdl hlen h1 ⊢
      have hpn : ¬ (n : ℚ) ≤ p.off := not_le.mpr (hdl p (by
        rw [dropLast_append_pair]; exact List.mem_append_right _ (List.mem_cons_self ..)))
      constructor
      · rintro (h | h)
        · exact .inr (.inr (.inr ⟨p, l, getElem?_penult _ _ _, getElem?_ult _ _ _,
            by rw [List.length_append]; exact Nat.le_add_left 2 _, h⟩))
        · exact absurd h hpn
      · rintro (h | h | ⟨m0, m1, hm, -⟩ | ⟨p1, l1, hp1, hl1, -, h⟩)
        · exact absurd h hlen
        · exact absurd h h1
        · have := congrArg List.length hm
          rw [List.length_append, List.length_cons] at this
          cases pre' <;> cases this
        · obtain ⟨rfl, rfl⟩ := lastTwo_eq hp1 hl1
          exact .inl h

/-- **Acceptance**: a strictly increasing grid that overlaps the track is normalised, provided
beat −4 lies before the second window marker, the track extends beyond beat −4, and the last beat
index is representable. -/
theorem C20_accept_of_overlap (g : List (Marker ℚ)) (n : Int) (hs : Sorted g) (hi : Idx32 g)
    (hn : 0 < n) (h2 : 2 ≤ g.length) (hpos : ∃ m ∈ g, 0 < m.off) (hend : ∃ m ∈ g, m.off < (n : ℚ))
    (h4 : ∀ m1, (window ratNum g n)[1]? = some m1 → -4 < m1.index)
    (hb : ∀ m0 m1, window ratNum g n = [m0, m1] →
      m0.off + (((-4 - m0.index : Int)) : ℚ) * tempo m0 m1 < (n : ℚ))
    (hrep : ∀ p l, (window ratNum g n)[(window ratNum g n).length - 2]? = some p →
      (window ratNum g n)[(window ratNum g n).length - 1]? = some l →
      In32 (beatsToEnd p l n) ∧ l.index + beatsToEnd p l n ≤ 2147483647) :
    ∃ out, normalize ratNum g n = .ok out := by
  have hne : g ≠ [] := by rintro rfl; cases h2
  refine (gen_ok_or_invalid ratNum_ceil32Ok hi).resolve_right ?_
  rw [C20_reject_iff g n hs hi hn hne]
  rintro (hlen | ⟨m1, hm1, hidx⟩ | ⟨m0, m1, hw, hle⟩ | ⟨p, l, hp, hl, -, hun⟩)
  · exact absurd ((C20_overlap_iff g n hs hn).mpr ⟨h2, hpos, hend⟩) (Nat.not_le.mpr hlen)
  · exact absurd hidx (Int.not_le.mpr (h4 m1 hm1))
  · exact absurd hle (not_le.mpr (hb m0 m1 hw))
  · obtain ⟨h1, h3⟩ := hrep p l hp hl
    exact hun.elim (absurd h1) (absurd h3 ∘ Int.not_le.mpr)

/-- The empty grid is returned unchanged. -/
theorem C20_empty (n : Int) : normalize ratNum ([] : List (Marker ℚ)) n = .ok [] := rfl

/-- The first marker has beat index −4. -/
theorem C20_first_index (g out : List (Marker ℚ)) (n : Int) (hi : Idx32 g)
    (h : normalize ratNum g n = .ok out) (hne : g ≠ []) :
    ∃ m, out.head? = some m ∧ m.index = -4 :=
  gen_first_index ratNum_ceil32Ok hi h hne

/-- **Interior markers are kept**: every marker of the input strictly inside the track that is
neither the first nor the last marker of the grid appears in the result unchanged, strictly
between its first and last marker. -/
theorem C20_interior_kept (g out : List (Marker ℚ)) (n : Int) (hs : Sorted g) (hi : Idx32 g)
    (h : normalize ratNum g n = .ok out) (hne : g ≠ []) (m : Marker ℚ) (hm : m ∈ g)
    (h0 : 0 < m.off) (h1 : m.off < (n : ℚ))
    (hbefore : ∃ x ∈ g, x.off < m.off) (hafter : ∃ y ∈ g, m.off < y.off) :
    m ∈ out.dropLast.tail := by
  obtain ⟨a, b, rest, pre, p, l, sh⟩ := normalize_ok_shape_q hne hi h
  rw [sh.interior]
  refine mem_dropLast_tail (trim_keeps hs hm h0 h1) (fun hh => ?_) (fun hl => ?_)
  · -- `m` is not the first kept marker: that one is at or before sample 0, or first in the grid
    obtain ⟨r, hr⟩ := List.head?_eq_some_iff.mp hh
    rcases trim_head_cases hr with hle | hhead
    · exact absurd h0 (not_lt.mpr hle)
    · obtain ⟨x, hx, hxm⟩ := hbefore
      obtain ⟨g', rfl⟩ := List.head?_eq_some_iff.mp hhead
      rcases List.mem_cons.mp hx with rfl | hx
      · exact lt_irrefl _ hxm
      · exact lt_asymm hxm ((List.pairwise_cons.mp hs).1 x hx).2
  · -- nor the last: that one is at or beyond the end, or last in the grid
    obtain ⟨r, hr⟩ := List.getLast?_eq_some_iff.mp hl
    rcases trim_last_cases hr with hle | hlast
    · exact absurd h1 (not_lt.mpr hle)
    · obtain ⟨y, hy, hmy⟩ := hafter
      obtain ⟨g', rfl⟩ := List.getLast?_eq_some_iff.mp hlast
      rcases List.mem_append.mp hy with hy | hy
      · exact lt_asymm hmy ((List.pairwise_append.mp hs).2.2 y hy m (List.mem_cons_self ..)).2
      · cases List.mem_singleton.mp hy; exact lt_irrefl _ hmy

/-- … and nothing else is: every marker strictly between the first and the last marker of the
result is a marker of the input, strictly inside the track. -/
theorem C20_interior_inside (g out : List (Marker ℚ)) (n : Int) (hs : Sorted g) (hi : Idx32 g)
    (h : normalize ratNum g n = .ok out) (hne : g ≠ []) (m : Marker ℚ)
    (hm : m ∈ out.dropLast.tail) : m ∈ g ∧ 0 < m.off ∧ m.off < (n : ℚ) := by
  obtain ⟨a, b, rest, pre, p, l, sh⟩ := normalize_ok_sshape hs hne hi h
  have N := normalize_ok_normalized hs hne hi h
  exact ⟨trim_mem (List.dropLast_subset _ (List.mem_of_mem_tail (sh.interior ▸ hm))),
    N.after_start m hm, N.before_end m (List.mem_of_mem_tail hm)⟩

/-- Position by position: the result has the length of the window and agrees with it everywhere
but at the first and the last position. -/
theorem C20_interior_unchanged (g out : List (Marker ℚ)) (n : Int) (hs : Sorted g) (hi : Idx32 g)
    (hn : 0 < n) (h : normalize ratNum g n = .ok out) (hne : g ≠ []) :
    out.length = (window ratNum g n).length ∧
    ∀ i, 0 < i → i + 1 < out.length → out[i]? = (window ratNum g n)[i]? := by
  rw [← trim_eq_window_q hs hn]; exact gen_interior_unchanged ratNum_ceil32Ok hi h hne

/-- The tempo of the first and of the last segment of the window is kept. -/
theorem C20_tempo_kept (g out : List (Marker ℚ)) (n : Int) (hs : Sorted g) (hi : Idx32 g)
    (hn : 0 < n) (h : normalize ratNum g n = .ok out) (hne : g ≠ []) :
    let t := window ratNum g n
    (∀ a b a' b', t[0]? = some a → t[1]? = some b → out[0]? = some a' → out[1]? = some b' →
        tempo a' b' = tempo a b) ∧
    (∀ a b a' b', t[t.length - 2]? = some a → t[t.length - 1]? = some b →
        out[out.length - 2]? = some a' → out[out.length - 1]? = some b' → tempo a' b' = tempo a b) := by
  rw [← trim_eq_window_q hs hn, show @tempo = @qtempo from rfl]
  obtain ⟨a, b, rest, pre, p, l, sh⟩ := normalize_ok_sshape hs hne hi h
  have hfirst := sh.tempo_first
  have hlast := sh.tempo_last
  rw [sh.ht, sh.hout]
  rcases shape_cases sh.hf with ⟨rfl, rfl, rfl, rfl⟩ | ⟨pre', rfl, hbr⟩
  · -- two markers: the first segment is the last one, moved at both ends
    refine ⟨?_, ?_⟩ <;>
    · intro x y x' y' hx hy hx' hy'
      cases hx; cases hy; cases hx'; cases hy'
      exact hlast.trans hfirst
  · constructor
    · intro x y x' y' hx hy hx' hy'
      obtain ⟨r', hr'⟩ := same_head (l' := last' p l n) hbr
      rw [List.cons_append, hr'] at hx' hy'
      cases hx; cases hy; cases hx'; cases hy'
      exact hfirst
    · intro x y x' y' hx hy hx' hy'
      rw [hbr, ← List.cons_append] at hx hy
      obtain ⟨rfl, rfl⟩ := lastTwo_eq hx hy
      obtain ⟨rfl, rfl⟩ := lastTwo_eq hx' hy'
      exact hlast

/-- The last marker lies at or beyond the end of the track and less than one beat past it. -/
theorem C20_bracket (g out : List (Marker ℚ)) (n : Int) (hs : Sorted g) (hi : Idx32 g)
    (h : normalize ratNum g n = .ok out) (hne : g ≠ []) :
    ∃ p l, out[out.length - 2]? = some p ∧ out[out.length - 1]? = some l ∧
      (n : ℚ) ≤ l.off ∧ l.off < (n : ℚ) + tempo p l := by
  obtain ⟨pre, p, l, rfl, hb⟩ := (normalize_ok_normalized hs hne hi h).bracket
  exact ⟨p, l, getElem?_penult _ _ _, getElem?_ult _ _ _, hb⟩

/-- The result is again strictly increasing, with `int` indices. -/
theorem C20_sorted (g out : List (Marker ℚ)) (n : Int) (hs : Sorted g) (hi : Idx32 g)
    (h : normalize ratNum g n = .ok out) (hne : g ≠ []) : Sorted out ∧ Idx32 out :=
  ⟨(normalize_ok_normalized hs hne hi h).sorted, (normalize_ok_normalized hs hne hi h).idx⟩

/-- **Idempotence**, exact over ℚ and without any overflow caveat ("up to rounding" over floats
is what the Float-vs-ℚ stream of the tie measures). -/
theorem C20_idempotent (g out : List (Marker ℚ)) (n : Int) (hs : Sorted g) (hi : Idx32 g)
    (hn : 0 < n) (h : normalize ratNum g n = .ok out) (hne : g ≠ []) :
    normalize ratNum out n = .ok out :=
  (normalize_ok_normalized hs hne hi h).fixed hn

/-! ## C. witnesses -/

/-- `Idx32` in `C20_defined` is needed: beat indices that are not `int` values (impossible for the
C++ field, possible for the Model's `Int`) can overflow the 64-bit index arithmetic. -/
theorem C20_defined_counterexample :
    normalize ratNum [⟨-9223372036854775808, 0⟩, ⟨1, 1⟩] 10 = .ub .signed_overflow := by
  decide +kernel

/-- Overlapping the track is not sufficient for acceptance: beat −4 must lie before the second
window marker (otherwise moving the first marker there would un-sort the grid). -/
theorem C20_accept_of_overlap_counterexample :
    2 ≤ (window ratNum [⟨-6, -100⟩, ⟨-4, 100⟩, ⟨0, 500⟩] 1000).length ∧
    normalize ratNum [⟨-6, -100⟩, ⟨-4, 100⟩, ⟨0, 500⟩] 1000 = .throw .invalid_argument := by
  decide +kernel

/-- The former undefined-behaviour witnesses (signed `int` overflow in `index[1] − index[0]`,
`4 + index[0]`, `index += adjustment`; out-of-range `double → int32_t` conversion), replayed on the
real library before the `fix:`; with it, a grid or `invalid_argument`. -/
theorem C20_former_ub_witnesses :
    normalize ratNum [⟨-4, 0⟩, ⟨2147483644, 2147483648⟩] 2147483648 =
      .ok [⟨-4, 0⟩, ⟨2147483644, 2147483648⟩] ∧
    normalize ratNum [⟨2147483646, 0⟩, ⟨2147483647, 400⟩] 1000 = .throw .invalid_argument ∧
    normalize ratNum [⟨-2147483648, 0⟩, ⟨2147483647, 400⟩] 1000 = .throw .invalid_argument ∧
    normalize ratNum [⟨0, 0⟩, ⟨1, 1 / 1000000000⟩] 1000000000000000 =
      .throw .invalid_argument := by
  decide +kernel

/-! ### non-vacuity -/
example : normalize ratNum [⟨0, 0⟩, ⟨4, 400⟩, ⟨8, 800⟩] 1000 =
    .ok [⟨-4, -400⟩, ⟨4, 400⟩, ⟨10, 1000⟩] := by decide +kernel

/-- The window of a grid with markers before sample 0 and beyond the end. -/
example : window ratNum [⟨-8, -900⟩, ⟨-4, -500⟩, ⟨0, -100⟩, ⟨4, 300⟩, ⟨8, 700⟩, ⟨12, 1100⟩,
      ⟨16, 1500⟩] 1000 = [⟨0, -100⟩, ⟨4, 300⟩, ⟨8, 700⟩, ⟨12, 1100⟩] := by decide +kernel

/-- The hypotheses of `C20_accept_of_overlap` / `C20_idempotent` are met by a concrete grid. -/
example : Sorted [⟨0, 0⟩, ⟨4, 400⟩, ⟨8, 800⟩] ∧ Idx32 ([⟨0, 0⟩, ⟨4, 400⟩, ⟨8, 800⟩] : List (Marker ℚ)) := by
  constructor
  · unfold Sorted; decide +kernel
  · unfold Idx32; decide +kernel

/-- The third cause of rejection: two markers left, track ends before beat −4 of the segment
(beat −4 is at sample 999). -/
example : normalize ratNum [⟨-104, -1⟩, ⟨-3, 1009⟩] 5 = .throw .invalid_argument := by
  decide +kernel

end EngineModel.Properties.C20
