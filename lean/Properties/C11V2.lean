/-
C11, schema 2.x (crate tables) — the stored database stays a well-formed Engine library.

`wfRaw` / `wfChains` (Db/V2Wf.lean) are the executable predicates the tie evaluates on the rows an
independent reader dumps from the real SQLite file after every step: Playlist and PlaylistEntity ids a key,
positive, within the AUTOINCREMENT counters; the nextListId / nextEntityId chains one acyclic list per key
covering all rows (walking back from the tail meets every row of the key exactly once); every parentListId
leads to a root through existing rows (parent ∈ live ∪ {0}, no cycle); titles valid and unique among siblings;
every PlaylistEntity row refers to an existing playlist and an existing track, no pair twice; track ids a key.
Here: every state reachable through the modelled API satisfies them.
The per-track derived columns of C11 are not covered here (see Properties/C11V2Tracks.lean).
-/
import Proofs.CratesV2Run
import Proofs.CratesV2WfConv

namespace EngineModel.Properties.C11V2
open EngineModel EngineModel.Db.Chain EngineModel.Db.V2 EngineModel.Spec

/-- The invariants are kept by every operation of the crate / track API … -/
theorem C11V2_step_preserves {S : Ord} {d : Db} (h : Inv S d) (ho : AllOwn d) (op : Db.V2.Op) (hapi : apiOp op = true) :
    Inv (ordNext S (absF d) op (step d op).2) (step d op).1 ∧ AllOwn (step d op).1 :=
  ⟨inv_step h op (memOp_of_apiOp hapi), allOwn_step h ho op hapi⟩

/-- … and imply the executable well-formedness predicate. -/
theorem C11V2_inv_wfRaw {S : Ord} {d : Db} (h : Inv S d) (ho : AllOwn d) : wfRaw d = true :=
  wfRaw_of_inv h ho

/-- reachable ⇒ WfRaw: after every history of the crate / track API from the empty library (hence after every
prefix of it) the raw tables are well-formed. -/
theorem C11V2_reachable_wfRaw (ops : List Db.V2.Op) (hapi : ops.all apiOp = true) :
    wfRaw (run Db.empty ops) = true := by
  obtain ⟨_, hI, ho⟩ := inv_allOwn_hist ops hapi
  exact wfRaw_of_inv hI ho

/-- What `wfRaw` rests on, in logical form: the chains are single acyclic lists covering all rows (from the
representation relation of C09: the walk from the tail returns a duplicate-free list containing exactly the ids
of the rows of the key), parents are live or 0 and the parent relation has no cycle, entries reference live
playlists and live tracks of the library's own database. -/
theorem C11V2_reachable_structure (ops : List Db.V2.Op) (hapi : ops.all apiOp = true) :
    let d := run Db.empty ops
    (∀ k, ∃ l, walkIds d.pl k = .ok l ∧ l.Nodup ∧ ∀ x, x ∈ l ↔ ∃ r ∈ d.pl, r.id = x ∧ r.key = k) ∧
    (∀ k, ∃ l, walkIds d.pe k = .ok l ∧ l.Nodup ∧ ∀ x, x ∈ l ↔ ∃ r ∈ d.pe, r.id = x ∧ r.key = k) ∧
    (∀ r ∈ d.pl, r.key = 0 ∨ r.key ∈ ids d.pl) ∧
    (∀ x, (absF d).isAncestor x x = false) ∧
    (∀ e ∈ d.pe, e.key ∈ ids d.pl ∧ e.val.track ∈ d.tracks ∧ e.val.uuid = 0) := by
  intro d
  obtain ⟨_, hI, ho⟩ := inv_allOwn_hist ops hapi
  refine ⟨walkIds_covers hI.ch.rk, walkIds_covers hI.ch.re, ?_, hI.pl.wf.acyclic, ?_⟩
  · exact fun r hr => key_zero_or_live hI.pl.wf hr
  · intro e he
    have hu := ho (core e) (mem_cores.mpr ⟨e, he, rfl⟩)
    have := hI.mem.live (core e) (mem_cores.mpr ⟨e, he, rfl⟩) hu
    exact ⟨this.1, this.2, hu⟩

/-- Not only histories from the empty library: ANY state the executable check accepts — e.g. a library loaded from
disk whose dump passes `wfRaw` — satisfies the proof-level invariants, for the Spec state read off its tables
by the library's own walks.  Every per-operation theorem of C07V2 / C08V2 / C09 (stated for `Inv` / `ChInv` /
`PlInv`) therefore applies to it. -/
theorem C11V2_wfRaw_gives_invariants (d : Db) (h : wfRaw d = true) : Inv (readOrd d) d :=
  inv_of_wfRaw h

/-- … and well-formedness is kept along every history of the crate / track API from such a state (all of whose
entries belong to the library's own database). -/
theorem C11V2_wellformed_stays_wellformed (d : Db) (h : wfRaw d = true) (hown : d.pe.all (fun e => e.val.uuid == 0) = true)
    (ops : List Db.V2.Op) (hapi : ops.all apiOp = true) : wfRaw (run d ops) = true := by
  have ho : AllOwn d := by
    intro c hc
    obtain ⟨r, hr, rfl⟩ := mem_cores.mp hc
    rw [List.all_eq_true] at hown
    simpa [core] using hown r hr
  obtain ⟨_, hI, ho'⟩ := inv_allOwn_run (inv_of_wfRaw h) ho ops hapi
  exact wfRaw_of_inv hI ho'

/- Full statement for the chain part (false, see `C11V2_chains_counterexample`):
   ∀ ops, wfChains (run Db.empty ops) = true. -/
/-- The chain part alone also holds under the table-level playlist_entity_table operations (which may address
playlists and tracks that do not exist), as long as the track ids passed to add_back are positive. -/
theorem C11V2_reachable_wfChains_partial (ops : List Db.V2.Op) (hok : ops.all okOp = true) :
    wfChains (run Db.empty ops) = true := by
  obtain ⟨_, _, h⟩ := chInv_hist ops hok
  exact wfChains_of_chInv h

/-- … and fails without that restriction (known finding, findings/C09.json: the schema's delete trigger is
declared `WHEN OLD.trackId > 0`). -/
theorem C11V2_chains_counterexample :
    wfChains (run Db.empty [.peAddBack 3 2 0 false, .peAddBack 3 3 0 false, .peAddBack 3 0 0 false, .peRemove 3 3]) = false := by
  decide +kernel

/-! ### non-vacuity: a history with a deep forest, re-parenting, contents and removals -/

def sampleOps : List Db.V2.Op :=
  [.createRoot [97], .createSub 1 [98], .createSub 2 [99], .createRoot [100], .createTrack, .createTrack,
   .addTrack 3 1, .addTrack 3 2, .addTrack 4 2, .setParent 4 (some 3), .removeTrack 1, .createRootAfter [101] 1,
   .removeCrate 2, .createSub 5 [97]]

example : sampleOps.all apiOp = true := by decide +kernel
example : wfRaw (run Db.empty sampleOps) = true := by decide +kernel
example : (run Db.empty (sampleOps.take 12)).pl.map (fun r => (r.id, r.key, r.next)) = [(1, 0, 5), (2, 1, 0), (3, 2, 0), (4, 3, 0), (5, 0, 0)] := by decide +kernel
/-- a state that was NOT built by a history from the empty library (ids 7, 9, 12; a foreign entry): accepted by
`wfRaw`, hence covered by `C11V2_wfRaw_gives_invariants` -/
def loaded : Db := ⟨[⟨7, 0, 9, [97]⟩, ⟨9, 0, 0, [98]⟩, ⟨12, 9, 0, [99]⟩], 15, [⟨4, 9, 6, ⟨3, 0⟩⟩, ⟨6, 9, 0, ⟨3, 5⟩⟩], 8, [3, 5], 5⟩
example : wfRaw loaded = true := by decide +kernel
/-- `wfRaw` is not trivially true: it rejects a table with a dangling successor. -/
example : wfRaw { Db.empty with pl := [⟨1, 0, 7, [97]⟩], plSeq := 1 } = false := by decide +kernel

end EngineModel.Properties.C11V2
