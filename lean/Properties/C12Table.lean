/-
C12 — the finite table, decided inside the kernel (not imported by Properties.lean: built
on demand, within a time budget, by tools/props/C12.py after it regenerated
EngineModel/Gen/SchemaFacts.lean from the libraries the real code created and from the
hydrated reference scripts).

`classes_checked` is where the kernel lexes the DDL texts: every text whose class is another text,
and that text; `table_checked` compares the catalogs on class indices (the kernel evaluates these two
and `texts_comment_free` in the forms of Proofs/SchemaFactsEval.lean, which are less work for it than
the checks as specified); `C12_table` lifts both to the comparison of the property, `schemaEq`, on the
catalogs as read back (`toDump`).
-/
import EngineModel.Gen.SchemaFacts
import Proofs.SchemaFactsEval
import Properties.C12

namespace EngineModel.Properties.C12Table
open EngineModel.Spec.SchemaDump EngineModel.Spec.SchemaFacts EngineModel.Gen.SchemaFacts

theorem classes_checked : classesOk texts cls = true :=
  classesOk_of_walk (by decide +kernel) (by decide +kernel)

theorem table_checked : tableOk cls dumps pairs = true :=
  tableOk_of_packed (B := cls.length + 1) (by decide +kernel) (by decide +kernel)

/-- Every created catalog equals — modulo whitespace and identifier quoting of the stored
DDL — every reference catalog of its schema version (the recorded finding excepted, see
`excluded` and `C12_table_counterexample`). -/
theorem C12_table :
    ∀ p ∈ pairs, schemaEq (toDump texts strs (dumpAt dumps p.1)) (toDump texts strs (dumpAt dumps p.2)) = true :=
  tableOk_sound strs classes_checked table_checked

theorem witness_checked :
    (excludedWitness.all fun w => noCounterpart texts strs (dumpAt dumps w.1) (dumpAt dumps w.2.1) w.2.2) = true := by
  decide +kernel

/-- The pairs left out of `pairs` are the recorded finding, and they really differ: the
created 1.18.0-desktop catalog is NOT `schemaEq` to the ep-1.5.1 reference catalog (one
trigger is spelt differently there; the three reference dumps of that version disagree). -/
theorem C12_table_counterexample :
    ∀ w ∈ excludedWitness,
      schemaEq (toDump texts strs (dumpAt dumps w.1)) (toDump texts strs (dumpAt dumps w.2.1)) = false := by
  intro w hw
  have h := (List.all_eq_true.1 witness_checked) w hw
  unfold noCounterpart at h
  split at h
  · exact absurd h (by simp)
  · next r hr =>
    have hmem : toRow texts strs r ∈ (toDump texts strs (dumpAt dumps w.1)).master :=
      List.mem_map_of_mem (List.mem_of_getElem? hr)
    refine C12.schemaEq_detects hmem ?_
    intro r' hr'
    obtain ⟨r0, hr0, rfl⟩ := List.mem_map.1 hr'
    have := (List.all_eq_true.1 h) r0 hr0
    simpa using this

/-- What `canon` forgets beyond whitespace and identifier quoting — comments, dropped like
whitespace as SQLite's own tokenizer does — cannot matter here: no compared text contains
`--` or `/*` at all. -/
theorem texts_comment_free : textsCommentFree texts = true :=
  textsCommentFree_of_scan (by decide +kernel)

/-- non-vacuity: the table is not empty -/
example : pairs ≠ [] := by decide +kernel

end EngineModel.Properties.C12Table
