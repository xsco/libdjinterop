/-
Property C18 — a row written through the schema-2.x table API reads back as written.

Model: `EngineModel/Table/{Core,Store,Track}.lean`, and for the playlist, entity and Information theorems of the
second half `Table/Lists.lean`, `Table/Info.lean`; the INSERT / UPDATE / SELECT
binding tables and the accessor tables are those of `EngineModel/Gen/Bindings.lean`,
regenerated from the C++ source on every run.  Spec: `normRowT` (what `get` must
return after `add` / `update`), `normSetT` (after `set_<member>`), `fromAcc`
(what an accessor value denotes), written from the public headers and the
schema DDL (`Table/Names.lean`).

Theorems are stated for *any* statements satisfying the decidable alignment
predicate `alignedT` (every member bound to its own column with the conversion
of its declared type, none twice, none missing; every accessor on its member's
column with its member's type and schema guard; remove() checking the row count)
and are closed for the statements of the current source by evaluation
(`C18_track_bindings_aligned` = `track_bindings_aligned`, Proofs/TableTrack.lean:
`decide` of `alignedTs`, which compares each write statement, sorted by column,
with the Spec's bindings and implies `alignedT`).  `TDb.Wf` is the invariant of reachable states
(`C18_track_histories`): ids bounded by the AUTOINCREMENT counter, every column
typed (`rowTypedT`: timestamp columns within the range `to_time_point` converts,
blob columns of their own kind), the database clock a representable time point;
on such states `get` and every accessor are defined (`C18_track_get_defined`,
`C18_track_no_ub`): definedness of `get` is a conclusion from `d.Wf`, never a hypothesis of a theorem below.  `wtRowT` / `wtOp` say that
argument values have their declared C++ types (fixed-width integer ranges) —
they restrict nothing a C++ caller can pass.
-/
import Proofs.TableTrackWf
import Proofs.TableTrackQueries
import Proofs.TableLists
import Proofs.TableListsWf
import Proofs.TableEntity
import Proofs.TableListsTyped
import Proofs.TableInfo

namespace EngineModel.Properties.C18
open EngineModel EngineModel.Table

/-- The binding tables regenerated from the current source are aligned with the
Spec on each of the seven 2.x schema versions (three distinct column lists). -/
theorem C18_track_bindings_aligned :
    ∀ s : Schema2, ∃ st, genStmts s = some st ∧ alignedT s st = true :=
  track_bindings_aligned

/-- **Round trip, from alignment.**  If `add r` succeeds with id `i` then `get i`
returns the row written, in normal form (`normRowT`: the id assigned, time
points in whole seconds, members without a column at their constants, the
origin pair fixed up when left unset). -/
theorem C18_track_roundtrip {s : Schema2} {st : TStmts} (ha : alignedT s st = true)
    {d d' : TDb} (hwf : d.Wf) {r : Row TField} (hr : wtRowT r) {i : Int}
    (h : tAdd st d r = (d', .ok i)) :
    tGet st d' i = .ok (some (normRowT s d.uuid none i r)) :=
  track_add_get ha hwf.ids hr h

/-- `add` leaves every other row as it was. -/
theorem C18_track_add_frame {s : Schema2} {st : TStmts} (ha : alignedT s st = true) {d d' : TDb}
    {r : Row TField} {i : Int} (h : tAdd st d r = (d', .ok i)) (j : Int) (hj : j ≠ i) :
    findRow .id d'.rows j = findRow .id d.rows j := by
  obtain ⟨hins, _⟩ := alignedT_iff.mp ha
  obtain ⟨l, he, rfl, hid, rfl⟩ := tAdd_row hins h
  show findRow .id (d.rows ++ [_]) j = _
  unfold findRow
  rw [List.find?_append]
  cases d.rows.find? (fun r => rowId TCol.id r == j) with
  | some x => rfl
  | none =>
    have : (d.seq + 1 == j) = false := by simp; omega
    simp only [Option.none_or, List.find?_cons, List.find?_nil, hid, this]

/-- **Update.**  After `update r` of an existing row, `get r.id` returns the row
written, in normal form; the last-edit time is the database's stamp on 2.20.3+
(the hypothesis on the clock says the stamp is representable as a time point);
every other row and the counters are untouched. -/
theorem C18_track_update {s : Schema2} {st : TStmts} (ha : alignedT s st = true)
    {d d' : TDb} {r : Row TField} (hr : wtRowT r) {i : Int} (hid : r .id = .int i)
    {old : Raw TCol} (hex : findRow .id d.rows i = some old)
    (hclk : in64 (d.clock * 1000000000) = true)
    (h : tUpdate s st d r = (d', .ok ())) :
    tGet st d' i = .ok (some (normRowT s d.uuid (if s.ge .s2_20_3 then some d.clock else none) i r))
    ∧ (∀ j, j ≠ i → findRow .id d'.rows j = findRow .id d.rows j)
    ∧ d'.seq = d.seq ∧ d'.uuid = d.uuid ∧ d'.clock = d.clock :=
  track_update_get ha hr hid hex hclk h

/-- **`get` is defined on every well-formed state** (hence on every state
reachable through the API, `C18_track_histories`): `nullopt` for an id with no
row, a row otherwise — never undefined behaviour (`to_time_point` overflow),
never an exception (`from_blob` of a foreign blob). -/
theorem C18_track_get_defined {s : Schema2} {st : TStmts} (ha : alignedT s st = true) {d : TDb} (hwf : d.Wf) (i : Int) :
    (findRow .id d.rows i = none ∧ tGet st d i = .ok none) ∨
    (∃ raw g, findRow .id d.rows i = some raw ∧ tGet st d i = .ok (some g)) :=
  track_get_defined ha hwf i

/-- **No operation of `track_table` has undefined behaviour on a well-formed
state**, whatever its arguments (ids of nonexistent rows, ill-typed rows,
unencodable blobs …). -/
theorem C18_track_no_ub {s : Schema2} {st : TStmts} (ha : alignedT s st = true) {d : TDb} (hwf : d.Wf) (u : Ub) :
    (∀ r, (tAdd st d r).2 ≠ .ub u) ∧ (∀ r, (tUpdate s st d r).2 ≠ .ub u) ∧
    (∀ i, (tRemove st d i).2 ≠ .ub u) ∧ (∀ f i v, (tSetc s st d f i v).2 ≠ .ub u) ∧
    (∀ i, tGet st d i ≠ .ub u) ∧ (∀ f i, tGetc s st d f i ≠ .ub u) :=
  ⟨fun r => tAdd_no_ub st d r u, fun r => tUpdate_no_ub s st d r u, fun i => tRemove_no_ub st d i u,
   fun f i v => tSetc_no_ub s st d f i v u, fun i => tGet_no_ub ha hwf i u, fun f i => tGetc_no_ub ha hwf f i u⟩

/-- **Per-column getter.**  On an existing row of a well-formed state `get` is
defined, and the getter of a member the schema has a column for denotes
(`fromAcc`) the member of the row `get` returns; on a schema without the column
it reports `unsupported_operation`. -/
theorem C18_track_column_get {s : Schema2} {st : TStmts} (ha : alignedT s st = true) {d : TDb} (hwf : d.Wf) {i : Int}
    {raw : Raw TCol} (hfind : findRow .id d.rows i = some raw) {f : TField} (hf : f ≠ .id) :
    ∃ g, tGet st d i = .ok (some g) ∧
      (if f.present s then ∃ v, tGetc s st d f i = .ok v ∧ fromAcc f v = g f
       else tGetc s st d f i = .throw (.dj "unsupported_operation")) :=
  track_getc_wf ha hwf hfind hf

/-- **Per-column setter changes that column only.**  If `set_<f>(i, v)` succeeds
on a well-formed state then the row existed, `get i` was defined on it (`g0`),
and afterwards `get i` returns `g0` with member `f` replaced by `v` and the
database-maintained members re-derived (`normSetT`); every other row and the
counters are untouched. -/
theorem C18_track_column_set_frame {s : Schema2} {st : TStmts} (ha : alignedT s st = true)
    {d d' : TDb} (hwf : d.Wf) {i : Int} {f : TField} (hf : f ≠ .id) {v : FVal}
    (hv : wtv f.accTy v = true) (h : tSetc s st d f i v = (d', .ok ())) :
    ∃ g0, tGet st d i = .ok (some g0)
    ∧ tGet st d' i = .ok (some (normSetT s d.uuid d.clock f v g0))
    ∧ (∀ j, j ≠ i → findRow .id d'.rows j = findRow .id d.rows j)
    ∧ d'.seq = d.seq ∧ d'.uuid = d.uuid ∧ d'.clock = d.clock := by
  obtain ⟨_, _, hsel, _⟩ := alignedT_iff.mp ha
  rcases tSetc_aligned ha hf d i v with ⟨e, he⟩ | ⟨x, old, hpres, hw, hold, hidcol, hu, _⟩
  · rw [he] at h; cases h
  rw [h] at hu
  obtain ⟨g0, hget0⟩ := track_get_of_find ha hwf hold
  -- the row after the SET, before the triggers
  have hA : ∀ g, view tSpec (TField.present s) (assign old [(f.col, x)]) g = .ok (setMember f v g0 g) := by
    intro g
    show view _ _ (setCol old (tSpec.colOf f) x) g = _
    rw [view_setCol tSpec_ok]
    unfold setMember
    split
    · rename_i h
      rw [if_pos h.1, h.1]
      exact acc_write_read f hv hw
    · rename_i h
      rw [if_neg (fun hg => h ⟨hg, hg ▸ hpres⟩)]
      exact (readRow_eq_ok_iff tSpec_ok hsel).mp (tGet_found hold hget0) g
  exact ⟨g0, hget0, tUpdateWhereId_get hsel hold hidcol hA
    (RowTyped.setCol (hwf.rowTyped (findRow_some hold).1) hv hw).originTyped hwf.clk hu⟩

/-- The Spec of a setter, unfolded: members other than `f`, the origin pair and
the last-edit time are exactly what they were. -/
theorem C18_track_set_touches_one_member (s : Schema2) (uuid : Val) (clock : Int) (f : TField) (v : FVal)
    (r0 : Row TField) (g : TField) (h1 : g ≠ f) (h2 : g ≠ .origin_track_id)
    (h3 : g ≠ .origin_database_uuid) (h4 : g ≠ .last_edit_time) :
    normSetT s uuid clock f v r0 g = r0 g := by
  unfold normSetT
  rw [stampRowT_other _ _ (Or.inl h4), fixRowT_other _ _ h2 h3]
  simp [setMember, h1]

/-- **Missing rows.**  Every column accessor and `remove` naming an id with no
row reports an error and leaves the table as it was. -/
theorem C18_track_missing_row_errors {s : Schema2} {st : TStmts} (ha : alignedT s st = true) {d : TDb} {i : Int}
    (hmiss : findRow .id d.rows i = none) :
    (∀ f, f ≠ .id → ∃ e, tGetc s st d f i = .throw e) ∧
    (∀ f v, f ≠ .id → ∃ e, tSetc s st d f i v = (d, .throw e)) ∧
    tRemove st d i = (d, .throw .invalid_argument) :=
  track_missing_row ha hmiss

/-- **Histories.**  The invariant the theorems above assume holds after every
sequence of add / update / set_<member> / remove with well-typed arguments,
from any state that satisfies it (in particular the empty table). -/
theorem C18_track_histories {s : Schema2} {st : TStmts} (ha : alignedT s st = true) {d : TDb} (hwf : d.Wf)
    (ops : List TOp) (hops : ∀ op ∈ ops, wtOp op) : (tRun s st d ops).Wf :=
  (tRun_isRun s st).inv_of (Inv := TDb.Wf) (fun _ _ h hop => wf_step ha h hop) ops d hwf hops

/-- The round trip after any history, for the statements of the current source:
`get` after `add` returns the row written, and `get` of any id is defined. -/
theorem C18_track_roundtrip_current (s : Schema2) :
    ∃ st, genStmts s = some st ∧
      ∀ (uuid : Val) (clock : Int), uuidTyped uuid = true → in64 (clock * 1000000000) = true →
      ∀ (ops : List TOp), (∀ op ∈ ops, wtOp op) →
        let d := tRun s st { TDb.empty with uuid := uuid, clock := clock } ops
        (∀ j, ∃ o, tGet st d j = .ok o) ∧
        ∀ (r : Row TField), wtRowT r → ∀ (d' : TDb) (i : Int),
          tAdd st d r = (d', .ok i) → tGet st d' i = .ok (some (normRowT s d.uuid none i r)) := by
  obtain ⟨st, h1, h2⟩ := C18_track_bindings_aligned s
  refine ⟨st, h1, ?_⟩
  intro uuid clock hu hclk ops hops d
  have hwf := C18_track_histories h2 (TDb.empty_wf uuid clock hu hclk) ops hops
  refine ⟨fun j => ?_, fun r hr d' i h => track_add_get h2 hwf.ids hr h⟩
  rcases track_get_defined h2 hwf j with ⟨_, h⟩ | ⟨_, g, _, h⟩
  · exact ⟨_, h⟩
  · exact ⟨_, h⟩

/-- **exists.**  `exists(id)` is true exactly when `get(id)` returns a row, and
exactly for the ids `all_ids()` lists. -/
theorem C18_track_exists {s : Schema2} {st : TStmts} (ha : alignedT s st = true) {d : TDb} (hwf : d.Wf) (i : Int) :
    (tExists d i = true ↔ ∃ g, tGet st d i = .ok (some g)) ∧ (tExists d i = true ↔ i ∈ tIds d) :=
  ⟨tExists_iff_get ha hwf i, tExists_iff_ids d i⟩

/-- **all_ids.**  `add` appends the assigned id, `remove` deletes the id, `update`
and every setter leave the id list as it was. -/
theorem C18_track_all_ids {s : Schema2} {st : TStmts} (ha : alignedT s st = true) (d : TDb) :
    (∀ r d' i, tAdd st d r = (d', .ok i) → tIds d' = tIds d ++ [i]) ∧
    (∀ i, tIds (tRemove st d i).1 = (tIds d).filter (fun j => !(j == i))) ∧
    (∀ r, tIds (tUpdate s st d r).1 = tIds d) ∧
    (∀ f i v, f ≠ .id → tIds (tSetc s st d f i v).1 = tIds d) :=
  ⟨fun _ _ _ h => tIds_add ha h, fun i => tIds_remove st d i, fun r => tIds_update ha d r,
   fun _ i v hf => tIds_setc ha d hf i v⟩

/-- **find_id_by_path.**  The path just written finds the id just assigned; in
general it answers an id exactly when some row holds that path, and then the id
of such a row. -/
theorem C18_track_find_id_by_path {s : Schema2} {st : TStmts} (ha : alignedT s st = true) (d : TDb) (p : Bytes) :
    (∀ r d' i, tAdd st d r = (d', .ok i) → r .path = .str p → tFindByPath d' p = some i) ∧
    (tFindByPath d p = none ↔ ∀ raw ∈ d.rows, raw .path ≠ .text p) ∧
    (∀ i, tFindByPath d p = some i → ∃ raw ∈ d.rows, rowId .id raw = i ∧ raw .path = .text p) :=
  ⟨fun _ _ _ h hp => tFind_add ha h hp, (tFind_spec d p).1, (tFind_spec d p).2⟩

/-- The list-table statements regenerated from the current source are aligned with the Spec. -/
theorem C18_list_bindings_aligned : alignedL genLStmts = true := by decide +kernel

/-- Full statement (false of the code for last-edit times in the first second of
the time-point range, see `C18_playlist_last_edit_floor_counterexample`):
`∀ d r i, (every member of r has its C++ type) → pAdd st d r = (d', .ok i) →
   pGet st d' i = .ok (some (normRowP i r))`.

**Playlist round trip (partial).**  `get` after a successful `add r` returns the
row written: the id assigned, the last-edit time in whole seconds (it is stored
as text `YYYY-MM-DD HH:MM:SS`).  Restriction: `wtRowP` demands, beyond the C++
types, that the floor of the last-edit time to whole seconds is a representable
time point (decidable: `wtv .timeText`). -/
theorem C18_playlist_roundtrip_partial {st : LStmts} (ha : alignedL st = true) {d d' : LDb}
    (hwf : idsBelow .id d.pl d.plSeq) {r : Row PField} (hr : wtRowP r) {i : Int}
    (h : pAdd st d r = (d', .ok i)) :
    pGet st d' i = .ok (some (normRowP i r)) := by
  obtain ⟨hpins, _, _, hpsel, _⟩ := alignedL_playlist ha
  obtain ⟨ps, t, he, rfl, hins, rfl⟩ := pAdd_ok h
  have hnid : PField.id ∉ PField.writable := fun h => PField.mem_writable.mp h rfl
  have hrid := rowId_pInserted hpins he (d.plSeq + 1)
  -- the stored nextListId is an integer
  obtain ⟨x, hx, hc⟩ := assign_evalParams hpins he (setCol nullRaw .id (.int (d.plSeq + 1))) (f := .next_list_id)
    (PField.mem_writable.mpr (by decide))
  obtain ⟨k, _, rfl⟩ := written_i64 (hr .next_list_id) rfl hx
  unfold pGet
  simp only
  rw [pInsertRow_find hwf (by omega) hrid (k := k) hc hins]
  simp only
  rw [(readRow_eq_ok_iff pSpec_ok hpsel).mpr
    (read_playlist_written hnid hpins he hr (setCol nullRaw .id (.int (d.plSeq + 1))) (d.plSeq + 1)
      (by rw [rowId, setCol_same]; rfl) (fun f hf hfid => absurd (PField.mem_writable.mpr hfid) hf))]

/-- **Playlist update (partial; same restriction).**  `get` after a successful
`update r` returns the row written. -/
theorem C18_playlist_update_partial {st : LStmts} (ha : alignedL st = true) {d d' : LDb}
    {r : Row PField} (hr : wtRowP r) {i : Int} (hid : r .id = .int i)
    (h : pUpdate st d r = (d', .ok ())) :
    pGet st d' i = .ok (some (normRowP i r)) := by
  obtain ⟨_, hfull, hsimple, hpsel, _⟩ := alignedL_playlist ha
  rcases pUpdate_cases st d r with ⟨_, hne⟩ | ⟨i', old, t0, ps, t, hid', hold, hu, h', hstmt⟩
  · exact absurd (by rw [h]) hne
  cases hid.symm.trans hid'
  cases h.symm.trans h'
  unfold pGet
  simp only
  rcases hstmt with ⟨rfl, he, hparent, hnext⟩ | ⟨hsteps, he⟩
  · -- position unchanged: the simple statement leaves parent and next, which the row repeats
    have hnids : PField.id ∉ [PField.title, PField.is_persisted, PField.last_edit_time, PField.is_explicitly_exported] := by
      decide
    rw [pUpdRow_find hold (pid_not_written hnids hsimple he) hu]
    simp only
    rw [(readRow_eq_ok_iff pSpec_ok hpsel).mpr
      (read_playlist_written hnids hsimple he hr old i (findRow_some hold).2 fun f hf hfid => ?_)]
    have : f = .parent_list_id ∨ f = .next_list_id := by
      cases f <;> first | (exact absurd rfl hfid) | (exact absurd (by decide) hf) | simp
    rcases this with rfl | rfl
    · rw [hparent]; rfl
    · rw [hnext]; rfl
  · -- position changed: the full statement writes every member
    have hnidw : PField.id ∉ PField.writable := fun h => PField.mem_writable.mp h rfl
    obtain ⟨o3, ho3⟩ := hsteps.keeps hold
    rw [pUpdRow_find ho3 (pid_not_written hnidw hfull he) hu]
    simp only
    rw [(readRow_eq_ok_iff pSpec_ok hpsel).mpr
      (read_playlist_written hnidw hfull he hr o3 i (findRow_some ho3).2
        (fun f hf hfid => absurd (PField.mem_writable.mpr hfid) hf))]

/-- `remove` of a playlist id with no row reports an error and changes nothing. -/
theorem C18_playlist_missing_row_errors {st : LStmts} (ha : alignedL st = true) {d : LDb} {i : Int}
    (h : findRow .id d.pl i = none) : pRemove st d i = (d, .throw .invalid_argument) := by
  unfold pRemove pExists
  rw [h, (alignedL_playlist ha).2.2.2.2]
  rfl

/-- **Entity round trip (full).**  After `add_back r` inserted a row — no entry of
the same (list, track, database uuid) triple existed — the three-key
`get(list_id, track_id, database_uuid)` returns the row written: the id
assigned, no next entity. -/
theorem C18_entity_roundtrip {st : LStmts} (ha : alignedL st = true) {d d' : LDb}
    {r : Row EField} (hr : wtRowE r) {dup : Bool} {i l tr : Int} {u : Bytes}
    (hl : r .list_id = .int l) (ht : r .track_id = .int tr) (hu : r .database_uuid = .str u)
    (hnew : noEntry3 d.pe l tr u) (h : eAddBack st d r dup = (d', .ok i)) :
    eGet3 st d' l tr u = .ok (some (normRowE i r)) := by
  obtain ⟨raw, chain, _, _, hread, hf⟩ := eAddBack_filter ha hr hl ht hu hnew h
    (fun a b c => a == .int l && b == .int tr && c == .text u)
  unfold eGet3
  rw [hf, List.filter_eq_nil_iff.mpr hnew]
  simp only [List.map_nil, List.nil_append, beq_self_eq_true, Bool.and_self, if_true, lastByUuid]
  rw [hread _ (alignedL_entity ha).2.2.1]

/-- **`add_back` of an entry that already exists writes nothing**: with
`throw_if_duplicate` it reports `invalid_argument`, without it it answers the id
of the existing entry; the table is unchanged either way. -/
theorem C18_entity_add_duplicate {st : LStmts} {d : LDb} {r : Row EField} {l tr : Int} {u : Bytes}
    (hid : r .id = .int 0)
    (hl : r .list_id = .int l) (ht : r .track_id = .int tr) (hu : r .database_uuid = .str u)
    (hex : ¬ noEntry3 d.pe l tr u) :
    eAddBack st d r true = (d, .throw .invalid_argument) ∧
    ∃ x ∈ d.pe, x .listId = .int l ∧ x .trackId = .int tr ∧ x .databaseUuid = .text u ∧
      eAddBack st d r false = (d, .ok (rowId .id x)) := by
  have hne : d.pe.filter (fun x => x .listId == .int l && x .trackId == .int tr && x .databaseUuid == .text u) ≠ [] := by
    intro hc
    rw [List.filter_eq_nil_iff] at hc
    exact hex hc
  cases hm : lastByUuid (d.pe.filter (fun x => x .listId == .int l && x .trackId == .int tr && x .databaseUuid == .text u)) with
  | none => exact absurd (lastByUuid_none.mp hm) hne
  | some x =>
    obtain ⟨hmem, _⟩ := lastByUuid_spec hm
    obtain ⟨hin, hkey⟩ := List.mem_filter.mp hmem
    simp only [Bool.and_eq_true, beq_iff_eq] at hkey
    constructor
    · unfold eAddBack
      simp only [hid, ne_eq, not_true_eq_false, if_false, hl, ht, hu, hm, if_true]
    · refine ⟨x, hin, hkey.1.1, hkey.1.2, hkey.2, ?_⟩
      unfold eAddBack
      simp only [hid, ne_eq, not_true_eq_false, if_false, hl, ht, hu, hm, Bool.false_eq_true]

/-- Full statement for the two-key `get` (false of the code, see the counterexample below):
`∀ d r dup i, eAddBack st d r dup = (d', .ok i) → (the row was inserted) →
   eGet st d' (list of r) (track of r) = .ok (some (normRowE i r))`.

**Entity round trip through `get(list_id, track_id)` — the greatest uuid wins.**
`get(list_id, track_id)` cannot name the database a track belongs to; it returns
the entry with the greatest database uuid (unsigned byte order).  So it returns
the row just written exactly under the restriction `hlow`: every existing entry
of the same (list, track) pair has a strictly smaller uuid. -/
theorem C18_entity_roundtrip_greatest_uuid {st : LStmts} (ha : alignedL st = true) {d d' : LDb}
    {r : Row EField} (hr : wtRowE r) {dup : Bool} {i l tr : Int} {u : Bytes}
    (hl : r .list_id = .int l) (ht : r .track_id = .int tr) (hu : r .database_uuid = .str u)
    (hlow : ∀ x ∈ d.pe, (x .listId == .int l && x .trackId == .int tr) = true → bytesLt (uuidOf x) u = true)
    (h : eAddBack st d r dup = (d', .ok i)) :
    eGet st d' l tr = .ok (some (normRowE i r)) := by
  have hnone : noEntry3 d.pe l tr u := by
    intro x hx hc
    simp only [Bool.and_eq_true, beq_iff_eq] at hc
    have := hlow x hx (by simp [hc.1.1, hc.1.2])
    unfold uuidOf at this
    rw [hc.2] at this
    simp only [readStr, bytesLt_irrefl] at this
    cases this
  obtain ⟨raw, chain, hchain, hrawu, hread, hf⟩ := eAddBack_filter ha hr hl ht hu hnone h
    (fun a b _ => a == .int l && b == .int tr)
  unfold eGet
  rw [hf]
  simp only [beq_self_eq_true, Bool.and_self, if_true]
  rw [lastByUuid_append_greatest]
  · simp only
    rw [hread _ (alignedL_entity ha).2.1]
  · intro x hx
    obtain ⟨o, ho, rfl⟩ := List.mem_map.mp hx
    have hm := List.mem_filter.mp ho
    rw [hchain, hrawu]
    exact hlow o hm.1 hm.2

/-- **What `get(list_id, track_id)` returns, on any state**: `nullopt` exactly
when the pair has no entry; otherwise the row read from an entry of the pair
whose database uuid no other entry of the pair exceeds. -/
theorem C18_entity_get_greatest_uuid (st : LStmts) (d : LDb) (l tr : Int) :
    (eGet st d l tr = .ok none ↔ ∀ x ∈ d.pe, ¬ ((x .listId == .int l && x .trackId == .int tr) = true)) ∧
    (∀ g, eGet st d l tr = .ok (some g) →
      ∃ raw ∈ d.pe, raw .listId = .int l ∧ raw .trackId = .int tr ∧ readRow raw st.eSel = .ok g ∧
        ∀ x ∈ d.pe, (x .listId == .int l && x .trackId == .int tr) = true →
          bytesLt (uuidOf raw) (uuidOf x) = false) := by
  unfold eGet
  cases hm : lastByUuid (d.pe.filter (fun x => x .listId == .int l && x .trackId == .int tr)) with
  | none =>
    have := lastByUuid_none.mp hm
    rw [List.filter_eq_nil_iff] at this
    refine ⟨⟨fun _ => this, fun _ => rfl⟩, fun g hg => by cases hg⟩
  | some raw =>
    obtain ⟨hmem, hmax⟩ := lastByUuid_spec hm
    obtain ⟨hin, hkey⟩ := List.mem_filter.mp hmem
    simp only [Bool.and_eq_true, beq_iff_eq] at hkey
    constructor
    · constructor
      · intro h
        simp only at h
        cases hr : readRow raw st.eSel with
        | ok g => rw [hr] at h; cases h
        | throw e => rw [hr] at h; cases h
        | ub u => rw [hr] at h; cases h
      · intro h
        exact absurd (by simp [hkey.1, hkey.2]) (h raw hin)
    · intro g hg
      simp only at hg
      cases hr : readRow raw st.eSel with
      | ok g' =>
        rw [hr] at hg
        simp only [Res.ok.injEq, Option.some.injEq] at hg
        subst hg
        exact ⟨raw, hin, hkey.1, hkey.2, hr, fun x hx hk => hmax x (List.mem_filter.mpr ⟨hx, hk⟩)⟩
      | throw e => rw [hr] at hg; cases hg
      | ub u => rw [hr] at hg; cases hg

/-- **Entity round trip (partial; special case of the greatest-uuid theorem).**
Proved under the explicit restriction `noEntry`: no entry of the same
(list, track) pair exists yet. -/
theorem C18_entity_roundtrip_partial {st : LStmts} (ha : alignedL st = true) {d d' : LDb}
    {r : Row EField} (hr : wtRowE r) {dup : Bool} {i l tr : Int}
    (hl : r .list_id = .int l) (ht : r .track_id = .int tr)
    (hnone : noEntry d.pe l tr) (h : eAddBack st d r dup = (d', .ok i)) :
    eGet st d' l tr = .ok (some (normRowE i r)) := by
  obtain ⟨u, hu⟩ := wt_str (hr .database_uuid)
  exact C18_entity_roundtrip_greatest_uuid ha hr hl ht hu (fun x hx hk => absurd hk (hnone x hx)) h

/-- **`remove(list_id, entity_id)` is about the PAIR.**  The translated WHERE
clause is aligned only if it names both `listId ← list_id` and `id ← entity_id`
(`alignedLext`); then `remove` naming a pair for which no row has that list AND
that id — in particular the id of an entity of another list — reports
`invalid_argument` and changes nothing. -/
theorem C18_entity_missing_row_errors {st : LStmts} (ha : alignedL st = true) {d : LDb} {l e : Int}
    (h : ∀ x ∈ d.pe, ¬ (x .listId = .int l ∧ x .id = .int e)) :
    eRemove st d l e = (d, .throw .invalid_argument) := by
  obtain ⟨_, _, _, _, hwhere, hchecks⟩ := alignedL_entity ha
  unfold eRemove
  rw [hwhere]
  have : d.pe.filter (whereMatches [(.listId, 0), (.id, 1)] [l, e]) = [] := by
    rw [List.filter_eq_nil_iff]
    intro x hx hc
    rw [whereMatches_pair] at hc
    simp only [Bool.and_eq_true, beq_iff_eq] at hc
    exact h x hx hc
  rw [this, hchecks]
  rfl

/-- **get_for_list.**  Every row it returns is the aligned read of an entry of
that list; and on a list without entries, the list read back after `add_back r`
is exactly the row written. -/
theorem C18_entity_get_for_list {st : LStmts} (ha : alignedL st = true) (d : LDb) (l : Int) :
    (∀ gs, eGetForList st d l = .ok gs →
      ∀ g ∈ gs, ∃ raw ∈ d.pe, raw .listId = .int l ∧ readRow raw st.eSelList = .ok g) ∧
    (∀ (r : Row EField) (dup : Bool) (i tr : Int) (u : Bytes) (d' : LDb), wtRowE r →
      r .list_id = .int l → r .track_id = .int tr → r .database_uuid = .str u → 0 ≤ d.peSeq →
      (∀ x ∈ d.pe, ¬ ((x .listId == .int l) = true)) → eAddBack st d r dup = (d', .ok i) →
      eGetForList st d' l = .ok [normRowE i r]) :=
  ⟨fun _ h => entity_list_sound h,
   fun _ _ _ _ _ _ hr hl ht hu hseq hempty h => entity_list_single ha hr hl ht hu hseq hempty h⟩

/-- **Histories (list tables).**  The invariant the playlist round trip assumes
holds after every sequence of playlist add / update / remove and entity
add_back / remove / clear, from any state that satisfies it. -/
theorem C18_list_histories {st : LStmts} (ha : alignedL st = true) {d : LDb} (hwf : d.Wf) (ops : List LOp) :
    (lRun st d ops).Wf := by
  refine (lRun_isRun st).inv (Inv := LDb.Wf) (fun d op hwf => ?_) ops d hwf
  cases op with
  | pAdd r => exact wf_pAdd ha hwf r
  | pUpdate r => exact wf_pUpdate ha hwf r
  | pRemove i => exact wf_pRemove hwf i
  | eAddBack r f => exact wf_eAddBack hwf r f
  | eRemove l e => exact wf_eRemove hwf l e
  | eClear l => exact hwf

/-- The playlist round trip after any history from the empty tables, for the
statements of the current source (partial: same restriction as above). -/
theorem C18_playlist_roundtrip_current_partial (ops : List LOp) (r : Row PField) (hr : wtRowP r) (d' : LDb) (i : Int)
    (h : pAdd genLStmts (lRun genLStmts LDb.empty ops) r = (d', .ok i)) :
    pGet genLStmts d' i = .ok (some (normRowP i r)) :=
  C18_playlist_roundtrip_partial C18_list_bindings_aligned
    (C18_list_histories C18_list_bindings_aligned LDb.empty_wf ops) hr h

/-- **`playlist_table::get` is defined on reachable states.**  After any history
of playlist / entity operations whose row arguments are well-typed (`wtLOp`:
`wtRowP` for add / update — which excludes exactly the last-edit times of the
recorded finding), from the empty tables and for the statements of the current
source, `get(id)` answers `nullopt` or a row: never undefined behaviour
(`parse_ft` overflow), never an exception.  The invariant behind it (`leTyped`:
every stored last-edit text converts back) is kept by every such operation from
any state that satisfies it. -/
theorem C18_playlist_get_defined :
    (∀ (ops : List LOp), (∀ op ∈ ops, wtLOp op) → ∀ i,
      pGet genLStmts (lRun genLStmts LDb.empty ops) i = .ok none ∨
      ∃ g, pGet genLStmts (lRun genLStmts LDb.empty ops) i = .ok (some g)) ∧
    (∀ {st : LStmts}, alignedL st = true → ∀ {d : LDb}, leTyped d.pl →
      (∀ op, wtLOp op → leTyped (lStep st d op).pl) ∧
      (∀ i, pGet st d i = .ok none ∨ ∃ g, pGet st d i = .ok (some g))) :=
  ⟨fun ops hops i => playlist_get_defined C18_list_bindings_aligned
      (lastEdit_lRun C18_list_bindings_aligned (fun _ h => by cases h) ops hops) i,
   fun ha _ hwf => ⟨fun _ hop => lastEdit_lStep ha hwf hop, fun i => playlist_get_defined ha hwf i⟩⟩

/-- The Information statements regenerated from the current source are aligned with the Spec. -/
theorem C18_info_bindings_aligned : alignedI genIStmts = true := by decide +kernel

/-- **information_table.**  `get` on the created library returns the row the
schema creator stored (uuid, the version triple of the schema, the indicator);
`update_current_played_indicator(v)` changes that member only. -/
theorem C18_info_get_update {st : IStmts} (ha : alignedI st = true) :
    (∀ (s : Schema2) (uuid : Bytes) (cpi : Int),
      iGet st (infoRow s (.text uuid) cpi) = .ok (normInfo s uuid cpi)) ∧
    (∀ (raw : Raw ICol) (g : Row IField) (v : Int), iGet st raw = .ok g →
      iGet st (iSetCpi st raw v) = .ok (normInfoSet v g)) :=
  ⟨fun s uuid cpi => info_get_created ha s uuid cpi, fun _ _ v h => info_set_get ha h v⟩

def exEntity (l t : Int) (u : Bytes) (m : Int) : Row EField := fun f =>
  match f with
  | .id => .int 0
  | .list_id => .int l
  | .track_id => .int t
  | .database_uuid => .str u
  | .next_entity_id => .int 0
  | .membership_reference => .int m

/-- **Counterexample to the unrestricted entity round trip.**  After
`add_back (list 1, track 1, uuid "b")` and `add_back (list 1, track 1, uuid "a", ref 5)`
— both accepted, ids 1 and 2 — `get(1, 1)` returns the first row, not the row
just written.  (Replayed on the real library: corpus/C18/entity_get_ambiguous.txt.) -/
theorem C18_entity_roundtrip_counterexample :
    let d1 := (eAddBack genLStmts LDb.empty (exEntity 1 1 [98] 0) false).1
    let r2 := exEntity 1 1 [97] 5
    (eAddBack genLStmts d1 r2 false).2 = .ok 2 ∧
    (match eGet genLStmts (eAddBack genLStmts d1 r2 false).1 1 1 with
     | .ok (some g) => decide (g .id = .int 1 ∧ g .database_uuid = .str [98] ∧ g .id ≠ normRowE 2 r2 .id)
     | _ => false) = true := by
  decide +kernel

def exPlaylist (title : Bytes) (parent next lastEdit : Int) (persisted : Bool) : Row PField := fun f =>
  match f with
  | .id => .int 0
  | .title => .str title
  | .parent_list_id => .int parent
  | .is_persisted => .bool persisted
  | .next_list_id => .int next
  | .last_edit_time => .time lastEdit
  | .is_explicitly_exported => .bool true

/-- **The first second of the time-point range.**  A playlist whose last-edit
time lies in `[-2^63, -9223372036000000001]` ns is accepted by `add`, but `get`
then has undefined behaviour: the stored text is the floor to whole seconds,
`-9223372037 s`, which `parse_ft` converts back to nanoseconds with a signed
overflow.  (`wtRowP` excludes exactly these values.  Replayed on the real
library: corpus/C18/playlist_last_edit_floor.txt.) -/
theorem C18_playlist_last_edit_floor_counterexample :
    let r := exPlaylist [65] 0 0 (-9223372036854775808) false
    (pAdd genLStmts LDb.empty r).2 = .ok 1 ∧
    (match pGet genLStmts (pAdd genLStmts LDb.empty r).1 1 with
     | .ub .signed_overflow => true
     | _ => false) = true := by
  decide +kernel

/-! ### non-vacuity -/

example : wtRowP (exPlaylist [65] 0 0 1500000000123456789 true) := by intro f; cases f <;> rfl
example : wtRowE (exEntity 1 1 [97] 5) := by intro f; cases f <;> rfl
example : (pAdd genLStmts LDb.empty (exPlaylist [65] 0 0 1500000000123456789 true)).2 = .ok 1 := by decide +kernel
example : (pUpdate genLStmts (pAdd genLStmts LDb.empty (exPlaylist [65] 0 0 1 true)).1
    (fun f => if f = .id then .int 1 else exPlaylist [66] 0 0 2 false f)).2 = .ok () := by decide +kernel
example : noEntry LDb.empty.pe 1 1 := by intro x hx; cases hx
example : noEntry3 LDb.empty.pe 1 1 [97] := by intro x hx; cases hx
example : wtLOp (.pAdd (exPlaylist [65] 0 0 1500000000123456789 true)) := by intro f; cases f <;> rfl
/-- the greatest-uuid hypothesis with an entry present: "a" < "b" -/
example : ∀ x ∈ (eAddBack genLStmts LDb.empty (exEntity 1 1 [97] 0) false).1.pe,
    (x .listId == .int 1 && x .trackId == .int 1) = true → bytesLt (uuidOf x) [98] = true := by
  intro x hx _
  have : (eAddBack genLStmts LDb.empty (exEntity 1 1 [97] 0) false).1.pe.all (fun x => bytesLt (uuidOf x) [98]) = true := by
    decide +kernel
  exact List.all_eq_true.mp this x hx
example : (eAddBack genLStmts (eAddBack genLStmts LDb.empty (exEntity 1 1 [97] 0) false).1 (exEntity 1 1 [98] 7) false).2
    = .ok 2 := by decide +kernel
/-- remove naming the entity of another list: an error (entity 1 is in list 1, not in list 2) -/
example : (eRemove genLStmts (eAddBack genLStmts LDb.empty (exEntity 1 1 [97] 0) false).1 2 1).2
    = .throw .invalid_argument := by decide +kernel
example : (eGetForList genLStmts (eAddBack genLStmts LDb.empty (exEntity 1 1 [97] 5) false).1 1).isOk = true := by decide +kernel
example : (eAddBack genLStmts LDb.empty (exEntity 1 1 [97] 5) false).2 = .ok 1 := by decide +kernel


/-- A track row with every optional absent. -/
def exRow : Row TField := fun f =>
  match f.ty with
  | .i64 => .int 0
  | .oi64 | .oi32 => .oint none
  | .str => .str (if f = .path then [112] else [])
  | .ostr => .ostr none
  | .odbl => .oreal none
  | .bool => .bool false
  | .time | .timeText => .time 1500000000123456789
  | .otime => .otime none
  | .blob .track => .blob (.track ⟨0, 0, 0, 0, 0, 0⟩ [])
  | .blob .ovw => .blob (.ovw ⟨0, [], [0, 0, 0]⟩ [])
  | .blob .beat => .blob (.beat ⟨0, 0, 0, [], []⟩ [])
  | .blob .cues => .blob (.cues ⟨[], 0, false, 0⟩ [])
  | .blob .loops => .blob (.loops [] [])

def exDb : TDb := { TDb.empty with uuid := .text [117], clock := 1700000000 }

example : wtRowT exRow := by intro f; cases f <;> rfl
example : exDb.Wf := TDb.empty_wf _ _ rfl (by decide +kernel)

/-- The hypotheses of the round trip are satisfiable: the row is accepted on the empty table of 2.21.2 … -/
example : ∃ st, genStmts .s2_21_2 = some st ∧ (tAdd st exDb exRow).2 = .ok 1 :=
  ⟨_, rfl, by decide +kernel⟩

/-- … the update of that row (id 1) is accepted … -/
example : ∃ st, genStmts .s2_21_2 = some st ∧
    (tUpdate .s2_21_2 st (tAdd st exDb exRow).1 (fun f => if f = .id then .int 1 else exRow f)).2 = .ok () :=
  ⟨_, rfl, by decide +kernel⟩

/-- … a setter on it succeeds, and a getter on a missing row is an error. -/
example : ∃ st, genStmts .s2_21_2 = some st ∧
    (tSetc .s2_21_2 st (tAdd st exDb exRow).1 .title 1 (.ostr (some [65]))).2 = .ok () ∧
    tGetc .s2_21_2 st (tAdd st exDb exRow).1 .title 2 = .throw .runtime_error :=
  ⟨_, rfl, by decide +kernel, by decide +kernel⟩

end EngineModel.Properties.C18
