/-
C17 — the accepting side and the per-version statement, decided inside the kernel on facts
regenerated every run (`EngineModel/Gen/CatalogFacts.lean`, emitted by tools/props/C17.py from
the catalogs read back from the libraries the real code created and from the hydrated
reference dumps; not part of the default build: built on demand by the tie, cached by lake
while the facts do not change).

  * `created_accepted`    every version's extracted expectation tables (Gen/ValidatorTables)
                          accept the catalog that version's creator creates, and that catalog
                          is well formed;
  * `references_accepted` they accept every reference catalog of their version;
  * `C17_created_complete`   hence (bridge theorem) they reject every applicable single-element
                          mutation of the created catalog — the property, per version and file;
  * `C17_references_structure`  and every reference catalog has the structure of the created one.
-/
import EngineModel.Gen.CatalogFacts
import Properties.C17Tables
import Proofs.ValidatorEval

namespace EngineModel.Properties.C17Facts
open EngineModel.Spec.Catalog EngineModel.Spec.Validator EngineModel.Spec.SchemaDump
open EngineModel.Gen.ValidatorTables EngineModel.Gen.CatalogFacts

/-- A fact `(k, j)`: the catalog `dumps[j]`, read for the database file of entry `k` of
`ValidatorTables.all`, is well formed and accepted by that entry's tables. -/
noncomputable def acceptOk (facts : List (Nat × Nat)) : Bool :=
  facts.all fun f =>
    match all[f.1]?, dumps[f.2]? with
    | some e, some d => wf (ofDump d e.2.1) && verifyDb e.2.2 (ofDump d e.2.1)
    | _, _ => false

/-- `acceptOk` as the kernel evaluates it: names compared through their codes (Proofs/ValidatorEval.lean). -/
noncomputable def acceptOkC (facts : List (Nat × Nat)) : Bool :=
  facts.all fun f =>
    match all[f.1]?, dumps[f.2]? with
    | some e, some d => wfC (ofDump d e.2.1) && verifyDbC e.2.2 (ofDump d e.2.1)
    | _, _ => false

theorem acceptOkC_eq (facts : List (Nat × Nat)) : acceptOkC facts = acceptOk facts := by
  simp only [acceptOkC, acceptOk, wfC_eq, verifyDbC_eq]

theorem created_accepted : acceptOk createdFacts = true := (acceptOkC_eq _).symm.trans (by decide +kernel)

/-- Facts already accepted need not be evaluated again. -/
theorem acceptOk_of_filter {known facts : List (Nat × Nat)} (hk : acceptOk known = true)
    (h : acceptOk (facts.filter fun f => !known.contains f) = true) : acceptOk facts = true := by
  unfold acceptOk at *
  rw [List.all_eq_true] at *
  intro f hf
  by_cases hm : f ∈ known
  · exact hk f hm
  · exact h f (List.mem_filter.2 ⟨hf, by simpa using hm⟩)

/-- The reference catalogs that coincide with a created one were evaluated in `created_accepted`. -/
theorem references_accepted : acceptOk referenceFacts = true :=
  acceptOk_of_filter created_accepted ((acceptOkC_eq _).symm.trans (by decide +kernel))

/-- every extracted table (every version, every database file) has its created catalog among the facts -/
theorem created_cover : ((List.range all.length).all fun k => createdFacts.any fun f => f.1 == k) = true := by
  decide +kernel

theorem acceptOk_mem {facts : List (Nat × Nat)} (h : acceptOk facts = true) {f : Nat × Nat} (hf : f ∈ facts)
    {e : String × List Char × DbExp} {d : Dump} (he : all[f.1]? = some e) (hd : dumps[f.2]? = some d) :
    wf (ofDump d e.2.1) = true ∧ verifyDb e.2.2 (ofDump d e.2.1) = true := by
  have := (List.all_eq_true.1 h) f hf
  simp only [he, hd, Bool.and_eq_true] at this
  exact this

/-- **C17 per schema version and database file, for the catalog the real creator creates**:
the version's own expectation tables reject every applicable single-element mutation of it. -/
theorem C17_created_complete {f : Nat × Nat} (hf : f ∈ createdFacts)
    {e : String × List Char × DbExp} {d : Dump} (he : all[f.1]? = some e) (hd : dumps[f.2]? = some d)
    (m : Mutation) (happ : applicable m (ofDump d e.2.1) = true) :
    verifyDb e.2.2 (apply m (ofDump d e.2.1)) = false := by
  obtain ⟨hwf, hacc⟩ := acceptOk_mem created_accepted hf he hd
  exact C17Tables.C17_tables_complete (List.mem_of_getElem? he) _ m hwf hacc happ

/-- The accepting side: every reference catalog of a version is accepted, and has exactly
the structure of the catalog that version's creator creates. -/
theorem C17_references_structure {f g : Nat × Nat} (hf : f ∈ referenceFacts) (hg : g ∈ createdFacts)
    (hk : f.1 = g.1) {e : String × List Char × DbExp} {d d' : Dump}
    (he : all[g.1]? = some e) (hd : dumps[g.2]? = some d) (hd' : dumps[f.2]? = some d') :
    sameCat (ofDump d e.2.1) (ofDump d' e.2.1) = true := by
  obtain ⟨hwf, hacc⟩ := acceptOk_mem created_accepted hg he hd
  obtain ⟨_, hacc'⟩ := acceptOk_mem references_accepted hf (hk ▸ he) hd'
  exact C17Tables.C17_tables_unique (List.mem_of_getElem? he) _ _ hwf hacc hacc'

/-- non-vacuity -/
example : createdFacts ≠ [] ∧ referenceFacts ≠ [] := by decide +kernel

end EngineModel.Properties.C17Facts
