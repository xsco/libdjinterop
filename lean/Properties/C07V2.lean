/-
C07, schema 2.x — all crate queries describe one well-formed forest.

Model: Db/V2Crates.lean (`step`, the queries `q…`): crate_impl.cpp / database_impl.cpp /
playlist_table.cpp of src/djinterop/engine/v2 with the Playlist triggers and the recursive view
PlaylistAllChildren, after the `fix:` commits listed in findings/C07_v2.json.
Spec: Spec/Forest.lean (live crates with name and optional parent; every query defined from `parent`;
`Forest.step` gives the verdict accept / reject / either for one call).
`absF d` (Proofs/CratesV2Abs.lean): the Playlist table read as a forest (row order = creation order).
`judgeF`, `specRunF`: the Spec judge driven by the Model's own answers — the same judgement the oracle of
the tie passes on the real library's answers.
`PlInv d`: `Forest.Wf (absF d)` (ids a key and positive, parents live, parent relation ranked hence
acyclic, names valid and unique among siblings) and ids within the AUTOINCREMENT counter.
Histories range over ALL operations of the Model (crate API, track / content API, table-level entity API);
only the statements about the ordered listings root_crates() / children() need the chain invariant of C09
and therefore `ops.all okOp` (see Properties/C09.lean).
-/
import Proofs.CratesV2ForestQueries
import Proofs.CratesV2Run

namespace EngineModel.Properties.C07V2
open EngineModel EngineModel.Db.Chain EngineModel.Db.V2 EngineModel.Spec EngineModel.Spec.Forest

/-- Refinement, one step: on a state whose forest is well-formed, the Spec's verdict on the abstracted forest
allows what the Model does, the forest afterwards is the abstraction of the Model state afterwards, and the
invariant is kept. -/
theorem C07V2_step_refines {d : Db} (h : PlInv d) (op : Db.V2.Op) :
    judgeF (absF d) op (step d op).2 = some (absF (step d op).1) ∧ PlInv (step d op).1 :=
  ⟨judgeF_of_fstep h (fstep h.wf op), plInv_step h op⟩

/-- Refinement, all histories: the Spec.Forest judge never objects to the Model, and the forest it tracks is
exactly the abstraction of the Model's Playlist table. -/
theorem C07V2_refines (ops : List Db.V2.Op) :
    specRunF Db.empty Forest.empty ops = some (absF (run Db.empty ops)) :=
  specRunF_eq plInv_empty ops

/-- Invariant: after every history the crates form a well-formed forest; in particular no crate is its own
ancestor (acyclicity), every parent is a live crate, ids are a key. -/
theorem C07V2_forest_invariant (ops : List Db.V2.Op) :
    let f := absF (run Db.empty ops)
    Forest.Wf f ∧ (∀ x, f.isAncestor x x = false) ∧ (qCrates (run Db.empty ops)).Nodup ∧
    (∀ r ∈ (run Db.empty ops).pl, r.key = 0 ∨ r.key ∈ qCrates (run Db.empty ops)) := by
  have hI := plInv_run plInv_empty ops
  refine ⟨hI.wf, hI.wf.acyclic, by rw [qCrates_eq]; exact hI.wf.ids_nodup, ?_⟩
  intro r hr
  rw [qCrates_eq, absF_ids]
  exact key_zero_or_live hI.wf hr

/-- Every structural query of the API is the Spec's query on the same forest: crates(), is_valid /
crate_by_id, parent(), name(), descendants(), crates_by_name, root_crate_by_name / sub_crate_by_name
(key 0 = root level), the last two having at most one candidate. -/
theorem C07V2_queries_agree (ops : List Db.V2.Op) :
    let d := run Db.empty ops
    let f := absF d
    qCrates d = f.ids ∧
    (∀ c, qValid d c = f.live c) ∧
    (∀ c, qParent d c = if f.live c then .ok (f.parentOf c) else .throw (exn "crate_deleted")) ∧
    (∀ c, qName d c = match f.nameOf c with | some n => .ok n | none => .throw (exn "crate_deleted")) ∧
    (∀ c, ∃ l, qDescendants d c = .ok l ∧ ∀ x, x ∈ l ↔ x ∈ f.descendants c) ∧
    (∀ n, qByName d n = f.byName n) ∧
    (∀ k n, qByParentName d k n = (f.byParentName (parentOpt k) n).getLast? ∧
      ∀ x ∈ f.byParentName (parentOpt k) n, ∀ y ∈ f.byParentName (parentOpt k) n, x = y) := by
  have hI := plInv_run plInv_empty ops
  exact ⟨qCrates_eq _, qValid_eq _, qParent_eq _, qName_eq _, qDescendants_eq hI.wf, qByName_eq _,
    fun k n => ⟨qByParentName_eq _ k n, byParentName_unique hI.wf _ n⟩⟩

/-- root_crates() and children(c) list exactly the Spec's roots / children (each once): the ordered listings
are permutations of `roots` / `children c`; equivalently x is listed under c iff parent(x) is c, and among
the roots iff parent(x) is absent. -/
theorem C07V2_roots_children_agree (ops : List Db.V2.Op) (hok : ops.all okOp = true) :
    let d := run Db.empty ops
    let f := absF d
    (∃ l, qRoots d = .ok l ∧ l.Perm f.roots ∧ ∀ x, x ∈ l ↔ qParent d x = .ok none) ∧
    (∀ c, c ≠ 0 → ∃ l, qChildren d c = .ok l ∧ l.Perm (f.children c) ∧ ∀ x, x ∈ l ↔ qParent d x = .ok (some c)) := by
  obtain ⟨_, _, hC⟩ := chInv_hist ops hok
  refine ⟨⟨_, walkIds_eq hC.rk 0, kids_perm_roots hC, fun x => mem_kids_iff hC 0 x⟩, ?_⟩
  intro c hc
  refine ⟨_, walkIds_eq hC.rk c, kids_perm_children hC hc, fun x => ?_⟩
  rw [mem_kids_iff hC c x, parentOpt_of_ne hc]

/-- descendants(c) — the recursive view PlaylistAllChildren, modelled by its own level-wise recursion — terminates
and is the transitive closure of the parent relation the API shows. -/
theorem C07V2_descendants_transitive_closure (ops : List Db.V2.Op) (c : Int) :
    ∃ l, qDescendants (run Db.empty ops) c = .ok l ∧
      ∀ x, x ∈ l ↔ Relation.TransGen (ParentQ (run Db.empty ops)) x c := by
  obtain ⟨l, h1, h2⟩ := qDescendants_eq (plInv_run plInv_empty ops).wf c
  exact ⟨l, h1, fun x => (h2 x).trans (mem_descSet_iff _ c x)⟩

/-- Whatever the Spec rejects (an invalid or taken name, a removed crate or parent, a re-parenting under itself
or one of its descendants) the Model rejects, and the whole state is unchanged. -/
theorem C07V2_rejected_without_effect (ops : List Db.V2.Op) (op : Db.V2.Op) (fop : Forest.Op) (hf : forestOp op = some fop)
    (hrej : ∀ n f', Forest.step (absF (run Db.empty ops)) fop n ≠ .accept f') :
    ∃ e, step (run Db.empty ops) op = (run Db.empty ops, .throw e) :=
  rejected_without_effect (plInv_run plInv_empty ops) hf hrej

/-- A re-parenting that would create a cycle is rejected with crate_invalid_parent, leaving the state unchanged. -/
theorem C07V2_cycle_rejected (ops : List Db.V2.Op) (c q : Int)
    (h : q = c ∨ ∃ l, qDescendants (run Db.empty ops) c = .ok l ∧ q ∈ l) :
    step (run Db.empty ops) (.setParent c (some q)) = (run Db.empty ops, .throw (exn "crate_invalid_parent")) := by
  have hP := plInv_run plInv_empty ops
  apply setParent_cycle_rejected hP c q
  exact h.imp id fun ⟨_, h1, h2⟩ => mem_descSet_of_query hP.wf h1 h2

/-- A re-parenting under a crate that is not (or no longer) valid is rejected, leaving the state unchanged. -/
theorem C07V2_dead_parent_rejected (ops : List Db.V2.Op) (c q : Int) (h : qValid (run Db.empty ops) q = false) :
    ∃ e, step (run Db.empty ops) (.setParent c (some q)) = (run Db.empty ops, .throw e) := by
  apply C07V2_rejected_without_effect ops _ _ rfl
  rw [qValid_eq] at h
  exact Forest.not_accept_of (by simp [Forest.accepts, Forest.pre, h])

/-- Invalid names (empty, or containing ';') are rejected without effect by every operation that takes a name. -/
theorem C07V2_invalid_name_rejected (ops : List Db.V2.Op) (n : Bytes) (hn : Forest.validName n = false) (p c a : Int) :
    let d := run Db.empty ops
    (∃ e, step d (.createRoot n) = (d, .throw e)) ∧ (∃ e, step d (.createRootAfter n a) = (d, .throw e)) ∧
    (∃ e, step d (.createSub p n) = (d, .throw e)) ∧ (∃ e, step d (.createSubAfter p n a) = (d, .throw e)) ∧
    (∃ e, step d (.rename c n) = (d, .throw e)) := by
  refine ⟨?_, ?_, ?_, ?_, ?_⟩
  -- `Forest.pre` asks for a valid name in each of the three Spec operations
  all_goals
    exact C07V2_rejected_without_effect ops _ _ rfl (Forest.not_accept_of (by simp [Forest.accepts, Forest.pre, hn]))

/-- remove_crate removes the crate with its whole subtree, and none of the removed crates is ever valid again
(whatever happens later): a removed crate is never again returned by any query. -/
theorem C07V2_removed_subtree_gone (ops : List Db.V2.Op) (c : Int) (hc : qValid (run Db.empty ops) c = true)
    (x : Int) (hx : x = c ∨ ∃ l, qDescendants (run Db.empty ops) c = .ok l ∧ x ∈ l) (later : List Db.V2.Op) :
    absF (step (run Db.empty ops) (.removeCrate c)).1 = Forest.removeSubtree (absF (run Db.empty ops)) c ∧
    qValid (run (step (run Db.empty ops) (.removeCrate c)).1 later) x = false := by
  have hI := plInv_run plInv_empty ops
  exact ⟨absF_removeCrate hI (by rw [← qValid_eq]; exact hc), removed_subtree_gone hI c hc x hx later⟩

/-- Crate ids never collide and are never reused: a creation returns an id larger than every id any crate had at
any earlier point of the history (including crates removed since). -/
theorem C07V2_ids_never_reused (pre suf : List Db.V2.Op) (op : Db.V2.Op) (hc : isCreate op = true) (i : Int)
    (h : (step (run Db.empty (pre ++ suf)) op).2 = .ok (some i)) :
    ∀ x ∈ qCrates (run Db.empty pre), x < i := by
  intro x hx
  have hpre := plInv_run plInv_empty pre
  have h1 := hpre.seq x hx
  have h2 := plSeq_mono_run hpre suf
  rw [← run_append] at h2
  have h3 := Option.some.inj ((step_does _ op).create_id hc h)
  omega

/-! ### non-vacuity -/

def sampleOps : List Db.V2.Op :=
  [.createRoot [97], .createSub 1 [98], .createSub 2 [99], .createRoot [100], .setParent 4 (some 3),
   .rename 2 [101], .removeCrate 2, .createRoot [98]]

example : qCrates (run Db.empty sampleOps) = [1, 5] := by decide +kernel
example : qDescendants (run Db.empty (sampleOps.take 5)) 1 = .ok [2, 3, 4] := by decide +kernel
/-- a cycle-creating re-parenting in a forest of depth three -/
example : qDescendants (run Db.empty (sampleOps.take 5)) 1 = .ok [2, 3, 4] ∧ (4 : Int) ∈ [2, 3, (4 : Int)] := by decide +kernel
example : step (run Db.empty (sampleOps.take 5)) (.setParent 1 (some 4))
    = (run Db.empty (sampleOps.take 5), .throw (exn "crate_invalid_parent")) := by decide +kernel
example : qValid (run Db.empty (sampleOps.take 6)) 2 = true ∧ qDescendants (run Db.empty (sampleOps.take 6)) 2 = .ok [3, 4] := by decide +kernel
/-- the model of the recursive view does not terminate on a cyclic table, like the real query (UNION ALL) -/
example : descendantIds [⟨1, 2, 0, [97]⟩, ⟨2, 1, 0, [98]⟩] 1 = .ub .nontermination := by decide +kernel
example : Forest.validName [] = false := by decide +kernel
example : isCreate (.createRoot [98]) = true ∧ (step (run Db.empty (sampleOps.take 7)) (.createRoot [98])).2 = .ok (some 5) := by decide +kernel

end EngineModel.Properties.C07V2
