/-
C07 — All crate queries describe one well-formed forest.   Schema 1.x half.

Model  : EngineModel/Api/CratesV1.lean — the SQL statements of engine_crate_impl.cpp /
         engine_database_impl.cpp on Crate, CrateParentList, CrateHierarchy, CrateTrackList
         (incl. the List-backed views and INSTEAD OF triggers from 1.9.1), `step`, `run`.
Spec   : EngineModel/Spec/Forest.lean — a list of live crates with name and optional parent;
         every query defined from `parent` alone; `Forest.step` = the verdict the property demands.
Trace  : EngineModel/Api/CratesV1Sim.lean — `forestTrace` drives the Spec with what a caller sees
         of each Model call (returned / threw, reported id), exactly as the tie's oracle drives it
         with the real library's answers; it is `none` as soon as an outcome contradicts a verdict.
Abs    : EngineModel/Api/CratesV1Wf.lean — `absForest db` reads the forest off Crate + CrateParentList.

A history is ANY list of Model operations (`Op`): create root / sub-crate, rename, re-parent to any
crate or none, remove — on live handles, removed handles, ids that never existed, valid and invalid
names — interleaved with the membership and track operations, on any of the eleven 1.x schema versions
(`s` is universally quantified; it only selects between table and view statements and id allocation).
-/
import Proofs.CratesV1Suffix

namespace EngineModel.Properties.C07V1
open EngineModel EngineModel.Api.CratesV1 EngineModel.Spec EngineModel.Pure.Detect

/-- (i) The invariant (ParentList functional and total on the live crates with live parents, Hierarchy =
strict transitive closure of ParentList and irreflexive, every path = path of the parent ++ name ++ ';',
names valid, memberships duplicate-free between live crates and live tracks) holds after every history. -/
theorem C07_invariant_after_every_history (s : Schema) (ops : List Op) : Inv (run s Db.empty ops) :=
  inv_run s ops inv_empty

/-- No operation has undefined behaviour in any reachable state (in particular the unbounded recursion of
`update_path` terminates: its fuel is never exhausted). -/
theorem C07_no_undefined_behaviour (s : Schema) (ops : List Op) (op : Op) :
    (step s (run s Db.empty ops) op).2.isUb = false :=
  (step_ok s (inv_run s ops inv_empty) op).2.1

/-- (ii-a) Simulation, one step: in every reachable state the outcome class of every operation is one the
Spec's verdict allows (accept ⇒ returned, reject ⇒ threw), and the abstract forest afterwards is the forest
the Spec prescribes.  `absForest` commutes with `step`. -/
theorem C07_step_simulates_spec (s : Schema) (ops : List Op) (op : Op) :
    forestNext (absForest (run s Db.empty ops)) op (step s (run s Db.empty ops) op).2
      = some (absForest (step s (run s Db.empty ops) op).1) :=
  (step_ok s (inv_run s ops inv_empty) op).2.2

/-- (ii-b) Refinement, whole histories: the Spec, told only the outcomes of the calls, never contradicts
them and ends in the abstract forest of the Model's tables. -/
theorem C07_refines (s : Schema) (ops : List Op) :
    forestTrace s Db.empty Forest.empty ops = some (absForest (run s Db.empty ops)) :=
  forestTrace_run s ops inv_empty

/-- (ii-c) Every structural query of the Model, in every reachable state, equals the same query of
`Spec.Forest` on the abstract forest (listings as sorted lists; lookups by parent and name return the
match with the largest id — renaming / re-parenting may leave several siblings with one name). -/
theorem C07_queries_agree_with_spec (s : Schema) (ops : List Op) :
    let db := run s Db.empty ops
    let f := absForest db
    dbCrates db = Forest.sortIds f.ids ∧ f.ids.Nodup ∧
    dbRootCrates db = Forest.sortIds f.roots ∧
    (∀ c, crateIsValid db c = .ok (f.live c)) ∧
    (∀ c, dbCrateById db c = .ok (if f.live c then some c else none)) ∧
    (∀ c, crateName db c = match f.nameOf c with | some n => .ok n | none => .throw exCrateDeleted) ∧
    (∀ c, crateParent db c = .ok (f.parentOf c)) ∧
    (∀ c, sortIds (crateChildren db c) = Forest.sortIds (f.children c)) ∧
    (∀ c, sortIds (crateDescendants db c) = Forest.sortIds (f.descendants c)) ∧
    (∀ n, dbCratesByName db n = Forest.sortIds (f.byName n)) ∧
    (∀ n, rootCrateByName db n = lastById (f.byParentName none n)) ∧
    (∀ c n, subCrateByName db c n = lastById (f.byParentName (some c) n)) :=
  queries_agree (inv_run s ops inv_empty).toFInv

/-- The forest is well-formed: in every reachable state `parent()` of a live crate is absent or a live
crate and nothing is its own ancestor (stated on the abstract forest, which by `C07_queries_agree_with_spec` is what the
queries return).  The third clause, `descendants` is the transitive closure of `children`, holds of EVERY forest
(`Forest.Forest.isAncestor_unfold`: the Spec's fuel always suffices); what reachability adds is that the queries return that forest. -/
theorem C07_forest_wellformed (s : Schema) (ops : List Op) :
    let f := absForest (run s Db.empty ops)
    (∀ c p, f.parentOf c = some p → f.live c = true ∧ f.live p = true) ∧
    (∀ c, f.isAncestor c c = false) ∧
    (∀ a c, f.isAncestor a c = true ↔ ∃ p, f.parentOf c = some p ∧ (p = a ∨ f.isAncestor a p = true)) := by
  intro f
  have h : Inv (run s Db.empty ops) := inv_run s ops inv_empty
  have hf := h.toFInv
  refine ⟨?_, ?_, ?_⟩
  · intro c p hp
    rw [abs_parentOf hf] at hp
    have := hf.par_live ((parentOf_eq_some hf).mp hp)
    exact ⟨(abs_live _ c).mpr this.1, (abs_live _ p).mpr this.2⟩
  · intro c
    rw [← Bool.not_eq_true, isAncestor_iff hf]
    exact hf.chIrrefl c
  · exact fun a c => Forest.Forest.isAncestor_unfold

/-- The same, directly on the Model's queries: in every reachable state `children(c)` is exactly the set of crates
whose `parent()` is `c`, `descendants(c)` is exactly the transitive closure of that relation, `root_crates()` is
exactly the valid crates without a parent, and `parent()` of a valid crate is absent or valid. -/
theorem C07_children_descendants_roots_from_parent (s : Schema) (ops : List Op) :
    let db := run s Db.empty ops
    (∀ c k, k ∈ crateChildren db c ↔ crateParent db k = .ok (some c)) ∧
    (∀ c y, y ∈ crateDescendants db c ↔ Relation.TransGen (fun x p => crateParent db x = .ok (some p)) y c) ∧
    (∀ x, x ∈ dbRootCrates db ↔ (crateIsValid db x = .ok true ∧ crateParent db x = .ok none)) ∧
    (∀ x p, crateParent db x = .ok (some p) → crateIsValid db x = .ok true ∧ crateIsValid db p = .ok true) ∧
    (∀ c, (crateChildren db c).Nodup ∧ (crateDescendants db c).Nodup) := by
  intro db
  have h : Inv db := inv_run s ops inv_empty
  have hf := h.toFInv
  refine ⟨children_iff_parent hf, descendants_iff_transGen hf, roots_iff_no_parent hf, ?_, ?_⟩
  · intro x p hp
    have := hf.par_live ((parentIs_iff hf x p).mp hp)
    exact ⟨(isValid_iff hf x).mpr this.1, (isValid_iff hf p).mpr this.2⟩
  · intro c
    constructor
    · unfold crateChildren
      exact hf.cplNodup.sublist (List.Sublist.map _ List.filter_sublist)
    · have := subtreeList_nodup hf c
      unfold subtreeList at this
      exact (List.nodup_cons.mp this).2

/-! ### the bullet points of the property text -/

/-- "invalid names are rejected without effect" — in ANY state (not only reachable ones), for the three
operations that take a name: the call throws `crate_invalid_name` and no table changes. -/
theorem C07_invalid_name_rejected_without_effect (s : Schema) (db : Db) (n : Name) (c : Id)
    (hn : Forest.validName n = false) :
    step s db (.createRoot n) = (db, .throw exInvalidName) ∧
    step s db (.createSub c n) = (db, .throw exInvalidName) ∧
    step s db (.rename c n) = (db, .throw exInvalidName) :=
  ⟨createRoot_invalid s db hn, createSub_invalid s db c hn, setName_invalid s db c hn⟩

example : Forest.validName [] = false ∧ Forest.validName [120, 59, 121] = false := by decide

/-- A call that throws leaves every table exactly as it was, in every reachable state. -/
theorem C07_failed_call_changes_nothing (s : Schema) (ops : List Op) (op : Op)
    (hr : (step s (run s Db.empty ops) op).2.isOk = false) :
    (step s (run s Db.empty ops) op).1 = run s Db.empty ops :=
  step_throw_unchanged s (inv_run s ops inv_empty) op hr

/-- non-vacuity: calls that fail — a duplicate root name, a rename of a removed crate. -/
example : (step .schema_1_9_1 (run .schema_1_9_1 Db.empty [.createRoot [97]]) (.createRoot [97])).2.isOk = false ∧
    (step .schema_1_9_1 (run .schema_1_9_1 Db.empty [.createRoot [97], .removeCrate 1]) (.rename 1 [98])).2.isOk = false := by
  decide +kernel

/-- "a re-parenting that would create a cycle is rejected leaving the forest unchanged": under itself or
under any of its descendants, in every reachable state. -/
theorem C07_cycle_reparent_rejected (s : Schema) (ops : List Op) (c q : Id)
    (hcyc : q = c ∨ (absForest (run s Db.empty ops)).isAncestor c q = true) :
    (step s (run s Db.empty ops) (.setParent c (some q))).2.isOk = false ∧
    (step s (run s Db.empty ops) (.setParent c (some q))).1 = run s Db.empty ops := by
  have h : Inv (run s Db.empty ops) := inv_run s ops inv_empty
  refine step_rejected s h fun hok => ?_
  obtain ⟨_, hqc, hcq⟩ := hok.2 q rfl
  exact hcyc.elim hqc fun ha => hcq ((isAncestor_iff h.toFInv c q).mp ha)

/-- non-vacuity: after `a`, `a/b` the crate 2 is a descendant of crate 1. -/
example : (absForest (run .schema_1_9_1 Db.empty [.createRoot [97], .createSub 1 [98]])).isAncestor 1 2 = true := by
  decide +kernel

/-- "crate ids never collide": the id reported by a successful creation is not the id of a live crate,
and afterwards it is; every other crate keeps its id (the id column of `Crate` only grows by the new id). -/
theorem C07_new_id_is_fresh (s : Schema) (ops : List Op) (op : Op) (i : Id)
    (hop : isCreate op = true) (hr : (step s (run s Db.empty ops) op).2 = .ok (.id i)) :
    crateIsValid (run s Db.empty ops) i = .ok false ∧
    crateIsValid (step s (run s Db.empty ops) op).1 i = .ok true ∧
    (step s (run s Db.empty ops) op).1.crate.map (·.id) = (run s Db.empty ops).crate.map (·.id) ++ [i] := by
  have h : Inv (run s Db.empty ops) := inv_run s ops inv_empty
  have h' : Inv (step s (run s Db.empty ops) op).1 := (step_ok s h op).1
  have hd : i ∉ ids (run s Db.empty ops) ∧ ids (step s (run s Db.empty ops) op).1 = ids (run s Db.empty ops) ++ [i] := by
    rcases ids_step s h op with ⟨_, h0⟩ | ⟨k, _, hk, hfresh, hids⟩ | ⟨c, hc, _⟩
    · have := h0 hop
      rw [hr] at this; cases this
    · rw [hk] at hr
      cases hr
      exact ⟨hfresh, hids⟩
    · subst hc; cases hop
  refine ⟨(isValid_false_iff h.toFInv i).mpr hd.1, (isValid_iff h'.toFInv i).mpr ?_, hd.2⟩
  rw [hd.2]; simp

/-- non-vacuity: a creation that succeeds and reports an id. -/
example : (step .schema_1_6_0 (run .schema_1_6_0 Db.empty [.createRoot [97]]) (.createSub 1 [98])).2 = .ok (.id 2) := by
  decide +kernel

/-- "crate ids never change": an operation other than the removal of the crate or of one of its ancestors
never invalidates a live crate — and (`C07_step_simulates_spec`) renaming / re-parenting change only the
name / parent recorded for that id. -/
theorem C07_live_crate_stays_live (s : Schema) (ops : List Op) (op : Op) (y : Id)
    (hy : crateIsValid (run s Db.empty ops) y = .ok true)
    (hop : ∀ c, op = .removeCrate c → ¬ (y = c ∨ (absForest (run s Db.empty ops)).isAncestor c y = true)) :
    crateIsValid (step s (run s Db.empty ops) op).1 y = .ok true := by
  have h : Inv (run s Db.empty ops) := inv_run s ops inv_empty
  have h' : Inv (step s (run s Db.empty ops) op).1 := (step_ok s h op).1
  have hy' := (isValid_iff h.toFInv y).mp hy
  rw [isValid_iff h'.toFInv]
  rcases ids_step s h op with ⟨h0, _⟩ | ⟨k, _, _, _, hids⟩ | ⟨c, hc, hmem⟩
  · have h0' : ids (step s (run s Db.empty ops) op).1 = ids (run s Db.empty ops) := h0
    rw [h0']; exact hy'
  · have hids' : ids (step s (run s Db.empty ops) op).1 = ids (run s Db.empty ops) ++ [k] := hids
    rw [hids']; exact List.mem_append_left _ hy'
  · rw [hmem]
    exact ⟨hy', fun hs => hop c hc ((sub_iff_abs h.toFInv c y).mp hs)⟩

example : crateIsValid (run .schema_1_6_0 Db.empty [.createRoot [97]]) 1 = .ok true := by decide +kernel

/-- "a removed crate is never again returned by any query": `remove_crate` kills exactly the crate
and its sub-tree — afterwards none of them is valid. -/
theorem C07_remove_kills_subtree (s : Schema) (ops : List Op) (c y : Id)
    (hy : y = c ∨ (absForest (run s Db.empty ops)).isAncestor c y = true) :
    crateIsValid (step s (run s Db.empty ops) (.removeCrate c)).1 y = .ok false := by
  have h : Inv (run s Db.empty ops) := inv_run s ops inv_empty
  have h' : Inv (step s (run s Db.empty ops) (.removeCrate c)).1 := (step_ok s h _).1
  rw [isValid_false_iff h'.toFInv]
  have e : (step s (run s Db.empty ops) (.removeCrate c)).1 = afterRemove (run s Db.empty ops) c := by
    show (removeCrate s (run s Db.empty ops) c).1 = _
    rw [removeCrate_eq s h c]
  rw [e, mem_ids_afterRemove]
  exact fun hm => hm.2 ((sub_iff_abs h.toFInv c y).mpr hy)

/-- In every reachable state no query returns an id that is not valid — crates(), root_crates(),
parent(), children(), descendants(), crate_by_id, crates_by_name, root_crate_by_name, sub_crate_by_name. -/
theorem C07_queries_return_only_live_crates (s : Schema) (ops : List Op) (y : Id)
    (hy : crateIsValid (run s Db.empty ops) y = .ok false) :
    let db := run s Db.empty ops
    y ∉ dbCrates db ∧ y ∉ dbRootCrates db ∧ dbCrateById db y = .ok none ∧
    (∀ x, crateParent db x ≠ .ok (some y)) ∧ (∀ x, y ∉ crateChildren db x) ∧ (∀ x, y ∉ crateDescendants db x) ∧
    (∀ n, y ∉ dbCratesByName db n) ∧ (∀ n, rootCrateByName db n ≠ some y) ∧ (∀ x n, subCrateByName db x n ≠ some y) := by
  intro db
  have h : Inv db := inv_run s ops inv_empty
  have hf := h.toFInv
  have hdead : y ∉ ids db := (isValid_false_iff hf y).mp hy
  have hlive : (absForest db).live y = false := abs_live_false db hdead
  have hby : ∀ p n, y ∉ (absForest db).byParentName p n := by
    intro p n hm
    unfold Forest.Forest.byParentName at hm
    rw [abs_crates] at hm
    simp only [List.mem_map, List.mem_filter] at hm
    obtain ⟨x, ⟨⟨r, hr, rfl⟩, _⟩, rfl⟩ := hm
    exact hdead (mem_ids_of_mem hr)
  refine ⟨?_, ?_, ?_, ?_, ?_, ?_, ?_, ?_, ?_⟩
  · exact fun hm => hdead ((mem_dbCrates db y).mp hm)
  · exact fun hm => hdead ((hf.cplTotal _).mp (mem_map_fst ((mem_dbRootCrates db y).mp hm)))
  · rw [q_crateById hf, hlive]; rfl
  · exact fun x hx => hdead (hf.par_live ((parentIs_iff hf x y).mp hx)).2
  · intro x hm
    exact hdead (hf.par_live ((mem_crateChildren db x y).mp hm)).1
  · intro x hm
    exact hdead (hf.chLive _ ((mem_crateDescendants db x y).mp hm)).2
  · intro n
    unfold dbCratesByName
    intro hm
    simp only [mem_sortIds, List.mem_map, List.mem_filter] at hm
    obtain ⟨r, ⟨hr, _⟩, rfl⟩ := hm
    exact hdead (mem_ids_of_mem hr)
  · intro n hx
    rw [q_rootCrateByName hf] at hx
    exact hby _ _ (lastById_mem hx)
  · intro x n hx
    rw [q_subCrateByName hf] at hx
    exact hby _ _ (lastById_mem hx)

/-- non-vacuity: after `a`, `a/b`, remove `a` both ids are invalid. -/
example : crateIsValid (run .schema_1_9_1 Db.empty [.createRoot [97], .createSub 1 [98], .removeCrate 1]) 2 = .ok false := by
  decide +kernel

/-- "never again".

FULL STATEMENT (false of the 1.x code, see `C07_removed_never_returned_counterexample`):
  `∀ s ops ops' y, crateIsValid (run s ∅ ops) y = ok false → crateIsValid (run s ∅ (ops ++ ops')) y = ok false`
— an id that is invalid (never issued, or removed) stays invalid for ever.  The 1.x schemas allocate crate ids as
MAX(id)+1 / rowid, so the id of a removed crate with the largest id IS handed out again by a later creation, and
a handle kept from before the removal then designates the new crate (recorded finding
`v1-removed-crate-id-reissued`; not locally repairable: it is how the Engine 1.x schema allocates ids).

PROVED (the honest suffix form): an invalid id stays invalid, and is returned by no query, after every
continuation in which no creation reports that very id — `reissues s db ops' y = false` is the explicit decidable
restriction (executable: `EngineModel.Api.CratesV1.reissues`). -/
theorem C07_removed_never_returned_partial (s : Schema) (ops ops' : List Op) (y : Id)
    (hy : crateIsValid (run s Db.empty ops) y = .ok false)
    (hno : reissues s (run s Db.empty ops) ops' y = false) :
    crateIsValid (run s Db.empty (ops ++ ops')) y = .ok false := by
  have h : Inv (run s Db.empty ops) := inv_run s ops inv_empty
  have h' : Inv (run s Db.empty (ops ++ ops')) := inv_run s _ inv_empty
  rw [isValid_false_iff h'.toFInv, run_append]
  exact dead_suffix s y ops' h ((isValid_false_iff h.toFInv y).mp hy) hno

/-- non-vacuity: crate 1 was removed and the continuation (create `b` under the surviving root 2, rename it,
remove it) never reports id 1. -/
example : crateIsValid (run .schema_1_9_1 Db.empty [.createRoot [97], .createRoot [98], .removeCrate 1]) 1 = .ok false ∧
    reissues .schema_1_9_1 (run .schema_1_9_1 Db.empty [.createRoot [97], .createRoot [98], .removeCrate 1])
      [.createSub 2 [99], .rename 3 [100], .removeCrate 3] 1 = false := by
  decide +kernel

/-- The full statement is false of the code (and therefore of the Model), on both allocation rules: create `a`
(id 1), remove it — id 1 is invalid — create `b`: id 1 is valid again. -/
theorem C07_removed_never_returned_counterexample :
    (crateIsValid (run .schema_1_6_0 Db.empty [.createRoot [97], .removeCrate 1]) 1 = .ok false ∧
     (step .schema_1_6_0 (run .schema_1_6_0 Db.empty [.createRoot [97], .removeCrate 1]) (.createRoot [98])).2 = .ok (.id 1) ∧
     crateIsValid (run .schema_1_6_0 Db.empty ([.createRoot [97], .removeCrate 1] ++ [.createRoot [98]])) 1 = .ok true) ∧
    (crateIsValid (run .schema_1_18_0_os Db.empty [.createRoot [97], .removeCrate 1]) 1 = .ok false ∧
     (step .schema_1_18_0_os (run .schema_1_18_0_os Db.empty [.createRoot [97], .removeCrate 1]) (.createRoot [98])).2 = .ok (.id 1) ∧
     crateIsValid (run .schema_1_18_0_os Db.empty ([.createRoot [97], .removeCrate 1] ++ [.createRoot [98]])) 1 = .ok true) := by
  decide +kernel

/-! ### from any well-formed state (a loaded library), not only from the empty one -/

/-- One step from ANY raw state that passes the executable check `WfRaw` (= satisfies the invariant,
`C11_wfRaw_iff_invariant`): the state after is well-formed again, the call is not `ub`, its outcome class is one the
Spec allows and `absForest` commutes with it. -/
theorem C07_step_from_wellformed (s : Schema) (db : Db) (hw : WfRaw db = true) (op : Op) :
    WfRaw (step s db op).1 = true ∧ (step s db op).2.isUb = false ∧
    forestNext (absForest db) op (step s db op).2 = some (absForest (step s db op).1) := by
  obtain ⟨h1, h2, h3⟩ := step_ok s (inv_of_wfRaw hw) op
  exact ⟨wfRaw_of_inv h1, h2, h3⟩

/-- Whole histories from any well-formed state: well-formed at the end, and the Spec — started on the forest the
raw rows describe and told only the outcomes — ends in the forest the final rows describe. -/
theorem C07_refines_from_wellformed (s : Schema) (db : Db) (hw : WfRaw db = true) (ops : List Op) :
    WfRaw (run s db ops) = true ∧ forestTrace s db (absForest db) ops = some (absForest (run s db ops)) :=
  ⟨wfRaw_of_inv (inv_run s ops (inv_of_wfRaw hw)), forestTrace_run s ops (inv_of_wfRaw hw)⟩

/-- … and on every well-formed state every structural query equals the Spec's query on the forest the rows describe. -/
theorem C07_queries_agree_on_wellformed (db : Db) (hw : WfRaw db = true) :
    let f := absForest db
    dbCrates db = Forest.sortIds f.ids ∧ f.ids.Nodup ∧
    dbRootCrates db = Forest.sortIds f.roots ∧
    (∀ c, crateIsValid db c = .ok (f.live c)) ∧
    (∀ c, dbCrateById db c = .ok (if f.live c then some c else none)) ∧
    (∀ c, crateName db c = match f.nameOf c with | some n => .ok n | none => .throw exCrateDeleted) ∧
    (∀ c, crateParent db c = .ok (f.parentOf c)) ∧
    (∀ c, sortIds (crateChildren db c) = Forest.sortIds (f.children c)) ∧
    (∀ c, sortIds (crateDescendants db c) = Forest.sortIds (f.descendants c)) ∧
    (∀ n, dbCratesByName db n = Forest.sortIds (f.byName n)) ∧
    (∀ n, rootCrateByName db n = lastById (f.byParentName none n)) ∧
    (∀ c n, subCrateByName db c n = lastById (f.byParentName (some c) n)) :=
  queries_agree (inv_of_wfRaw hw).toFInv

/-- non-vacuity: a well-formed raw state given directly (not produced by `run`). -/
example : WfRaw ⟨[⟨5, [97], [97, 59]⟩, ⟨9, [98], [97, 59, 98, 59]⟩], [(5, 5), (9, 5)], [(5, 9)], [], [], 0⟩ = true := by
  decide +kernel

end EngineModel.Properties.C07V1
