/-
C08 — Crate contents are exactly the tracks added and not removed.   Schema 1.x half.

Model  : EngineModel/Api/CratesV1.lean — add_track (delete-then-insert), remove_track (from a crate),
         clear_tracks, database::remove_track (with its DELETE FROM CrateTrackList, and the AUTOINCREMENT
         trigger of >= 1.17.0), database::remove_crate (whole sub-tree, with the membership rows),
         create_track as far as the Track id goes; `crateTracks` = crate::tracks(),
         `trackContainingCrates` = track::containing_crates(), both read through the CrateTrackList view
         (which from 1.9.1 on INNER JOINs List and hides rows of crates that no longer exist).
Spec   : EngineModel/Spec/Members.lean — a set of (crate, track) pairs between live crates and live tracks.
Trace  : `membersTrace` (EngineModel/Api/CratesV1Sim.lean) drives the Spec with what a caller sees of each
         call (returned / threw, reported ids, `crates()` before and after a removal).

Histories are arbitrary lists of Model operations — crate structure, membership and track operations
interleaved, on live and removed crates / tracks and on ids that never existed — so crate ids, track ids
and membership rows de-synchronise freely; `s` ranges over the eleven 1.x schema versions.
-/
import Proofs.CratesV1Suffix

namespace EngineModel.Properties.C08V1
open EngineModel EngineModel.Api.CratesV1 EngineModel.Spec EngineModel.Pure.Detect

/-- Refinement: for every history the membership Spec, told only the outcomes of the calls, never
contradicts them (add on a removed crate throws, remove / clear / add never fail otherwise, …), and in the
state reached `crate.tracks()`, `track.containing_crates()`, `database.tracks()` and `database.crates()`
are exactly the Spec's relation, its converse, its live tracks and its live crates (as sorted lists). -/
theorem C08_refines (s : Schema) (ops : List Op) :
    ∃ m, membersTrace s Db.empty Members.empty ops = some m ∧
      (∀ c, sortIds (crateTracks s (run s Db.empty ops) c) = sortIds (Members.tracksOf m c)) ∧
      (∀ t, sortIds (trackContainingCrates s (run s Db.empty ops) t) = sortIds (Members.cratesOf m t)) ∧
      dbTracks (run s Db.empty ops) = sortIds m.tracks ∧
      dbCrates (run s Db.empty ops) = sortIds m.crates ∧
      m.pairs.Nodup ∧ (∀ p ∈ m.pairs, p.1 ∈ m.crates ∧ p.2 ∈ m.tracks) := by
  have h : Inv (run s Db.empty ops) := inv_run s ops inv_empty
  obtain ⟨m, e, hm⟩ := membersTrace_run s ops inv_empty memRel_empty
  refine ⟨m, e, q_tracks s h hm, q_containing s h hm, q_dbTracks h hm, q_dbCrates h hm, hm.pairsNodup, ?_⟩
  intro p hp
  have := h.ctlLive p ((hm.pairs p).mp hp)
  exact ⟨(hm.crates _).mpr this.1, (hm.tracks _).mpr this.2⟩

/-- From ANY raw state that passes `WfRaw` (a loaded library): the Spec, started on the membership state the rows describe
(`absMembers`), follows every history, and `crate.tracks()`, `track.containing_crates()`, `database.tracks()` agree with it at
the end.  (Of the clauses of `C08_refines` it leaves out `database.crates()` and that every pair names a live crate and track.) -/
theorem C08_refines_from_wellformed (s : Schema) (db : Db) (hw : WfRaw db = true) (ops : List Op) :
    ∃ m, membersTrace s db (absMembers db) ops = some m ∧
      (∀ c, sortIds (crateTracks s (run s db ops) c) = sortIds (Members.tracksOf m c)) ∧
      (∀ t, sortIds (trackContainingCrates s (run s db ops) t) = sortIds (Members.cratesOf m t)) ∧
      dbTracks (run s db ops) = sortIds m.tracks ∧ m.pairs.Nodup := by
  have h0 : Inv db := inv_of_wfRaw hw
  have h : Inv (run s db ops) := inv_run s ops h0
  obtain ⟨m, e, hm⟩ := membersTrace_run s ops h0 (memRel_abs h0)
  exact ⟨m, e, q_tracks s h hm, q_containing s h hm, q_dbTracks h hm, hm.pairsNodup⟩

/-- … and the frame property from any well-formed state. -/
theorem C08_frame_from_wellformed (s : Schema) (db : Db) (hw : WfRaw db = true) (op : Op) (c t : Id)
    (hp : touches (absForest db) op (c, t) = false) :
    (t ∈ crateTracks s (step s db op).1 c ↔ t ∈ crateTracks s db c) ∧
    (c ∈ trackContainingCrates s (step s db op).1 t ↔ c ∈ trackContainingCrates s db t) :=
  frame_queries s (inv_of_wfRaw hw) op c t hp

example : WfRaw ⟨[⟨5, [97], [97, 59]⟩], [(5, 5)], [], [(5, 7)], [⟨7, true⟩], 0⟩ = true ∧
    touches (absForest ⟨[⟨5, [97], [97, 59]⟩], [(5, 5)], [], [(5, 7)], [⟨7, true⟩], 0⟩) (.removeTrack 8) (5, 7) = false := by
  decide +kernel

/-- In every reachable state the contents of a crate have no duplicates, consist of live tracks only, only
valid crates have contents, and `containing_crates` is the exact converse of `tracks`. -/
theorem C08_contents_wellformed (s : Schema) (ops : List Op) :
    let db := run s Db.empty ops
    (∀ c, (crateTracks s db c).Nodup) ∧ (∀ t, (trackContainingCrates s db t).Nodup) ∧
    (∀ c t, t ∈ crateTracks s db c → t ∈ dbTracks db ∧ crateIsValid db c = .ok true) ∧
    (∀ c t, t ∈ crateTracks s db c ↔ c ∈ trackContainingCrates s db t) := by
  intro db
  have h : Inv db := inv_run s ops inv_empty
  refine ⟨crateTracks_nodup s h, containing_nodup s h, ?_, ?_⟩
  · intro c t ht
    have := h.ctlLive _ ((mem_crateTracks s h c t).mp ht)
    exact ⟨(mem_dbTracks db t).mpr this.2, (isValid_iff h.toFInv c).mpr this.1⟩
  · intro c t
    rw [mem_crateTracks s h, mem_containing s h]

/-- Frame: an operation leaves the membership of every pair it is not about unchanged — add / remove on
(c, t) every other pair, clear_tracks every other crate, track removal every other track, crate removal
every crate outside the removed sub-tree, all other operations every pair. -/
theorem C08_frame (s : Schema) (ops : List Op) (op : Op) (c t : Id)
    (hp : touches (absForest (run s Db.empty ops)) op (c, t) = false) :
    (t ∈ crateTracks s (step s (run s Db.empty ops) op).1 c ↔ t ∈ crateTracks s (run s Db.empty ops) c) ∧
    (c ∈ trackContainingCrates s (step s (run s Db.empty ops) op).1 t ↔ c ∈ trackContainingCrates s (run s Db.empty ops) t) :=
  frame_queries s (inv_run s ops inv_empty) op c t hp

/-- non-vacuity: adding t1 to crate 1 is not about (2, t1) nor about (1, t2). -/
example : touches (absForest (run .schema_1_6_0 Db.empty [.createRoot [97], .createRoot [98]])) (.addTrack 1 1) (2, 1) = false ∧
    touches (absForest (run .schema_1_6_0 Db.empty [.createRoot [97], .createRoot [98]])) (.addTrack 1 1) (1, 2) = false := by
  decide +kernel

/-- add_track: on a valid crate and a live track it succeeds and the track is then in the crate; otherwise
it throws (and by `C07_failed_call_changes_nothing` changes nothing).  Together with `C08_frame` this pins
the whole relation down; in particular adding a track that is already present changes no membership. -/
theorem C08_add_track (s : Schema) (ops : List Op) (c t : Id) :
    let db := run s Db.empty ops
    ((crateIsValid db c = .ok true ∧ t ∈ dbTracks db) →
      (step s db (.addTrack c t)).2 = .ok .unit ∧ t ∈ crateTracks s (step s db (.addTrack c t)).1 c) ∧
    (¬ (crateIsValid db c = .ok true ∧ t ∈ dbTracks db) →
      (step s db (.addTrack c t)).2.isOk = false ∧ (step s db (.addTrack c t)).1 = db) := by
  intro db
  have h : Inv db := inv_run s ops inv_empty
  have hlive := mem_dbTracks db t
  constructor
  · rintro ⟨hc, ht⟩
    have hc' := (isValid_iff h.toFInv c).mp hc
    have ht' := hlive.mp ht
    have e : step s db (.addTrack c t) = (afterAddTrack db c t, .ok .unit) := addTrack_ok s h hc' ht'
    rw [e]
    refine ⟨rfl, ?_⟩
    rw [mem_crateTracks s (inv_addTrack h hc' ht'), mem_afterAddTrack]
    exact Or.inr rfl
  · exact fun hn => step_rejected s h fun ha => hn ⟨(isValid_iff h.toFInv c).mpr ha.1, hlive.mpr ha.2⟩

/-- "Adding a track that is already present is a no-op": the call succeeds and no crate's contents and no
track's containing crates change. -/
theorem C08_add_present_is_noop (s : Schema) (ops : List Op) (c t : Id)
    (hp : t ∈ crateTracks s (run s Db.empty ops) c) :
    (step s (run s Db.empty ops) (.addTrack c t)).2 = .ok .unit ∧
    (∀ c', sortIds (crateTracks s (step s (run s Db.empty ops) (.addTrack c t)).1 c') = sortIds (crateTracks s (run s Db.empty ops) c')) ∧
    (∀ t', sortIds (trackContainingCrates s (step s (run s Db.empty ops) (.addTrack c t)).1 t')
      = sortIds (trackContainingCrates s (run s Db.empty ops) t')) := by
  have h : Inv (run s Db.empty ops) := inv_run s ops inv_empty
  have hrow := (mem_crateTracks s h c t).mp hp
  have hc := (h.ctlLive _ hrow).1
  have ht := (h.ctlLive _ hrow).2
  have e : step s (run s Db.empty ops) (.addTrack c t) = (afterAddTrack (run s Db.empty ops) c t, .ok .unit) :=
    addTrack_ok s h hc ht
  rw [e]
  have h' := inv_addTrack h hc ht
  have hmem : ∀ p, p ∈ (afterAddTrack (run s Db.empty ops) c t).ctl ↔ p ∈ (run s Db.empty ops).ctl :=
    fun p => (mem_afterAddTrack _ c t p).trans (or_iff_left_of_imp fun e => e ▸ hrow)
  refine ⟨rfl, ?_, ?_⟩
  · intro c'
    apply sortIds_eq_of_mem (crateTracks_nodup s h' c') (crateTracks_nodup s h c')
    intro x; rw [mem_crateTracks s h', mem_crateTracks s h, hmem]
  · intro t'
    apply sortIds_eq_of_mem (containing_nodup s h' t') (containing_nodup s h t')
    intro x; rw [mem_containing s h', mem_containing s h, hmem]

/-- non-vacuity: a history in which the track is present when it is added again. -/
example : (1 : Id) ∈ crateTracks .schema_1_9_1 (run .schema_1_9_1 Db.empty [.createRoot [97], .createTrack, .addTrack 1 1]) 1 := by
  decide +kernel

/-- remove_track (from a crate) never fails and afterwards the track is not in the crate; "removing one that
is not present is a no-op": then no table changes at all. -/
theorem C08_remove_track (s : Schema) (ops : List Op) (c t : Id) :
    let db := run s Db.empty ops
    (step s db (.removeTrackFrom c t)).2 = .ok .unit ∧
    t ∉ crateTracks s (step s db (.removeTrackFrom c t)).1 c ∧
    (t ∉ crateTracks s db c → (step s db (.removeTrackFrom c t)).1 = db) := by
  intro db
  have h : Inv db := inv_run s ops inv_empty
  have e : step s db (.removeTrackFrom c t) = (filterCtl db (fun r => r.1 == c && r.2 == t), .ok .unit) :=
    removeTrackFrom_eq s h c t
  rw [e]
  refine ⟨rfl, ?_, ?_⟩
  · rw [mem_crateTracks s (inv_filterCtl h _)]
    show (c, t) ∉ db.ctl.filter _
    simp
  · intro hn
    rw [mem_crateTracks s h] at hn
    refine Db.ext_tables (a := filterCtl db _) (b := db) rfl rfl rfl ?_ rfl rfl
    show db.ctl.filter _ = db.ctl
    rw [List.filter_eq_self]
    intro r hr
    exact (not_pair_iff r c t).mpr (fun e => hn (e ▸ hr))

/-- clear_tracks never fails and empties the crate. -/
theorem C08_clear_tracks (s : Schema) (ops : List Op) (c : Id) :
    (step s (run s Db.empty ops) (.clearTracks c)).2 = .ok .unit ∧
    crateTracks s (step s (run s Db.empty ops) (.clearTracks c)).1 c = [] := by
  have h : Inv (run s Db.empty ops) := inv_run s ops inv_empty
  have e : step s (run s Db.empty ops) (.clearTracks c) = (filterCtl (run s Db.empty ops) (fun r => r.1 == c), .ok .unit) :=
    clearTracks_eq s h c
  rw [e]
  refine ⟨rfl, ?_⟩
  rw [List.eq_nil_iff_forall_not_mem]
  intro t ht
  rw [mem_crateTracks s (inv_filterCtl h _)] at ht
  have : (c, t) ∈ (run s Db.empty ops).ctl.filter (fun r => !(r.1 == c)) := ht
  simp at this

/-- Removing a track erases it from every crate, and it is no longer a track of the database. -/
theorem C08_track_removal_erases_memberships (s : Schema) (ops : List Op) (t : Id) :
    let db' := (step s (run s Db.empty ops) (.removeTrack t)).1
    (∀ c, t ∉ crateTracks s db' c) ∧ trackContainingCrates s db' t = [] ∧ t ∉ dbTracks db' := by
  intro db'
  have h : Inv (run s Db.empty ops) := inv_run s ops inv_empty
  have h' : Inv db' := (step_ok s h _).1
  obtain ⟨_, _, _, _, e4, _, e6⟩ := removeTrack_spec s h t
  have hno : ∀ c, (c, t) ∉ db'.ctl := by
    intro c hm
    have : (c, t) ∈ (run s Db.empty ops).ctl.filter (fun r => !(r.2 == t)) := e4 ▸ hm
    simp at this
  refine ⟨fun c hm => hno c ((mem_crateTracks s h' c t).mp hm), ?_, ?_⟩
  · rw [List.eq_nil_iff_forall_not_mem]
    intro c hm
    exact hno c ((mem_containing s h' t c).mp hm)
  · exact fun hl => ((e6 t).mp ((mem_dbTracks db' t).mp hl)).2 rfl

/-- Removing a crate erases the memberships of the crate and of its whole sub-tree. -/
theorem C08_crate_removal_erases_memberships (s : Schema) (ops : List Op) (c y : Id)
    (hy : y = c ∨ (absForest (run s Db.empty ops)).isAncestor c y = true) :
    let db' := (step s (run s Db.empty ops) (.removeCrate c)).1
    crateTracks s db' y = [] ∧ ∀ t, y ∉ trackContainingCrates s db' t := by
  intro db'
  have h : Inv (run s Db.empty ops) := inv_run s ops inv_empty
  have h' : Inv db' := (step_ok s h _).1
  have hshape : ∀ p, p ∈ db'.ctl ↔ (p ∈ (run s Db.empty ops).ctl ∧ ¬ Sub (run s Db.empty ops) c p.1) := by
    show ∀ p, p ∈ (removeCrate s (run s Db.empty ops) c).1.ctl ↔ _
    rw [removeCrate_eq s h c]
    exact mem_ctl_afterRemove _ c
  have hno : ∀ t, (y, t) ∉ db'.ctl := by
    intro t hm
    exact ((hshape _).mp hm).2 ((sub_iff_abs h.toFInv c y).mpr hy)
  refine ⟨?_, fun t hm => hno t ((mem_containing s h' t y).mp hm)⟩
  rw [List.eq_nil_iff_forall_not_mem]
  intro t hm
  exact hno t ((mem_crateTracks s h' y t).mp hm)

/-- non-vacuity: crate 2 is below crate 1 and holds a track when crate 1 is removed. -/
example : (absForest (run .schema_1_9_1 Db.empty [.createRoot [97], .createSub 1 [98], .createTrack, .addTrack 2 1])).isAncestor 1 2 = true ∧
    crateTracks .schema_1_9_1 (run .schema_1_9_1 Db.empty [.createRoot [97], .createSub 1 [98], .createTrack, .addTrack 2 1]) 2 = [1] := by
  decide +kernel

end EngineModel.Properties.C08V1
