/-
C06, schema 1.x (legacy layout, the eleven versions 1.6.0 … 1.18.0 os):
"after any sequence of single-field setter calls on tracks, each getter
returns the value last set for its field (under the same normalisation as a
snapshot), getter and snapshot field always agree, and no setter changes the
observable value of any other field of that track or of any other track, apart
from the file name and extension derived from the relative path".

Model (EngineModel/TracksV1/Accessors.lean): `get` / `set` = the 26 getters and
setters of `engine_track_impl.cpp` on the rows of one track (read-modify-write
of one PerformanceData blob column behind its decode-after-encode guard, or of
Track / MetaData / MetaDataInteger cells), `readSnap` = `snapshot()`,
`dbSet` / `dbGet` / `dbSnap` = the same on a database of several tracks
(`UNIQUE(path)` from 1.11.1), `dbRun` = a finite history of setter calls.
Spec (SpecFields.lean, SpecLens.lean): `normField` (the normalisation of C01,
field by field; `none` = the call must throw), `snapField` / `putField` (the
track as a record of lenses), `independent`, `replay`.
`Inv` is the invariant of rows the library itself builds; `o : FOps` (double
arithmetic that only reaches raw columns) is arbitrary, the only law ever
assumed of it is `CeilInRange` where stated.  NaN is outside the quantifier,
which matters for `set_bpm` only (`Spec.finiteArg`).
-/
import Proofs.TracksV1Db
import Proofs.TracksV1Table

namespace EngineModel.Properties.C06V1

open EngineModel EngineModel.TracksV1
open Fl (FOps)

/-- **Every setter is the lens the Spec describes.**  On rows satisfying the invariant, a call that
returns normally was acceptable to the Spec, and `snapshot()` afterwards is the snapshot before with
exactly that field replaced by the normalised value (the other 24 fields, and for a slot setter the
other seven slots, unchanged); the invariant is kept. -/
theorem v1_C06_setter_spec (o : FOps) (s : Schema) (r r' : TrackRows) (y : Snap) (f : Field) (v : f.ty)
    (hinv : Inv r = true) (hfin : Spec.finiteArg f v = true) (hy : readSnap o s r = .ok y)
    (h : set o r f v = .ok r') :
    ∃ w, Spec.normField f v = some w ∧ readSnap o s r' = .ok (Spec.putField y f w) ∧ Inv r' = true := by
  have hi := (inv_iff r).mp hinv
  obtain ⟨w, hw, hs, hi'⟩ := set_refines o s r r' f v hi hfin h
  rw [readSnap_of_inv o s r hi] at hy
  cases hy
  exact ⟨w, hw, by rw [readSnap_of_inv o s r' hi', hs], (inv_iff r').mpr hi'⟩

/-- **get ∘ set = normalisation.**  After a call that returned normally the getter of that field
returns the Spec's normalisation of the value passed. -/
theorem v1_C06_get_set (o : FOps) (r r' : TrackRows) (f : Field) (v : f.ty) (hinv : Inv r = true)
    (hfin : Spec.finiteArg f v = true) (h : set o r f v = .ok r') :
    ∃ w, Spec.normField f v = some w ∧ get o r' f = .ok w := by
  have hi := (inv_iff r).mp hinv
  obtain ⟨w, hw, hs, hi'⟩ := set_refines o .s1_6_0 r r' f v hi hfin h
  refine ⟨w, hw, ?_⟩
  rw [get_eq_snapField o .s1_6_0 r' hi' f, hs]
  exact snapField_put_same _ f w (set_slotValid o .s1_6_0 r r' f v h)

/-- **Reject.**  A value the Spec rejects (a beat grid the format cannot hold, more than eight cues or
loops, a label that is empty or longer than 255 bytes, a slot index outside 0..7) makes the setter
throw: it never returns normally and never runs into undefined behaviour; nothing is written (a
`throw` carries no new state, see `dbStep`). -/
theorem v1_C06_reject (o : FOps) (r : TrackRows) (f : Field) (v : f.ty) (hinv : Inv r = true)
    (h : Spec.normField f v = none) : ∃ e, set o r f v = .throw e := by
  have hfin : Spec.finiteArg f v = true := by
    cases f <;> first | rfl | (simp [Spec.normField] at h)
  have hnb : f = .bpm → CeilInRange o := by
    intro hf; subst hf; simp [Spec.normField] at h
  refine (set_defined o r f v hnb).throws fun r' hs => ?_
  obtain ⟨w, hw, _⟩ := set_refines o .s1_6_0 r r' f v ((inv_iff r).mp hinv) hfin hs
  rw [h] at hw; cases hw

/-- **No setter has undefined behaviour**, whatever the rows and the value (NaN included); for
`set_bpm` given that `ceil` maps doubles below 2^63 in magnitude into the range of `int64_t`. -/
theorem v1_C06_never_ub (o : FOps) (r : TrackRows) (f : Field) (v : f.ty) (hc : f = .bpm → CeilInRange o)
    (u : Ub) : set o r f v ≠ .ub u :=
  set_defined o r f v hc u

/-- **Frame.**  For every ordered pair of independent fields (all pairs of different fields, including
two different slots, except a slot and the list holding it): a setter call that returned normally
leaves the other getter's answer unchanged. -/
theorem v1_C06_frame (o : FOps) (r r' : TrackRows) (f g : Field) (v : f.ty) (hinv : Inv r = true)
    (hfin : Spec.finiteArg f v = true) (hfg : Spec.independent f g = true) (h : set o r f v = .ok r') :
    get o r' g = get o r g := by
  have hi := (inv_iff r).mp hinv
  obtain ⟨w, _, hs, hi'⟩ := set_refines o .s1_6_0 r r' f v hi hfin h
  rw [get_eq_snapField o .s1_6_0 r' hi' g, get_eq_snapField o .s1_6_0 r hi g, hs]
  exact snapField_put_other _ f g w hfg

/-- **The derived pair.**  File name and extension change only with the relative path, and then they
are the file name / extension of the new path. -/
theorem v1_C06_frame_derived (o : FOps) (r : TrackRows) (hinv : Inv r = true) :
    (∀ (f : Field) (v : f.ty) (r' : TrackRows), f ≠ .relativePath → Spec.finiteArg f v = true →
      set o r f v = .ok r' → ∀ d, getDerived r' d = getDerived r d) ∧
    (∀ (p : Bytes) (r' : TrackRows), set o r .relativePath p = .ok r' →
      getDerived r' .filename = getFilename p ∧ getDerived r' .fileExtension = (getExtension p).getD []) := by
  constructor
  · intro f v r' hf hfin h d
    obtain ⟨w, _, hs, _⟩ := set_refines o .s1_6_0 r r' f v ((inv_iff r).mp hinv) hfin h
    have hp : r'.track.path = r.track.path := by
      have := congrArg Snap.relativePath hs
      rw [putField_path _ f w hf] at this
      exact this
    cases d <;> simp only [getDerived, hp]
  · intro p r' h
    simp only [TracksV1.set, Res.ok.injEq] at h
    subst h
    exact ⟨rfl, rfl⟩

/-- **Getter = snapshot field.**  On rows satisfying the invariant `snapshot()` succeeds and every
getter returns the corresponding field of it (a per-slot getter: that slot, `out_of_range` outside the
slots). -/
theorem v1_C06_getter_snapshot (o : FOps) (s : Schema) (r : TrackRows) (hinv : Inv r = true) :
    ∃ y, readSnap o s r = .ok y ∧ ∀ f, get o r f = Spec.snapField y f := by
  have hi := (inv_iff r).mp hinv
  exact ⟨snapOf o s r, readSnap_of_inv o s r hi, get_eq_snapField o s r hi⟩

/-- The per-slot getters never index out of bounds (no invariant needed). -/
theorem v1_C06_slot_getters_safe (o : FOps) (r : TrackRows) (i : UInt32) (u : Ub) :
    get o r (.hotCueAt i) ≠ .ub u ∧ get o r (.loopAt i) ≠ .ub u :=
  ⟨slot_lookup_defined i _ u, slot_lookup_defined i _ u⟩

/-- **The invariant is established** by `create_track` (`prior = none`) and by `update` over any prior
rows whatsoever. -/
theorem v1_C06_inv_write (o : FOps) (s : Schema) (x : Snap) (prior : Option TrackRows) (rows : TrackRows)
    (h : writeSnap o s x prior = .ok rows) : Inv rows = true :=
  (inv_iff rows).mpr (writeSnap_inv o s x prior rows h)

/-- **… and preserved by every setter**, whatever the value. -/
theorem v1_C06_inv_set (o : FOps) (r r' : TrackRows) (f : Field) (v : f.ty) (hinv : Inv r = true)
    (h : set o r f v = .ok r') : Inv r' = true :=
  (inv_iff r').mpr (set_inv o .s1_6_0 r r' f v ((inv_iff r).mp hinv) h)

/-- The same on the database: the empty database, `create_track` and `update` keep every track's rows
inside the invariant. -/
theorem v1_C06_inv_db (o : FOps) (d : Db) (hinv : DbInv d) :
    DbInv ⟨d.schema, []⟩ ∧
    (∀ x d' id, dbCreate o d x = .ok (d', id) → DbInv d') ∧
    (∀ x d' id, dbUpdate o d id x = .ok d' → DbInv d') ∧
    (∀ id f v d', dbSet o d id f v = .ok d' → DbInv d') := by
  refine ⟨?_, ?_, ?_, ?_⟩
  · intro id r h; cases h
  · intro x d' id h; exact dbCreate_inv o d d' x id hinv h
  · intro x d' id h; exact dbUpdate_inv o d d' x id hinv h
  · intro id f v d' h; exact dbSet_inv o d d' id f v hinv h

/-- **Other tracks.**  A setter call on one track leaves the rows — hence every getter and the
snapshot — of every other track exactly as they were. -/
theorem v1_C06_other_track (o : FOps) (d d' : Db) (id id' : Int) (f : Field) (v : f.ty) (hne : id' ≠ id)
    (h : dbSet o d id f v = .ok d') :
    d'.rows id' = d.rows id' ∧ dbSnap o d' id' = dbSnap o d id' ∧ ∀ g, dbGet o d' id' g = dbGet o d id' g := by
  have hr := dbSet_rows_other o d d' id id' f v hne h
  obtain ⟨_, _, _, _, _, hs⟩ := dbSet_rows_same o d d' id f v h
  refine ⟨hr, ?_, ?_⟩
  · simp only [dbSnap, hr, hs]
  · intro g; simp only [dbGet, hr]

/-- The database-level call on the track itself: get ∘ set and frame through `dbGet`. -/
theorem v1_C06_db_get_set (o : FOps) (d d' : Db) (id : Int) (f : Field) (v : f.ty) (hinv : DbInv d)
    (hfin : Spec.finiteArg f v = true) (h : dbSet o d id f v = .ok d') :
    ∃ w, Spec.normField f v = some w ∧ dbGet o d' id f = .ok w ∧
      ∀ g, Spec.independent f g = true → dbGet o d' id g = dbGet o d id g := by
  obtain ⟨r, r', hr, hs, hr', _⟩ := dbSet_rows_same o d d' id f v h
  obtain ⟨w, hw, hg⟩ := v1_C06_get_set o r r' f v (hinv _ _ hr) hfin hs
  refine ⟨w, hw, ?_, ?_⟩
  · simp only [dbGet, hr', hg]
  · intro g hfg
    simp only [dbGet, hr', hr]
    exact v1_C06_frame o r r' f g v (hinv _ _ hr) hfin hfg hs

/-- **Any finite sequence of setter calls, interleaved over any number of tracks.**  Afterwards every
track's rows still satisfy the invariant, and the snapshot of every track is exactly the snapshot
before with the history's successful calls on that track applied as Spec lenses in order
(`Spec.replay`: each such call puts the normalised value into its field and nothing else; failed calls
and calls on other tracks change nothing); a call that returned normally was acceptable to the Spec;
tracks that did not exist still do not. -/
theorem v1_C06_history (o : FOps) (d : Db) (h : List SetOp) (hinv : DbInv d)
    (hfin : ∀ op ∈ h, Spec.finiteArg op.f op.v = true) :
    DbInv (dbRun o d h).1 ∧
    (∀ e ∈ (dbRun o d h).2, e.2 = true → (Spec.normField e.1.f e.1.v).isSome = true) ∧
    (∀ id, d.rows id = none → (dbRun o d h).1.rows id = none) ∧
    (∀ id y, dbSnap o d id = .ok y → dbSnap o (dbRun o d h).1 id = .ok (Spec.replay id (dbRun o d h).2 y)) := by
  obtain ⟨h1, h2, h3, h4, h5⟩ := dbRun_spec o h d hinv hfin
  refine ⟨h1, h3, h4, ?_⟩
  intro id y hy
  unfold dbSnap at hy ⊢
  cases hr : d.rows id with
  | none => rw [hr] at hy; cases hy
  | some r =>
    rw [hr] at hy
    simp only at hy
    have hi := (inv_iff r).mp (hinv _ _ hr)
    rw [readSnap_of_inv o _ r hi] at hy
    cases hy
    obtain ⟨r', hr', hs⟩ := h5 id r hr
    rw [hr']
    simp only
    rw [h2, readSnap_of_inv o _ r' ((inv_iff r').mp (h1 _ _ hr')), hs]

/-- After any history every getter of every track still agrees with its snapshot field. -/
theorem v1_C06_history_getters (o : FOps) (d : Db) (h : List SetOp) (hinv : DbInv d)
    (hfin : ∀ op ∈ h, Spec.finiteArg op.f op.v = true) (id : Int) (r : TrackRows)
    (hr : (dbRun o d h).1.rows id = some r) :
    ∃ y, dbSnap o (dbRun o d h).1 id = .ok y ∧ ∀ f, dbGet o (dbRun o d h).1 id f = Spec.snapField y f := by
  obtain ⟨h1, _⟩ := v1_C06_history o d h hinv hfin
  obtain ⟨y, hy, hg⟩ := v1_C06_getter_snapshot o (dbRun o d h).1.schema r (h1 _ _ hr)
  refine ⟨y, by simp only [dbSnap, hr, hy], ?_⟩
  intro f
  simp only [dbGet, hr, hg]

/-- **A history that never names a track leaves it untouched** (rows, hence all observations). -/
theorem v1_C06_history_other_tracks (o : FOps) (d : Db) (h : List SetOp) (id : Int)
    (hne : ∀ op ∈ h, op.id ≠ id) : (dbRun o d h).1.rows id = d.rows id :=
  dbRun_other o h d id hne

/-- **Handles of tracks that are not (or no longer) in the database.**  Every setter throws — never
returns normally, never undefined behaviour — so nothing is written for the missing track; `snapshot()`
and the getters that read a `Track` column throw `track_deleted`; `is_valid()` is false. -/
theorem v1_C06_absent_track (o : FOps) (d : Db) (id : Int) (h : d.rows id = none) :
    (∀ (f : Field) (v : f.ty), ∃ e, dbSet o d id f v = .throw e) ∧
    dbSnap o d id = .throw (.dj "track_deleted") ∧ dbIsValid d id = false ∧
    (∀ f : Field, f.trackColumn = true → dbGet o d id f = .throw (.dj "track_deleted")) := by
  refine ⟨fun f v => dbSet_absent o d id f v h, ?_, ?_, ?_⟩
  · simp only [dbSnap, h]
  · simp only [dbIsValid, h]; rfl
  · intro f hf; simp only [dbGet, h, hf, if_true]

/-- **`remove_track`** makes the track absent and leaves the rows (hence every getter and the snapshot)
of every other track, the schema and the invariant as they were; so a history with removals in it
decomposes into setter histories (`v1_C06_history`) between removals. -/
theorem v1_C06_remove_track (d : Db) (id : Int) :
    (dbRemove d id).rows id = none ∧ (dbRemove d id).schema = d.schema ∧
    (∀ id', id' ≠ id → (dbRemove d id).rows id' = d.rows id') ∧ (DbInv d → DbInv (dbRemove d id)) := by
  exact ⟨aget_filter_ne _ _, rfl, fun id' hne => aget_filter_other _ _ _ hne, AllRows.dbRemove id⟩

/-- **The `Track` table stays well-formed.**  Distinct ids, `UNIQUE(path)` (from 1.11.1 on: no two
tracks with the same path) and the row invariant hold of the empty database and are kept by
`create_track`, `update`, every setter and `remove_track`; so every database reachable through the
modelled calls satisfies the hypotheses `Inv` / `DbInv` of the theorems above. -/
theorem v1_C06_table_ok (o : FOps) (d : Db) (hok : TableOk d) :
    TableOk ⟨d.schema, []⟩ ∧
    (∀ x d' id, dbCreate o d x = .ok (d', id) → TableOk d') ∧
    (∀ x d' id, dbUpdate o d id x = .ok d' → TableOk d') ∧
    (∀ id f v d', dbSet o d id f v = .ok d' → TableOk d') ∧
    (∀ id, TableOk (dbRemove d id)) := by
  refine ⟨⟨?_, ?_, ?_⟩, ?_, ?_, ?_, ?_⟩
  · exact List.nodup_nil
  · intro _ e1 he1; cases he1
  · intro id r h; cases h
  · intro x d' id h; exact dbCreate_tableOk o d d' id x hok h
  · intro x d' id h; exact dbUpdate_tableOk o d d' id x hok h
  · intro id f v d' h; exact dbSet_tableOk o d d' id f v hok h
  · intro id; exact dbRemove_tableOk d id hok

/-- **`UNIQUE(path)` at work**: a relative path that another track already holds (from 1.11.1 on) is
refused with an SQLite error by `set_relative_path`, and nothing is written. -/
theorem v1_C06_unique_path (o : FOps) (d : Db) (id id' : Int) (r r' : TrackRows) (p : Bytes)
    (hs : d.schema.ge .s1_11_1 = true) (hr : d.rows id = some r) (hne : id' ≠ id)
    (hm : (id', r') ∈ d.tracks) (hp : r'.track.path = some p) :
    dbSet o d id .relativePath p = .throw .sqlite_error := by
  have ht : pathTaken d id p = true := by
    unfold pathTaken
    rw [hs, Bool.true_and]
    apply List.any_eq_true.mpr
    exact ⟨(id', r'), hm, by simp [hne, hp]⟩
  unfold dbSet
  rw [hr]
  simp only
  exact if_pos ht

/-! ### what `Spec.replay` means: the lens laws of the Spec itself -/

/-- get ∘ put on the Spec record (for a per-slot field: when the slot exists). -/
theorem v1_C06_spec_get_put (y : Snap) (f : Field) (w : f.ty)
    (hs : ∀ i, (f = .hotCueAt i → (Spec.slotOf i y.hotCues.length).isSome = true) ∧
               (f = .loopAt i → (Spec.slotOf i y.loops.length).isSome = true)) :
    Spec.snapField (Spec.putField y f w) f = .ok w := by
  apply snapField_put_same
  cases f with
  | hotCueAt i =>
    have := (hs i).1 rfl
    cases h : Spec.slotOf i y.hotCues.length with
    | none => rw [h] at this; cases this
    | some k => exact ⟨k, h⟩
  | loopAt i =>
    have := (hs i).2 rfl
    cases h : Spec.slotOf i y.loops.length with
    | none => rw [h] at this; cases this
    | some k => exact ⟨k, h⟩
  | _ => trivial

/-- frame on the Spec record: all 26 × 26 ordered pairs of fields minus the overlapping ones. -/
theorem v1_C06_spec_frame (y : Snap) (f g : Field) (w : f.ty) (h : Spec.independent f g = true) :
    Spec.snapField (Spec.putField y f w) g = Spec.snapField y g :=
  snapField_put_other y f g w h

/-! ### non-vacuity -/

def exOps : FOps := ⟨fun _ => 0, fun n => if n = 0 then 0 else F64.one, fun _ _ => 0, fun b => b⟩

example : CeilInRange exOps := fun b h => Fl.toI64_some_of_absLt63 b h

def exSnap (n : UInt8) : Snap :=
  { Snap.empty with
    title := some [65, n], relativePath := some [97, 47, n, 46, 109, 112, 51],
    duration := some 185500, rating := some 150, bpm := some 0x405e200000000000, key := some 0,
    hotCues := [some ⟨[97], 0x40c3880000000000, ⟨255, 1, 2, 3⟩⟩],
    beatgrid := [⟨0, 0⟩, ⟨4, 0x40e5888000000000⟩],
    sampleCount := some 8000000, sampleRate := some 0x40e5888000000000,
    waveform := [⟨1, 2, 3, 4, 5, 6⟩] }

/-- two tracks created through the model of `create_track` on a 1.15.0 database -/
def exDb : Db :=
  match dbCreate exOps ⟨.s1_15_0, []⟩ (exSnap 49) with
  | .ok (d, _) =>
    (match dbCreate exOps d (exSnap 50) with
     | .ok (d', _) => d'
     | _ => d)
  | _ => ⟨.s1_15_0, []⟩

def exRows : TrackRows := (exDb.rows 1).getD blankRows

def exThrown {α} : Res α → Option Exn
  | .throw e => some e
  | _ => none

def exCue : Impl.V1.HotCue := ⟨[66], 0x40f5888000000000, ⟨255, 9, 8, 7⟩⟩

/-- sets, overwrites, a rejected slot index, a rejected label, a path collision, a failing then a
working sample-rate change, both tracks -/
def exHist : List SetOp :=
  [⟨1, .rating, some 250⟩, ⟨2, .hotCueAt 7, some exCue⟩, ⟨1, .hotCueAt 8, none⟩,
   ⟨1, .duration, some 61500⟩, ⟨2, .relativePath, [97, 47, 49, 46, 109, 112, 51]⟩,
   ⟨1, .loopAt 0, some ⟨[], 0, 0, ⟨0, 0, 0, 0⟩⟩⟩, ⟨2, .mainCue, some F64.negZero⟩, ⟨1, .key, some 0⟩,
   ⟨1, .sampleCount, some 0⟩, ⟨2, .beatgrid, [⟨0, 0⟩]⟩, ⟨1, .rating, none⟩, ⟨3, .title, none⟩]

def exGetRating (r : TrackRows) : Res (Option UInt32) := get exOps r .rating

/-- The fixture evaluated once (`exDb` alone is two `create_track`s); the examples below are its parts. -/
theorem exEval :
    (exDb.tracks.length = 2 ∧ Inv exRows = true ∧ Inv ((exDb.rows 2).getD blankRows) = true) ∧
    ((dbRun exOps exDb exHist).2.map (·.2) =
       [true, true, false, true, false, false, true, true, true, false, true, false] ∧
     (dbSnap exOps exDb 1).toOption.map (Spec.replay 1 (dbRun exOps exDb exHist).2) =
       (dbSnap exOps (dbRun exOps exDb exHist).1 1).toOption ∧
     (dbSnap exOps (dbRun exOps exDb exHist).1 1).toOption ≠ (dbSnap exOps exDb 1).toOption ∧
     ((dbSnap exOps (dbRun exOps exDb exHist).1 1).toOption.map (·.duration)) = some (some 61000) ∧
     ((dbSnap exOps (dbRun exOps exDb exHist).1 2).toOption.map (·.hotCues.length)) = some 8) ∧
    ((set exOps exRows .rating (some 150)).toOption.map exGetRating = some (.ok (some 100)) ∧
     set exOps exRows (.hotCueAt 8) none = .throw .out_of_range ∧
     (set exOps exRows (.hotCueAt 7) (some exCue)).isOk = true ∧
     exThrown (dbSet exOps exDb 2 .relativePath [97, 47, 49, 46, 109, 112, 51]) = some .sqlite_error) ∧
    ((dbRemove exDb 2).rows 2 = none ∧ (dbRemove exDb 2).rows 1 = exDb.rows 1) ∧
    (exThrown (dbSet exOps (dbRemove exDb 2) 2 .title (some [65])) = some (.dj "track_deleted") ∧
     exThrown (dbSet exOps (dbRemove exDb 2) 2 .mainCue none) = some .runtime_error) ∧
    (getDerived exRows .filename = [49, 46, 109, 112, 51] ∧ getDerived exRows .fileExtension = [109, 112, 51]) := by
  decide +kernel

example : exDb.tracks.length = 2 := exEval.1.1
example : Inv exRows = true := exEval.1.2.1
example : Inv ((exDb.rows 2).getD blankRows) = true := exEval.1.2.2
example : ∀ op ∈ exHist, Spec.finiteArg op.f op.v = true := by decide +kernel
/-- which calls of the history returned normally -/
example : (dbRun exOps exDb exHist).2.map (·.2) =
    [true, true, false, true, false, false, true, true, true, false, true, false] := exEval.2.1.1
/-- the theorem's conclusion, evaluated: snapshot after = replay of the trace on the snapshot before, and it differs -/
example : (dbSnap exOps exDb 1).toOption.map (Spec.replay 1 (dbRun exOps exDb exHist).2) =
    (dbSnap exOps (dbRun exOps exDb exHist).1 1).toOption := exEval.2.1.2.1
example : (dbSnap exOps (dbRun exOps exDb exHist).1 1).toOption ≠ (dbSnap exOps exDb 1).toOption := exEval.2.1.2.2.1
example : ((dbSnap exOps (dbRun exOps exDb exHist).1 1).toOption.map (·.duration)) = some (some 61000) :=
  exEval.2.1.2.2.2.1
example : ((dbSnap exOps (dbRun exOps exDb exHist).1 2).toOption.map (·.hotCues.length)) = some 8 := exEval.2.1.2.2.2.2
/-- get ∘ set with a normalisation that is not the identity; a rejected and an accepted slot call -/
example : (set exOps exRows .rating (some 150)).toOption.map exGetRating = some (.ok (some 100)) :=
  exEval.2.2.1.1
example : Spec.normField (.hotCueAt 8) (none : Option Impl.V1.HotCue) = none := by decide
example : set exOps exRows (.hotCueAt 8) none = .throw .out_of_range := exEval.2.2.1.2.1
example : (set exOps exRows (.hotCueAt 7) (some exCue)).isOk = true := exEval.2.2.1.2.2.1
example : Spec.independent (.hotCueAt 7) (.hotCueAt 0) = true ∧ Spec.independent .key .sampleRate = true ∧
    Spec.independent .hotCues (.hotCueAt 0) = false := by decide
/-- the path collision is refused by `UNIQUE(path)` -/
example : exThrown (dbSet exOps exDb 2 .relativePath [97, 47, 49, 46, 109, 112, 51]) = some .sqlite_error :=
  exEval.2.2.1.2.2.2
example : TableOk exDb := by
  have h0 : TableOk ⟨.s1_15_0, []⟩ :=
    ⟨List.nodup_nil, (fun _ e he => by cases he), (fun _ _ h => by cases h)⟩
  unfold exDb
  split
  · rename_i d _ h1
    have t1 := (v1_C06_table_ok exOps _ h0).2.1 _ _ _ h1
    split
    · rename_i h2
      exact (v1_C06_table_ok exOps _ t1).2.1 _ _ _ h2
    · exact t1
  · exact h0
/-- a removed track: gone, its setters throw, the other track keeps its snapshot -/
example : (dbRemove exDb 2).rows 2 = none ∧ (dbRemove exDb 2).rows 1 = exDb.rows 1 := exEval.2.2.2.1
example : exThrown (dbSet exOps (dbRemove exDb 2) 2 .title (some [65])) = some (.dj "track_deleted") ∧
    exThrown (dbSet exOps (dbRemove exDb 2) 2 .mainCue none) = some .runtime_error := exEval.2.2.2.2.1
example : getDerived exRows .filename = [49, 46, 109, 112, 51] ∧ getDerived exRows .fileExtension = [109, 112, 51] :=
  exEval.2.2.2.2.2

end EngineModel.Properties.C06V1
