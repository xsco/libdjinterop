/-
C15, schema 1.x tracks — "every public operation invoked with any argument
values on any state reachable through the API either completes or throws an
exception derived from std::exception; it never invokes undefined behaviour".

Model: `Api.C15TracksV1.step` = one dispatcher over `dbCreate` / `dbUpdate` /
`dbSnap` / `dbGet` / `dbSet` / `getDerived` of `EngineModel/TracksV1` (every
getter and setter incl. the per-slot accessors at ANY `int` index, create /
update with ANY snapshot) plus `remove` / `is_valid` / handle copy / `id()`.
The `ub` outcomes this model can produce at all (so the theorems say something):
`oob_index` (slot accessors, waveform resampling), `signed_overflow` (seconds →
ms / ns in `duration()`, `last_played_at()`, `snapshot()`; the generated
`track_utils` extents), `float_cast_range` (`static_cast<int64_t>` of sample
rate, BPM, ceil(BPM)), `div_zero` (`sample_count / (int64) sample_rate`).

`o : FOps` is the double arithmetic whose results only reach raw columns; the
only law assumed of it is `CeilInRange` (for |x| < 2^63 the cast of `ceil x` to
int64 is defined), needed by `set_bpm` alone — and proved for the bit-exact
IEEE `ceil` (`ceilBits`: `ceilBits_bounded` in Proofs/TracksV1Float, `v1t_C15_ceil_exact` here), which the
driver compares with the hardware on every run.  `DbInv` is the invariant of the tracks-1.x package (stored whole seconds
scale back into int64, eight cue / loop slots, …); it holds of the empty
library and is kept by every operation (their locked theorems `v1_C06_inv_db`,
`v1_C06_remove_track`), so every reachable state has it.
-/
import Properties.C06V1
import Proofs.NoUbTracksV1
import Proofs.NoUbGuardsTracksV1
import Proofs.NoUbStaleTracksV1

namespace EngineModel.Properties.C15TracksV1
open EngineModel EngineModel.TracksV1 EngineModel.Api.C15TracksV1 EngineModel.Api.GuardedTracksV1
open Fl (FOps)

/-- No operation, with any arguments, has undefined behaviour on a library whose rows satisfy the invariant. -/
theorem v1t_C15_no_ub (o : FOps) (hc : CeilInRange o) (d : Db) (hd : DbInv d) (op : Op) (u : Ub) :
    (step o d op).2 ≠ .ub u :=
  step_defined o hc d hd op u

/-- Every operation keeps the invariant (whether it returns or throws). -/
theorem v1t_C15_invariant (o : FOps) (d : Db) (hd : DbInv d) (op : Op) : DbInv (step o d op).1 :=
  step_inv o d hd op

theorem v1t_C15_empty (s : Schema) : DbInv ⟨s, []⟩ := dbInv_empty s

/-- **Reachable states**: along any script of operations with any arguments, started on the empty
library of any 1.x version, no call has undefined behaviour. -/
theorem v1t_C15_reachable_no_ub (o : FOps) (hc : CeilInRange o) (s : Schema) (ops : List Op) :
    ∀ r ∈ outcomes o ⟨s, []⟩ ops, ∀ u, r ≠ .ub u :=
  fun r hr u => outcomes_defined o hc ops ⟨s, []⟩ (dbInv_empty s) r hr u

/-- The law assumed of `ceil` (`CeilInRange`, stated by the tracks-1.x package) is a theorem for the
bit-exact IEEE `ceil` (`ceilBits`, compared with the hardware's on every run): with it, nothing at all is
assumed of the double arithmetic. -/
theorem v1t_C15_ceil_exact (o : FOps) : CeilInRange (withExactCeil o) :=
  ceilInRange_of_bounded (ceilBounded_exact o)

theorem v1t_C15_reachable_no_ub_exact_ceil (o : FOps) (s : Schema) (ops : List Op) :
    ∀ r ∈ outcomes (withExactCeil o) ⟨s, []⟩ ops, ∀ u, r ≠ .ub u :=
  v1t_C15_reachable_no_ub (withExactCeil o) (v1t_C15_ceil_exact o) s ops

/-- create_track / update never have undefined behaviour, whatever the snapshot and whatever was stored
before — no invariant needed (over-long cue lists, labels of any length, absent optionals, a waveform
without sample rate, doubles of any bit pattern incl. NaN and infinities), also through the handle of a
removed track. -/
theorem v1t_C15_write_any_snapshot (o : FOps) (d : Db) (id : Int) (x : Snap) (u : Ub) :
    dbCreate o d x ≠ .ub u ∧ dbUpdate o d id x ≠ .ub u :=
  ⟨dbCreate_defined o d x u, dbUpdate_defined o d id x u⟩

/-- The per-slot accessors at any `int` index, on any rows: a value or an exception. -/
theorem v1t_C15_slot_any_index (o : FOps) (hc : CeilInRange o) (r : TrackRows) (i : UInt32)
    (q : Option Impl.V1.HotCue) (l : Option Impl.V1.LoopV) (u : Ub) :
    get o r (.hotCueAt i) ≠ .ub u ∧ get o r (.loopAt i) ≠ .ub u ∧
    TracksV1.set o r (.hotCueAt i) q ≠ .ub u ∧ TracksV1.set o r (.loopAt i) l ≠ .ub u := by
  refine ⟨?_, ?_, set_defined_of_ceilInRange o hc r (.hotCueAt i) q u,
    set_defined_of_ceilInRange o hc r (.loopAt i) l u⟩
  · simp only [TracksV1.get]; exact slot_lookup_defined _ _ u
  · simp only [TracksV1.get]; exact slot_lookup_defined _ _ u

/-- **Stale handles, one step**: right after `remove_track` the handle reports `is_valid() = false`; `id()`,
copying, assigning and destroying it succeed (they touch no library state: a handle is its id — no model
content; AddressSanitizer watches them in the tie); every setter and `snapshot()` throw, and no call
whatsoever through it has undefined behaviour (the getters of MetaData / PerformanceData columns answer
as for a track without such rows, the others throw `track_deleted`). -/
theorem v1t_C15_stale_handle_one_step (o : FOps) (hc : CeilInRange o) (d : Db) (hd : DbInv d) (id : Int) :
    let d' := (step o d (.remove id)).1
    (step o d' (.isValid id)).2 = .ok (.bool false) ∧
    void (step o d' (.handleId id)).2 = .ok () ∧ void (step o d' (.handleCopy id)).2 = .ok () ∧
    (∀ f v, ∃ e, void (step o d' (.set id f v)).2 = .throw e) ∧
    void (step o d' (.snapshot id)).2 = .throw (.dj "track_deleted") ∧
    (∀ op u, (step o d' op).2 ≠ .ub u) := by
  intro d'
  have hrows : d'.rows id = none := (C06V1.v1_C06_remove_track d id).1
  have hinv : DbInv d' := (C06V1.v1_C06_remove_track d id).2.2.2 hd
  obtain ⟨hval, hset, hsnap⟩ := absent_calls o d' id hrows
  exact ⟨hval, rfl, rfl, hset, hsnap, fun op u => step_defined o hc d' hinv op u⟩

/-- double arithmetic with a `ceil` that satisfies the assumed law -/
def exOps : FOps := ⟨fun _ => 0, fun _ => 0, fun _ _ => 0, id⟩

def exSnap : Snap :=
  { Snap.empty with
    title := some [65], relativePath := some [97, 47, 98, 46, 109, 112, 51],
    duration := some 9223372036854775807, lastPlayedAt := some 9223372036854775808,
    bpm := some 0x405e200000000000,
    hotCues := [some ⟨[97], 0x40c3880000000000, ⟨255, 1, 2, 3⟩⟩],
    sampleCount := some 8000000, sampleRate := some 0x40e5888000000000,
    waveform := [⟨1, 2, 3, 4, 5, 6⟩] }

/-- a library with one track whose stored seconds are extreme -/
def exDb : Db := (step exOps ⟨.s1_15_0, []⟩ (.create exSnap)).1

/-- FULL STATEMENT ("handles to removed tracks report is_valid() == false", along every later history) —
FALSE of the 1.x code before schema 1.17.0 (and of this model, which allocates `MAX(id) + 1` as those
schemas do): the id of the removed track with the largest id is handed out again
(`v1t_C15_stale_handle_counterexample`; recorded finding of C15).
PROVED (the honest form): the handle stays invalid, `snapshot()` and every setter keep throwing and no
call through it is `ub`, along every continuation in which no `create_track` reports its id
(`reissuesT … = false`, executable). -/
theorem v1t_C15_stale_handle_partial (o : FOps) (hc : CeilInRange o) (d : Db) (hd : DbInv d) (id : Int) (ops : List Op)
    (hno : reissuesT o (step o d (.remove id)).1 ops id = false) :
    let d' := run o (step o d (.remove id)).1 ops
    (step o d' (.isValid id)).2 = .ok (.bool false) ∧
    (∀ f v, ∃ e, void (step o d' (.set id f v)).2 = .throw e) ∧
    void (step o d' (.snapshot id)).2 = .throw (.dj "track_deleted") := by
  intro d'
  have h0 : (step o d (.remove id)).1.rows id = none := (C06V1.v1_C06_remove_track d id).1
  exact absent_calls o d' id (absent_run o id ops _ h0 hno)

/-- The full statement is false: create a track (id 1), remove it — the handle is invalid — create another
track: it receives id 1 and the stale handle is valid again. -/
theorem v1t_C15_stale_handle_counterexample :
    let d1 := (step exOps ⟨.s1_15_0, []⟩ (.create exSnap)).1
    let d2 := (step exOps d1 (.remove 1)).1
    let d3 := (step exOps d2 (.create exSnap)).1
    void (step exOps d2 (.isValid 1)).2 = .ok () ∧ dbIsValid d2 1 = false ∧
    createdId (step exOps d2 (.create exSnap)).2 = some 1 ∧
    dbIsValid d3 1 = true := by
  decide +kernel

/-- The invariant of `v1t_C15_no_ub` is needed (registered): a stored `length` that does not scale back to
milliseconds inside `int64_t` — not writable through the API — makes `duration()` overflow. -/
theorem v1t_C15_duration_overflow_counterexample :
    void (get exOps { blankRows with track := { TrackRow.blank with length := some 9223372036854775807 } } .duration) =
      .ub .signed_overflow := by decide +kernel

/-! ### the guards, taken from the source

`GuardedTracksV1.stepG` answers `ub` when one of the sites of the call — `v[index]`, `*optional`,
double→int64 conversion, division: each behind the guard the C++ source has, the guard conditions
(`Gen.C15Guards`) and the extents arithmetic (`Gen.TrackUtils`) being regenerated from the source on every
run — is reached outside its domain, and is the dispatcher `step` otherwise. -/

/-- **No site is reached outside its domain**, for any arguments and ANY stored rows (no invariant): the
per-slot accessors at any `int` index, `set_bpm`, and the conversions of create_track / update
(`to_length_calculated`, `to_bpm_fields`, `to_overview_waveform_data`, `to_high_res_waveform_data`). -/
theorem v1t_C15_sites (o : FOps) (hc : CeilInRange o) (d : Db) (op : Op) : siteG Guards.source o d op = .ok () :=
  siteG_ok o hc d op

/-- **The guarded dispatcher is the dispatcher, and never `ub`** on a library that satisfies the invariant. -/
theorem v1t_C15_guarded_step (o : FOps) (hc : CeilInRange o) (d : Db) (op : Op) :
    stepG o d op = step o d op ∧ (DbInv d → ∀ u, (stepG o d op).2 ≠ .ub u) :=
  ⟨stepG_eq o hc d op, fun hd u => by rw [stepG_eq o hc d op]; exact step_defined o hc d hd op u⟩

/-- … along any script from the empty library of any 1.x version. -/
theorem v1t_C15_guarded_reachable_no_ub (o : FOps) (hc : CeilInRange o) (s : Schema) (ops : List Op) :
    ∀ r ∈ outcomesG o ⟨s, []⟩ ops, ∀ u, r ≠ .ub u := by
  rw [outcomesG_eq o hc]
  exact v1t_C15_reachable_no_ub o hc s ops

/-- **The whole public alphabet** of `database` / `track` over this model — the operations above plus
`database::tracks`, `track_by_id`, `tracks_by_relative_path` and the four calls without model content
(`uuid`, `version_name`, `directory`, `verify`: outcome `ok`, exercised by the tie only) — along any script
from the empty library of any 1.x version: never `ub`. -/
theorem v1t_C15_all_calls_no_ub (o : FOps) (hc : CeilInRange o) (s : Schema) (l : List Call) :
    ∀ r ∈ callOutcomes o ⟨s, []⟩ l, ∀ u, r ≠ .ub u :=
  callOutcomes_defined o hc l ⟨s, []⟩ (dbInv_empty s)

/-- Each guard is needed — what a regression of the C++ does to the model: without the slot range test
(the defect repaired by `fix:` 611fb34) index INT_MAX reads outside the eight slots; with the `>= 1` test
of `to_length_calculated` dropped (repaired by 1ecb065) a rate of 0.5 divides by zero; without the
`!sample_count || !sample_rate` test of the overview conversion (63d2e67) a waveform without a rate
dereferences an empty optional; with the `fabs(bpm) < 2^63` test dropped a huge BPM is cast. -/
theorem v1t_C15_guard_dropped_counterexample :
    void (stepGW { Guards.source with hotCueAt := fun _ _ => false } exOps exDb (.get 1 (.hotCueAt 2147483647))).2 =
      .ub .oob_index ∧
    void (stepGW { Guards.source with setLoopAt := fun _ _ => false } exOps exDb (.set 1 (.loopAt 4294967295) none)).2 =
      .ub .oob_index ∧
    void (stepGW { Guards.source with lengthCalcNone := fun c r _ _ => !c || !r } exOps exDb
      (.update 1 { exSnap with sampleRate := some 0x3fe0000000000000 })).2 = .ub .div_zero ∧
    void (stepGW { Guards.source with overviewAbsent := fun _ _ => false } exOps exDb
      (.update 1 { exSnap with sampleRate := none })).2 = .ub .empty_optional ∧
    void (stepGW { Guards.source with bpmFieldsInRange := fun b _ => b } exOps exDb
      (.update 1 { exSnap with bpm := some 0x7fe0000000000000 })).2 = .ub .float_cast_range ∧
    -- track_utils.hpp: `qn == 0` replaced by `!(sample_rate > 0)`: a rate of 100 Hz divides by zero
    void (stepGW { Guards.source with utilOvwZero := fun n _ r => n == 0 || !(F64.lt F64.zero r) } exOps exDb
      (.update 1 { exSnap with sampleRate := some 0x4059000000000000 })).2 = .ub .div_zero := by
  decide +kernel

/-! ### non-vacuity -/

example : CeilBounded exOps := fun _ h => h
example : CeilInRange exOps := ceilInRange_of_bounded (fun _ h => h)
example : ceilBits 0x3fe0000000000000 = F64.one := by decide            -- ceil 0.5 = 1
example : ceilBits 0xbfe0000000000000 = F64.negZero := by decide        -- ceil −0.5 = −0
example : ceilBits 0x405e200000000000 = 0x405e400000000000 := by decide -- ceil 120.5 = 121
example : ceilBits 0x432fffffffffffff = 0x4330000000000000 := by decide -- ceil (2^52 − 0.5) = 2^52 (carry into the exponent)
example : ceilBits 0xc05e200000000000 = 0xc05e000000000000 := by decide -- ceil −120.5 = −120

/-- Building `exDb` resamples the waveform to the 1024 overview entries, which dwarfs every call made on
it afterwards; the outcomes recorded below are therefore evaluated together, on one copy. -/
theorem exDb_outcomes :
    (exDb.tracks.length = 1 ∧ exDb.tracks.all (fun e => Inv e.2) = true) ∧
    void (step exOps exDb (.get 1 (.hotCueAt 4294967295))).2 = .throw .out_of_range ∧
    void (step exOps exDb (.get 1 (.loopAt 8))).2 = .throw .out_of_range ∧
    void (step exOps exDb (.set 1 (.hotCueAt 2147483647) none)).2 = .throw .out_of_range ∧
    void (step exOps exDb (.set 1 (.loopAt 2147483648) none)).2 = .throw .out_of_range ∧
    void (step exOps exDb (.get 1 (.hotCueAt 7))).2 = .ok () ∧
    void (step exOps exDb (.create { exSnap with hotCues := List.replicate 9 none, relativePath := some [99, 46, 100] })).2 =
      .throw (.dj "hot_cues_overflow") ∧
    void (step exOps exDb (.update 1 { exSnap with loops := List.replicate 12 none })).2 = .throw (.dj "loops_overflow") ∧
    void (step exOps exDb (.update 1 { exSnap with sampleRate := none })).2 = .throw (.dj "invalid_track_snapshot") ∧
    void (step exOps exDb (.set 1 .sampleRate (some 0x3fe0000000000000))).2 = .ok () ∧
    void (step exOps exDb (.get 1 .duration)).2 = .ok () ∧
    void (step exOps exDb (.snapshot 1)).2 = .ok () := by
  decide +kernel

example : exDb.tracks.length = 1 := exDb_outcomes.1.1
example : DbInv exDb := fun id r h => List.all_eq_true.mp exDb_outcomes.1.2 (id, r) (aget_mem _ _ _ h)
/-- index −1, 8, INT_MAX, INT_MIN: an exception, not an out-of-bounds access -/
example : void (step exOps exDb (.get 1 (.hotCueAt 4294967295))).2 = .throw .out_of_range := exDb_outcomes.2.1
example : void (step exOps exDb (.get 1 (.loopAt 8))).2 = .throw .out_of_range := exDb_outcomes.2.2.1
example : void (step exOps exDb (.set 1 (.hotCueAt 2147483647) none)).2 = .throw .out_of_range := exDb_outcomes.2.2.2.1
example : void (step exOps exDb (.set 1 (.loopAt 2147483648) none)).2 = .throw .out_of_range := exDb_outcomes.2.2.2.2.1
example : void (step exOps exDb (.get 1 (.hotCueAt 7))).2 = .ok () := exDb_outcomes.2.2.2.2.2.1
/-- nine cues, nine loops, a waveform without a sample rate, a rate in (0,1): exceptions or accepted -/
example : void (step exOps exDb (.create { exSnap with hotCues := List.replicate 9 none, relativePath := some [99, 46, 100] })).2 =
    .throw (.dj "hot_cues_overflow") := exDb_outcomes.2.2.2.2.2.2.1
example : void (step exOps exDb (.update 1 { exSnap with loops := List.replicate 12 none })).2 =
    .throw (.dj "loops_overflow") := exDb_outcomes.2.2.2.2.2.2.2.1
example : void (step exOps exDb (.update 1 { exSnap with sampleRate := none })).2 =
    .throw (.dj "invalid_track_snapshot") := exDb_outcomes.2.2.2.2.2.2.2.2.1
example : void (step exOps exDb (.set 1 .sampleRate (some 0x3fe0000000000000))).2 = .ok () := exDb_outcomes.2.2.2.2.2.2.2.2.2.1
/-- the extreme duration reads back without overflow -/
example : void (step exOps exDb (.get 1 .duration)).2 = .ok () := exDb_outcomes.2.2.2.2.2.2.2.2.2.2.1
example : void (step exOps exDb (.snapshot 1)).2 = .ok () := exDb_outcomes.2.2.2.2.2.2.2.2.2.2.2
/-- a row that violates the invariant does overflow: the invariant is needed -/
example : void (get exOps { blankRows with track := { TrackRow.blank with length := some 9223372036854775807 } }
    .duration) = .ub .signed_overflow := v1t_C15_duration_overflow_counterexample

end EngineModel.Properties.C15TracksV1
