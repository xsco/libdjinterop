/-
C14, the static route — every public mutating entry point, as the source is written, can only issue atomic
statement shapes.

`EngineModel.Gen.SqlSites` (regenerated from clang's typed AST by tools/tr_sqlsites.py on every run) gives, for every
public entry point of the engine implementation, its skeleton: SQL statement sites (read / write), the
`util::sqlite_transaction` scopes, `commit()` calls and the calls into the rest of the library, resolved
transitively.  `Spec/SqlSites.lean` gives skeletons their meaning (`Run`: the event traces of a call — any branch, any
loop count, stopped anywhere by an exception or an early return; `conc`: events → statement kinds, the destructor of a
scope issuing ROLLBACK iff `commit()` has not completed) and the decidable predicate `staticAtomic` (abstract
interpretation of the monitor of `Txn.atomicShape`).

Full statement proved here: for EVERY mutating entry point, EVERY trace of its skeleton is an atomic shape, hence (the
transaction theory of Properties/C14.lean) a fault at ANY statement position of ANY such call raises and leaves the database exactly
as it was.  What is trusted: the AST → skeleton mapping (design/sqlsites.md).
-/
import EngineModel.Gen.SqlSites
import Proofs.SqlSites
import Proofs.Stmts

namespace EngineModel.Properties.C14Sites
open EngineModel.Spec.Txn hiding Ev
open EngineModel.Spec.SqlSites EngineModel.Proofs.SqlSites

/-- **Soundness of the static predicate** against `Spec/Txn.lean`: an accepted skeleton has only atomic shapes
among its traces (no bound on loop counts or trace length). -/
theorem C14_sites_sound (sk : Sk) (h : staticAtomic sk = true) (evs : List Ev) (f : Bool) (hr : Run sk evs f) :
    atomicShape (conc 0 evs) = true :=
  staticAtomic_sound sk h hr

/-- All-or-nothing at every fault position follows (`C14_sites_sound` + `Stmts.all_or_nothing`): any concrete statement sequence (any write functions, any
database type) whose kinds are a trace of an accepted skeleton raises under a fault at any position `k` inside the
call and leaves the connection at rest on exactly the prior database. -/
theorem C14_sites_all_or_nothing {α : Type} (sk : Sk) (h : staticAtomic sk = true) (evs : List Ev) (f : Bool)
    (hr : Run sk evs f) (cs : List (Cmd α)) (hk : cs.map Cmd.kind = conc 0 evs) (k : Nat) (auto : Bool) (db : α)
    (hlt : k < countFaultable (conc 0 evs)) :
    (call (some k) auto cs db).raised = true ∧ (call (some k) auto cs db).conn = Conn.idle db := by
  have ha := staticAtomic_sound sk h hr
  rw [← hk] at ha hlt
  exact EngineModel.Proofs.Stmts.all_or_nothing cs ha k auto db hlt

/-- Entry points the current source does NOT satisfy the static predicate for, with the reason (a real multi-write
call without a scope is reported, not hidden: name + call chain).  Empty on the current tree. -/
def exceptions : List (String × String) := []

/-- **Every public mutating entry point of the current source is statically atomic** (2.x and 1.x impl classes
behind djinterop::track / crate / database, and the public 2.x table-class methods), the listed exceptions apart. -/
theorem C14_sites_all_atomic :
    ∀ e ∈ EngineModel.Gen.SqlSites.mutators, e.1 ∉ exceptions.map (·.1) → staticAtomic e.2 = true := by
  decide +kernel

/-- The table is not vacuous: well over a hundred mutating entry points, each with a reachable writing statement;
and the predicate is sensitive on the table itself: for at least twenty of them the same skeleton issued twice in a row
(two calls' worth of statements as one) is rejected. -/
theorem C14_sites_coverage :
    100 ≤ (EngineModel.Gen.SqlSites.mutators.filter (fun e => !e.2.noWrite)).length ∧
    20 ≤ (EngineModel.Gen.SqlSites.mutators.filter (fun e => !e.2.noWrite && !(staticAtomic (.seq e.2 e.2)))).length := by
  exact ⟨mutators_writing, by decide +kernel⟩

/-- The predicate rejects what it must: two writes outside any scope (the shape of the defects repaired by 5cd191f /
dbbedfa / 516c689), a write after the commit of a scope that wrote, a scope left without `commit()` is fine (it rolls
back), a nested scope is not. -/
theorem C14_sites_rejects :
    staticAtomic (.seqs [.w, .w]) = false ∧
    staticAtomic (.seqs [.ret .w, .ret .w]) = false ∧
    staticAtomic (.seqs [.scope (.seqs [.w, .c]), .w]) = false ∧
    staticAtomic (.star .w) = false ∧
    staticAtomic (.scope (.scope .w)) = false ∧
    staticAtomic (.seqs [.w, .scope (.seqs [.c])]) = false ∧
    staticAtomic (.scope (.seqs [.w, .w])) = true ∧
    staticAtomic (.scope (.seqs [.r, .star (.alts [.w, .r]), .alts [.w, .eps], .c])) = true ∧
    staticAtomic (.seqs [.r, .alts [.w, .eps], .star .r]) = true := by
  decide +kernel

/-- A skeleton `staticAtomic` rejects really has a non-atomic trace: `[write, write]`, on which a fault at the second
statement leaves the first one durable. -/
theorem C14_sites_unscoped_counterexample :
    Run (.seqs [.w, .w]) [.write, .write] false ∧ atomicShape (conc 0 [.write, .write]) = false ∧
    (call (some 1) false (incCmds (conc 0 [.write, .write])) 0).raised = true ∧
    (call (some 1) false (incCmds (conc 0 [.write, .write])) 0).conn.committed = 1 := by
  refine ⟨?_, by decide, by decide, by decide⟩
  exact Run.seqN (Run.ev .write) (Run.ev .write)

/-! ### non-vacuity -/

-- the hypotheses of `C14_sites_sound` / `C14_sites_all_or_nothing` are satisfiable with a non-trivial call:
-- the skeleton of 2.x `set_bpm`, its complete trace, and the trace cut by an exception after the first UPDATE
example : staticAtomic (.scope (.seqs [.ret .w, .ret .w, .c])) = true := by decide
example : Run (.scope (.seq (.ret .w) (.seq (.ret .w) .c))) [.scopeOpen, .write, .write, .commit, .scopeClose] false := by
  have h : Run (.seq (.ret .w) (.seq (.ret .w) .c)) ([.write] ++ ([.write] ++ [.commit])) false :=
    Run.seqN (Run.ret (Run.ev .write)) (Run.seqN (Run.ret (Run.ev .write)) (Run.ev .commit))
  exact Run.scope h
example : Run (.scope (.seq (.ret .w) (.seq (.ret .w) .c))) [.scopeOpen, .write, .scopeClose] true := by
  have h : Run (.seq (.ret .w) (.seq (.ret .w) .c)) ([.write] ++ []) true :=
    Run.seqN (Run.ret (Run.ev .write)) (Run.abort _)
  exact Run.scope h
example : conc 0 [.scopeOpen, .write, .write, .commit, .scopeClose] = [.begin, .write, .write, .commit] := by decide
example : conc 0 [.scopeOpen, .write, .scopeClose] = [.begin, .write, .rollback] := by decide
example : countFaultable (conc 0 [.scopeOpen, .write, .write, .commit, .scopeClose]) = 4 := by decide

end EngineModel.Properties.C14Sites
