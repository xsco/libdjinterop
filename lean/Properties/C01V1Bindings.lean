/-
C01 / C06, schema 1.x: the storage bindings of the legacy track code, REGENERATED from the working
tree of /repo on every run (tools/tr_v1bindings.py → EngineModel/Gen/BindingsV1.lean), are aligned and
are the bindings the hand model (TracksV1/Model.lean, Accessors.lean) uses.

Two layers:
 * `v1_model_*` — for ALL rows / snapshots / values: the definitions of the hand model are the explicit
   tables of TracksV1/Bindings.lean read through the naming tables `eval*` / `put*` / `locEq`
   (which MetaData type number each string / integer field is read from and written to, which source each
   `Track` / `PerformanceData` column and each bulk `MetaData(Integer)` row gets, which locations a getter
   depends on);
 * `v1_bindings_*`, `v1_meta_types_injective`, `v1_same_type_read_write`,
   `v1_model_uses_regenerated_bindings` — decided by the kernel on the regenerated data: the tables of the
   C++ source resolve (statement operand → parameter INDEX → caller argument → snapshot) to exactly those
   hand tables, each column / type is bound once, SELECTs fill the member of the column's own name,
   every field is read and written under the same type number, no two enumerators share a number.
-/
import Proofs.BindingsV1

namespace EngineModel.Properties.C01V1Bindings
open EngineModel EngineModel.TracksV1 EngineModel.TracksV1.Bind EngineModel.Proofs.BindingsV1

/-! ### decided on the regenerated tables -/

/-- Track INSERT / UPDATE / SELECT and PerformanceData INSERT OR REPLACE / SELECT / DELETE of every legacy
version: each column once, bound to the parameter whose position is the position of the struct member of
that column's name, resolving — from `create_track` and from `update` alike — to the source the hand model
gives the column; every SELECT fills the member of each column's own name (blob columns through `decode`,
written through `encode`), selects exactly the written columns and leaves exactly the other members default;
the single-row MetaData / MetaDataInteger statements bind (id, type, value) in that order. -/
theorem v1_bindings_aligned (s : Schema) :
    trackWriteOk s = true ∧ trackSelectOk s = true ∧ perfWriteOk s = true ∧ perfSelectOk s = true ∧
    ((bulkStr s).map (·.1)).Nodup ∧ ((bulkInt s).map (·.1)).Nodup ∧
    Gen.BindingsV1.metaSingles.all singleOk = true := by
  obtain ⟨hv, _, _, hsingles, _⟩ := aligned
  obtain ⟨_, hnodup, htrack, hpw, hps⟩ := hv s s.all_complete
  exact ⟨htrack.1, htrack.2, hpw, hps, hnodup.1, hnodup.2, hsingles.1⟩

/-- no two enumerators of `metadata_str_type` (resp. `metadata_int_type`) share a numeric value or a name -/
theorem v1_meta_types_injective :
    (Gen.BindingsV1.strEnum.map (·.2)).Nodup ∧ (Gen.BindingsV1.strEnum.map (·.1)).Nodup ∧
    (Gen.BindingsV1.intEnum.map (·.2)).Nodup ∧ (Gen.BindingsV1.intEnum.map (·.1)).Nodup :=
  aligned.2.1

/-- each of the seven string fields and three integer fields is written (bulk statement of every version,
single-field setter) and read (single-field getter, `snapshot()`) under the SAME enumerator -/
theorem v1_same_type_read_write :
    StrField.all.all sameTypeStr = true ∧ IntField.all.all sameTypeInt = true ∧
    Gen.BindingsV1.snapshotStr.length = 7 ∧ Gen.BindingsV1.snapshotInt.length = 3 := by
  obtain ⟨_, _, _, _, _, _, hsame, _⟩ := aligned
  exact hsame

/-- the regenerated tables ARE the hand model's tables: enumerator numbers (header), field codes, both bulk
statements from both callers for every version, the locations every public getter reads and every public
setter writes, and what `snapshot()` reads for each member (the Track / PerformanceData statements are in
`v1_bindings_aligned`) -/
theorem v1_model_uses_regenerated_bindings :
    Gen.BindingsV1.strEnum = strEnumHand ∧ Gen.BindingsV1.intEnum = intEnumHand ∧
    (∀ f : StrField, Gen.BindingsV1.strEnum.lookup f.name = some f.code) ∧
    (∀ f : IntField, Gen.BindingsV1.intEnum.lookup f.enumerator = some f.code) ∧
    (∀ s : Schema, bulkStrOk s = true ∧ bulkIntOk s = true) ∧
    Field.reps.all accessorOk = true ∧
    sameSet snapTrackPairs ((trackReadsH .s1_18_0_os).map fun p => (p.1.member, p.2)) = true ∧
    sameSet snapPerfTriples (perfReadsH.map fun p => (p.1, p.2.1.member, p.2.2)) = true := by
  obtain ⟨hv, _, hcodes, _, hacc, _, _, hsnap⟩ := aligned
  exact ⟨rfl, rfl, fun f => hcodes.1 f f.mem_all, fun f => hcodes.2 f f.mem_all, fun s => (hv s s.all_complete).1,
    hacc, hsnap.1, hsnap.2.1⟩

/-! ### the hand tables are what the model does (all rows, snapshots, values) -/

/-- string fields: getter and setter of the model go to the MetaData row of the field's code -/
theorem v1_model_str_accessors (o : Fl.FOps) (r : TrackRows) (f : StrField) (v : Option Bytes) :
    getStr o r f = .ok (cell f.code r.mstr) ∧
    setStr o r f v = .ok { r with mstr := aset f.code v r.mstr } ∧
    strCode f.field = some f.code :=
  ⟨getStr_eq o r f, setStr_eq o r f v, strCode_eq f⟩

/-- integer fields: getters and setters of the model go to the MetaDataInteger row of the field's code -/
theorem v1_model_int_accessors (o : Fl.FOps) (r : TrackRows) (t : Option UInt64) (k v : Option UInt32) :
    (get o r .lastPlayedAt = optMulU 1000000000 (cell IntField.lastPlayedAt.code r.mint) ∧
     get o r .key = .ok ((cell IntField.key.code r.mint).map Prim.u32OfInt) ∧
     get o r .rating = .ok ((cell IntField.rating.code r.mint).map Prim.u32OfInt)) ∧
    (set o r .lastPlayedAt t =
       .ok { r with mstr := aset 12 (some (if t.isSome then [49] else [48])) r.mstr,
                    mint := aset IntField.lastPlayedAt.code (t.map toTimestamp) r.mint } ∧
     set o r .key k =
       ((setTrackCol r { colTrack r with key := k.bind fun x => if x = 0 then none else some x }).bind fun r' =>
         .ok { r' with mint := aset IntField.key.code (k.map Prim.s32) r'.mint }) ∧
     set o r .rating v = .ok { r with mint := aset IntField.rating.code (v.map clampRating) r.mint }) :=
  ⟨getInt_eq o r, setInt_eq o r t k v⟩

/-- `snapshot()` of the model reads the ten meta-data members from the rows of the fields' codes -/
theorem v1_model_snapshot_meta (o : Fl.FOps) (s : Schema) (r : TrackRows) (y : Snap) (h : readSnap o s r = .ok y) :
    (∀ f : StrField, f.ofSnap y = cell f.code r.mstr) ∧
    y.rating = (cell IntField.rating.code r.mint).map Prim.u32OfInt ∧
    y.key = (match r.perf.bind (·.trackData.key) with
      | some k => some k
      | none => (cell IntField.key.code r.mint).map Prim.u32OfInt) ∧
    (∃ ns, optMul 1000000000 (cell IntField.lastPlayedAt.code r.mint) = .ok ns ∧
      y.lastPlayedAt = ns.map Prim.u64OfInt) := by
  unfold readSnap at h
  simp only [bind, Res.bind, pure] at h
  split at h <;> try contradiction
  split at h <;> try contradiction
  rename_i a ha b hb
  injection h with h
  subst h
  exact ⟨fun f => by cases f <;> rfl, rfl, rfl, b, hb, rfl⟩

/-- `create_track` / `update` of the model write the Track row, both bulk statements and the
PerformanceData row exactly as the tables `trackColsH` / `bulkStrH` / `bulkIntH` / `perfColsH` say -/
theorem v1_model_write_tables (s : Schema) (x : Snap) (prior : Option TrackRows) (path : Bytes)
    (lenCalc bpmI : Option Int) (ovw hires : Impl.V1.Wave) (beat' : Impl.V1.Beat) (cues' : Impl.V1.Cues) (loops' : Impl.V1.Loops) :
    let a := assemble s x prior path lenCalc bpmI ovw hires beat' cues' loops'
    a.track = (trackColsH s).foldl (fun t cv => putTrack t cv.1 (evalTrack x path (lenOf x) lenCalc bpmI cv.2))
        (prior.getD blankRows).track ∧
    a.mstr = asetMany ((bulkStrH s).map fun q => (q.1, evalText x ((lenOf x).map mmss)
        (if x.lastPlayedAt.isSome then oneText else none) (getExtension (getFilename path)) q.2))
        (prior.getD blankRows).mstr ∧
    a.mint = asetMany ((bulkIntH s).map fun q => (q.1, evalInt (x.key.map Prim.s32) (x.rating.map clampRating)
        (x.lastPlayedAt.map toTimestamp) q.2)) (prior.getD blankRows).mint ∧
    a.perf = some ((perfColsH s).foldl
        (fun p cv => putPerf p cv.1 (evalPerf x ovw hires beat' cues' loops' cv.2)) blankPerf) :=
  ⟨assemble_track_eq .., assemble_mstr_eq .., assemble_mint_eq .., assemble_perf_eq ..⟩

/-- every getter of the model depends on the rows only through the storage locations of `fieldReadsH` -/
theorem v1_model_getters_read_only (o : Fl.FOps) (r r' : TrackRows) (f : Field)
    (h : locEqAll r r' (fieldReadsH f)) : get o r f = get o r' f :=
  get_reads_only o r r' f h

/-- the regenerated 1.15.0 bulk statement has fifteen tuples, the Track INSERT of 1.6.0 fourteen columns and
that of 1.18.0 eighteen -/
example :
    ((forS Gen.BindingsV1.metaBulk .s1_15_0).map List.length, (forS Gen.BindingsV1.trackInsert .s1_6_0).map List.length,
     (forS Gen.BindingsV1.trackInsert .s1_18_0_os).map List.length) = (some 15, some 14, some 18) := by decide +kernel

/-- composer / genre transposed in the bulk statement: the resolved table differs from the hand model's -/
def swapGenreComposer (rows : List (Opnd × Opnd × Opnd)) : List (Opnd × Opnd × Opnd) :=
  rows.map fun r =>
    match r.2.2 with
    | .param 4 n => (r.1, r.2.1, .param 7 n)
    | .param 7 n => (r.1, r.2.1, .param 4 n)
    | _ => r

example :
    ((forS Gen.BindingsV1.metaBulk .s1_15_0).bind fun rows =>
        bulkResolved Gen.BindingsV1.createTrackMetaArgs Gen.BindingsV1.createTrackLocals (swapGenreComposer rows))
      ≠ some (bulkStr .s1_15_0) := by decide +kernel

/-- two rows that agree on MetaData row 3 only: `album()` answers the same, as `v1_model_getters_read_only` says -/
example (o : Fl.FOps) :
    locEqAll ⟨TrackRow.blank, [(3, some [65]), (1, some [66])], [], none⟩
             ⟨TrackRow.blank, [(1, none), (3, some [65])], [(5, some 3)], none⟩ (fieldReadsH .album) :=
  ⟨(by decide : aget 3 [(3, some [65]), (1, some [66])] = aget 3 [((1 : Int), (none : Option Bytes)), (3, some [65])]), trivial⟩

end EngineModel.Properties.C01V1Bindings
