/-
C14 — A failed mutating call leaves no partial update.

Model: `EngineModel.Spec.Txn` (SQLite connection with statement-level atomicity,
the RAII scope of src/djinterop/util/sqlite_transaction.hpp, fault injection at
the k-th faultable statement, failures of writes by themselves, optional
automatic rollback by SQLite).  The monitor `atomicShape` looks only at the
statement kinds a call is *observed* to issue.

All theorems: every command list (no length bound), every fault position, both
rollback behaviours, every write function (partial ones included), every
database type and value.
-/
import EngineModel.Spec.Txn
import Proofs.Txn
import Proofs.Stmts
import Proofs.CratesV1Stmts
import Proofs.CratesV1Ids
import Proofs.V2CratesStmts
import Proofs.TracksV2Stmts
import Proofs.TracksV1Stmts

namespace EngineModel.Properties.C14
open EngineModel.Spec.Txn EngineModel.Proofs.Txn

variable {α : Type}

/-- **Soundness of the monitor.**  If the kinds of a call form an atomic shape
then, wherever a fault is injected (and whichever write fails by itself,
whether or not SQLite rolls back on its own): a raised call leaves the
connection in autocommit state on exactly the database it started from; a
completed call leaves no transaction open and has made durable exactly the
surviving writes, in order. -/
theorem C14_shape_sound (cs : List (Cmd α)) (h : atomicShape (cs.map Cmd.kind) = true)
    (fault : Option Nat) (auto : Bool) (db : α) :
    ((call fault auto cs db).raised = true → (call fault auto cs db).conn = Conn.idle db) ∧
    ((call fault auto cs db).raised = false →
      (call fault auto cs db).conn.working = none ∧
      applyAll (effWrites cs [] false) db = some (call fault auto cs db).conn.committed) :=
  shape_sound cs h fault auto db

/-- Without an injected fault and with writes that cannot fail, a call of atomic
shape completes (so, by `C14_shape_sound`, all its surviving writes are durable). -/
theorem C14_no_fault_succeeds (cs : List (Cmd α)) (h : atomicShape (cs.map Cmd.kind) = true)
    (htot : ∀ x ∈ cs, x.total) (auto : Bool) (db : α) :
    (call none auto cs db).raised = false := by
  obtain ⟨s', hs, _⟩ := atomicShape_iff.1 h
  exact (sound_aux none auto db cs ShapeSt.init s' 0 0 (Conn.idle db) (TInv.init db) hs).2.2 rfl htot

/-- No ROLLBACK among the observed statements (the case of every call of the
library on the unchanged tree): a completed call of atomic shape has applied
*all* its writes, in order. -/
theorem C14_all_writes (cs : List (Cmd α)) (h : atomicShape (cs.map Cmd.kind) = true)
    (hnr : ∀ x ∈ cs, x.kind ≠ .rollback) (fault : Option Nat) (auto : Bool) (db : α)
    (hr : (call fault auto cs db).raised = false) :
    applyAll (writesOf cs) db = some (call fault auto cs db).conn.committed :=
  all_writes cs h hnr fault auto db hr

/-- **Completeness of the monitor** (it is not vacuous and not too strict):
whenever the kinds are *not* an atomic shape there are write functions (each
write increments a counter starting at 0) and a fault plan such that either
the call raises with the database changed (a partial or unreported update), or
the call raises with no fault at all (the list is not the trace of a successful
call: ill-bracketed), or it completes with a transaction left open. -/
theorem C14_shape_complete (ks : List CmdKind) (h : atomicShape ks = false) :
    ∃ fault : Option Nat,
      ((call fault false (incCmds ks) 0).raised = true ∧ (call fault false (incCmds ks) 0).conn.committed ≠ 0) ∨
      (fault = none ∧ (call fault false (incCmds ks) 0).raised = true) ∨
      ((call fault false (incCmds ks) 0).raised = false ∧ (call fault false (incCmds ks) 0).conn.working ≠ none) := by
  have hbad : shapeRun ShapeSt.init ks = none ∨ ∃ s', shapeRun ShapeSt.init ks = some s' ∧ s'.inTxn = true := by
    cases hs : shapeRun ShapeSt.init ks with
    | none => exact Or.inl rfl
    | some s' =>
      refine Or.inr ⟨s', rfl, ?_⟩
      cases hin : s'.inTxn
      · rw [atomicShape_iff.2 ⟨s', hs, hin⟩] at h; cases h
      · rfl
  obtain ⟨fault, _, hb⟩ := complete_aux ks ShapeSt.init 0 0 (Conn.idle 0) CInv.init hbad
  exact ⟨fault, hb⟩

/-- **The monitor is exactly right.**  The kinds form an atomic shape iff every
call with these kinds — over any database type, with any write functions — is
failure-atomic under every fault plan, never leaves a transaction open, and
completes when nothing fails. -/
theorem C14_shape_exact (ks : List CmdKind) :
    atomicShape ks = true ↔
      ∀ (β : Type) (cs : List (Cmd β)), cs.map Cmd.kind = ks →
        ∀ (fault : Option Nat) (auto : Bool) (db : β),
          ((call fault auto cs db).raised = true → (call fault auto cs db).conn = Conn.idle db) ∧
          ((call fault auto cs db).raised = false → (call fault auto cs db).conn.working = none) ∧
          (fault = none → (∀ x ∈ cs, x.total) → (call fault auto cs db).raised = false) := by
  constructor
  · intro h β cs hk fault auto db
    subst hk
    have hs := C14_shape_sound cs h fault auto db
    refine ⟨hs.1, fun hr => (hs.2 hr).1, ?_⟩
    intro hf htot
    subst hf
    exact C14_no_fault_succeeds cs h htot auto db
  · intro h
    cases hs : atomicShape ks
    · exfalso
      obtain ⟨fault, hb⟩ := C14_shape_complete ks hs
      have hx := h Nat (incCmds ks) (incCmds_kind ks) fault false 0
      rcases hb with ⟨hr, hc⟩ | ⟨hf, hr⟩ | ⟨hr, hw⟩
      · have := hx.1 hr
        rw [this] at hc
        simp [Conn.idle] at hc
      · have := hx.2.2 hf (incCmds_total ks)
        rw [this] at hr; cases hr
      · exact hw (hx.2.1 hr)
    · rfl

/-- **The library stays usable, whatever the shape**: a call that raises never
leaves a transaction open (every live scope rolls back while unwinding). -/
theorem C14_raise_autocommit (cs : List (Cmd α)) (fault : Option Nat) (auto : Bool) (db : α)
    (hr : (call fault auto cs db).raised = true) : (call fault auto cs db).conn.working = none :=
  raise_autocommit fault auto cs 0 0 (Conn.idle db) (Linked.idle db) hr

theorem C14_usable (cs : List (Cmd α)) (h : atomicShape (cs.map Cmd.kind) = true)
    (fault : Option Nat) (auto : Bool) (db : α) : (call fault auto cs db).conn.working = none := by
  cases hr : (call fault auto cs db).raised
  · exact ((C14_shape_sound cs h fault auto db).2 hr).1
  · exact C14_raise_autocommit cs fault auto db hr

/-- After a failed call of atomic shape the next public call behaves exactly as
if the failed one had never been made. -/
theorem C14_next_call (cs : List (Cmd α)) (h : atomicShape (cs.map Cmd.kind) = true)
    (fault : Option Nat) (auto : Bool) (db : α) (hr : (call fault auto cs db).raised = true)
    (cs' : List (Cmd α)) (fault' : Option Nat) (auto' : Bool) :
    exec fault' auto' cs' 0 0 (call fault auto cs db).conn = call fault' auto' cs' db := by
  rw [(C14_shape_sound cs h fault auto db).1 hr]; rfl

/-- Edge: a fault on BEGIN.  The constructor of the scope throws, no scope object
exists, no ROLLBACK is issued, nothing has happened. -/
theorem C14_fault_on_begin (rest : List (Cmd α)) (auto : Bool) (db : α) :
    (call (some 0) auto (.begin :: rest) db).raised = true ∧
    (call (some 0) auto (.begin :: rest) db).conn = Conn.idle db ∧
    (call (some 0) auto (.begin :: rest) db).trace = [⟨.begin, true⟩] := by
  cases auto <;> exact ⟨rfl, rfl, rfl⟩

/-- Edge: a fault on the COMMIT of a scope (here with one total write; the
general case is `C14_shape_sound`).  `commit()` throws before `committed_` is
set, the destructor issues ROLLBACK, the database is as before. -/
theorem C14_fault_on_commit (f : α → α) (auto : Bool) (db : α) :
    (call (some 2) auto [.begin, .write (fun a => some (f a)), .commit] db).raised = true ∧
    (call (some 2) auto [.begin, .write (fun a => some (f a)), .commit] db).conn = Conn.idle db ∧
    (call (some 2) auto [.begin, .write (fun a => some (f a)), .commit] db).trace =
      [⟨.begin, false⟩, ⟨.write, false⟩, ⟨.commit, true⟩, ⟨.rollback, false⟩] := by
  cases auto <;> exact ⟨rfl, rfl, rfl⟩

/-- **"reports it by throwing"**: whenever the fault position lies inside the call — `k` is below the number of
faultable statements the call issues — the call raises, whatever its statements are. -/
theorem C14_fault_is_reported (cs : List (Cmd α)) (k : Nat) (auto : Bool) (db : α)
    (hk : k < countFaultable (cs.map Cmd.kind)) : (call (some k) auto cs db).raised = true :=
  EngineModel.Proofs.Stmts.raised_of_fault cs k auto db hk

/-- With an atomic shape a fault at a position inside the call raises and leaves exactly the prior database: all or
nothing at every position. -/
theorem C14_all_or_nothing (cs : List (Cmd α)) (h : atomicShape (cs.map Cmd.kind) = true) (k : Nat) (auto : Bool) (db : α)
    (hk : k < countFaultable (cs.map Cmd.kind)) :
    (call (some k) auto cs db).raised = true ∧ (call (some k) auto cs db).conn = Conn.idle db :=
  EngineModel.Proofs.Stmts.all_or_nothing cs h k auto db hk

open EngineModel.Spec.Stmts in
/-- The *skeleton* of a statement-kind sequence (reads dropped, the writes of one scope counted once) — what the
tie compares between a model operation and the statements of the real call — decides the monitor. -/
theorem C14_skeleton_decides (ks : List CmdKind) : atomicShape (skeleton ks) = atomicShape ks :=
  EngineModel.Proofs.Stmts.atomicShape_skeleton ks

/-! ### concrete operations: schema-1.x crates (`Api.CratesV1`, every version)

`CratesV1.stmts s db op` is the statement program of the call on prior tables `db` (`Api/CratesV1Stmts.lean`):
BEGIN / COMMIT of its `sqlite_transaction` scope, one `write` per INSERT / UPDATE / DELETE — loops statement by
statement, `update_path` in the order of its recursion. -/
section cratesV1
open EngineModel.Api EngineModel.Pure.Detect EngineModel.Spec.Stmts

/-- The program *is* the modelled call: run without fault it completes and makes exactly the tables that
`CratesV1.step` returns durable — for every schema, prior state and operation whose call returns normally. -/
theorem C14_crates_v1_program (s : Schema) (db : CratesV1.Db) (op : CratesV1.Op) (out : CratesV1.Out) (auto : Bool)
    (h : (CratesV1.step s db op).2 = .ok out) :
    (call none auto (CratesV1.stmts s db op) db).raised = false ∧
    (call none auto (CratesV1.stmts s db op) db).conn = Conn.idle (CratesV1.step s db op).1 :=
  EngineModel.Proofs.CratesV1Stmts.stmts_run s db op out auto h

theorem C14_crates_v1_shape (s : Schema) (op : CratesV1.Op) (db : CratesV1.Db) :
    atomicShape (CratesV1.shapeOf s op db) = true :=
  EngineModel.Proofs.CratesV1Stmts.stmts_atomic s db op

/-- The skeleton of a 1.x crate call is fixed per operation: one autocommit DELETE for `crate::remove_track` /
`clear_tracks`, one scope for everything else (the tie requires the observed skeleton to be this one). -/
theorem C14_crates_v1_skeleton (s : Schema) (op : CratesV1.Op) (db : CratesV1.Db) :
    skeleton (CratesV1.shapeOf s op db) = (CratesV1.skeletonOf op).kinds :=
  EngineModel.Proofs.CratesV1Stmts.stmts_skeleton s db op

/-- **All or nothing, concretely**: a fault injected at *any* statement position `k` of *any* 1.x crate call —
BEGIN, COMMIT, any INSERT / UPDATE / DELETE of any loop iteration — raises and leaves the tables exactly as they
were, with no transaction open. -/
theorem C14_crates_v1_all_or_nothing (s : Schema) (db : CratesV1.Db) (op : CratesV1.Op) (k : Nat) (auto : Bool)
    (hk : k < countFaultable (CratesV1.shapeOf s op db)) :
    (call (some k) auto (CratesV1.stmts s db op) db).raised = true ∧
    (call (some k) auto (CratesV1.stmts s db op) db).conn = Conn.idle db :=
  C14_all_or_nothing _ (C14_crates_v1_shape s op db) k auto db hk

/-- A 1.x crate call that throws *by itself* (validation, a constraint) leaves every table as it was
(`Proofs/CratesV1Ids.step_throw_unchanged`, on every state that satisfies the model's invariant). -/
theorem C14_crates_v1_self_throw (s : Schema) (db : CratesV1.Db) (hinv : CratesV1.Inv db)
    (op : CratesV1.Op) (hr : (CratesV1.step s db op).2.isOk = false) : (CratesV1.step s db op).1 = db :=
  CratesV1.step_throw_unchanged s hinv op hr

end cratesV1

/-! ### concrete operations: schema-2.x crates and memberships (`Db.V2`) -/
section cratesV2
open EngineModel.Db EngineModel.Spec.Stmts

theorem C14_crates_v2_program (d : V2.Db) (op : V2.Op) (out : V2.Out) (auto : Bool) (h : (V2.step d op).2 = .ok out) :
    (call none auto (V2.stmts d op) d).raised = false ∧
    (call none auto (V2.stmts d op) d).conn = Conn.idle (V2.step d op).1 :=
  EngineModel.Proofs.V2CratesStmts.stmts_run d op out auto h

theorem C14_crates_v2_shape (op : V2.Op) (d : V2.Db) : atomicShape (V2.shapeOf op d) = true :=
  EngineModel.Proofs.V2CratesStmts.stmts_atomic d op

/-- the skeleton of a successful call is one of the operation's allowed skeletons (`add_track` of a member and
`crate::remove_track` of a non-member issue no writing statement at all) -/
theorem C14_crates_v2_skeleton (op : V2.Op) (d : V2.Db) (out : V2.Out) (h : (V2.step d op).2 = .ok out) :
    ∃ k ∈ V2.allowed op, skeleton (V2.shapeOf op d) = k.kinds :=
  EngineModel.Proofs.V2CratesStmts.stmts_skeleton d op out h

theorem C14_crates_v2_all_or_nothing (d : V2.Db) (op : V2.Op) (k : Nat) (auto : Bool)
    (hk : k < countFaultable (V2.shapeOf op d)) :
    (call (some k) auto (V2.stmts d op) d).raised = true ∧ (call (some k) auto (V2.stmts d op) d).conn = Conn.idle d :=
  C14_all_or_nothing _ (C14_crates_v2_shape op d) k auto d hk

end cratesV2

/-! ### concrete operations: schema-2.x tracks (the statement-level table model `TracksV2/Table.lean`)

`TracksV2.topStmts` (`TracksV2/Stmts.lean`): `create_track`, `track::update` and the single-UPDATE setters are one
write; `set_bpm`, `set_key`, `set_relative_path`, `set_sample_count`, `set_sample_rate` are the scope of their
two or three UPDATEs in the order of the C++; `remove_track` is the scope of its DELETE. -/
section tracksV2
open EngineModel.TracksV2 EngineModel.Spec.Stmts

theorem C14_tracks_v2_program (ops : FOps) (s : TracksV2.Schema) (db : TDb) (op : TOp) (n : Nat) (auto : Bool)
    (h : (db.step ops s op).2 = .ok n) :
    (call none auto (topStmts ops s db op) db).raised = false ∧
    (call none auto (topStmts ops s db op) db).conn = Conn.idle (db.step ops s op).1 :=
  topStmts_run ops s db op n auto h

theorem C14_tracks_v2_shape (ops : FOps) (s : TracksV2.Schema) (op : TOp) (db : TDb) :
    atomicShape (topShapeOf ops s op db) = true :=
  topStmts_atomic ops s db op

theorem C14_tracks_v2_skeleton (ops : FOps) (s : TracksV2.Schema) (op : TOp) (db : TDb) (n : Nat)
    (h : (db.step ops s op).2 = .ok n) : skeleton (topShapeOf ops s op db) = op.skeleton.kinds :=
  topStmts_skeleton ops s db op n h

theorem C14_tracks_v2_all_or_nothing (ops : FOps) (s : TracksV2.Schema) (db : TDb) (op : TOp) (k : Nat) (auto : Bool)
    (hk : k < countFaultable (topShapeOf ops s op db)) :
    (call (some k) auto (topStmts ops s db op) db).raised = true ∧
    (call (some k) auto (topStmts ops s db op) db).conn = Conn.idle db :=
  C14_all_or_nothing _ (C14_tracks_v2_shape ops s op db) k auto db hk

/-- the table of the counterexample below: one track, every column at its default -/
def cxOps : FOps := ⟨fun _ => 0, fun _ => 0, fun _ _ => 0⟩
def cxTable : TDb := ⟨[1], 1, [⟨1, [1], 1, default⟩]⟩

/-- **The scope is needed** (the defect repaired by dbbedfa, DESIGN §7): the two UPDATEs of 2.x `set_bpm` issued
*without* their `sqlite_transaction` are not an atomic shape, and a fault on the second one raises with
`bpmAnalyzed` already written — a partial update.  Replayed on the real library: corpus/C14/v2_set_bpm.txt. -/
theorem C14_set_bpm_unscoped_counterexample :
    atomicShape ((setBody cxOps cxTable 1 (.bpm (some 0x405e000000000000))).map Cmd.kind) = false ∧
    (call (some 1) false (setBody cxOps cxTable 1 (.bpm (some 0x405e000000000000))) cxTable).raised = true ∧
    (call (some 1) false (setBody cxOps cxTable 1 (.bpm (some 0x405e000000000000))) cxTable).conn.committed ≠ cxTable ∧
    (call (some 1) false (topStmts cxOps .s2_21_2 cxTable (.set 1 (.bpm (some 0x405e000000000000)))) cxTable).conn.committed
      = cxTable := by
  decide +kernel

end tracksV2

open EngineModel.Db EngineModel.Spec.Stmts in
/-- Likewise for 2.x `database::remove_track` (the defect repaired by 516c689): its DELETEs — the membership, then
the track — outside a scope: a fault on the second raises with the membership already gone.
Replayed on the real library: corpus/C14/v2_remove_track.txt. -/
theorem C14_remove_track_unscoped_counterexample :
    let d := V2.run V2.Db.empty [.createRoot [65], .createTrack, .addTrack 1 1]
    atomicShape ((V2.body d (.removeTrack 1)).map Cmd.kind) = false ∧
    (call (some 1) false (V2.body d (.removeTrack 1)) d).raised = true ∧
    (call (some 1) false (V2.body d (.removeTrack 1)) d).conn.committed ≠ d ∧
    (call (some 1) false (V2.stmts d (.removeTrack 1)) d).conn.committed = d := by
  decide +kernel

/-! ### concrete operations: schema-1.x tracks (`TracksV1/Accessors.lean`, call granularity)

The 1.x track model has no statement level: a call is one write (the joint effect of its statements) inside the
scope engine_track_impl.cpp gives it.  Lean carries the scope table per operation (`TracksV1.Field.scoped`), which
the tie checks against the skeleton of every real call. -/
section tracksV1
open EngineModel.TracksV1 EngineModel.Spec.Stmts

theorem C14_tracks_v1_program (o : EngineModel.TracksV1.Fl.FOps) (d d' : TracksV1.Db) (op : TracksV1.TOp) (auto : Bool)
    (h : TracksV1.topStep o d op = .ok d') :
    (call none auto (TracksV1.topStmts o op) d).raised = false ∧
    (call none auto (TracksV1.topStmts o op) d).conn = Conn.idle d' :=
  TracksV1.topStmts_run o d d' op auto h

theorem C14_tracks_v1_shape (o : EngineModel.TracksV1.Fl.FOps) (op : TracksV1.TOp) :
    atomicShape (TracksV1.topShapeOf o op) = true ∧ skeleton (TracksV1.topShapeOf o op) = op.skeleton.kinds :=
  ⟨TracksV1.topStmts_atomic o op, TracksV1.topStmts_skeleton o op⟩

theorem C14_tracks_v1_all_or_nothing (o : EngineModel.TracksV1.Fl.FOps) (d : TracksV1.Db) (op : TracksV1.TOp) (k : Nat) (auto : Bool)
    (hk : k < countFaultable (TracksV1.topShapeOf o op)) :
    (call (some k) auto (TracksV1.topStmts o op) d).raised = true ∧
    (call (some k) auto (TracksV1.topStmts o op) d).conn = Conn.idle d :=
  C14_all_or_nothing _ (C14_tracks_v1_shape o op).1 k auto d hk

end tracksV1

section all
open EngineModel.Api EngineModel.Db EngineModel.Spec.Stmts

/-- A public mutating operation of any of the four concrete API models (with its arguments). -/
inductive ApiOp where
  | cratesV1 (op : CratesV1.Op)
  | cratesV2 (op : V2.Op)
  | tracksV2 (ops : TracksV2.FOps) (s : TracksV2.Schema) (op : TracksV2.TOp)
  | tracksV1 (o : EngineModel.TracksV1.Fl.FOps) (op : TracksV1.TOp)

/-- The prior state the statements of a call depend on: the tables of each model. -/
structure Prior where
  cratesV1 : CratesV1.Db
  cratesV2 : V2.Db
  tracksV2 : TracksV2.TDb

/-- `shapeOf s op prior`: the statement kinds the call issues on `prior` when nothing fails (`s` = the schema
version for the 1.x crate model, the only one of the four whose statements depend on it). -/
def shapeOf (s : EngineModel.Pure.Detect.Schema) : ApiOp → Prior → List CmdKind
  | .cratesV1 op, p => CratesV1.shapeOf s op p.cratesV1
  | .cratesV2 op, p => V2.shapeOf op p.cratesV2
  | .tracksV2 ops s2 op, p => TracksV2.topShapeOf ops s2 op p.tracksV2
  | .tracksV1 o op, _ => TracksV1.topShapeOf o op

/-- **Every modelled public mutating operation, on every schema and prior state, issues an atomic shape** — hence
(`C14_all_or_nothing`) fails atomically at every statement position. -/
theorem C14_shapeOf_atomic (s : EngineModel.Pure.Detect.Schema) (op : ApiOp) (p : Prior) :
    atomicShape (shapeOf s op p) = true := by
  cases op with
  | cratesV1 op => exact C14_crates_v1_shape s op p.cratesV1
  | cratesV2 op => exact C14_crates_v2_shape op p.cratesV2
  | tracksV2 ops s2 op => exact C14_tracks_v2_shape ops s2 op p.tracksV2
  | tracksV1 o op => exact (C14_tracks_v1_shape o op).1

end all

/-! ### non-vacuity -/

-- shapes the library is observed to issue
example : atomicShape [.write] = true := by decide
example : atomicShape [.read, .begin, .read, .write, .write, .write, .write, .commit] = true := by decide
example : atomicShape [.begin, .commit, .write] = true := by decide
example : atomicShape [.begin, .write, .rollback, .read, .write] = true := by decide
-- the defects of DESIGN.md §7: two or three statements outside any scope
example : atomicShape [.write, .write] = false := by decide
example : atomicShape [.write, .read, .write] = false := by decide
example : atomicShape [.begin, .write, .commit, .write] = false := by decide
example : atomicShape [.begin, .write, .commit, .begin, .commit] = false := by decide
example : atomicShape [.begin, .write] = false := by decide          -- transaction left open
example : atomicShape [.begin, .begin, .commit] = false := by decide -- nested BEGIN fails by itself
-- a concrete partial update: [write, write] with a fault at the second write
example : (call (some 1) false (incCmds [.write, .write]) 0).raised = true ∧
    (call (some 1) false (incCmds [.write, .write]) 0).conn.committed = 1 := by decide
-- and the same writes inside a scope: nothing happens
example : (call (some 2) false (incCmds [.begin, .write, .write, .commit]) 0).raised = true ∧
    (call (some 2) false (incCmds [.begin, .write, .write, .commit]) 0).conn.committed = 0 ∧
    (call none false (incCmds [.begin, .write, .write, .commit]) 0).conn.committed = 2 := by decide
-- a write that fails by itself (constraint) inside a scope, with automatic rollback
example : (call none true [.begin, .write (fun n => some (n + 1)), .write (fun _ => none), .commit] (7 : Nat)).conn
    = Conn.idle 7 := rfl

-- concrete operations: the hypotheses are satisfiable and the programs are not trivial
open EngineModel.Api EngineModel.Pure.Detect in
example : let db := CratesV1.run .schema_1_18_0_os CratesV1.Db.empty [.createRoot [65], .createSub 1 [66], .createSub 2 [67]]
    (CratesV1.step .schema_1_18_0_os db (.rename 1 [68])).2 = .ok .unit ∧
    countFaultable (CratesV1.shapeOf .schema_1_18_0_os (.rename 1 [68]) db) = 5 ∧     -- BEGIN, 3 UPDATEs, COMMIT
    countFaultable (CratesV1.shapeOf .schema_1_18_0_os (.removeCrate 1) db) = 14 := by  -- BEGIN, 3 x 4 DELETEs, COMMIT
  decide +kernel
open EngineModel.Db in
example : let d := V2.run V2.Db.empty [.createRoot [65], .createSub 1 [66], .createTrack, .addTrack 2 1]
    (V2.step d (.removeCrate 1)).2 = .ok none ∧ countFaultable (V2.shapeOf (.removeCrate 1) d) = 6 ∧
    V2.shapeOf (.addTrack 2 1) d = [.read, .read, .read] := by
  decide +kernel

open EngineModel.TracksV2 in
example : countFaultable (topShapeOf cxOps .s2_21_2 (.set 1 (.relativePath [97, 46, 109, 112, 51])) cxTable) = 5 ∧
    (cxTable.step cxOps .s2_21_2 (.set 1 (.relativePath [97, 46, 109, 112, 51]))).2 = .ok 0 := by
  decide +kernel

end EngineModel.Properties.C14
