/-
C08 — Crate contents are exactly the tracks added and not removed.   Whole-library part for schema 1.x.

The crates package (Properties/C08V1.lean) proves the membership clauses over a model that knows a track only as
`(id, path present)`; "live track" there means a row of that key table.  Here the same clauses are stated on the composite
model `EngineModel/Lib/V1.lean`, where a track is ALSO its Track / MetaData / MetaDataInteger / PerformanceData rows and
`create_track`, `update`, the 26 setters, `remove_track`, the crate calls and every observer interleave in one history:

* `C08_lib1_crates_projection` — the crate tables of the composite run are the crates package's run over the crate
  operations the history performs; every theorem of C07 / C08 / C11 (1.x) therefore holds of the composite;
* `C08_lib1_refines` — `crate.tracks()`, `track.containing_crates()`, `database.tracks()`, `database.crates()` of the
  composite = the membership Spec's relation, converse, live tracks, live crates;
* `C08_lib1_members_are_live_tracks` — the cross-cutting clause: every member of every crate is a LIVE track in the sense
  of the track calls (its rows exist: `is_valid()` answers true, `snapshot()` does not throw `track_deleted`) and is listed
  by `tracks()`; conversely only tracks() are ever members;
* frame between the families, what `remove_track` erases, and the stale-handle clause in its honest 1.x form.
-/
import Proofs.Lib1Members
import Proofs.Lib1Autoinc
import Properties.C08V1

namespace EngineModel.Properties.C08Lib1
open EngineModel EngineModel.Lib.V1 EngineModel.Api EngineModel.Spec
open EngineModel.TracksV1 (Snap Field)
open EngineModel.TracksV1.Fl (FOps)

/-- **The crate tables of the composite run = the crates package's run** over `crOps` (the crate operations the history
performs; a `create_track` that throws performs none). -/
theorem C08_lib1_crates_projection (o : FOps) (s : VSchema) (L : Lib1) (cs : List Call) :
    (run o s L cs).cr = CratesV1.run (toDetect s) L.cr (crOps o s L cs) := run_cr o s cs L

/-- **Refinement on the composite**: for every history of calls the membership Spec, told only the outcomes of the crate
operations performed, follows it, and the four composite observers answer the Spec's relation, converse, live tracks and
live crates (sorted lists). -/
theorem C08_lib1_refines (o : FOps) (s : VSchema) (um up dir : Bytes) (cs : List Call) :
    let L0 := Lib1.empty s um up dir
    let L := run o s L0 cs
    ∃ m, CratesV1.membersTrace (toDetect s) CratesV1.Db.empty Members.empty (crOps o s L0 cs) = some m ∧
      (∀ c, (step o s L (.crateTracks c)).2 = .ok (.ids (CratesV1.sortIds (Members.tracksOf m c)))) ∧
      (∀ t, (step o s L (.containingCrates t)).2 = .ok (.ids (CratesV1.sortIds (Members.cratesOf m t)))) ∧
      (step o s L .tracks).2 = .ok (.ids (CratesV1.sortIds m.tracks)) ∧
      (step o s L .crates).2 = .ok (.ids (CratesV1.sortIds m.crates)) ∧
      m.pairs.Nodup ∧ (∀ p ∈ m.pairs, p.1 ∈ m.crates ∧ p.2 ∈ m.tracks) := by
  intro L0 L
  obtain ⟨m, e, h1, h2, h3, h4, h5, h6⟩ := C08V1.C08_refines (toDetect s) (crOps o s L0 cs)
  have hcr : L.cr = CratesV1.run (toDetect s) CratesV1.Db.empty (crOps o s L0 cs) := run_cr o s cs L0
  refine ⟨m, e, ?_, ?_, ?_, ?_, h5, h6⟩
  · intro c; show Res.ok (Out.ids (CratesV1.sortIds (CratesV1.crateTracks (toDetect s) L.cr c))) = _; rw [hcr, h1 c]
  · intro t; show Res.ok (Out.ids (CratesV1.sortIds (CratesV1.trackContainingCrates (toDetect s) L.cr t))) = _; rw [hcr, h2 t]
  · show Res.ok (Out.ids (CratesV1.dbTracks L.cr)) = _; rw [hcr, h3]
  · show Res.ok (Out.ids (CratesV1.dbCrates L.cr)) = _; rw [hcr, h4]

/-- **Members are LIVE tracks in the sense of the track calls, and the converse relation is exact**: in every reachable
state, `t ∈ crate(c).tracks()` ⇔ `c ∈ t.containing_crates()`; such a `t` is listed by `tracks()`, `is_valid()` answers true,
its rows exist (so `snapshot()` does not throw `track_deleted`), and contents have no duplicates. -/
theorem C08_lib1_members_are_live_tracks (o : FOps) (s : VSchema) (um up dir : Bytes) (cs : List Call) :
    let L := run o s (Lib1.empty s um up dir) cs
    (∀ c t, t ∈ CratesV1.crateTracks (toDetect s) L.cr c ↔ c ∈ CratesV1.trackContainingCrates (toDetect s) L.cr t) ∧
    (∀ c, (CratesV1.crateTracks (toDetect s) L.cr c).Nodup) ∧
    (∀ c t, t ∈ CratesV1.crateTracks (toDetect s) L.cr c →
      t ∈ CratesV1.dbTracks L.cr ∧ (step o s L (.trackIsValid t)).2 = .ok (.bool true) ∧ (L.tr.rows t).isSome = true ∧
      (step o s L (.snapshot t)).2 ≠ .throw (.dj "track_deleted") ∧ (step o s L (.crateIsValid c)).2 = .ok (.bool true)) := by
  intro L
  have h : LibInv s L := libInv_run o cs (libInv_empty s um up dir)
  have hi := h.crates
  refine ⟨?_, CratesV1.crateTracks_nodup _ hi, ?_⟩
  · intro c t; rw [CratesV1.mem_crateTracks _ hi, CratesV1.mem_containing _ hi]
  · intro c t ht
    have hl := hi.ctlLive _ ((CratesV1.mem_crateTracks _ hi c t).mp ht)
    have hrows := (h.coupled t).mp hl.2
    refine ⟨(CratesV1.mem_dbTracks _ _).mpr hl.2, ?_, hrows, ?_, ?_⟩
    · show mapRes Out.bool (trackLive L t) = _
      rw [trackLive_iff_rows h t, hrows]; rfl
    · show mapRes Out.snap (TracksV1.dbSnap o L.tr t) ≠ _
      unfold TracksV1.dbSnap
      cases hr : L.tr.rows t with
      | none => rw [hr] at hrows; cases hrows
      | some r =>
        -- a present row never makes `snapshot()` throw `track_deleted`: `readSnap` of a row satisfying the invariant returns
        simp only
        rw [TracksV1.readSnap_of_inv o L.tr.schema r ((TracksV1.inv_iff r).mp (h.table.rows t r hr))]
        nofun
    · show mapRes Out.bool (CratesV1.crateIsValid L.cr c) = _
      rw [(CratesV1.isValid_iff hi.toFInv c).mpr hl.1]; rfl

/-- **Frame between the table families**: `update` and every setter leave the crate tables (hence every membership) as
they were; `viaCrates`, the delegation through which `step` sends every call the crates package owns, leaves every row of
every track as it was. -/
theorem C08_lib1_frame_between_families (o : FOps) (s : VSchema) (L : Lib1) :
    (∀ t x, (step o s L (.update t x)).1.cr = L.cr) ∧ (∀ t f v, (step o s L (.set t f v)).1.cr = L.cr) ∧
    (∀ op, (viaCrates s L op).1.tr = L.tr) := by
  refine ⟨fun t x => viaTracks_cr L _, fun t f v => viaTracks_cr L _, fun op => rfl⟩

/-- **`remove_track` erases the track from every table family at once**: afterwards it is in no crate, `tracks()` does not
list it, `is_valid()` is false, and no MetaData / MetaDataInteger / PerformanceData row with its id remains. -/
theorem C08_lib1_track_removal_erases_everything (o : FOps) (s : VSchema) (um up dir : Bytes) (cs : List Call) (t : Id) :
    let L' := (step o s (run o s (Lib1.empty s um up dir) cs) (.removeTrack t)).1
    (∀ c, t ∉ CratesV1.crateTracks (toDetect s) L'.cr c) ∧ t ∉ CratesV1.dbTracks L'.cr ∧
    (step o s L' (.trackIsValid t)).2 = .ok (.bool false) ∧
    (∀ m ∈ (raw L').metaStr, m.1 ≠ t) ∧ (∀ m ∈ (raw L').metaInt, m.1 ≠ t) ∧ t ∉ (raw L').perf := by
  intro L'
  have h : LibInv s L' := libInv_step o (libInv_run o cs (libInv_empty s um up dir)) _
  have hrow : L'.tr.rows t = none := TracksV1.aget_filter_ne _ _
  obtain ⟨_, hvalid, _, _, hmem, htracks⟩ := absent_answers o h hrow
  -- a row of the dump with id `t` would be a stored row with key `t`
  have hkey : ∀ e ∈ L'.tr.tracks, e.1 ≠ t := fun e he heq => by
    have h2 : (L'.tr.rows e.1).isSome = true := TracksV1.mem_rows_isSome _ e he
    rw [heq, hrow] at h2; cases h2
  obtain ⟨kS, kI, kP⟩ := raw_keys L'
  refine ⟨hmem, htracks, hvalid, fun m hm => ?_, fun m hm => ?_, fun hi => ?_⟩
  · obtain ⟨e, he, hk⟩ := kS m hm; exact hk ▸ hkey e he
  · obtain ⟨e, he, hk⟩ := kI m hm; exact hk ▸ hkey e he
  · obtain ⟨e, he, hk⟩ := kP t hi; exact hkey e he hk

/-- **`add_track` requires a live track of the composite** (fix 05ed2a5 on the shared Track table): on a valid crate and a
track whose rows exist it returns and the track is a member; on a track without rows (removed, never created, the
placeholder row) it throws `track_deleted` and nothing changes. -/
theorem C08_lib1_add_track (o : FOps) (s : VSchema) (um up dir : Bytes) (cs : List Call) (c t : Id) :
    let L := run o s (Lib1.empty s um up dir) cs
    (CratesV1.crateIsValid L.cr c = .ok true → (L.tr.rows t).isSome = true →
      (step o s L (.addTrack c t)).2 = .ok .unit ∧ t ∈ CratesV1.crateTracks (toDetect s) (step o s L (.addTrack c t)).1.cr c) ∧
    (CratesV1.crateIsValid L.cr c = .ok true → L.tr.rows t = none →
      (step o s L (.addTrack c t)).2 = .throw (.dj "track_deleted") ∧ (step o s L (.addTrack c t)).1 = L) := by
  intro L
  have h : LibInv s L := libInv_run o cs (libInv_empty s um up dir)
  have hi := h.crates
  constructor
  · intro hc ht
    have hc' := (CratesV1.isValid_iff hi.toFInv c).mp hc
    have hl := (h.coupled t).mpr ht
    have e := CratesV1.addTrack_ok (toDetect s) hi hc' hl
    have hinv' : CratesV1.Inv (CratesV1.afterAddTrack L.cr c t) := CratesV1.inv_addTrack hi hc' hl
    refine ⟨?_, ?_⟩
    · show mapRes convOut (CratesV1.addTrack (toDetect s) L.cr c t).2 = _; rw [e]; rfl
    · show t ∈ CratesV1.crateTracks (toDetect s) (CratesV1.addTrack (toDetect s) L.cr c t).1 c
      rw [e, CratesV1.mem_crateTracks _ hinv']
      exact List.mem_append_right _ (List.mem_singleton.mpr rfl)
  · intro hc ht
    have hc' := (CratesV1.isValid_iff hi.toFInv c).mp hc
    have hl : ¬ CratesV1.liveTrack L.cr t := fun hl => by have := (h.coupled t).mp hl; rw [ht] at this; cases this
    have e := CratesV1.addTrack_dead_track (toDetect s) hi.idsNodup hc' hl
    refine ⟨?_, ?_⟩
    · show mapRes convOut (CratesV1.addTrack (toDetect s) L.cr c t).2 = _; rw [e]; rfl
    · show ({ L with cr := (CratesV1.addTrack (toDetect s) L.cr c t).1 } : Lib1) = L
      rw [e]

/-! ### stale track handles, in the honest 1.x form -/

/-- FULL STATEMENT (false of the code on the rowid schemas, see the counterexample): "after `remove_track(t)` every later
call through a handle of `t` throws / reports invalid, whatever happens in between".
PROVED PART: … for EVERY continuation `cs'` in which no `create_track` reports the id `t` again (`reissuesTrack … = false`,
an explicit decidable predicate): the rows of `t` stay absent, so `is_valid()` is false, `snapshot()` throws `track_deleted`,
every setter and `update` throw, `add_track` refuses it, no crate contains it. -/
theorem C08_lib1_removed_track_stays_removed_partial (o : FOps) (s : VSchema) (um up dir : Bytes) (cs cs' : List Call) (t : Id)
    (hno : reissuesTrack o s (step o s (run o s (Lib1.empty s um up dir) cs) (.removeTrack t)).1 cs' t = false) :
    let L := run o s (step o s (run o s (Lib1.empty s um up dir) cs) (.removeTrack t)).1 cs'
    L.tr.rows t = none ∧ (step o s L (.trackIsValid t)).2 = .ok (.bool false) ∧
    (step o s L (.snapshot t)).2 = .throw (.dj "track_deleted") ∧
    (∀ f v, ∃ e, (step o s L (.set t f v)).2 = .throw e) ∧
    (∀ c, t ∉ CratesV1.crateTracks (toDetect s) L.cr c) := by
  intro L
  have h : LibInv s L := libInv_run o cs' (libInv_step o (libInv_run o cs (libInv_empty s um up dir)) _)
  have hrow : L.tr.rows t = none := absent_suffix o s t cs' (TracksV1.aget_filter_ne _ _) hno
  obtain ⟨_, hvalid, hsnap, hset, hmem, _⟩ := absent_answers o h hrow
  exact ⟨hrow, hvalid, hsnap, hset, hmem⟩

/-- non-vacuity: after create / create / remove(1) the continuation "create a crate, add track 2, create another track (id 3),
set its title, remove it" never re-issues id 1. -/
example :
    let o : FOps := ⟨fun _ => 0, fun n => if n = 0 then 0 else F64.one, fun _ _ => 0, fun b => b⟩
    let x : Snap := { Snap.empty with relativePath := some [97] }
    let y : Snap := { Snap.empty with relativePath := some [98] }
    let z : Snap := { Snap.empty with relativePath := some [99] }
    reissuesTrack o .s1_6_0 (step o .s1_6_0 (run o .s1_6_0 (Lib1.empty .s1_6_0 [77] [80] []) [.createTrack x, .createTrack y]) (.removeTrack 1)).1
      [.createRootCrate [97], .addTrack 1 2, .createTrack z, .set 3 .title (some [84]), .removeTrack 3] 1 = false := by
  decide +kernel

/-- The full statement is false of the code on the rowid schemas: create a track (id 1), remove it — the handle is invalid —
create another track: it gets id 1 again, and the stale handle of the first is valid and shows the second track's data. On
the AUTOINCREMENT schemas the same history issues id 3 (2 is the placeholder row) and the stale handle stays invalid. -/
theorem C08_lib1_removed_track_stays_removed_counterexample :
    let o : FOps := ⟨fun _ => 0, fun n => if n = 0 then 0 else F64.one, fun _ _ => 0, fun b => b⟩
    let x : Snap := { Snap.empty with relativePath := some [97] }
    let y : Snap := { Snap.empty with relativePath := some [98] }
    let run6 := run o .s1_6_0 (Lib1.empty .s1_6_0 [77] [80] []) [.createTrack x, .removeTrack 1]
    let run17 := run o .s1_17_0 (Lib1.empty .s1_17_0 [77] [80] []) [.createTrack x, .removeTrack 1]
    (trackLive run6 1 = .ok false ∧ Out.newId (step o .s1_6_0 run6 (.createTrack y)).2 = some 1 ∧
      trackLive (step o .s1_6_0 run6 (.createTrack y)).1 1 = .ok true ∧
      reissuesTrack o .s1_6_0 run6 [.createTrack y] 1 = true) ∧
    (trackLive run17 1 = .ok false ∧ Out.newId (step o .s1_17_0 run17 (.createTrack y)).2 = some 3 ∧
      trackLive (step o .s1_17_0 run17 (.createTrack y)).1 1 = .ok false) := by
  decide +kernel

/-- **On the AUTOINCREMENT schemas (1.17.0, 1.18.0 desktop / os) the stale-track clause holds in FULL**: a track that existed
and was removed never comes back — for EVERY continuation, no `reissuesTrack` hypothesis: `sqlite_sequence` bounds every id
ever issued and only grows, so `create_track` never reports that id again. -/
theorem C08_lib1_removed_track_never_returns_autoincrement (o : FOps) (s : VSchema)
    (ha : CratesV1.trackAutoinc (toDetect s) = true) (um up dir : Bytes) (cs cs' : List Call) (t : Id)
    (ht : ((run o s (Lib1.empty s um up dir) cs).tr.rows t).isSome = true) :
    let L := run o s (step o s (run o s (Lib1.empty s um up dir) cs) (.removeTrack t)).1 cs'
    L.tr.rows t = none ∧ (step o s L (.trackIsValid t)).2 = .ok (.bool false) ∧
    (step o s L (.snapshot t)).2 = .throw (.dj "track_deleted") ∧
    (∀ f v, ∃ e, (step o s L (.set t f v)).2 = .throw e) ∧
    (∀ c, t ∉ CratesV1.crateTracks (toDetect s) L.cr c) := by
  have h0 : LibInv s (run o s (Lib1.empty s um up dir) cs) := libInv_run o cs (libInv_empty s um up dir)
  have hc0 : CratesV1.C15.CInv (toDetect s) (run o s (Lib1.empty s um up dir) cs).cr := by
    rw [run_cr]; exact CratesV1.C15.run_cinv (toDetect s) _ _ (CratesV1.C15.cinv_empty _)
  have hseq : t ≤ (run o s (Lib1.empty s um up dir) cs).cr.trackSeq := by
    obtain ⟨r, hr, hre, _⟩ := (h0.coupled t).mpr ht
    rw [← hre]; exact hc0.seq ha r hr
  have h1 : LibInv s (step o s (run o s (Lib1.empty s um up dir) cs) (.removeTrack t)).1 := libInv_step o h0 _
  have hc1 := step_cinv_lib o hc0 (.removeTrack t)
  have hseq1 := Int.le_trans hseq (step_seq_mono o h0 (.removeTrack t))
  exact C08_lib1_removed_track_stays_removed_partial o s um up dir cs cs' t (no_reissue_autoinc o ha t cs' h1 hc1 hseq1)

/-- non-vacuity: 1.17.0, a track that exists (id 1) — cf. the counterexample above, where the same history on 1.6.0 re-issues id 1. -/
example :
    let o : FOps := ⟨fun _ => 0, fun n => if n = 0 then 0 else F64.one, fun _ _ => 0, fun b => b⟩
    CratesV1.trackAutoinc (toDetect .s1_17_0) = true ∧
    ((run o .s1_17_0 (Lib1.empty .s1_17_0 [77] [80] []) [.createTrack { Snap.empty with relativePath := some [97] }]).tr.rows 1).isSome = true := by
  decide +kernel

/-! ### stale crate handles on the composite (the crates package's `reissues` form, over interleaved histories) -/

/-- FULL STATEMENT (false of the code, `C07_removed_never_returned_counterexample`): "a removed crate is never valid again".
PROVED PART, over histories that interleave crate, membership and TRACK calls: an invalid crate id stays invalid — and no
crate lists it, `crate_by_id` finds nothing — after every continuation in which no crate creation reports that very id
(`reissuesCrate … = false`, decidable). -/
theorem C08_lib1_removed_crate_stays_removed_partial (o : FOps) (s : VSchema) (um up dir : Bytes) (cs cs' : List Call) (y : Id)
    (hy : CratesV1.crateIsValid (run o s (Lib1.empty s um up dir) cs).cr y = .ok false)
    (hno : reissuesCrate o s (run o s (Lib1.empty s um up dir) cs) cs' y = false) :
    let L := run o s (run o s (Lib1.empty s um up dir) cs) cs'
    (step o s L (.crateIsValid y)).2 = .ok (.bool false) ∧ (step o s L (.crateById y)).2 = .ok (.optId none) ∧
    y ∉ CratesV1.dbCrates L.cr ∧ (∀ t, y ∉ CratesV1.trackContainingCrates (toDetect s) L.cr t) := by
  intro L
  have h0 : LibInv s (run o s (Lib1.empty s um up dir) cs) := libInv_run o cs (libInv_empty s um up dir)
  have h : LibInv s L := libInv_run o cs' h0
  have hy0 := (CratesV1.isValid_false_iff h0.crates.toFInv y).mp hy
  have hd : y ∉ CratesV1.ids L.cr := crateDead_suffix o y cs' h0 hy0 hno
  have hv := (CratesV1.isValid_false_iff h.crates.toFInv y).mpr hd
  refine ⟨?_, ?_, ?_, ?_⟩
  · show mapRes Out.bool (CratesV1.crateIsValid L.cr y) = _; rw [hv]; rfl
  · show mapRes Out.optId (CratesV1.dbCrateById L.cr y) = _
    rw [CratesV1.q_crateById h.crates.toFInv, CratesV1.abs_live_false _ hd]; rfl
  · exact fun hm => hd ((CratesV1.mem_dbCrates _ y).mp hm)
  · intro t hm
    exact hd (h.crates.ctlLive _ ((CratesV1.mem_containing _ h.crates t y).mp hm)).1

/-- non-vacuity: crate 1 removed; the continuation creates a track, adds it to crate 2, renames crate 2, sets the track's
title, creates a sub-crate (id 3) — id 1 is not re-issued (1.9.1: `MAX(id)+1`). -/
example :
    let o : FOps := ⟨fun _ => 0, fun n => if n = 0 then 0 else F64.one, fun _ _ => 0, fun b => b⟩
    let L := run o .s1_9_1 (Lib1.empty .s1_9_1 [77] [80] []) [.createRootCrate [97], .createRootCrate [98], .removeCrate 1]
    CratesV1.crateIsValid L.cr 1 = .ok false ∧
    reissuesCrate o .s1_9_1 L [.createTrack { Snap.empty with relativePath := some [97] }, .addTrack 2 1, .setName 2 [99],
      .set 1 .title (some [84]), .createSubCrate 2 [100]] 1 = false := by
  decide +kernel

/-- The full statement is false on the composite too: with the surviving crate removed as well, the next creation re-issues
id 1 (rowid rule and `MAX(id)+1` alike), with track calls in between. -/
theorem C08_lib1_removed_crate_stays_removed_counterexample :
    let o : FOps := ⟨fun _ => 0, fun n => if n = 0 then 0 else F64.one, fun _ _ => 0, fun b => b⟩
    let x : Snap := { Snap.empty with relativePath := some [97] }
    (let L := run o .s1_6_0 (Lib1.empty .s1_6_0 [77] [80] []) [.createRootCrate [97], .createTrack x, .addTrack 1 1, .removeCrate 1]
     CratesV1.crateIsValid L.cr 1 = .ok false ∧
     CratesV1.crateIsValid (run o .s1_6_0 L [.set 1 .title (some [84]), .createRootCrate [98]]).cr 1 = .ok true ∧
     reissuesCrate o .s1_6_0 L [.set 1 .title (some [84]), .createRootCrate [98]] 1 = true ∧
     CratesV1.crateTracks (toDetect .s1_6_0) (run o .s1_6_0 L [.set 1 .title (some [84]), .createRootCrate [98]]).cr 1 = []) ∧
    (let L := run o .s1_18_0_os (Lib1.empty .s1_18_0_os [77] [80] []) [.createRootCrate [97], .removeCrate 1]
     CratesV1.crateIsValid (run o .s1_18_0_os L [.createRootCrate [98]]).cr 1 = .ok true) := by
  decide +kernel

end EngineModel.Properties.C08Lib1
