/-
C15, schema 2.x crates — "every public operation invoked with any argument
values (ids of nonexistent entities, crates from elsewhere in the tree, empty /
huge / odd names) … either completes or throws …; it never invokes undefined
behaviour, aborts or fails to terminate.  Handles to removed … crates report
is_valid() == false".

Model: `Db.V2.step` and the queries `q*` of Db/V2Crates.lean.
Undefined-behaviour sources of the C++ and where they are:
* `playlist_table::sort_ids` / `playlist_entity_table::get_for_list` dereference
  the tail (`next = 0`) of a non-empty selection without a test (the `assert`
  is compiled out): `Chain.walkBack` answers `ub oob_read` — INSIDE the model;
* the same functions' `do … while` follows `next ↦ id` until the map has no
  entry: the model gives the loop `rows.length` steps and then stops silently;
  `Api.GuardedV2.walkBackG` re-tests the loop condition at that point and
  answers `ub nontermination` — wrapper, proved equal to the model's walk on
  tables that represent lists (`R`);
* the recursive view `PlaylistAllChildren` (descendants(), the cycle check of
  set_parent, remove_crate) does not terminate on a cyclic parent relation: the
  model's `descendantIds` iterates level by level with `|Playlist|` levels of
  fuel and answers `ub nontermination` when a level remains after that — INSIDE
  the model; on forests it ends (`descendantIds_ok`);
* `crate::name` / `parent` / `create_*_after` on a removed crate throw `crate_deleted` (before
  the `fix:` they dereferenced an empty optional) and the
  model mirrors that (`qName`, `qParent`, `step`): no `ub` left to exclude.

The guarded step is the model's step on ANY state and has no `ub` outcome on a
well-formed forest (first theorem).  The ordered queries need the chain
invariant `R` of Proofs/Chain.lean for both tables and the forest shape (`v2c_C15_queries_no_ub`); that these hold on every
state reachable through the public API is proved in Proofs/CratesV2Members.lean
(`Inv` = `ChInv` ∧ `PlInv` ∧ `MemInv`, `inv_run`) and is
used for `v2c_C15_reachable_queries_no_ub`.  Histories that also use the three
table-level `playlist_entity_table` operations with non-positive track ids are
outside (recorded finding of C09: the schema's delete trigger does not re-link
such entries, after which `get_for_list` has no tail — see
`v2c_C15_table_level_counterexample`).
-/
import Proofs.NoUbCratesV2
import Proofs.NoUbStaleCratesV2
import Proofs.CratesV2WfRaw

namespace EngineModel.Properties.C15CratesV2
open EngineModel EngineModel.Db.Chain EngineModel.Db.V2 EngineModel.Api.GuardedV2

/-- **The mutating operations** (crate, membership, track, table level), with any arguments, through
the guarded step `stepG` — the model's `step` with every `*opt` / `opt->` of crate_impl.cpp,
database_impl.cpp, playlist_entity_table.cpp as a possible `ub empty_optional` behind the C++ guard
*as regenerated from the source* (`Gen.C15Guards`); the recursive view `PlaylistAllChildren` (cycle test
of set_parent, remove_crate) is the package's own `descendantIds`, `ub nontermination` on a cyclic table.
`stepG` IS the model's step on ANY state (no guard fails to protect its dereference), and on a state that
satisfies the crates-2.x invariant `PlInv` (a well-formed forest: kept by every operation, true of the
empty library) the outcome is a value or an exception — in particular the view terminates. -/
theorem v2c_C15_no_ub (d : Db) (op : Op) :
    stepG d op = step d op ∧ (PlInv d → ∀ u, (stepG d op).2 ≠ .ub u) :=
  ⟨stepG_eq d op, fun hI => stepG_defined d hI.wf op⟩

/-- **Reachable states**: along EVERY script from the empty library (public API and table level, any
arguments) the guarded run is the model's run and no call has undefined behaviour. -/
theorem v2c_C15_reachable_no_ub (ops : List Op) :
    runG Db.empty ops = run Db.empty ops ∧ ∀ r ∈ outcomesG Db.empty ops, ∀ u, r ≠ .ub u := by
  refine ⟨runG_eq _ ops, fun r hr u => ?_⟩
  rw [outcomesG_eq] at hr
  exact outcomes_defined ops Db.empty plInv_empty r hr u

/-- The invariant is needed: on a table whose parent links form a cycle (not reachable through the API; a
foreign or damaged library) `remove_crate` and `set_parent` of a crate on the cycle evaluate the recursive
view without end. -/
theorem v2c_C15_cyclic_table_counterexample :
    let d : Db := ⟨[⟨1, 2, 0, [65]⟩, ⟨2, 1, 0, [66]⟩, ⟨3, 0, 0, [67]⟩], 3, [], 0, [], 0⟩
    forestOk d.pl = false ∧
    (stepG d (.removeCrate 1)).2 = .ub .nontermination ∧
    (stepG d (.setParent 1 (some 3))).2 = .ub .nontermination ∧
    queryG d (.descendants 2) = .ub .nontermination := by
  decide +kernel

/-- Each guard is needed (what a regression of the C++ would do to the model): with the `!row` test of
`crate::set_name`, the `!after_row` test of `create_root_crate_after` or the `if (existing_id)` of
`add_back` dropped, the call on a removed crate / with a removed `after` / a new entry dereferences
an empty optional. -/
theorem v2c_C15_guard_dropped_counterexample :
    let d : Db := run Db.empty [.createRoot [65], .createTrack]
    (stepGW { Guards.source with setNameNoRow := fun _ => false } d (.rename 7 [66])).2 = .ub .empty_optional ∧
    (stepGW { Guards.source with rootAfterNoRow := fun _ => false } d (.createRootAfter [66] 7)).2 = .ub .empty_optional ∧
    (stepGW { Guards.source with subAfterNoRow := fun _ => false } d (.createSubAfter 1 [66] 7)).2 = .ub .empty_optional ∧
    (stepGW { Guards.source with setParentNoRow := fun _ => false } d (.setParent 7 none)).2 = .ub .empty_optional ∧
    (stepGW { Guards.source with addBackExisting := fun _ => true } d (.addTrack 1 1)).2 = .ub .empty_optional ∧
    (stepGW { Guards.source with setParentGiven := fun _ => true } d (.setParent 1 none)).2 = .ub .empty_optional ∧
    (stepGW { Guards.source with crateRemoveTrackFound := fun _ => true } d (.removeTrackFrom 1 1)).2 = .ub .empty_optional ∧
    (stepGW { Guards.source with dbRemoveTrackFound := fun _ => true } d (.removeTrack 1)).2 = .ub .empty_optional := by
  decide +kernel

/-- The chain walk of `sort_ids` / `get_for_list`: on a table that represents lists the tail exists and
the loop ends within `rows.length` lookups (the guarded walk = the model's walk = a value). -/
theorem v2c_C15_walk_terminates {α : Type} {A : Int → List Int} {t : Table α} (h : R A t) (k : Int) :
    walkBackG t k = walkBack t k ∧ ∃ l, walkBack t k = .ok l :=
  walkBackG_eq h k

/-- The recursive view: on a well-formed forest it ends within `|Playlist|` levels (theorem
`descendantIds_ok` of the crates-2.x package, which also says the result is the set of descendants). -/
theorem v2c_C15_view_terminates (d : Db) (hI : PlInv d) (c : Int) : ∃ l, descendantIds d.pl c = .ok l :=
  (descendantIds_ok hI.wf c).imp fun _ h => h.1

/-- Every query, for any crate id / name (existing or not), on a state whose two tables represent
lists and whose Playlist table is a well-formed forest: a value or an exception, and it terminates. -/
theorem v2c_C15_queries_no_ub (d : Db) {A B : Int → List Int} (hpl : R A d.pl) (hpe : R B d.pe)
    (hI : PlInv d) (q : Query) (u : Ub) : queryG d q ≠ .ub u :=
  queryG_defined d hpl hpe hI.wf q u

/-- The same for the model's own ordered queries (tie-compared with the library). -/
theorem v2c_C15_ordered_queries_no_ub (d : Db) {A B : Int → List Int} (hpl : R A d.pl) (hpe : R B d.pe)
    (c : Int) (u : Ub) :
    qRoots d ≠ .ub u ∧ qChildren d c ≠ .ub u ∧ qTracks d c ≠ .ub u ∧ qEntities d c ≠ .ub u := by
  have hpl' := walkBack_defined hpl
  have hpe' := walkBack_defined hpe c
  exact ⟨(hpl' 0).bind (fun _ _ => .ok _) u, (hpl' c).bind (fun _ _ => .ok _) u, hpe'.bind (fun _ _ => .ok _) u,
    hpe'.bind (fun _ _ => .ok _) u⟩

/-- **Reachable states**: after any history of public-API operations (crate, membership, track
operations with any arguments) from the empty library, every query — for any crate id or name,
existing or not — is a value or an exception and terminates. -/
theorem v2c_C15_reachable_queries_no_ub (ops : List Op) (hapi : ops.all apiOp = true) (q : Query) (u : Ub) :
    queryG (run Db.empty ops) q ≠ .ub u := by
  obtain ⟨_, _, hI, _⟩ := inv_run inv_empty ops (all_memOp_of_apiOp hapi)
  exact queryG_defined _ hI.ch.rk hI.ch.re hI.pl.wf q u

/-- **The whole public alphabet** of `database` / `crate` over this model: mutations and queries
interleaved in any order, with any arguments, from the empty library — every outcome is a value or an
exception.  `memCall`: the mutations are public-API operations or additions of entries of OTHER databases
(what other software sharing the library does); `crate::add_tracks` is a list of `addTrack`; `uuid`,
`version_name`, `directory`, `verify`, `crate::db` have no model content (outcome `ok`; tie only). -/
theorem v2c_C15_all_calls_no_ub (cs : List Call) (hm : cs.all memCall = true) :
    ∀ r ∈ callOutcomes Db.empty cs, ∀ u, r ≠ .ub u :=
  fun r hr u => callOutcomes_defined cs inv_empty hm r hr u

/-- The restriction to the public API is needed: at table level (`playlist_entity_table`, reachable
only by code that bypasses `crate`) entries with a non-positive track id are not re-linked by the
schema's delete trigger, and listing the playlist then dereferences a missing tail. -/
theorem v2c_C15_table_level_counterexample :
    qEntities (run Db.empty [.peAddBack 3 2 0 false, .peAddBack 3 3 0 false, .peAddBack 3 0 0 false, .peRemove 3 3]) 3 =
      .ub .oob_read := by
  decide +kernel

/-- **Stale crate handle, along every later history**: once `remove_crate(c)` has succeeded on a state
reachable through the API (`PlInv`: the crates-2.x invariant, kept by every operation), then after ANY
further operations `c.is_valid()` is false, `name()` / `parent()` throw `crate_deleted`, every mutation
through the handle throws, and removing it again throws — `Playlist.id` is AUTOINCREMENT, so the id is
never issued again.  (`id()`, copying, assigning and destroying a handle touch no library state: they
have no model content — the handle is the `Int`; AddressSanitizer watches them in the tie.) -/
theorem v2c_C15_stale_crate (d : Db) (hI : PlInv d) (c : Int) (hc : plExists d c = true) (ops : List Op) :
    let d' := run (step d (.removeCrate c)).1 ops
    qValid d' c = false ∧ qNameG d' c = .throw (exn "crate_deleted") ∧ qParentG d' c = .throw (exn "crate_deleted") ∧
    (∀ n, (stepG d' (.rename c n)).2 = .throw (exn "crate_deleted")) ∧
    (∀ n, (stepG d' (.createSub c n)).2 = .throw (exn "crate_deleted")) ∧
    (∀ n a, (stepG d' (.createSubAfter c n a)).2 = .throw (exn "crate_deleted")) ∧
    (∀ t, (stepG d' (.addTrack c t)).2 = .throw (exn "crate_deleted")) ∧
    (∀ p, ∃ e, (stepG d' (.setParent c p)).2 = .throw e) ∧
    (stepG d' (.removeCrate c)).2 = .throw .invalid_argument :=
  stale_calls _ c (gone_run (gone_after_remove hI hc) ops).absent

/-- … in particular after any script from the empty library. -/
theorem v2c_C15_stale_crate_reachable (ops1 : List Op) (c : Int) (hc : plExists (run Db.empty ops1) c = true)
    (ops2 : List Op) : qValid (run (step (run Db.empty ops1) (.removeCrate c)).1 ops2) c = false :=
  (v2c_C15_stale_crate _ (plInv_run plInv_empty ops1) c hc ops2).1

/-- Ids of crates that do not exist (never created, or removed) as the *other* argument: exceptions. -/
theorem v2c_C15_nonexistent_args (d : Db) (c q : Int) (hq : plExists d q = false) (hqc : q ≠ c) :
    (∃ e, (step d (.setParent c (some q))).2 = .throw e) ∧
    (∀ n, ∃ e, (step d (.createRootAfter n q)).2 = .throw e) ∧
    (∀ t, (stepG d (.addTrack q t)).2 = .throw (exn "crate_deleted")) := by
  have hget : Db.Chain.get d.pl q = none :=
    get_none_of_not_mem fun hm => by rw [plExists_iff.mpr hm] at hq; cases hq
  have h2 : (some q == some c) = false := by simpa using hqc
  refine ⟨?_, fun n => ?_, fun t => ?_⟩
  · simp only [step, h2, Bool.false_eq_true, if_false]
    cases Db.Chain.get d.pl c with
    | none => exact ⟨_, rfl⟩
    | some row => simp only [hq, Bool.not_false, if_true]; exact ⟨_, rfl⟩
  · simp only [step, hget]; split <;> exact ⟨_, rfl⟩
  · simp only [stepG_eq, step, hq, Bool.not_false, if_true]

/-! ### non-vacuity: states that satisfy the hypotheses, and states that show they are needed -/

def nm (c : Char) : Bytes := [c.toNat.toUInt8]

/-- roots A, D; B under A; C under B; two tracks in A -/
def exOps : List Op :=
  [.createRoot (nm 'A'), .createSub 1 (nm 'B'), .createSub 2 (nm 'C'), .createRoot (nm 'D'), .createTrack,
   .createTrack, .addTrack 1 1, .addTrack 1 2]

def exDb : Db := run Db.empty exOps

theorem exDb_eq : exDb = ⟨[⟨1, 0, 4, nm 'A'⟩, ⟨2, 1, 0, nm 'B'⟩, ⟨3, 2, 0, nm 'C'⟩, ⟨4, 0, 0, nm 'D'⟩], 4,
    [⟨1, 1, 2, ⟨1, 0⟩⟩, ⟨2, 1, 0, ⟨2, 0⟩⟩], 2, [1, 2], 2⟩ := by decide +kernel

example : wfRaw exDb = true := by rw [exDb_eq]; decide +kernel
example : forestOk exDb.pl = true := by rw [exDb_eq]; decide +kernel
/-- its Playlist table represents the lists root ↦ [1, 4], 1 ↦ [2], 2 ↦ [3] -/
example : exDb.pl = [⟨1, 0, 4, nm 'A'⟩, ⟨2, 1, 0, nm 'B'⟩, ⟨3, 2, 0, nm 'C'⟩, ⟨4, 0, 0, nm 'D'⟩] := by rw [exDb_eq]
example : qRoots exDb = .ok [1, 4] ∧ qTracks exDb 1 = .ok [1, 2] := by rw [exDb_eq]; decide +kernel
example : PlInv exDb := plInv_run plInv_empty exOps
example : plExists exDb 2 = true := by rw [exDb_eq]; decide +kernel
example : (stepG exDb (.setParent 1 (some 3))) = (step exDb (.setParent 1 (some 3))) := stepG_eq _ _
example : (stepG exDb (.removeCrate 1)).1.pl = [⟨4, 0, 0, nm 'D'⟩] := by rw [exDb_eq]; decide +kernel
example : queryG exDb .roots = .ok () ∧ queryG exDb (.descendants 1) = .ok () ∧ queryG exDb (.tracks 99) = .ok () := by
  rw [exDb_eq]; decide +kernel
/-- crates from elsewhere in the tree, nonexistent ids, odd names: exceptions -/
example : (step exDb (.setParent 1 (some 3))).2 = .throw (exn "crate_invalid_parent") := by rw [exDb_eq]; rfl
example : (step exDb (.setParent 1 (some 99))).2 = .throw (exn "crate_deleted") := by rw [exDb_eq]; rfl
example : (step exDb (.createSubAfter 1 (nm 'X') 4)).2 = .throw (exn "crate_invalid_parent") := by rw [exDb_eq]; rfl
example : (step exDb (.rename 2 [])).2 = .throw (exn "crate_invalid_name") := by rw [exDb_eq]; rfl
example : (step exDb (.addTrack 1 (-7))).2 = .throw (exn "track_deleted") := by rw [exDb_eq]; rfl
example : (step exDb (.rename 2 (List.replicate 300 200))).2 = .ok none := by rw [exDb_eq]; decide +kernel

/-- the hypotheses are needed: a list without a tail, a self-referring row, a parent cycle -/
example : walkBack ([⟨1, 0, 2, ()⟩] : Table Unit) 0 = .ub .oob_read := by decide +kernel
example : walkBackG ([⟨0, 5, 0, ()⟩] : Table Unit) 5 = .ub .nontermination ∧
    walkBack ([⟨0, 5, 0, ()⟩] : Table Unit) 5 = .ok [⟨0, 5, 0, ()⟩] := by decide +kernel
example : descendantIds [⟨1, 2, 0, nm 'A'⟩, ⟨2, 1, 0, nm 'B'⟩] 1 = .ub .nontermination := by decide +kernel

end EngineModel.Properties.C15CratesV2
