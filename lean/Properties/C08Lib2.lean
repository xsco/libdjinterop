/-
C08 on the WHOLE schema-2.x library: crate contents are exactly the LIVE tracks —
rows of the Track table of the same state, not an id-level stand-in — that were added and not removed.

Model: `EngineModel/Lib/V2.lean` (see Properties/C11Lib2.lean).  Histories: every public call of database / crate /
track interleaved in any order (create_track with arbitrary snapshots, update, the 26 setters, remove_track, crate
creation / renaming / re-parenting / removal, add / remove / clear tracks, every observer), failed calls included,
plus `foreignEntry` — other software adding an entry of ANOTHER database that shares a numeric track id — and
`plantPrepare`, Engine putting a track on its prepare list (`Call.admissible`).

Spec: `Spec/Members.lean` (the C08 Spec of the crate packages, untouched).  `crateHist` (Lib/V2.lean) is the
composite history as the crate package sees it; the composition theorem `crates_run` (Proofs/Lib2Sim.lean) makes
every C08V2 history theorem a theorem about the composite.
-/
import Proofs.Lib2Sim
import Proofs.Lib2Exec
import Proofs.CratesV2MembersQueries
import Proofs.CratesV2ForestQueries
import Proofs.CratesV2Run
import Properties.C08V2

namespace EngineModel.Properties.C08Lib2
open EngineModel EngineModel.Db.Chain EngineModel.TracksV2 EngineModel.Lib.V2 EngineModel.Spec
open EngineModel.Db.V2 (absM absF specRunM memOp Inv inv_hist qTracks qAllTracks)
open EngineModel.Table (Schema2)

/-- **Composition.**  After any admissible history of the composite, its crate tables (with the ids of the real
Track rows as "the tracks") are the crate package's tables after `crateHist`, and its Track table is the track
package's table after `trackHist`. -/
theorem C08Lib2_composition (ops : FOps) (s : Schema2) (uuid : Bytes) (hist : List Call)
    (ha : hist.all Call.admissible = true) :
    let L := run ops s (Lib2.empty s uuid) hist
    L.crates = EngineModel.Db.V2.run EngineModel.Db.V2.Db.empty (crateHist ops s (Lib2.empty s uuid) hist) ∧
    (crateHist ops s (Lib2.empty s uuid) hist).all memOp = true ∧
    L.tdb = (TDb.empty uuid).run ops (toT s) (trackHist hist) :=
  ⟨crates_run ops s (libInv_empty s uuid).toLibCore hist ha, crateHist_memOp ops s _ hist ha, tdb_run ops s _ hist⟩

/-- **Refinement of Spec.Members by the whole library.**  Along any admissible history the membership Spec — fed
with the calls and the library's own answers only — never objects, and the state it tracks (live crates, live
tracks, (crate, track) pairs added and not removed) is exactly the abstraction of the composite's tables. -/
theorem C08Lib2_refines (ops : FOps) (s : Schema2) (uuid : Bytes) (hist : List Call) (ha : hist.all Call.admissible = true) :
    let L := run ops s (Lib2.empty s uuid) hist
    specRunM EngineModel.Db.V2.Db.empty Forest.empty Members.empty (crateHist ops s (Lib2.empty s uuid) hist)
      = some (absF L.crates, absM L.crates) := by
  intro L
  obtain ⟨hc, hm, _⟩ := C08Lib2_composition ops s uuid hist ha
  obtain ⟨_, _, _, h⟩ := inv_hist _ hm
  show _ = some (absF L.crates, absM L.crates)
  rw [hc]; exact h

/-- **crate.tracks() is exactly the live tracks added and not removed.**  After any admissible history, for every
crate id `c`: `tracks()` returns normally, leaves the library untouched, lists no track twice, lists exactly the
Spec's contents of `c`, and every listed id is the id of a ROW of table Track of the same state — a track that
`track_by_id` finds and whose handle is valid (whatever entries of other databases the playlist holds). -/
theorem C08Lib2_tracks_exactly_live_members (ops : FOps) (s : Schema2) (uuid : Bytes) (hist : List Call)
    (ha : hist.all Call.admissible = true) (c : Int) :
    let L := run ops s (Lib2.empty s uuid) hist
    ∃ l, step ops s L (.crateTracks c) = (L, .ok (.ids l)) ∧ l.Nodup ∧
      (∀ t, t ∈ l ↔ t ∈ Members.tracksOf (absM L.crates) c) ∧
      (∀ t ∈ l, ∃ row ∈ L.tdb.rows, (row.id : Int) = t ∧
        (step ops s L (.trackById t)).2 = .ok (.oid (some t)) ∧ (step ops s L (.trackIsValid row.id)).2 = .ok (.bool true)) :=
  tracks_exactly_live_members ops s (libCore_run ops s (libInv_empty s uuid).toLibCore hist ha) c

/-- **Membership is carried by entity rows that reference live rows.**  `(c, t)` is a membership iff a
PlaylistEntity row of this database's uuid has `listId = c`, `trackId = t`; then `c` is the id of a Playlist row and
`t` the id of a Track row (the containing relation, read either way round, is this one relation). -/
theorem C08Lib2_membership_rows (ops : FOps) (s : Schema2) (uuid : Bytes) (hist : List Call)
    (ha : hist.all Call.admissible = true) (c t : Int) :
    let L := run ops s (Lib2.empty s uuid) hist
    ((c, t) ∈ (absM L.crates).pairs ↔ ∃ e ∈ L.pe, e.key = c ∧ e.val.track = t ∧ e.val.uuid = 0) ∧
    ((c, t) ∈ (absM L.crates).pairs → (∃ p ∈ L.pl, p.id = c) ∧ ∃ row ∈ L.tdb.rows, (row.id : Int) = t) :=
  membership_rows (libCore_run ops s (libInv_empty s uuid).toLibCore hist ha) c t

/-- **Frame across the table families.**  A call the crate package does not see — `update`, every setter
(`set_relative_path` included), every observer, a `create_track` that was refused — changes NO membership and no
crate; a `create_track` that went through only adds the new track to the live tracks. -/
theorem C08Lib2_frame_track_calls (ops : FOps) (s : Schema2) (L : Lib2) (h : LibCore s L) (c : Call)
    (ha : c.admissible = true) :
    (crateOpOf ops s L c = none → (step ops s L c).1.crates = L.crates) ∧
    (crateOpOf ops s L c = some .createTrack →
      (absM (step ops s L c).1.crates).pairs = (absM L.crates).pairs ∧
      (absM (step ops s L c).1.crates).crates = (absM L.crates).crates) := by
  have hs := crates_step ops s h.tr c
  constructor
  · intro e; rw [e] at hs; exact hs
  · intro e; rw [e] at hs; rw [hs]; exact ⟨rfl, rfl⟩

/-- **Frame inside the crate tables.**  A call changes the membership of no pair it is not about (`touches`:
add / remove of (c, t) only (c, t); clear only pairs of c; remove_track only pairs of t; remove_crate only pairs of
the removed subtree; everything else, a foreign entry included, none). -/
theorem C08Lib2_frame (ops : FOps) (s : Schema2) (L : Lib2) (h : LibCore s L) (c : Call) (ha : c.admissible = true)
    (op : COp) (hop : crateOpOf ops s L c = some op) (p : Int × Int)
    (hp : ∀ mop ∈ EngineModel.Db.V2.membersOps (absF L.crates) op (EngineModel.Db.V2.step L.crates op).2,
      ¬ EngineModel.Db.V2.touches mop p) :
    p ∈ (absM (step ops s L c).1.crates).pairs ↔ p ∈ (absM L.crates).pairs := by
  obtain ⟨S, hS⟩ := h.cr
  rw [crates_step ops s h.tr c, hop]
  exact EngineModel.Db.V2.step_frame hS op ((crateOpOf_ops hop).1 ha) p hp

/-- **remove_track erases the track everywhere, atomically.**  On any library satisfying the invariant:
`database::remove_track(t)` of a track that has a row returns normally, afterwards no Track row has the id, no crate
lists it (no membership (c, t) is left), and no ChangeLog row names it; of a track without a row it throws and
EVERY table is as before (memberships and ChangeLog included: one transaction). -/
theorem C08Lib2_remove_track_erases (ops : FOps) (s : Schema2) (L : Lib2) (h : LibCore s L) (t : Nat) :
    let L' := (step ops s L (.removeTrack t)).1
    ((L.tdb.find t).isSome = true →
      (step ops s L (.removeTrack t)).2 = .ok .unit ∧ L'.tdb.find t = none ∧
      (∀ c, ((c, (t : Int)) ∉ (absM L'.crates).pairs)) ∧ (∀ r ∈ L'.log, r.track ≠ some t)) ∧
    ((L.tdb.find t).isSome = false → step ops s L (.removeTrack t) = (L, .throw .invalid_argument)) := by
  have hcore := libCore_step ops s h (.removeTrack t) rfl
  rw [step_removeTrack] at hcore ⊢
  refine ⟨fun hf => ?_, fun hf => by rw [hf]; rfl⟩
  simp only [hf, if_true] at hcore ⊢
  have hgone : ∀ x ∈ (removed s t L).tdb.rows, x.id ≠ t := fun x hx => by simpa using (List.mem_filter.mp hx).2
  refine ⟨trivial, List.find?_eq_none.mpr fun x hx => by simpa using hgone x hx, fun c hp => ?_, fun r hr => ?_⟩
  · -- a membership references a row of the Track table of the same state
    obtain ⟨x, hx, e1⟩ := ((membership_rows hcore c t).2 hp).2
    exact hgone x hx (by omega)
  · rw [removed_log h] at hr
    obtain ⟨r0, _, rfl⟩ := List.mem_map.mp hr
    split
    · nofun
    · rename_i hne; exact fun e => hne (by rw [e]; simp)

/-- **Adding a present track and removing an absent one are no-ops** on the whole library. -/
theorem C08Lib2_noops (ops : FOps) (s : Schema2) (L : Lib2) (c t : Int) :
    (∀ e, EngineModel.Db.V2.peFind L.crates c t 0 = some e → EngineModel.Db.V2.plExists L.crates c = true →
      trackExists L t = true → step ops s L (.crateAddTrack c t) = (L, .ok .unit)) ∧
    (EngineModel.Db.V2.peFind L.crates c t 0 = none → step ops s L (.crateRemoveTrack c t) = (L, .ok .unit)) := by
  constructor
  · intro e he hc ht
    have ht' : t ∈ L.crates.tracks := (trackExists_iff L t).mp ht
    show (crateCall (.addTrack c t) >>= _) L = _
    rw [m2_bind_apply, crateCall_same ((C08V2.C08V2_add_present_noop L.crates c t 0 e he).2.2 rfl hc ht')]
    rfl
  · intro he
    show (crateCall (.removeTrackFrom c t) >>= _) L = _
    rw [m2_bind_apply, crateCall_same (C08V2.C08V2_remove_absent_noop L.crates c t he)]
    rfl

/-- **crate::add_track requires a track that exists in the Track table** (fix d308111): an id without a row —
never issued, or of a removed track — is refused with `track_deleted` and nothing is written. -/
theorem C08Lib2_add_requires_live_track (ops : FOps) (s : Schema2) (L : Lib2) (c t : Int)
    (hc : EngineModel.Db.V2.plExists L.crates c = true) (ht : trackExists L t = false) :
    step ops s L (.crateAddTrack c t) = (L, .throw (.dj "track_deleted")) := by
  have ht' : t ∉ L.crates.tracks := fun hh => by rw [(trackExists_iff L t).mpr hh] at ht; cases ht
  show (crateCall (.addTrack c t) >>= _) L = _
  rw [m2_bind_apply, crateCall_same (r := .throw (.dj "track_deleted"))
    (by simp [EngineModel.Db.V2.step, hc, ht', EngineModel.Db.V2.exn])]

/-- **A removed crate (with its whole subtree) is gone for good**, along every later history of the composite —
track calls, crate calls, creations included (Playlist ids are AUTOINCREMENT): `is_valid()` of the stale handle is
false and `crate_by_id` finds nothing, so no later call can add to or list the removed crate. -/
theorem C08Lib2_removed_crate_gone (ops : FOps) (s : Schema2) (uuid : Bytes) (pre later : List Call)
    (hp : pre.all Call.admissible = true) (hl : later.all Call.admissible = true) (c x : Int)
    (hc : EngineModel.Db.V2.qValid (run ops s (Lib2.empty s uuid) pre).crates c = true)
    (hx : x = c ∨ ∃ l, EngineModel.Db.V2.qDescendants (run ops s (Lib2.empty s uuid) pre).crates c = .ok l ∧ x ∈ l) :
    let L' := run ops s (Lib2.empty s uuid) (pre ++ [.removeCrate c] ++ later)
    (step ops s L' (.crateIsValid x)).2 = .ok (.bool false) ∧ (step ops s L' (.crateById x)).2 = .ok (.oid none) := by
  have hv := removed_crate_gone ops s (libCore_run ops s (libInv_empty s uuid).toLibCore pre hp) later hl c x hc hx
  rw [run_append, run_append]
  exact ⟨congrArg (fun b => Res.ok (Out.bool b)) hv, congrArg (fun b => Res.ok (Out.oid (if b = true then some x else none))) hv⟩

/-! ### non-vacuity: ids of crates, tracks and entity rows all differ; a foreign entry shares a track id -/

def exOps : FOps := ⟨fun _ => 0, fun _ => 0, fun _ _ => 0⟩
def exSnap (n : UInt8) : Snap := { Snap.empty with relativePath := some [97, 47, n, 46, 109, 112, 51], title := some [n] }

def exHist : List Call :=
  [.createTrack (exSnap 49), .createTrack (exSnap 50), .removeTrack 1, .createTrack (exSnap 51), .createTrack (exSnap 51),
   .createRootCrate [120], .removeCrate 1, .createRootCrate [97], .crateCreateSub 2 [98], .createRootCrate [99],
   .crateAddTrack 2 3, .crateAddTrack 3 2, .foreignEntry 3 3 7, .crateAddTrack 3 3, .crateAddTrack 3 3, .trackSet 3 (.title none),
   .crateRemoveTrack 3 3, .crateAddTrack 4 2, .crateClearTracks 4, .crateAddTrack 4 3, .crateAddTrack 4 1, .trackUpdate 2 (exSnap 52)]

example : exHist.all Call.admissible = true := by decide
/-- what the crate package sees of it (the refused second create_track of "a/3.mp3" and the track calls are invisible) -/
example : crateHist exOps .s2_20_1 (Lib2.empty .s2_20_1 [85]) exHist =
    [.createTrack, .createTrack, .removeTrack 1, .createTrack, .createRoot [120], .removeCrate 1, .createRoot [97],
     .createSub 2 [98], .createRoot [99], .addTrack 2 3, .addTrack 3 2, .peAddBack 3 3 7 false, .addTrack 3 3, .addTrack 3 3,
     .removeTrackFrom 3 3, .addTrack 4 2, .clearTracks 4, .addTrack 4 3, .addTrack 4 1] := by decide +kernel
example : (absM (run exOps .s2_20_1 (Lib2.empty .s2_20_1 [85]) exHist).crates).pairs = [(2, 3), (3, 2), (4, 3)] := by decide +kernel
example : (step exOps .s2_20_1 (run exOps .s2_20_1 (Lib2.empty .s2_20_1 [85]) exHist) (.crateTracks 3)).2 = .ok (.ids [2]) := by
  decide +kernel
example : (run exOps .s2_20_1 (Lib2.empty .s2_20_1 [85]) exHist).pe.map (fun e => (e.id, e.key, e.val.track, e.val.uuid)) =
    [(1, 2, 3, 0), (2, 3, 2, 0), (3, 3, 3, 7), (6, 4, 3, 0)] := by decide +kernel

end EngineModel.Properties.C08Lib2
