/-
C09 — Ordered listings keep every sibling and entry exactly once, in order (schema 2.x).

Model: Db/Chain.lean (generic keyed chains in a SQL table: the statements and triggers as list
operations), instantiated twice in Db/V2Crates.lean (Playlist: key = parentListId;
PlaylistEntity: key = listId) together with the crate API of src/djinterop/engine/v2.
Spec: Spec/Ordered.lean (one duplicate-free list of ids per key; `insertAfter`, append, `erase`;
`Change.holds` = how a listing may change across one operation).

`R A t` (Proofs/Chain.lean): the table `t` represents the abstract lists `A`.
`Ord` (Proofs/CratesV2Abs.lean): the Spec state — sibling lists per parent, entry lists per playlist, every entry
with its payload (entity id, track id, database uuid).
`ordNext S f op res`: the Spec lists after `op`, computed with the list operations of Spec/Ordered from the
Spec state itself (`S`, and the Spec forest `f` of C07: who is whose parent, who is live, the subtree of a
crate), the arguments of the call and its answer `res` (returned / threw, the new id) — nothing else of the
Model is read; in particular WHICH entry a removal removes is looked up in the Spec's own listing.
`specRunO`: forest by `judgeF` (C07) and lists by `ordNext`, along a history, from the Model's answers only.
`ChInv S d` (Proofs/CratesV2Rep.lean): `R S.kids d.pl ∧ R S.entIds d.pe`, every row carries the payload the Spec
recorded for it, no (list, database, track) triple twice, every entity row makes the schema's delete trigger
fire, ids within the AUTOINCREMENT counters.

Known finding (findings/C09.json, table level only): an entity row with trackId ≤ 0 is not
re-linked when it is removed, because the schema's own trigger is declared `WHEN OLD.trackId > 0`.
The history theorems therefore carry the decidable hypothesis `ops.all okOp`
(`okOp (.peAddBack _ t _ _) = (0 < t)`, every other operation — in particular the whole crate API,
where add_track demands an existing track — is `okOp`); the unrestricted statement is refuted by
`C09_history_counterexample`.
-/
import Proofs.CratesV2Run

namespace EngineModel.Properties.C09
open EngineModel EngineModel.Db.Chain EngineModel.Db.V2 EngineModel.Spec

variable {α : Type}

/-- The backwards walk of `sort_ids` / `get_for_list` over a table that represents `A`
returns the list of key `k`: every item exactly once, in order, and without meeting the
missing-tail undefined behaviour. -/
theorem C09_walk_lists_every_item_once_in_order {A : Int → List Int} {t : Table α} (h : R A t) (k : Int) :
    walkIds t k = .ok (A k) ∧ (A k).Nodup :=
  ⟨walkIds_eq h k, h.nodup k⟩

/-- On a table that represents `A`, the listing of `k` consists of exactly the rows of `k`: none lost, none foreign. -/
theorem C09_listing_covers_exactly_the_rows {A : Int → List Int} {t : Table α} (h : R A t) (k x : Int) :
    x ∈ A k ↔ ∃ r ∈ t, r.id = x ∧ r.key = k :=
  h.mem_iff

/-- INSERT under trigger_before_insert_List / trigger_after_insert_List puts the new row
immediately before `target` (at the end for target 0) in the list of its key and leaves
every other list alone. -/
theorem C09_insert_simulates {A : Int → List Int} {t : Table α} (h : R A t) {n k b : Int} (v : α)
    (hpos : 0 < n) (hfresh : n ∉ ids t) (hb : b = 0 ∨ b ∈ A k) :
    R (setKey A k (Ordered.insertBefore b n (A k))) (insertBefore t n k b v) :=
  R_insertBefore h v hpos hfresh hb

/-- non-vacuity: a concrete two-sibling table satisfies `R`, and the insert lemma applies to it. -/
example : R (fun k => if k = 0 then [1, 2] else []) ([⟨1, 0, 2, ()⟩, ⟨2, 0, 0, ()⟩] : Table Unit) := by
  constructor
  · decide
  · intro r hr; simp at hr; rcases hr with rfl | rfl <;> decide
  · intro k; by_cases h : k = 0 <;> simp [h]
  · intro r hr; simp at hr; rcases hr with rfl | rfl <;> simp
  · intro r hr; simp at hr; rcases hr with rfl | rfl <;> simp [succ]
  · intro k x hx
    by_cases h : k = 0
    · simp [h] at hx
      rcases hx with rfl | rfl
      · exact ⟨⟨1, 0, 2, ()⟩, by simp, rfl, h.symm⟩
      · exact ⟨⟨2, 0, 0, ()⟩, by simp, rfl, h.symm⟩
    · simp [h] at hx

/-- `DELETE FROM Playlist WHERE id = ?` under trigger_after_delete_List. -/
theorem C09_delete_playlist_simulates {A : Int → List Int} {t : Table α} (h : R A t) {i : Int} {old : Row α}
    (hg : get t i = some old) :
    R (setKey (setKey A old.key ((A old.key).erase i)) i []) (deleteCascade t i) :=
  R_deleteCascade h hg

/-- The four-statement splice of playlist_table::update to another parent. -/
theorem C09_move_simulates {A : Int → List Int} {t : Table α} (h : R A t) {old : Row α} (hold : old ∈ t)
    {nk target : Int} (hk : nk ≠ old.key) (hb : target = 0 ∨ target ∈ A nk) (v : α) :
    R (setKey (setKey A old.key ((A old.key).erase old.id)) nk (Ordered.insertBefore target old.id (A nk)))
      (move t old.id old.key old.next nk target v) :=
  R_move h hold hk hb v

/-- playlist_entity_table::add_back. -/
theorem C09_add_back_simulates {A : Int → List Int} {t : Table α} (h : R A t) {n k : Int} (v : α)
    (hpos : 0 < n) (hfresh : n ∉ ids t) : R (setKey A k (A k ++ [n])) (appendBack t n k v) :=
  R_appendBack h v hpos hfresh

/-- playlist_entity_table::remove, the schema's delete trigger firing for every row. -/
theorem C09_remove_entity_simulates {A : Int → List Int} {t : Table α} (h : R A t) (fires : Row α → Bool)
    (hfires : ∀ r ∈ t, fires r = true) (k i : Int) :
    R (setKey A k ((A k).erase i)) (deleteKeyed fires t k i) :=
  R_deleteKeyed h fires hfires k i

/-- playlist_entity_table::clear. -/
theorem C09_clear_simulates {A : Int → List Int} {t : Table α} (h : R A t) (fires : Row α → Bool)
    (hv : ∀ r r' : Row α, r.val = r'.val → fires r = fires r') (hfires : ∀ r ∈ t, fires r = true) (k : Int) :
    R (setKey A k []) (clearKey fires t k) :=
  R_clearKey h fires hv hfires k

/-- Per-operation simulation: every operation of the Model keeps the tables a representation of the Spec lists
after the corresponding Spec operation (`absF d` is the Spec forest by C07's refinement; `PlInv d`: that forest is
well-formed, so that the recursive view behind remove_crate / set_parent terminates). -/
theorem C09_step_simulates {S : Ord} {d : Db} (h : ChInv S d) (hP : PlInv d) (op : Op) (hok : okOp op = true) :
    ChInv (ordNext S (absF d) op (step d op).2) (step d op).1 :=
  chInv_step h hP op hok

/- Full statement (false, see `C09_history_counterexample`): the same for all `ops`. -/
/-- History induction: after every prefix of every history from the empty database the Spec run (driven by the
Model's answers only) has not objected, its forest is the abstraction of the Playlist table, and both tables
represent its lists. -/
theorem C09_history_represented_partial (ops : List Op) (hok : ops.all okOp = true) (n : Nat) :
    ∃ S, specRunO Db.empty Forest.empty Ord.empty (ops.take n) = some (absF (run Db.empty (ops.take n)), S) ∧
      ChInv S (run Db.empty (ops.take n)) := by
  apply chInv_hist
  rw [List.all_eq_true] at hok ⊢
  intro op hop
  exact hok op (List.mem_of_mem_take hop)

/-- After every `okOp` history the executable chain well-formedness holds (`wfChains`, the predicate the tie evaluates on
the real rows): it follows from the representation of `C09_history_represented_partial`. -/
theorem C09_history_wfChains_partial (ops : List Op) (hok : ops.all okOp = true) :
    wfChains (run Db.empty ops) = true := by
  obtain ⟨S, _, h⟩ := chInv_hist ops hok
  exact wfChains_of_chInv h

/-- Every ordered listing of the Model equals the Spec list: root_crates, children, get_for_list (entity id,
track id, database — exactly the Spec's entries with their payload, in order), track_ids, and crate::tracks
(the entries of the own database); no listing meets the missing-tail undefined behaviour; every listing is
duplicate-free. -/
theorem C09_listings_equal_spec {S : Ord} {d : Db} (h : ChInv S d) :
    qRoots d = .ok (S.kids 0) ∧ (∀ c, qChildren d c = .ok (S.kids c)) ∧ (∀ k, (S.kids k).Nodup) ∧
    (∀ l, qEntities d l = .ok ((S.ents l).map fun p => (p.1, p.2.track, p.2.uuid)) ∧
          qTrackIds d l = .ok ((S.ents l).map (·.2.track)) ∧
          qTracks d l = .ok (((S.ents l).filter (·.2.uuid == 0)).map (·.2.track))) ∧
    (∀ l, (S.entIds l).Nodup) :=
  ⟨walkIds_eq h.rk 0, fun c => walkIds_eq h.rk c, h.rk.nodup,
   fun l => ⟨qEntities_eq h l, qTrackIds_eq h l, qTracks_eq h l⟩, h.re.nodup⟩

theorem C09_history_listings_equal_spec_partial (ops : List Op) (hok : ops.all okOp = true) :
    ∃ S, specRunO Db.empty Forest.empty Ord.empty ops = some (absF (run Db.empty ops), S) ∧
      qRoots (run Db.empty ops) = .ok (S.kids 0) ∧ (∀ c, qChildren (run Db.empty ops) c = .ok (S.kids c)) ∧
      (∀ l, qEntities (run Db.empty ops) l = .ok ((S.ents l).map fun p => (p.1, p.2.track, p.2.uuid))) := by
  obtain ⟨S, h0, h⟩ := chInv_hist ops hok
  obtain ⟨h1, h2, _, h4, _⟩ := C09_listings_equal_spec h
  exact ⟨S, h0, h1, h2, fun l => (h4 l).1⟩

/-- Across one operation every sibling listing and every entry listing of the Spec state changes exactly as the
property prescribes (`Change.holds`; the prescription `kidsChange` / `entsChange` is computed from the Spec state,
the call and its result): a crate created after a sibling sits immediately after it; a crate created without a
position or moved to a new parent is the LAST of its new siblings (the property allows any position); an entry
added is the last of its list; a removal erases the one item and keeps the rest in order; every other listing is
untouched. -/
theorem C09_step_changes_as_prescribed {S : Ord} {d : Db} (h : ChInv S d) (op : Op) (k : Int) :
    (kidsChange (absF d) op (step d op).2 k).holds (S.kids k) ((ordNext S (absF d) op (step d op).2).kids k) = true ∧
    (entsChange S (absF d) op (step d op).2 k).holds (S.entIds k) ((ordNext S (absF d) op (step d op).2).entIds k) = true :=
  ⟨kids_change h op k, ents_change h op k⟩

/-- The same on the Model's own listings (what the oracle of the tie checks on the real library's listings): for
every reachable state and every further operation, the listing of every key before and after are related by the
prescribed change, and the new one is duplicate-free. -/
theorem C09_history_listings_change_as_prescribed_partial (ops : List Op) (hok : ops.all okOp = true)
    (op : Op) (hop : okOp op = true) (k : Int) :
    ∃ S, specRunO Db.empty Forest.empty Ord.empty ops = some (absF (run Db.empty ops), S) ∧
    ∃ old new, qChildren (run Db.empty ops) k = .ok old ∧ qChildren (step (run Db.empty ops) op).1 k = .ok new ∧
      (kidsChange (absF (run Db.empty ops)) op (step (run Db.empty ops) op).2 k).holds old new = true ∧ new.Nodup ∧
    ∃ olde newe, (qEntities (run Db.empty ops) k).bind (fun l => .ok (l.map (·.1))) = .ok olde ∧
      (qEntities (step (run Db.empty ops) op).1 k).bind (fun l => .ok (l.map (·.1))) = .ok newe ∧
      (entsChange S (absF (run Db.empty ops)) op (step (run Db.empty ops) op).2 k).holds olde newe = true ∧ newe.Nodup := by
  obtain ⟨S, h0, hI⟩ := chInv_hist ops hok
  have hI' := chInv_step hI (plInv_run plInv_empty ops) op hop
  obtain ⟨_, a2, _, a4, _⟩ := C09_listings_equal_spec hI
  obtain ⟨_, b2, b3, b4, b5⟩ := C09_listings_equal_spec hI'
  refine ⟨S, h0, _, _, a2 k, b2 k, kids_change hI op k, b3 k, S.entIds k, (ordStep S (run Db.empty ops) op).entIds k, ?_, ?_,
    ents_change hI op k, b5 k⟩
  · rw [(a4 k).1]; simp [Res.bind, Ord.entIds, List.map_map, Function.comp_def]
  · rw [(b4 k).1]; simp [Res.bind, Ord.entIds, List.map_map, Function.comp_def]

/-- The position, spelt out: a crate created without a position, and a crate moved to a new parent, is listed LAST
among its new siblings (and the listing it leaves loses exactly it). -/
theorem C09_new_or_moved_crate_is_last {S : Ord} {d : Db} (h : ChInv S d) (hP : PlInv d) :
    (∀ n out, (step d (.createRoot n)).2 = .ok out →
      ∃ i, out = some i ∧ qRoots (step d (.createRoot n)).1 = .ok (S.kids 0 ++ [i])) ∧
    (∀ p n out, (step d (.createSub p n)).2 = .ok out →
      ∃ i, out = some i ∧ qChildren (step d (.createSub p n)).1 p = .ok (S.kids p ++ [i])) ∧
    (∀ c p out, (step d (.setParent c p)).2 = .ok out → (absF d).live c = true →
      keyOf ((absF d).parentOf c) ≠ keyOf p →
      qChildren (step d (.setParent c p)).1 (keyOf p) = .ok (S.kids (keyOf p) ++ [c]) ∧
      qChildren (step d (.setParent c p)).1 (keyOf ((absF d).parentOf c)) = .ok ((S.kids (keyOf ((absF d).parentOf c))).erase c)) := by
  refine ⟨?_, ?_, ?_⟩
  · intro n out hres
    have hI' := chInv_step h hP (.createRoot n) rfl
    have hout := (step_does d (.createRoot n)).create_id rfl hres
    refine ⟨_, hout, ?_⟩
    rw [(C09_listings_equal_spec hI').1]
    simp only [ordStep, ordNext, hres, hout, ordOk, setKey_same]
  · intro p n out hres
    have hI' := chInv_step h hP (.createSub p n) rfl
    have hout := (step_does d (.createSub p n)).create_id rfl hres
    refine ⟨_, hout, ?_⟩
    rw [(C09_listings_equal_spec hI').2.1 p]
    simp only [ordStep, ordNext, hres, hout, ordOk, setKey_same]
  · intro c p out hres hl hne
    have hI' := chInv_step h hP (.setParent c p) rfl
    have hcond : ((absF d).live c && keyOf ((absF d).parentOf c) != keyOf p) = true := by simp [hl, hne]
    have hk : (ordStep S d (.setParent c p)).kids = moveKid S.kids (keyOf ((absF d).parentOf c)) (keyOf p) c := by
      simp only [ordStep, ordNext, hres, ordOk, hcond, if_true]
    constructor
    · rw [(C09_listings_equal_spec hI').2.1 (keyOf p), hk]
      simp only [moveKid, setKey_same, setKey_other _ _ (Ne.symm hne)]
    · rw [(C09_listings_equal_spec hI').2.1 (keyOf ((absF d).parentOf c)), hk]
      simp only [moveKid, setKey_other _ _ hne, setKey_same]

/-- An entry's identity is (list, database uuid, track id): add_back treats as a duplicate only an entry of the
same list with the same track id AND the same database uuid.  Whatever else the list holds — in particular
an entry of ANOTHER database that happens to carry the same numeric track id — a new entry is appended at the
end of the listing with the next AUTOINCREMENT id and the payload given, for every uuid `u`.  (The hypothesis is on
the Spec's own listing.) -/
theorem C09_add_back_identity_includes_database {S : Ord} {d : Db} (h : ChInv S d) (hP : PlInv d) (l t u : Int) (f : Bool) (ht : 0 < t)
    (hnew : S.find l t u = none) :
    (step d (.peAddBack l t u f)).2 = .ok (some (d.peSeq + 1)) ∧
    ChInv (ordNext S (absF d) (.peAddBack l t u f) (step d (.peAddBack l t u f)).2) (step d (.peAddBack l t u f)).1 ∧
    qEntities (step d (.peAddBack l t u f)).1 l
      = .ok ((S.ents l).map (fun p => (p.1, p.2.track, p.2.uuid)) ++ [(d.peSeq + 1, t, u)]) := by
  have hnone := peFind_none_of_find h hnew
  have hstep : step d (.peAddBack l t u f) =
      ({ d with pe := appendBack d.pe (d.peSeq + 1) l ⟨t, u⟩, peSeq := d.peSeq + 1 }, .ok (some (d.peSeq + 1))) := by
    simp [step, peAddBack, hnone]
  have hI' := chInv_step h hP (.peAddBack l t u f) (by simpa [okOp] using ht)
  refine ⟨by rw [hstep], hI', ?_⟩
  rw [qEntities_eq hI' l]
  simp only [ordStep, ordNext, hstep, ordOk, hnew, Option.isNone_none, if_true, setKeyE_same, List.map_append,
    List.map_cons, List.map_nil]

/-- The unrestricted history statement is false of the code: at table level an entry whose trackId is not
positive is not re-linked when it is removed (the schema's trigger_before_delete_PlaylistEntity is declared
`WHEN OLD.trackId > 0`), after which get_for_list dereferences the missing tail.
Replayed on the real library: findings/C09.json, witness
`pe.add 3 2 0 0 ; pe.add 3 3 0 0 ; pe.add 3 0 0 0 ; pe.remove 3 3 ; pe.list 3`. -/
theorem C09_history_counterexample :
    qEntities (run Db.empty [.peAddBack 3 2 0 false, .peAddBack 3 3 0 false, .peAddBack 3 0 0 false, .peRemove 3 3]) 3
      = .ub .oob_read ∧
    wfChains (run Db.empty [.peAddBack 3 2 0 false, .peAddBack 3 3 0 false, .peAddBack 3 0 0 false, .peRemove 3 3]) = false := by
  decide +kernel

/-! ### non-vacuity -/

/-- A history exercising creation after the first sibling, sub-crates, a move of a non-last sibling,
contents and a removal satisfies `okOp`; its listings are the expected ones. -/
def sampleOps : List Op :=
  [.createRoot [97], .createRoot [98], .createRootAfter [99] 1, .createSub 1 [100], .createSub 1 [101],
   .setParent 3 (some 1), .createTrack, .createTrack, .addTrack 1 2, .addTrack 1 1, .peAddBack 1 2 0 false,
   .removeTrackFrom 1 2, .removeCrate 4]

example : sampleOps.all okOp = true := by decide +kernel
example : qRoots (run Db.empty sampleOps) = .ok [1, 2] := by decide +kernel
example : qChildren (run Db.empty sampleOps) 1 = .ok [5, 3] := by decide +kernel
example : qTracks (run Db.empty sampleOps) 1 = .ok [1] := by decide +kernel
example : (specRunO Db.empty Forest.empty Ord.empty sampleOps).map (fun p => (p.2.kids 1, p.2.ents 1)) = some ([5, 3], [(2, ⟨1, 0⟩)]) := by decide +kernel
example : okOp (.setParent 3 (some 1)) = true ∧
    kidsChange (absF (run Db.empty (sampleOps.take 5))) (.setParent 3 (some 1)) (step (run Db.empty (sampleOps.take 5)) (.setParent 3 (some 1))).2 1
      = Ordered.Change.appended 3 := by decide +kernel

/-- two databases with colliding track ids in one list: [A:7, B:7, A:8, B:8]; re-adding B:7 returns entity 2;
removing it leaves [A:7, A:8, B:8]; crate::remove_track of the own track 7 removes A:7 and keeps B:7 -/
def mixedOps : List Op := [.peAddBack 5 7 0 false, .peAddBack 5 7 1 false, .peAddBack 5 8 0 false, .peAddBack 5 8 1 true]
example : mixedOps.all okOp = true := by decide +kernel
example : qEntities (run Db.empty mixedOps) 5 = .ok [(1, 7, 0), (2, 7, 1), (3, 8, 0), (4, 8, 1)] := by decide +kernel
example : (specRunO Db.empty Forest.empty Ord.empty (mixedOps.take 1)).map (fun p => p.2.find 5 7 1) = some none := by decide +kernel
example : (step (run Db.empty mixedOps) (.peAddBack 5 7 1 false)).2 = .ok (some 2) := by decide +kernel
example : qEntities (run Db.empty (mixedOps ++ [.peRemove 5 2])) 5 = .ok [(1, 7, 0), (3, 8, 0), (4, 8, 1)] := by decide +kernel
example : qEntities (run Db.empty (mixedOps ++ [.removeTrackFrom 5 7])) 5 = .ok [(2, 7, 1), (3, 8, 0), (4, 8, 1)] := by decide +kernel
example : qTracks (run Db.empty mixedOps) 5 = .ok [7, 8] := by decide +kernel

end EngineModel.Properties.C09
