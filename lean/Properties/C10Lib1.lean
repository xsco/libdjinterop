/-
C10 — Everything observed before closing is observed after reopening.   Whole-library part for schema 1.x.

`Lib.V1.reload` = release every handle, close, `load_database` on the directory: the library state is written to its two
files (`store`: m.db holds Track / MetaData / MetaDataInteger / crate tables / AlbumArt / Information, p.db holds
PerformanceData / Information), the schema is re-detected from the version stamp of m.db (the two 1.18.0 variants by the
NUMERIC marker), and each track's PerformanceData row is looked up again BY ID in the other file (`load`).  A
PerformanceData row whose id has no Track row, or two Track rows with one id, would make the reloaded library differ
from the one that was closed — that it does not is a consequence of the whole-library invariant.
Durability of what SQLite commits is not modelled here (Spec/Txn.lean `Conn.reopen`, theorems `C10_*` of Properties/C10.lean).
-/
import Proofs.Lib1Proj

namespace EngineModel.Properties.C10Lib1
open EngineModel EngineModel.Lib.V1 EngineModel.Api
open EngineModel.TracksV1 (Snap Field)
open EngineModel.TracksV1.Fl (FOps)

/-- **Reload is the identity on every state satisfying the invariant**, and reports the schema the library was created
with. -/
theorem C10_lib1_reload (s : VSchema) (L : Lib1) (h : LibInv s L) : reload s L = some (s, L) :=
  reload_eq h.infoM h.schema h.table.keys

/-- **After every history, closing and loading again gives the same library and the same schema** (all eleven versions,
every history of calls incl. failed ones). -/
theorem C10_lib1_reload_after_every_history (o : FOps) (s : VSchema) (um up dir : Bytes) (cs : List Call) :
    reload s (run o s (Lib1.empty s um up dir) cs) = some (s, run o s (Lib1.empty s um up dir) cs) :=
  C10_lib1_reload s _ (libInv_run o cs (libInv_empty s um up dir))

/-- **Everything observed before closing is observed after reopening**: every list of observing calls — any accessor of
database / crate / track on any id, handles of removed objects included — answers the same on the reloaded library. -/
theorem C10_lib1_observe_after_reload (o : FOps) (s : VSchema) (um up dir : Bytes) (cs qs : List Call) :
    ∃ L', reload s (run o s (Lib1.empty s um up dir) cs) = some (s, L') ∧
      observeAll o s L' qs = observeAll o s (run o s (Lib1.empty s um up dir) cs) qs :=
  ⟨_, C10_lib1_reload_after_every_history o s um up dir cs, rfl⟩

/-- the run that closes and loads again after every call (`none` as soon as a reload fails) -/
def runReload (o : FOps) (s : VSchema) : Lib1 → List Call → Option Lib1
  | L, [] => some L
  | L, c :: cs =>
    match reload s (step o s L c).1 with
    | some (_, L') => runReload o s L' cs
    | none => none

/-- **Closing at every prefix**: the run that reloads after every call reaches, at every prefix, the state of the
one-session run. -/
theorem C10_lib1_reload_at_every_prefix (o : FOps) (s : VSchema) (um up dir : Bytes) (cs : List Call) (n : Nat) :
    runReload o s (Lib1.empty s um up dir) (cs.take n) = some (run o s (Lib1.empty s um up dir) (cs.take n)) := by
  have key : ∀ (l : List Call) (L : Lib1), LibInv s L → runReload o s L l = some (run o s L l) := by
    intro l
    induction l with
    | nil => intro L _; rfl
    | cons c l ih =>
      intro L h
      have h' := libInv_step o h c
      unfold runReload
      rw [C10_lib1_reload s _ h']
      exact ih _ h'
  exact key _ _ (libInv_empty s um up dir)

/-- The version-stamp clause of the invariant is needed: a library whose m.db carries the stamp of another version reloads
as that other version, and one with an unknown stamp does not load at all (`unsupported_database`). -/
theorem C10_lib1_reload_needs_invariant :
    (reload .s1_6_0 { Lib1.empty .s1_6_0 [77] [80] [] with infoM := ⟨[77], (1, 7, 1)⟩ }).map (·.1) = some .s1_7_1 ∧
    (reload .s1_6_0 { Lib1.empty .s1_6_0 [77] [80] [] with infoM := ⟨[77], (9, 9, 9)⟩ }).map (·.1) = none := by
  decide +kernel

/-- non-vacuity of `C10_lib1_reload`: the empty library of every version satisfies the invariant, and so does (by
`C11_lib1_invariant_after_every_history`) every state reached from it; a concrete reload of a populated 1.17.0 library: -/
example : ∀ s, LibInv s (Lib1.empty s [77] [80] []) := fun s => libInv_empty s _ _ _

example :
    let o : FOps := ⟨fun _ => 0, fun n => if n = 0 then 0 else F64.one, fun _ _ => 0, fun b => b⟩
    let L := run o .s1_17_0 (Lib1.empty .s1_17_0 [77] [80] [])
      [.createRootCrate [97], .createTrack { Snap.empty with relativePath := some [98] }, .addTrack 1 1,
       .createTrack { Snap.empty with relativePath := some [99] }, .removeTrack 2]
    ((reload .s1_17_0 L).map fun p => (p.1, (raw p.2) == raw L)) = some (.s1_17_0, true) ∧ (raw L).perf = [1] ∧
      (raw L).cr.track = [⟨1, true⟩, ⟨3, false⟩] := by
  decide +kernel

end EngineModel.Properties.C10Lib1
