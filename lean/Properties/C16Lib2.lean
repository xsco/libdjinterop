/-
C16 on the WHOLE schema-2.x library: observing never modifies.

The composite `step : FOps → Schema2 → Lib2 → Call → Lib2 × Res Out` has ONE type for observers and mutators; an
observer call is evaluated by running the SELECT-only pieces of the package models on what the connection sees
(`selectRow` — `get_column`'s `SELECT col FROM Track WHERE id = ?` — in the statement monad of the track
package; the query functions `q…` of the crate package on the crate view; `track_table::exists / all_ids /
find_id_by_path`, `information().get()`).  That such a call returns the library it was given is a theorem about
`step` (by cases over the alphabet), not a consequence of its type.
-/
import Proofs.Lib2Step

namespace EngineModel.Properties.C16Lib2
open EngineModel EngineModel.TracksV2 EngineModel.Lib.V2
open EngineModel.Table (Schema2)

/-- **No observer modifies any table** — on ANY library state (reachable or not), every schema version, every
argument (ids of removed or never-issued tracks / crates, any slot index, any name):
database: crates, crate_by_id, crates_by_name, root_crates, root_crate_by_name, tracks, track_by_id,
tracks_by_relative_path, uuid, version_name; crate: name, parent, children, descendants, is_valid,
sub_crate_by_name, tracks; track: the 28 getters (24 fields, filename / file_extension, hot_cue_at / loop_at),
snapshot, is_valid. -/
theorem C16Lib2_observers_do_not_modify (ops : FOps) (s : Schema2) (L : Lib2) (c : Call) (h : c.isObserver = true) :
    (step ops s L c).1 = L := by
  match step_shape ops s L c with
  | .idle (step_eq := hr) .. => exact hr
  | .crate (not_observer := ho) .. | .track (not_observer := ho) .. | .remove (not_observer := ho) ..
  | .plant (not_observer := ho) .. => rw [h] at ho; cases ho

/-- **Repeated observation returns the same answers**: an observer applied again — immediately, or after any
other observers — answers as the first time. -/
theorem C16Lib2_repeatable (ops : FOps) (s : Schema2) (L : Lib2) (c : Call) (h : c.isObserver = true)
    (between : List Call) (hb : between.all Call.isObserver = true) :
    (step ops s (run ops s (step ops s L c).1 between) c).2 = (step ops s L c).2 := by
  have h2 : run ops s L between = L :=
    (isRun ops s).idle (C16Lib2_observers_do_not_modify ops s) between L (List.all_eq_true.mp hb)
  rw [C16Lib2_observers_do_not_modify ops s L c h, h2]

/-- **Frame**: observers can be inserted into or dropped from any history without changing the library reached. -/
theorem C16Lib2_frame (ops : FOps) (s : Schema2) (L : Lib2) (hist : List Call) :
    run ops s L hist = run ops s L (hist.filter fun c => !c.isObserver) :=
  ((isRun ops s).filter_idle (C16Lib2_observers_do_not_modify ops s) hist L).symm

/-- The classification is not vacuous: each mutator of the alphabet changes some library (so "observer" is a
property of the call, not of `step`), and a failing mutator is not thereby an observer. -/
theorem C16Lib2_mutators_modify :
    let ops : FOps := ⟨fun _ => 0, fun _ => 0, fun _ _ => 0⟩
    let x : Snap := { Snap.empty with relativePath := some [97, 46, 98] }
    let L0 := Lib2.empty .s2_18_0 [85]
    let L1 := (step ops .s2_18_0 L0 (.createTrack x)).1
    let L2 := (step ops .s2_18_0 L1 (.createRootCrate [65])).1
    L1 ≠ L0 ∧ L2 ≠ L1 ∧ (step ops .s2_18_0 L2 (.crateAddTrack 1 1)).1 ≠ L2 ∧
    (step ops .s2_18_0 L2 (.trackSet 1 (.title (some [66])))).1 ≠ L2 ∧
    (step ops .s2_18_0 L2 (.removeTrack 1)).1 ≠ L2 ∧ (step ops .s2_18_0 L2 (.removeCrate 1)).1 ≠ L2 := by
  decide +kernel

/-! ### non-vacuity -/
example : (Call.trackGet 7 .bpm).isObserver = true ∧ (Call.crateTracks 3).isObserver = true ∧
    (Call.trackSet 7 (.title none)).isObserver = false := by decide

end EngineModel.Properties.C16Lib2
