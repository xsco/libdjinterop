/-
C15 on states left behind by FAILED calls, schema 2.x TRACKS — "every public operation … on any state reachable
through the API … completes or throws …; never undefined behaviour", where a state is also reachable when a
mutating track call before it failed half-way (an SQLite statement failing at any statement position, BEGIN and
COMMIT included; `UNIQUE (path)` or the origin trigger refusing an UPDATE / INSERT; `rows_modified() == 0`).

Model (`Api/FaultsTracksV2.lean`): `callF ops s d op plan` executes `create_track` / `track::update` / any of the 26
`set_*` / `remove_track` as its STATEMENT PROGRAM (`TracksV2/Stmts.topStmts`, the program C14 proves all-or-nothing:
`C14_tracks_v2_program`, `C14_tracks_v2_shape`) over the statement-level Track table `TDb` on the connection of
`Spec/Txn.lean` under a fault plan, with the RAII rollback; `runF` is a history of such calls, each under its own
plan or none.  The public getters read the row store `view d : TracksV2.Db`, the state space of the C15 track
theorems (`Api/C15TracksV2.step`, `GuardedTracksV2.stepG` / `callG` with the guards regenerated from the source).

The composition:

    all-or-nothing (C14)   ⇒  the table after a failed call is the table before              (v2t_C14_failed_call_unchanged)
    bridge                 ⇒  TDb.step = C15TracksV2.step on `view`, state and outcome        (v2t_C15_bridge)
                           ⇒  view (runF … hist) = the FAULT-FREE C15 run of the calls that
                              took effect                                                     (v2t_C15_after_faults_reachable)
                           ⇒  `dbOk` survives, the fault-free no-`ub` theorems apply            (v2t_C15_after_faults_no_ub)

for ALL histories × ALL fault plans × ALL arguments × all seven 2.x schema versions × any `FOps`.
-/
import Properties.C14
import Proofs.C15FaultsTracksV2
import Properties.C15TracksV2
import Properties.C11V2Tracks

namespace EngineModel.Properties.C15FaultsTracks
open EngineModel EngineModel.TracksV2 EngineModel.Api.C15TracksV2 EngineModel.Api.GuardedTracksV2
open EngineModel.Api.FaultsTracksV2 EngineModel.Spec.Txn EngineModel.Spec.Stmts
open EngineModel.Proofs.C15FaultsTracksV2

/-- **Whatever makes the statement program of a 2.x track call raise** — a fault injected at any statement position
(`fault = some k`), or a statement refusing by itself (`fault = none`: `UNIQUE (path)`, the origin trigger, an
UPDATE / DELETE that matches no row), with or without SQLite's own rollback — the connection is afterwards at rest
on exactly the prior Track table.  Any table, any call, any arguments. -/
theorem v2t_C15_failed_call_restores (ops : FOps) (s : Schema) (d : TDb) (op : TOp) (fault : Option Nat) (auto : Bool)
    (hr : (call fault auto (topStmts ops s d op) d).raised = true) :
    (call fault auto (topStmts ops s d op) d).conn = Conn.idle d :=
  raised_restores ops s d op fault auto hr

/-- A fault position inside the call (`k < positions` = the number of faultable statements the call issues on this
prior table): the call reports it by throwing and the next call starts from exactly the prior table. -/
theorem v2t_C15_fault_inside_throws (ops : FOps) (s : Schema) (d : TDb) (op : TOp) (p : Plan)
    (hk : p.k < positions ops s d op) (hu : ∀ u, (d.step ops s op).2 ≠ .ub u) :
    callF ops s d op (some p) = (d, .throw .sqlite_error) :=
  callF_fault_inside ops s d op p hk hu

/-- One call under ANY plan, on ANY table: the table afterwards is the prior one or the one the fault-free call
produces, and the outcome is the fault-free call's or the failing statement's exception. -/
theorem v2t_C15_call_under_faults (ops : FOps) (s : Schema) (d : TDb) (op : TOp) (plan : Option Plan) :
    ((callF ops s d op plan).1 = d ∨ (callF ops s d op plan).1 = (d.step ops s op).1) ∧
    ((callF ops s d op plan).2 = (d.step ops s op).2 ∨ (callF ops s d op plan).2 = .throw .sqlite_error) :=
  ⟨callF_state ops s d op plan, callF_outcome ops s d op plan⟩

/-- **C14 on this semantics: a failed call leaves every observation of every track unchanged.**  On a table
satisfying the structural invariant (every reachable one: `v2t_C15_after_faults_inv`), a call — under any plan or
none — that does not return normally (an injected fault, a constraint, or an exception of the call itself:
`invalid_track_snapshot`, `track_deleted`, `out_of_range`, …) leaves the Track table EQUAL to the prior one; hence
every public operation (`snapshot()`, each getter at any index, `is_valid()`, `database::tracks`, `track_by_id`,
`tracks_by_relative_path`, and every later mutating call) answers exactly as it would have before the call. -/
theorem v2t_C14_failed_call_unchanged (ops : FOps) (s : Schema) (d : TDb) (hI : Inv d) (op : TOp) (plan : Option Plan)
    (hfail : ¬ ∃ v, (callF ops s d op plan).2 = .ok v) :
    (callF ops s d op plan).1 = d ∧
    (∀ q, stepG ops s (view (callF ops s d op plan).1) q = stepG ops s (view d) q) ∧
    (∀ c, callG ops s (view (callF ops s d op plan).1) c = callG ops s (view d) c) ∧
    (∀ op' plan', callF ops s (callF ops s d op plan).1 op' plan' = callF ops s d op' plan') := by
  have h := callF_failed_unchanged ops s hI.s op plan hfail
  refine ⟨h, ?_, ?_, ?_⟩ <;> intros <;> rw [h]

/-- **The bridge between the two track models.**  On every table satisfying the structural invariant, a public
mutating track call of the statement-level model (where the statement programs of C14 live) is — on the row store
`view` the getters read — exactly the call of the guarded C15 API model: the same row store afterwards, the same
outcome (`create_track` answers the new id), `ub` included. -/
theorem v2t_C15_bridge (ops : FOps) (s : Schema) (d : TDb) (hI : Inv d) (op : TOp) :
    view (d.step ops s op).1 = (stepG ops s (view d) (toOp op)).1 ∧
    (stepG ops s (view d) (toOp op)).2 = mapRes (outOf op) (d.step ops s op).2 := by
  rw [stepG_eq]
  exact step_view ops s hI.s op

/-- **The invariants survive every history with failures**: the structural invariant of the Track table (C11's
`Inv`: ids, paths and origin columns, derived columns) and the invariant of the C15 track theorems on the row store
(`dbOk`), from any table satisfying them, after any calls with any arguments, each under any fault plan or none. -/
theorem v2t_C15_after_faults_inv (ops : FOps) (s : Schema) {d : TDb} (hI : FInv d) (hist : List FCall) :
    FInv (runF ops s d hist) ∧ Spec.tracksWf (runF ops s d hist) = true :=
  ⟨finv_runF ops s hist hI, tracksWf_of_inv (finv_runF ops s hist hI).inv⟩

/-- **Reachability.**  The row store after ANY history of track calls under ANY fault plans, from the empty library,
is a state the FAULT-FREE C15 track model reaches from its empty library: by the calls of the history that took
effect (`effective`: a sub-list of the history, in order — the failed calls dropped). -/
theorem v2t_C15_after_faults_reachable (ops : FOps) (s : Schema) (uuid : Bytes) (hist : List FCall) :
    ∃ l : List Op, l.Sublist (hist.map fun c => toOp c.1) ∧
      view (runF ops s (TDb.empty uuid) hist) = run ops s Db.empty l :=
  ⟨effective ops s (TDb.empty uuid) hist, effective_sublist ops s hist _,
    view_runF ops s hist (finv_empty uuid)⟩

/-- **C15 after failed calls, 2.x tracks**: for ALL histories of `create_track` / `track::update` / `set_*` /
`remove_track` (any snapshots, values, slot indices, ids — live, stale or never issued) × ALL fault plans (a fault at
any statement position of any of the calls, BEGIN / COMMIT included, positions beyond the call included, or none)
from the empty library of any 2.x version:
no call of the history has undefined behaviour; on the state afterwards every public operation of the guarded C15
model — `snapshot()`, every getter at any index, `is_valid()`, `id()`, handle copies, and every mutating call with
any arguments — is a value or an exception; so is the whole `database` / `track` alphabet (`tracks`, `track_by_id`,
`tracks_by_relative_path`, …); and so is every further mutating call under any fault plan. -/
theorem v2t_C15_after_faults_no_ub (ops : FOps) (s : Schema) (uuid : Bytes) (hist : List FCall) :
    (∀ r ∈ outcomesF ops s (TDb.empty uuid) hist, ∀ u, r ≠ .ub u) ∧
    (∀ op u, (stepG ops s (view (runF ops s (TDb.empty uuid) hist)) op).2 ≠ .ub u) ∧
    (∀ c u, (callG ops s (view (runF ops s (TDb.empty uuid) hist)) c).2 ≠ .ub u) ∧
    (∀ op plan u, (callF ops s (runF ops s (TDb.empty uuid) hist) op plan).2 ≠ .ub u) :=
  after_faults_defined ops s (finv_empty uuid) hist

/-- … and from ANY table satisfying the invariants (e.g. a library written by Engine and loaded), not only those
grown from the empty one. -/
theorem v2t_C15_after_faults_no_ub_from (ops : FOps) (s : Schema) {d : TDb} (h : FInv d) (hist : List FCall) :
    (∀ r ∈ outcomesF ops s d hist, ∀ u, r ≠ .ub u) ∧
    (∀ op u, (stepG ops s (view (runF ops s d hist)) op).2 ≠ .ub u) ∧
    (∀ op plan u, (callF ops s (runF ops s d hist) op plan).2 ≠ .ub u) :=
  have ⟨h1, h2, _, h4⟩ := after_faults_defined ops s h hist
  ⟨h1, h2, h4⟩

/-- **Handles to removed tracks stay safe along every later history with failures.**  After any history with
failures, a `remove_track` that RETURNED NORMALLY (under any plan), and then ANY further history with failures —
creations included —: the handle reports `is_valid() = false`; `id()` and copies answer; getters and setters throw,
`snapshot()` throws `track_deleted`, removing again throws, `update` has no undefined behaviour.
(A `remove_track` that FAILED leaves the track valid and unchanged: `v2t_C14_failed_call_unchanged`.) -/
theorem v2t_C15_after_faults_stale_handle (ops : FOps) (s : Schema) (uuid : Bytes) (hist1 : List FCall) (id : Nat)
    (plan : Option Plan) (v : Nat)
    (hv : (callF ops s (runF ops s (TDb.empty uuid) hist1) (.remove id) plan).2 = .ok v) (hist2 : List FCall) :
    let db' := view (runF ops s (callF ops s (runF ops s (TDb.empty uuid) hist1) (.remove id) plan).1 hist2)
    (stepG ops s db' (.isValid id)).2 = .ok (.bool false) ∧
    (stepG ops s db' (.handleId id)).2 = .ok (.id id) ∧ (stepG ops s db' (.handleCopy id)).2 = .ok (.id id) ∧
    (∀ g, (stepG ops s db' (.get id g)).2 = .throw .runtime_error) ∧
    (∀ σ, (stepG ops s db' (.set id σ)).2 = .throw .runtime_error) ∧
    (stepG ops s db' (.snapshot id)).2 = .throw (.dj "track_deleted") ∧
    (stepG ops s db' (.remove id)).2 = .throw .invalid_argument ∧
    (∀ x u, (stepG ops s db' (.update id x)).2 ≠ .ub u) := by
  have h1 := finv_runF ops s hist1 (finv_empty uuid)
  have hg := gone_of_removed ops s h1 id plan v hv
  have hg2 := gone_runF ops s hist2 (finv_callF ops s h1 (.remove id) plan) hg
  have := stale_calls ops s _ id (view_get_of_gone hg2)
  simp only [stepG_eq]
  exact this

/-! ### the scope is what the theorems rest on -/

def exOps : FOps := C11V2Tracks.exOps
/-- two tracks "a/1.mp3" (1), "a/2.mp3" (2) -/
def cxDb : TDb := C11V2Tracks.exDb
/-- "b/9.ogg" -/
def cxPath : Bytes := [98, 47, 57, 46, 111, 103, 103]

/-- **What breaks when a multi-statement setter loses its transaction scope** (the defect repaired by `dbbedfa`;
seeded/sv-C14-drop-scope-*): `set_relative_path("b/9.ogg")` of track 2 issued as its three UPDATEs in autocommit
mode (`unscoped`), the second UPDATE (`filename`) failing.
* WITHOUT the scope the call throws with the `path` column already written: `relative_path()` of the track answers
  the new path although the call failed (C14 is violated), the stored file name belongs to the old path, and the
  table fails the well-formedness every reachable state has (`C11V2T_reachable_wf`) — the state is NOT a state of
  the fault-free model, so the bridge to the C15 theorems is lost.  (In this model the half-written table is still
  memory-safe — `dbOk`: the `ub` sites of the 2.x track paths do not depend on cross-column consistency; what is
  lost for tracks is atomicity and reachability, where for crates it is memory safety.)
* With the scope (the program the theorems are about) a fault at each of its 5 positions — BEGIN, the three
  UPDATEs, COMMIT — gives `(prior table, throw)` and every getter answers as before. -/
theorem v2t_C15_without_scope_counterexample :
    let s : Schema := .s2_20_3
    let op : TOp := .set 2 (.relativePath cxPath)
    let r := call (some 1) false (unscoped exOps s cxDb op) cxDb
    atomicShape ((unscoped exOps s cxDb op).map Cmd.kind) = false ∧
    r.raised = true ∧
    (stepG exOps s (view cxDb) (.get 2 .relativePath)).2 = .ok (.val (.bytes [97, 47, 50, 46, 109, 112, 51])) ∧
    (stepG exOps s (view r.conn.view) (.get 2 .relativePath)).2 = .ok (.val (.bytes cxPath)) ∧
    (r.conn.view.rows.map fun t => (t.id, t.row.path, t.row.filename)) =
      [(1, [97, 47, 49, 46, 109, 112, 51], [49, 46, 109, 112, 51]), (2, cxPath, [50, 46, 109, 112, 51])] ∧
    Spec.tracksWf r.conn.view = false ∧
    dbOk (view r.conn.view) = true ∧
    -- with the scope
    positions exOps s cxDb op = 5 ∧
    (∀ k, k < 5 → callF exOps s cxDb op (some ⟨k, false⟩) = (cxDb, .throw .sqlite_error)) ∧
    (callF exOps s cxDb op none).2 = .ok 0 := by
  decide +kernel

/-! ### non-vacuity -/

def exSnap (n : UInt8) : Snap := C11V2Tracks.exSnap n

/-- a history with failures: a fault on the INSERT of a creation, two creations, a fault on the COMMIT of
`set_relative_path`, on the second UPDATE of `set_bpm`, a path refused by `UNIQUE (path)` (no injected fault, and with
one), a position beyond the call (does not fire), a fault on the DELETE of `remove_track`, the removal, a setter
through the stale handle under a plan, a creation after the removal -/
def exHist : List FCall :=
  [(.create (exSnap 49), some ⟨0, false⟩), (.create (exSnap 49), none), (.create (exSnap 50), none),
   (.set 2 (.relativePath cxPath), some ⟨4, true⟩), (.set 2 (.bpm (some 0x405e000000000000)), some ⟨2, false⟩),
   (.set 2 (.relativePath [97, 47, 49, 46, 109, 112, 51]), none),
   (.set 2 (.relativePath [97, 47, 49, 46, 109, 112, 51]), some ⟨3, false⟩),
   (.set 1 (.title (some [90])), some ⟨7, false⟩), (.remove 2, some ⟨1, false⟩), (.remove 2, some ⟨9, true⟩),
   (.set 2 (.title none), some ⟨0, false⟩), (.create (exSnap 51), none)]

example : (outcomesF exOps .s2_20_3 (TDb.empty [1, 2]) exHist).map Res.isOk =
    [false, true, true, false, false, false, false, true, false, true, false, true] := by decide +kernel
/-- the state after the history = the fault-free run of the five calls that took effect -/
example : runF exOps .s2_20_3 (TDb.empty [1, 2]) exHist =
    (TDb.empty [1, 2]).run exOps .s2_20_3
      [.create (exSnap 49), .create (exSnap 50), .set 1 (.title (some [90])), .remove 2, .create (exSnap 51)] := by
  decide +kernel
example : (effective exOps .s2_20_3 (TDb.empty [1, 2]) exHist).length = 5 := by decide +kernel
/-- ids are not re-issued after the removal: the new track is 3, the stale handle 2 stays invalid -/
example : (view (runF exOps .s2_20_3 (TDb.empty [1, 2]) exHist)).rows.map (·.1) = [1, 3] := by decide +kernel
example : (stepG exOps .s2_20_3 (view (runF exOps .s2_20_3 (TDb.empty [1, 2]) exHist)) (.isValid 2)).2 =
    .ok (.bool false) := by decide +kernel
/-- fault positions: `set_relative_path` 5, `set_bpm` 4, `remove_track` 3, `create_track` / `set_title` 1 -/
example : positions exOps .s2_20_3 cxDb (.set 2 (.relativePath cxPath)) = 5 ∧
    positions exOps .s2_20_3 cxDb (.set 2 (.bpm none)) = 4 ∧ positions exOps .s2_20_3 cxDb (.remove 2) = 3 ∧
    positions exOps .s2_20_3 cxDb (.create (exSnap 51)) = 1 ∧
    positions exOps .s2_20_3 cxDb (.set 1 (.title none)) = 1 := by decide +kernel
example : ∀ u, (cxDb.step exOps .s2_20_3 (.set 2 (.relativePath cxPath))).2 ≠ .ub u := by
  have h : (cxDb.step exOps .s2_20_3 (.set 2 (.relativePath cxPath))).2 = .ok 0 := by decide +kernel
  intro u hu; rw [h] at hu; cases hu
example : FInv cxDb := finv_runF exOps .s2_20_3 [(.create (exSnap 49), none), (.create (exSnap 50), none)] (finv_empty _)
/-- the program of a refused re-pathing raises without any injected fault: the hypothesis of
`v2t_C15_failed_call_restores` with `fault = none` is satisfiable -/
example : (call none true (topStmts exOps .s2_20_3 cxDb (.set 2 (.relativePath [97, 47, 49, 46, 109, 112, 51]))) cxDb).raised
    = true := by decide +kernel
/-- a failed call in the sense of `v2t_C14_failed_call_unchanged`, by a fault and by the call itself -/
example : ¬ ∃ v, (callF exOps .s2_20_3 cxDb (.remove 2) (some ⟨1, false⟩)).2 = .ok v := by
  have h : (callF exOps .s2_20_3 cxDb (.remove 2) (some ⟨1, false⟩)).2 = .throw .sqlite_error := by decide +kernel
  rintro ⟨v, hv⟩; rw [h] at hv; cases hv
example : (callF exOps .s2_20_3 cxDb (.set 1 (.hotCueAt 8 none)) none).2 = .throw .out_of_range := by decide +kernel
/-- the hypothesis of `v2t_C15_after_faults_stale_handle`: a removal that returns normally under a plan -/
example : (callF exOps .s2_20_3 (runF exOps .s2_20_3 (TDb.empty [1, 2]) (exHist.take 9)) (.remove 2) (some ⟨9, true⟩)).2
    = .ok 0 := by decide +kernel

end EngineModel.Properties.C15FaultsTracks
