/-
C06, schema 1.x — the acceptance side and the headline clause.

`Properties/C06V1.lean` proves what a setter does WHEN it returns normally.  This file proves WHICH
calls return normally, removes the silent skipping of undefined steps from the history statement, lets
the Spec side decide the whole history, and states the property's first clause literally:
"after any sequence of single-field setter calls on tracks, each getter returns the value last set for
its field (under the same normalisation as a snapshot)".

Definitions (EngineModel/TracksV1/Accept.lean): `FloatLaw o` (the laws of IEEE doubles assumed of the
opaque double arithmetic), `Clean` / `DbClean` (rows as `create_track` / `update` build them from
NaN-free snapshots and as every setter leaves them: `Inv` + every blob passes the decode-after-encode
guard), `acceptsRow` / `accepts` (the explicit guards of the C++ setters), `dbRunStrict` (a history
whose outcome is `ub` as soon as one call is undefined), `Spec.Lib` / `Spec.callAccepted` /
`Spec.stepCall` / `Spec.runCalls` (the history on "snapshot + is-analysed flag per track"),
`absDb` (Proofs/TracksV1AcceptDb.lean: what the Spec sees of a database).
-/
import Proofs.TracksV1AcceptHist
import Proofs.TracksV1Link
import Properties.C06V1

namespace EngineModel.Properties.C06V1

open EngineModel EngineModel.TracksV1
open Fl (FOps)

/-- **Acceptance, one track.**  On rows as the library builds them, a setter returns normally exactly
when its explicit guard holds: the PerformanceData row exists (blob setters), slot index 0..7, at most
eight cues / loops, every label 1..255 bytes, no (start) offset equal to the reserved −1.0 or NaN, a
grid the format can hold, no NaN for average loudness / main cue / sample rate.  All other setters
always return normally. -/
theorem v1_C06_accepts_row (o : FOps) (hl : FloatLaw o) (r : TrackRows) (hc : Clean r = true) (f : Field) (v : f.ty) :
    acceptsRow r f v = true ↔ ∃ r', set o r f v = .ok r' :=
  acceptsRow_iff o r ((clean_iff r).mp hc) hl f v

/-- **Acceptance, database.**  `accepts d id f v` — the track exists, the guard of the setter holds on its
rows, and (for `set_relative_path`, from 1.11.1) no other track holds the path — decides whether the
call returns normally. -/
theorem v1_C06_accepts (o : FOps) (hl : FloatLaw o) (d : Db) (hc : DbClean d) (id : Int) (f : Field) (v : f.ty) :
    accepts d id f v = true ↔ ∃ d', dbSet o d id f v = .ok d' :=
  accepts_iff o d hc hl id f v

/-- A call that the guard refuses throws (never `ok`, never `ub`): with the theorem above, the outcome of
every setter call on a clean database is decided by `accepts`. -/
theorem v1_C06_refused_throws (o : FOps) (hl : FloatLaw o) (d : Db) (hc : DbClean d) (id : Int) (f : Field) (v : f.ty)
    (h : accepts d id f v = false) : ∃ e, dbSet o d id f v = .throw e := by
  refine (dbSet_defined o hl.ceil d id f v).throws fun d' hs => ?_
  have := (accepts_iff o d hc hl id f v).mpr ⟨d', hs⟩
  rw [h] at this; cases this

/-- What a setter accepts the Spec accepts too (the converse is false, see the counterexample). -/
theorem v1_C06_accepts_spec (o : FOps) (hl : FloatLaw o) (d : Db) (hc : DbClean d) (id : Int) (f : Field) (v : f.ty)
    (hfin : Spec.finiteArg f v = true) (h : accepts d id f v = true) : (Spec.normField f v).isSome = true := by
  obtain ⟨d', hs⟩ := (accepts_iff o d hc hl id f v).mp h
  obtain ⟨w, hw, _⟩ := v1_C06_db_get_set o d d' id f v (dbClean_inv d hc) hfin hs
  rw [hw]; rfl

/-- **`DbClean` is the invariant of the modelled library**: it holds of the empty database and is kept by
`create_track` / `update` from a snapshot without NaN, by every setter call (whatever the value) and by
`remove_track`. -/
theorem v1_C06_clean_db (o : FOps) (hl : FloatLaw o) (d : Db) (hc : DbClean d) :
    DbClean ⟨d.schema, []⟩ ∧
    (∀ x d' id, Spec.NoNaN x = true → dbCreate o d x = .ok (d', id) → DbClean d') ∧
    (∀ x d' id, Spec.NoNaN x = true → dbUpdate o d id x = .ok d' → DbClean d') ∧
    (∀ id f v d', dbSet o d id f v = .ok d' → DbClean d') ∧
    (∀ id, DbClean (dbRemove d id)) ∧ DbInv d := by
  refine ⟨?_, ?_, ?_, ?_, ?_, dbClean_inv d hc⟩
  · intro id r h; cases h
  · intro x d' id hn h; exact dbCreate_clean o hl d d' x id hc hn h
  · intro x d' id hn h; exact dbUpdate_clean o hl d d' x id hc hn h
  · intro id f v d' h; exact dbSet_clean o d d' id f v hc h
  · intro id; exact dbRemove_clean d id hc

/-- **No step of any history is undefined** (given `CeilInRange`, the one float law `set_bpm` needs):
the run whose outcome would be `ub` at the first undefined call returns normally, and is the run of
`v1_C06_history` (which therefore never skipped an undefined step). -/
theorem v1_C06_history_no_ub (o : FOps) (hc : CeilInRange o) (d : Db) (h : List SetOp) :
    dbRunStrict o d h = .ok (dbRun o d h) :=
  dbRunStrict_eq o hc h d

/-- **The Spec decides the history, in both directions.**  From a clean database, for every finite history
of setter calls over any number of tracks: the calls that return normally are exactly those the Spec
replay accepts (`Spec.callAccepted` on the abstract state reached so far), and what the Spec sees of the
final database — every track's snapshot and is-analysed flag — is the result of the Spec replay, in which
an accepted call stores `Spec.normField` of its argument in its field and nothing else, and a refused call
changes nothing.  The database stays clean. -/
theorem v1_C06_history_decided (o : FOps) (hl : FloatLaw o) (d : Db) (h : List SetOp) (hc : DbClean d)
    (hfin : ∀ op ∈ h, Spec.finiteArg op.f op.v = true) :
    absDb o (dbRun o d h).1 = (Spec.runCalls (absDb o d) h).1 ∧
    (dbRun o d h).2 = (Spec.runCalls (absDb o d) h).2 ∧
    DbClean (dbRun o d h).1 := by
  obtain ⟨h1, h2⟩ := dbRun_abs o hl h d hc hfin
  exact ⟨h1, h2, dbRun_clean o h d hc⟩

/-- The abstraction used above is the public view: the Spec's track state is the track's `snapshot()`. -/
theorem v1_C06_abs_is_snapshot (o : FOps) (d : Db) (hinv : DbInv d) (id : Int) (r : TrackRows)
    (hr : d.rows id = some r) :
    ∃ t, (absDb o d).find id = some t ∧ dbSnap o d id = .ok t.snap ∧ t.analysed = r.perf.isSome := by
  refine ⟨absTrack o d.schema r, ?_, ?_, rfl⟩
  · rw [absDb_find, hr]; rfl
  · unfold dbSnap; rw [hr]
    exact readSnap_of_inv o d.schema r ((inv_iff r).mp (hinv _ _ hr))

/-- **Each getter returns the value last set for its field.**  Let a history be `h₁`, then the call
`set_f(v)` on track `id`, then `h₂`.  If that call returned normally and no call of `h₂` that returned
normally targets field `f` of track `id` or a field overlapping it (`Spec.independent g f` fails only for
`g = f` and for a slot and the list holding it), then after the whole history getter `f` of track `id`
returns `Spec.normField f v` — whatever else happened in `h₁` and `h₂` on this or any other track. -/
theorem v1_C06_value_last_set (o : FOps) (d : Db) (h₁ h₂ : List SetOp) (id : Int) (f : Field) (v : f.ty)
    (hinv : DbInv d) (hfin₁ : ∀ op ∈ h₁, Spec.finiteArg op.f op.v = true) (hfinv : Spec.finiteArg f v = true)
    (hfin₂ : ∀ op ∈ h₂, Spec.finiteArg op.f op.v = true)
    (d₂ : Db) (hacc : dbSet o (dbRun o d h₁).1 id f v = .ok d₂)
    (hlater : ∀ e ∈ (dbRun o d₂ h₂).2, e.2 = true → e.1.id = id → Spec.independent e.1.f f = true) :
    ∃ w, Spec.normField f v = some w ∧ dbGet o (dbRun o d (h₁ ++ ⟨id, f, v⟩ :: h₂)).1 id f = .ok w :=
  value_last_set o d h₁ h₂ id f v hinv hfin₁ hfinv hfin₂ d₂ hacc hlater

/-- The same with every hypothesis decided on the Spec side: the call is accepted by the Spec replay and
the Spec replay accepts no later call on field `f` (or an overlapping one) of track `id`. -/
theorem v1_C06_value_last_set_spec (o : FOps) (hl : FloatLaw o) (d : Db) (h₁ h₂ : List SetOp) (op : SetOp)
    (hc : DbClean d) (hfin : ∀ op' ∈ h₁ ++ op :: h₂, Spec.finiteArg op'.f op'.v = true)
    (hacc : Spec.callAccepted (Spec.runCalls (absDb o d) h₁).1 op = true)
    (hlater : ∀ e ∈ (Spec.runCalls (Spec.stepCall (Spec.runCalls (absDb o d) h₁).1 op) h₂).2,
      e.2 = true → e.1.id = op.id → Spec.independent e.1.f op.f = true) :
    ∃ w, Spec.normField op.f op.v = some w ∧ dbGet o (dbRun o d (h₁ ++ op :: h₂)).1 op.id op.f = .ok w := by
  have hfin₁ : ∀ op' ∈ h₁, Spec.finiteArg op'.f op'.v = true :=
    fun op' h' => hfin op' (List.mem_append_left _ h')
  have hfinv : Spec.finiteArg op.f op.v = true := hfin op (List.mem_append_right _ (List.mem_cons_self ..))
  have hfin₂ : ∀ op' ∈ h₂, Spec.finiteArg op'.f op'.v = true :=
    fun op' h' => hfin op' (List.mem_append_right _ (List.mem_cons_of_mem _ h'))
  obtain ⟨a1, _, c1⟩ := v1_C06_history_decided o hl d h₁ hc hfin₁
  rw [← a1, callAccepted_abs] at hacc
  obtain ⟨d₂, hd₂⟩ := (accepts_iff o _ c1 hl op.id op.f op.v).mp hacc
  have hca : Spec.callAccepted (absDb o (dbRun o d h₁).1) op = true := by rw [callAccepted_abs]; exact hacc
  have habs := dbSet_abs o _ d₂ op (dbClean_inv _ c1) hfinv hd₂ hca
  have c2 : DbClean d₂ := dbSet_clean o _ d₂ op.id op.f op.v c1 hd₂
  obtain ⟨_, t2, _⟩ := v1_C06_history_decided o hl d₂ h₂ c2 hfin₂
  rw [← a1, ← habs, ← t2] at hlater
  exact value_last_set o d h₁ h₂ op.id op.f op.v (dbClean_inv d hc) hfin₁ hfinv hfin₂ d₂ hd₂ hlater

/-! ### the example database of `Properties/C06V1.lean`, seen from the acceptance side -/

def exDbGetDuration (d : Db) : Res (Option UInt64) := dbGet exOps d 1 .duration
def exDbGetRating (d : Db) : Res (Option UInt32) := dbGet exOps d 1 .rating

/-- What is recorded below of `exDb` and of the history `exHist` run on it, evaluated together: the
database (two waveforms resampled) and the run are by far the dearest part of each line, and the kernel
builds them once per declaration. -/
theorem exDb_outcomes :
    exDb.tracks.all (fun e => Clean e.2) = true ∧
    (Clean exRows = true ∧ exRows.perf.isSome = true ∧
      acceptsRow exRows (.hotCueAt 0) (some ⟨[97], F64.negOne, ⟨0, 0, 0, 0⟩⟩) = false) ∧
    (accepts exDb 1 .rating (some 250) = true ∧ accepts exDb 1 (.hotCueAt 8) none = false ∧
      accepts exDb 2 (.hotCueAt 7) (some exCue) = true ∧
      accepts exDb 2 .relativePath [97, 47, 49, 46, 109, 112, 51] = false ∧
      accepts exDb 1 (.loopAt 0) (some ⟨[], 0, 0, ⟨0, 0, 0, 0⟩⟩) = false ∧
      accepts exDb 2 .beatgrid [⟨0, 0⟩] = false ∧ accepts exDb 3 .title none = false ∧
      accepts exDb 1 .averageLoudness (some 0x7ff8000000000000) = false) ∧
    (Spec.runCalls (absDb exOps exDb) exHist).2.map (·.2) =
      [true, true, false, true, false, false, true, true, true, false, true, false] ∧
    (dbRunStrict exOps exDb exHist).isOk = true ∧
    exDbGetDuration (dbRun exOps exDb exHist).1 = .ok (some 61000) ∧
    exDbGetRating (dbRun exOps exDb exHist).1 = .ok none ∧
    exDbGetRating (dbRun exOps exDb (exHist.take 4)).1 = .ok (some 100) := by
  decide +kernel

theorem exDb_clean : DbClean exDb := by
  intro id r hr
  exact List.all_eq_true.mp exDb_outcomes.1 (id, r) (aget_mem _ _ _ hr)

/-- The setters are stricter than the Spec (recorded, not a defect — the call throws and writes nothing):
a cue whose offset is the reserved −1.0 is an "empty slot" for the snapshot path and for `Spec.normField`,
but `set_hot_cue_at` refuses it.  (Replayed on the real library by the tie: `logic_error`.) -/
theorem v1_C06_setter_stricter_counterexample :
    ∃ (r : TrackRows) (f : Field) (v : f.ty), Clean r = true ∧ r.perf.isSome = true ∧
      (Spec.normField f v).isSome = true ∧ acceptsRow r f v = false :=
  ⟨exRows, .hotCueAt 0, some ⟨[97], F64.negOne, ⟨0, 0, 0, 0⟩⟩, exDb_outcomes.2.1.1, exDb_outcomes.2.1.2.1, by decide,
    exDb_outcomes.2.1.2.2⟩

/-! ### the two normalisations (C01 `normFields` on a snapshot, C06 `normField` on a setter argument) -/

/-- **"Under the same normalisation as a snapshot".**  For a snapshot that `create_track` / `update` must
accept, every value it holds — each field that has a setter (`Spec.fieldOf x f`), and each cue / loop
slot — is acceptable to that setter's Spec, and `Spec.normField` of it is exactly what `Spec.normFields`
puts into that field of the written snapshot. -/
theorem v1_C06_normField_normFields (s : Schema) (x : Snap) (ha : Spec.accepted x = true) (f : Field) (v : f.ty)
    (hv : Spec.fieldOf x f = some v) :
    ∃ w, Spec.normField f v = some w ∧ Spec.fieldOf (Spec.normFields s x) f = some w :=
  normField_fieldOf s x ha f v hv

/-- **Where the entry points differ.**  The snapshot path accepts exactly the snapshots that name a path,
whose cue list, loop list and beat grid are acceptable to the setter Spec, and that satisfy the one
cross-field condition `Spec.waveformStorable` (a waveform needs a non-zero sample count and rate; every
other field is acceptable to both).  A single-field setter cannot depend on other fields ("each getter
returns the value last set for its field"), so `set_waveform` has no such condition. -/
theorem v1_C06_accepted_iff_fields (x : Snap) :
    Spec.accepted x = true ↔
      (x.relativePath.isSome = true ∧ (Spec.normField .hotCues x.hotCues).isSome = true ∧
       (Spec.normField .loops x.loops).isSome = true ∧ (Spec.normField .beatgrid x.beatgrid).isSome = true ∧
       Spec.waveformStorable x = true) :=
  accepted_iff_fields x

def exMinSnap : Snap := { Snap.empty with relativePath := some [97, 46, 98] }
def exMinRows : TrackRows := (writeSnap exOps .s1_6_0 exMinSnap none).toOption.getD blankRows
def exWave : List Impl.V1.Entry := [⟨1, 2, 3, 4, 5, 6⟩]
def exAfterWave : TrackRows := (set exOps exMinRows .waveform exWave).toOption.getD blankRows

/-- The difference is real and reachable: on a clean track without sample count `set_waveform` returns
normally and the getter answers the waveform (C06 holds); the track's snapshot is then one the snapshot
path rejects, so `update(snapshot())` on that track throws `invalid_track_snapshot` — an exception, not a
corruption (C01's fixed-point clause speaks of read-backs of snapshot WRITES; replayed by the tie). -/
theorem v1_C06_waveform_entry_points_counterexample :
    Clean exMinRows = true ∧ (set exOps exMinRows .waveform exWave).isOk = true ∧
    (readSnap exOps .s1_6_0 exAfterWave).toOption.map (·.waveform) = some exWave ∧
    (readSnap exOps .s1_6_0 exAfterWave).toOption.map Spec.accepted = some false ∧
    (readSnap exOps .s1_6_0 exAfterWave).toOption.map
      (fun y => exThrown (writeSnap exOps .s1_6_0 y (some exAfterWave))) = some (some (.dj "invalid_track_snapshot")) := by
  decide +kernel

/-! ### non-vacuity -/

example : FloatLaw exOps :=
  ⟨fun b h => Fl.toI64_some_of_absLt63 b h, fun n => by unfold exOps; simp only; split <;> decide,
   fun n h _ => by unfold exOps; simp only; rw [if_neg (by omega)]; decide,
   fun _ => by show F64.isNaN 0 = false; decide, fun _ => by show F64.isNaN 0 = false; decide⟩

/-- accepted and refused calls on the example database, each decided by `accepts` -/
example : accepts exDb 1 .rating (some 250) = true ∧ accepts exDb 1 (.hotCueAt 8) none = false ∧
    accepts exDb 2 (.hotCueAt 7) (some exCue) = true ∧
    accepts exDb 2 .relativePath [97, 47, 49, 46, 109, 112, 51] = false ∧
    accepts exDb 1 (.loopAt 0) (some ⟨[], 0, 0, ⟨0, 0, 0, 0⟩⟩) = false ∧
    accepts exDb 2 .beatgrid [⟨0, 0⟩] = false ∧ accepts exDb 3 .title none = false ∧
    accepts exDb 1 .averageLoudness (some 0x7ff8000000000000) = false := exDb_outcomes.2.2.1
/-- the Spec replay of the example history accepts exactly the calls that `dbRun` reports as returned normally -/
example : (Spec.runCalls (absDb exOps exDb) exHist).2.map (·.2) =
    [true, true, false, true, false, false, true, true, true, false, true, false] := exDb_outcomes.2.2.2.1
example : (dbRunStrict exOps exDb exHist).isOk = true := exDb_outcomes.2.2.2.2.1
/-- value last set: `rating` of track 1 is set to 250 (normalised 100) first and to `none` at the end;
`duration` is set once in the middle and survives the rest of the history -/
example : exDbGetDuration (dbRun exOps exDb exHist).1 = .ok (some 61000) := exDb_outcomes.2.2.2.2.2.1
example : exDbGetRating (dbRun exOps exDb exHist).1 = .ok none := exDb_outcomes.2.2.2.2.2.2.1
example : exDbGetRating (dbRun exOps exDb (exHist.take 4)).1 = .ok (some 100) := exDb_outcomes.2.2.2.2.2.2.2

end EngineModel.Properties.C06V1
