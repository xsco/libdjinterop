/-
C17 — the hand-written expectation tables of every schema version, extracted from
src/djinterop/engine/schema/schema_*.cpp by tools/tr_validators.py on every run
(`EngineModel/Gen/ValidatorTables.lean`), are CLOSED: every block is terminated by
`validate_no_more`, every listed table that is not SQLite's own has its columns and
indices listed, every listed index has its columns listed.  With the bridge theorem
`C17_closed_tables_complete` this gives, for the tables of the real validators: whatever
well-formed catalog they accept, they reject every single-element mutation of it.
(That they accept the catalog their own creator creates is evaluated on every run by
the compiled model on the catalog read back from the really created library, and the
model with these tables is compared with the real verify() on every mutant.)
-/
import EngineModel.Gen.ValidatorTables
import Properties.C17

namespace EngineModel.Properties.C17Tables
open EngineModel.Spec.Catalog EngineModel.Spec.Validator EngineModel.Gen.ValidatorTables

/-- Every extracted table of every version is closed (decided by the kernel on the data). -/
theorem tables_closed : (all.all fun e => closed e.2.2) = true := by decide +kernel

theorem tables_closed_mem {e : String × List Char × DbExp} (h : e ∈ all) : closed e.2.2 = true :=
  (List.all_eq_true.1 tables_closed) e h

/-- **The validators of all schema versions are complete on what they accept**: for the
expectation tables `E` of any version and database file, any well-formed catalog `c` that
`E` accepts, and any applicable single-element mutation `m` (drop / add / rename table or
view; drop / add / replace column — name, type, nullability, default, key membership;
drop / add / replace index — name, uniqueness, origin, partiality, column list), `E`
rejects `apply m c`. -/
theorem C17_tables_complete {e : String × List Char × DbExp} (he : e ∈ all) (c : Db) (m : Mutation)
    (hwf : wf c = true) (hacc : verifyDb e.2.2 c = true) (happ : applicable m c = true) :
    verifyDb e.2.2 (apply m c) = false :=
  C17.C17_closed_tables_complete e.2.2 c m (tables_closed_mem he) hwf hacc happ

/-- … and accept nothing but catalogs with the structure of what they accept. -/
theorem C17_tables_unique {e : String × List Char × DbExp} (he : e ∈ all) (c c' : Db)
    (hwf : wf c = true) (hacc : verifyDb e.2.2 c = true) (hacc' : verifyDb e.2.2 c' = true) :
    sameCat c c' = true :=
  C17.C17_closed_tables_unique e.2.2 c c' (tables_closed_mem he) hwf hacc hacc'

/-! ### the whole library: a 1.x library is the pair of files `music` + `perfdata` -/

/-- `verify()` of a library = the validators of all its database files. -/
def verifyLib (es : List (List Char × DbExp)) (cat : List Char → Db) : Bool :=
  es.all fun e => verifyDb e.2 (cat e.1)

/-- The library with one single-element mutation applied to the file labelled `l`. -/
def mutateFile (l : List Char) (m : Mutation) (cat : List Char → Db) : List Char → Db :=
  fun l' => if l' = l then apply m (cat l') else cat l'

/-- The expectation tables of the database files of one version. -/
def filesOf (v : String) : List (List Char × DbExp) := (all.filter fun e => e.1 == v).map (·.2)

theorem filesOf_closed {v : String} {e : List Char × DbExp} (h : e ∈ filesOf v) : closed e.2 = true := by
  obtain ⟨e', he', rfl⟩ := List.mem_map.1 h
  exact tables_closed_mem (List.mem_filter.1 he').1

/-- **Library level** (lifts the per-file statement to the music + perfdata pair of 1.x): if
`verify()` of version `v` accepts a library whose file `l` is well formed, it rejects the
library obtained by any applicable single-element mutation of that file. -/
theorem C17_library_complete (v : String) (cat : List Char → Db) (l : List Char) (m : Mutation)
    (hl : ∃ e ∈ filesOf v, e.1 = l) (hwf : wf (cat l) = true) (hacc : verifyLib (filesOf v) cat = true)
    (happ : applicable m (cat l) = true) : verifyLib (filesOf v) (mutateFile l m cat) = false := by
  obtain ⟨e, he, rfl⟩ := hl
  have hacc_e : verifyDb e.2 (cat e.1) = true := (List.all_eq_true.1 hacc) e he
  have hrej := C17.C17_closed_tables_complete e.2 (cat e.1) m (filesOf_closed he) hwf hacc_e happ
  cases h : verifyLib (filesOf v) (mutateFile e.1 m cat) with
  | false => rfl
  | true =>
    have := (List.all_eq_true.1 h) e he
    simp only [mutateFile, if_true] at this
    rw [hrej] at this
    exact absurd this (by simp)

/-- non-vacuity: a 1.x version has two files, a 2.x version one -/
example : (filesOf "schema_1_9_1").length = 2 ∧ (filesOf "schema_2_21_2").length = 1 := by decide +kernel

/-- non-vacuity: there are tables (one per version and database file) -/
example : all.length ≥ 18 := by decide +kernel

end EngineModel.Properties.C17Tables
