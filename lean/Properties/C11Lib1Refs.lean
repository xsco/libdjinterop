/-
C11 — The stored database stays a well-formed Engine library.   Schema 1.x, whole library, WITH the rows Engine DJ writes
in the tables the library itself never inserts into.

`database::remove_track` (engine/v1/engine_database_impl.cpp) deletes, besides the crate memberships and the MetaData /
MetaDataInteger / PerformanceData rows, the rows naming the track in PlaylistTrackList, HistorylistTrackList,
PreparelistTrackList and CopiedTrack (foreign keys are not enforced on the connection).  In `Properties/C11Lib1.lean` the
`otherTrackRefs` section of the raw dump is empty — those four DELETEs are invisible there.  Here:

Model  : EngineModel/Lib/V1Refs.lean — `Lib1R` = the composite library `Lib1` + the rows `(table, trackId)` of the four
         tables; `CallR` = every public call (`api c`, stepped through `Lib.V1.step` unchanged) + ONE environment step
         `plantRefs t` (Engine puts track `t` on a playlist, a history list, the prepare list and records it as copied);
         `stepR` = the code (all four DELETEs), `stepRWith keeps` = the variants with the DELETE of the tables `keeps`
         missing.
Spec   : the same executable `libInvRaw` / `fkViolationsAll` as the plain part, on `rawR` = the raw dump with the `OT`
         section filled in (conjuncts "foreign-keys-clean" and "no-foreign-track-refs" are not vacuous on it).

Every theorem quantifies over all eleven versions, all float-operation instances, all histories `cs : List CallR` — public
calls with any arguments interleaved with Engine's writes in any order.
-/
import Proofs.Lib1Refs

namespace EngineModel.Properties.C11Lib1Refs
open EngineModel EngineModel.Lib.V1 EngineModel.Api
open EngineModel.Api.CratesV1 (liveTrack)
open EngineModel.TracksV1 (Snap Field)
open EngineModel.TracksV1.Fl (FOps)

/-- **The extended invariant holds after every history**: `LibInv` of the library and no row of PlaylistTrackList /
HistorylistTrackList / PreparelistTrackList / CopiedTrack names a track that does not exist. -/
theorem C11_lib1_refs_invariant_after_every_history (o : FOps) (s : VSchema) (um up dir : Bytes) (cs : List CallR) :
    LibInvR s (runR o s (Lib1R.empty s um up dir) cs) :=
  libInvR_run o cs (libInvR_empty s um up dir)

/-- … and is kept by every single step from ANY state satisfying it (a library written by Engine DJ and loaded). -/
theorem C11_lib1_refs_step_preserves_invariant (o : FOps) (s : VSchema) (R : Lib1R) (h : LibInvR s R) (c : CallR) :
    LibInvR s (stepR o s R c).1 := libInvR_step o h c

/-- **`PRAGMA foreign_key_check` is clean over ALL declared foreign keys, the trackId of the four tables (from 1.9.1:
of ListTrackList behind the views) included** — from the invariant … -/
theorem C11_lib1_refs_foreign_key_check_clean (s : VSchema) (R : Lib1R) (h : LibInvR s R) : fkViolationsAll (rawR s R) = [] :=
  fkAllR_clean h

/-- … hence after any history that includes plants and removals. -/
theorem C11_lib1_refs_foreign_key_check_clean_reachable (o : FOps) (s : VSchema) (um up dir : Bytes) (cs : List CallR) :
    fkViolationsAll (rawR s (runR o s (Lib1R.empty s um up dir) cs)) = [] :=
  fkAllR_clean (C11_lib1_refs_invariant_after_every_history o s um up dir cs)

/-- **The executable raw check (all twelve conjuncts) is true of the dump of every reachable extended state** — the
function the driver evaluates on the REAL dump after every call. -/
theorem C11_lib1_refs_raw_check_after_every_history (o : FOps) (s : VSchema) (um up dir : Bytes) (cs : List CallR) :
    libInvRaw s (rawR s (runR o s (Lib1R.empty s um up dir) cs)) = true :=
  libInvRawR_of_libInvR (C11_lib1_refs_invariant_after_every_history o s um up dir cs)

/-- **No dependent row of a missing track, spelled out**: after every history every row of the four tables names a track
that `tracks()` lists. -/
theorem C11_lib1_refs_rows_of_live_tracks (o : FOps) (s : VSchema) (um up dir : Bytes) (cs : List CallR) :
    let R := runR o s (Lib1R.empty s um up dir) cs
    ∀ x ∈ R.refs, x.2 ∈ CratesV1.dbTracks R.lib.cr := by
  intro R x hx
  have h := C11_lib1_refs_invariant_after_every_history o s um up dir cs
  exact (CratesV1.mem_dbTracks _ _).mpr (h.refsLive x hx)

/-- **`remove_track` deletes exactly the rows naming the track**, from ANY state: afterwards no row of any of the four
tables names it, and the rows of every other track are the ones that were there. -/
theorem C11_lib1_refs_remove_track_deletes_rows (o : FOps) (s : VSchema) (R : Lib1R) (t : Id) :
    let R' := (stepR o s R (.api (.removeTrack t))).1
    (∀ x ∈ R'.refs, x.2 ≠ t) ∧ (∀ x, x.2 ≠ t → (x ∈ R'.refs ↔ x ∈ R.refs)) := by
  intro R'
  have e : R'.refs = dropRefs (fun _ => false) R.refs t := stepR_remove_refs o s R t
  rw [e]
  constructor
  · intro x hx
    rcases (mem_dropRefs.mp hx).2 with hk | hk
    · cases hk
    · exact hk
  · intro x hne
    rw [mem_dropRefs]
    exact ⟨fun hh => hh.1, fun hh => ⟨hh, .inr hne⟩⟩

/-- **The library under Engine's writes is the plain composite library**: the library part of an extended history is the
history of its public calls — every `C08/C10/C11/C16_lib1_*` theorem applies unchanged; the environment step changes no
table a public call reads. -/
theorem C11_lib1_refs_library_projection (o : FOps) (s : VSchema) (um up dir : Bytes) (cs : List CallR) :
    (runR o s (Lib1R.empty s um up dir) cs).lib = run o s (Lib1.empty s um up dir) (apiCalls cs) :=
  runR_lib o s cs _

/-- **What each of the four DELETEs is for** (general form): in the variant of `remove_track` that lacks the DELETE on
table `k`, removing a track that has a row in `k` breaks the invariant — from EVERY state satisfying it. -/
theorem C11_lib1_refs_every_delete_is_needed (o : FOps) (s : VSchema) (R : Lib1R) (h : LibInvR s R) (keeps : RefTable → Bool)
    (k : RefTable) (hk : keeps k = true) (t : Id) (hm : (k, t) ∈ R.refs) :
    ¬ LibInvR s (stepRWith keeps o s R (.api (.removeTrack t))).1 := by
  intro h'
  have hin : (k, t) ∈ (stepRWith keeps o s R (.api (.removeTrack t))).1.refs := by
    show (k, t) ∈ dropRefs keeps R.refs t
    exact mem_dropRefs.mpr ⟨hm, .inl hk⟩
  have hl := h'.refsLive (k, t) hin
  obtain ⟨_, _, _, _, _, _, e6⟩ := CratesV1.removeTrack_spec (toDetect s) h.lib.crates t
  have hl' : liveTrack (CratesV1.removeTrack (toDetect s) R.lib.cr t).1 t := hl
  rw [e6] at hl'
  exact hl'.2 rfl

/-- FULL STATEMENT refuted for the variants: "the raw check holds after every history" is FALSE for each of the four
variants of `remove_track` that lack ONE of the DELETEs — concrete witness on the oldest and the newest version: from the
library with two tracks (two `create_track` calls), Engine writes its rows for both, then the 2-step history
`remove_track(1)` … leaves, in the variant, the row of track 1 in the table whose DELETE is missing: the executable check
fails in exactly the conjuncts "foreign-keys-clean" and "no-foreign-track-refs", and `foreign_key_check` reports the row
(from 1.9.1 also the ListTrackList row behind the view).  The CODE (all four DELETEs) passes on the same history and
keeps the four rows of track 2. -/
theorem C11_lib1_refs_counterexample :
    let o : FOps := ⟨fun _ => 0, fun n => if n = 0 then 0 else F64.one, fun _ _ => 0, fun b => b⟩
    let hist : List CallR := [.api (.createTrack { Snap.empty with relativePath := some [97] }),
      .api (.createTrack { Snap.empty with relativePath := some [98] }), .plantRefs 1, .plantRefs 2, .api (.removeTrack 1)]
    ∀ s ∈ ([.s1_6_0, .s1_18_0_os] : List VSchema),
      (∀ k ∈ RefTable.all,
        let R := runRWith (fun k' => k' == k) o s (Lib1R.empty s [77] [80] []) hist
        libFailures s (rawR s R) = ["foreign-keys-clean", "no-foreign-track-refs"] ∧
        fkViolationsAll (rawR s R) =
          (k.name, 1, 0) :: (if hasListViews s && k != .copied then [("ListTrackList", 1, 0)] else [])) ∧
      libInvRaw s (rawR s (runR o s (Lib1R.empty s [77] [80] []) hist)) = true ∧
      (runR o s (Lib1R.empty s [77] [80] []) hist).refs = RefTable.all.map fun k => (k, 2) := by
  decide +kernel

/-- non-vacuity of the theorems that assume `LibInvR` (`…_step_preserves_invariant`, `…_foreign_key_check_clean`,
`…_every_delete_is_needed`): the created library satisfies it, and after `create_track; plantRefs` a reachable state has a
row in each of the four tables (so the hypotheses `keeps k`, `(k, t) ∈ R.refs` are satisfiable for every `k`), the dump's
`OT` section is non-empty (on 1.9.1+ with the ListTrackList rows), planting twice adds nothing, and planting on an id
without a track is skipped. -/
example : ∀ s, LibInvR s (Lib1R.empty s [77] [80] []) := fun s => libInvR_empty s _ _ _

example :
    let o : FOps := ⟨fun _ => 0, fun n => if n = 0 then 0 else F64.one, fun _ _ => 0, fun b => b⟩
    let R := runR o .s1_9_1 (Lib1R.empty .s1_9_1 [77] [80] [])
      [.api (.createTrack { Snap.empty with relativePath := some [97] }), .plantRefs 1, .plantRefs 1, .plantRefs 7]
    R.refs = [(.playlist, 1), (.historylist, 1), (.preparelist, 1), (.copied, 1)] ∧
    (rawR .s1_9_1 R).otherTrackRefs = [("PlaylistTrackList", 1), ("HistorylistTrackList", 1), ("PreparelistTrackList", 1),
      ("CopiedTrack", 1), ("ListTrackList", 1), ("ListTrackList", 1), ("ListTrackList", 1)] ∧
    (stepR o .s1_9_1 R (.plantRefs 7)).2.isOk = true ∧ (stepR o .s1_9_1 R (.plantRefs 7)).1.refs = R.refs := by
  decide +kernel

end EngineModel.Properties.C11Lib1Refs
