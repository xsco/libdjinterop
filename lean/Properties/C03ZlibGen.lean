/-
C03 on `zlib_compress` REGENERATED from the C++ (`Gen/ZlibGen.lean`, tools/tr_zlib.py): the statements
registered about the hand loops (`Properties/C03.lean`, `C03_compress_complete` / `_empty_ub` /
`_chunk_schedule` / `_finish_only_last`) transferred through `Gen.Zlib.compress_eq_partial`
(Proofs/ZlibGenCompressEq.lean).  The proofs depend on the regenerated bodies: a change of the C++ loops that
changes the translation breaks `lake build`.
-/
import Proofs.ZlibGenCompressEq
import Proofs.ZlibCompressChunks

namespace EngineModel.Properties.C03ZlibGen
open EngineModel EngineModel.Impl.Zlib

/-- The regenerated function IS the hand model — same output bytes and same call log: every deflate oracle
that keeps to the sizes it was given (`DSized`: it never claims more input than its window nor more output
than `avail_out`), every stream state, every fuel (the same number on both sides), every payload (the empty
one included), every initial content `c0` of the by-value parameter `compressed`.
Full statement (no `DSized`) false: see the end of Proofs/ZlibGenCompressEq.lean. -/
theorem C03_gen_compress_eq_partial {σ : Type} (o : DOracle σ) (hsz : Gen.Zlib.DSized o) (s0 : σ) (fuel : Nat)
    (buf c0 : Bytes) :
    Gen.Zlib.compress o s0 fuel buf c0 = compress o s0 fuel buf :=
  Gen.Zlib.compress_eq_partial o hsz s0 fuel buf c0

/-- For every deflate oracle honouring the call contract, every live start state, every non-empty payload and
every fuel of at least `cFuelBound` (linear in the payload): the REGENERATED `zlib_compress` returns; the blob
is the 4-byte length prefix OF THE PAYLOAD LENGTH followed by all output of all `deflate()` calls in order;
the calls consumed the WHOLE payload; the loops stopped only after a `Z_FINISH` call answered
`Z_STREAM_END`. -/
theorem C03_gen_compress_complete {σ : Type} (o : DOracle σ) (c : DContract o) (s0 : σ) (hs0 : c.live s0)
    (buf c0 : Bytes) (hne : buf ≠ []) (fuel : Nat) (hf : cFuelBound c s0 buf.length ≤ fuel) :
    ∃ blob log, Gen.Zlib.compress o s0 fuel buf c0 = .ok (blob, log) ∧
      blob = lenPrefix buf.length ++ log.flatMap (·.out) ∧
      (log.map (·.consumed)).sum = buf.length ∧
      ∃ d, log.getLast? = some d ∧ d.flush = .finish ∧ d.ret = .streamEnd := by
  rw [Gen.Zlib.compress_eq_partial o (Gen.Zlib.DSized.of_contract c) s0 fuel buf c0]
  exact compress_complete o c s0 hs0 buf hne fuel hf

/-- The hypothesis `buf ≠ []` is what the code needs: the regenerated `auto* ptr = &uncompressed[0]` on an
empty vector is `ub oob_index` — for EVERY oracle (no `DSized` needed: no call is made). -/
theorem C03_gen_compress_empty_ub {σ : Type} (o : DOracle σ) (s0 : σ) (fuel : Nat) (c0 : Bytes) :
    Gen.Zlib.compress o s0 fuel [] c0 = .ub .oob_index := Gen.Zlib.compress_nil o s0 fuel c0

/-- If the regenerated `zlib_compress` returns, its recorded calls follow `chunkPlan (payload length)` window
by window (`Sched`: per window a non-empty run of calls with that window's flush mode, the first seeing the
whole window, every call but the last of a run having filled the output buffer). -/
theorem C03_gen_compress_chunk_schedule_partial {σ : Type} (o : DOracle σ) (hsz : Gen.Zlib.DSized o) (s0 : σ)
    (fuel : Nat) (buf c0 : Bytes) (blob : Bytes) (log : List DCall)
    (h : Gen.Zlib.compress o s0 fuel buf c0 = .ok (blob, log)) :
    Sched (chunkPlan buf.length) log := by
  rw [Gen.Zlib.compress_eq_partial o hsz s0 fuel buf c0] at h
  exact compress_sched o s0 fuel buf blob log h

/-- **The last window, and only the last window, carries `Z_FINISH`, for every payload length** — of the
regenerated function: the log is `pre ++ fin`, every call of `pre` is `Z_NO_FLUSH`, `fin` is the non-empty run
of `Z_FINISH` calls, and its first call is handed exactly `finalChunkLen n` bytes. -/
theorem C03_gen_compress_finish_only_last_partial {σ : Type} (o : DOracle σ) (hsz : Gen.Zlib.DSized o) (s0 : σ)
    (fuel : Nat) (buf c0 : Bytes) (blob : Bytes) (log : List DCall)
    (h : Gen.Zlib.compress o s0 fuel buf c0 = .ok (blob, log)) :
    ∃ pre fin, log = pre ++ fin ∧
      (∀ d ∈ pre, d.flush = .noFlush) ∧ (∀ d ∈ fin, d.flush = .finish) ∧ fin ≠ [] ∧
      Sched (List.replicate (fullChunks buf.length) (.noFlush, chunk)) pre ∧
      Run .finish (finalChunkLen buf.length) fin ∧
      ∃ d, fin.head? = some d ∧ d.availIn = finalChunkLen buf.length := by
  rw [Gen.Zlib.compress_eq_partial o hsz s0 fuel buf c0] at h
  exact compress_finish_only_last o s0 fuel buf blob log h

/-- non-vacuity: the pass-through oracle honours the contract (`storeContract`), hence is `DSized`; fuel `4·n + 2` -/
example : Gen.Zlib.DSized storeOracle := Gen.Zlib.DSized.of_contract storeContract
example : Gen.Zlib.DSized bufOracle := Gen.Zlib.DSized.of_contract bufContract
example : cFuelBound storeContract () 100000 = 400002 := by decide
example : ([0x2a] : Bytes) ≠ [] := by decide

/-- the hypothesis `… = .ok (blob, log)` of the two schedule theorems is met for every non-empty payload: the
regenerated function returns through the pass-through oracle -/
example (buf c0 : Bytes) (hne : buf ≠ []) :
    ∃ blob log, Gen.Zlib.compress storeOracle () (4 * buf.length + 2) buf c0 = .ok (blob, log) := by
  obtain ⟨blob, log, h, _⟩ := C03_gen_compress_complete storeOracle storeContract () trivial buf c0 hne
    (4 * buf.length + 2) (by simp only [cFuelBound, storeContract]; omega)
  exact ⟨blob, log, h⟩

end EngineModel.Properties.C03ZlibGen
