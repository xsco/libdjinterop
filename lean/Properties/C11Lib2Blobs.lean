/-
C11 on the whole 2.x library, clause "every stored performance blob decodes" — composed with the codec
theorems (C02 / C03, `Impl/Blob.lean`).

The Track table of the composite holds the five BLOB columns at value level (decoded value + trailing
`extra_data`, `TracksV2.Row`).  What the library stores is `to_blob()` of that value:

    payload = the payload encoder of the kind (`Impl.V2.encodeX v extra`, = the Spec layout `X.enc v ++ extra`, C02)
    blob    = zlib_compress(payload)   for trackData / overviewWaveFormData / beatData / quickCues,
              payload itself           for loops (stored uncompressed)

and a reader decodes with `from_blob()` = `Blob.fromBlobX2` = `zlib_uncompress` (`unz`) then the payload decoder.
Here: for every row whose values have C++ shape (`BlobShape`: labels ≤ 255 bytes — kept by every write, see
`C11Lib2_reachable_rows_encodable` —, vector sizes below 2^63, three bytes per waveform point), each of the five
payload encoders succeeds, and EVERY byte string that `zlib_uncompress` maps back to that payload — in particular
the Spec framing `Zlib.frame payload` (`C02_unz_frame`), and what `zlib_compress` builds over any deflate oracle
honouring the contract (`uncompress_compress`, C03) — decodes to exactly the stored value and its extra data.
-/
import Properties.C02Written
import Proofs.Lib2Step
import Proofs.Lib2Sim

namespace EngineModel.Properties.C11Lib2
open EngineModel EngineModel.Codec EngineModel.V2 EngineModel.Impl.V2 EngineModel.Impl.Blob
open EngineModel.Impl.Zlib EngineModel.Properties.C02 EngineModel.Properties.C03
open EngineModel.TracksV2 (Row cuesEncodable loopsEncodable)
open EngineModel.Lib.V2
open EngineModel.Table (Schema2)

/-- every cue / loop label fits the one length byte the format gives it (what `to_blob()` tests) -/
def LabelsFit (r : Row) : Prop := cuesEncodable r.cues.1 = true ∧ loopsEncodable r.loops.1 = true

/-- what `to_blob()` encodes for each BLOB column of a Track row -/
def payloadTrack (r : Row) : Res Bytes := encodeTrack r.trackData.1 r.trackData.2
def payloadOvw (r : Row) : Res Bytes := encodeOvw r.ovw.1 r.ovw.2
def payloadBeat (r : Row) : Res Bytes := encodeBeat r.beat.1 r.beat.2
def payloadCues (r : Row) : Res Bytes := encodeCues r.cues.1 r.cues.2
def payloadLoops (r : Row) : Res Bytes := encodeLoops r.loops.1 r.loops.2

/-- the values of the row have the shape of C++ values: labels fit their length byte (`LabelsFit`: kept by every
write of the library), sizes are below 2^63, the waveform has three bytes per point and a three-byte maximum;
`ovwLen` is the size hypothesis of `C03_v2_ovw_roundtrip` -/
structure BlobShape (r : Row) : Prop where
  labels : LabelsFit r
  beat : r.beat.1.Valid
  ovw : r.ovw.1.Valid
  ovwLen : 27 + r.ovw.1.points.length + r.ovw.2.length < maxCount
  cues : r.cues.1.cues.length < maxCount
  loops : r.loops.1.length < maxCount

/-- a reader of a compressed kind (`from_blob()` = uncompress, then the payload decoder) decodes whatever
uncompresses to a payload the decoder accepts -/
theorem fromBlob_of_roundtrip {α} {payload : Res Bytes} {decode : Bytes → Res α} {v : α}
    (h : ∃ p, payload = .ok p ∧ decode p = .ok v) :
    ∃ p, payload = .ok p ∧ ∀ b, unz b = .ok p → fromBlob decode b = .ok v :=
  let ⟨p, h1, h2⟩ := h
  ⟨p, h1, fun b hb => by unfold fromBlob; rw [hb]; exact h2⟩

/-- **Every stored blob decodes** (to the very value and extra data the row holds). -/
theorem C11Lib2_stored_blobs_decode (r : Row) (h : BlobShape r) :
    (∃ p, payloadTrack r = .ok p ∧ ∀ b, unz b = .ok p → fromBlobTrack2 b = .ok r.trackData) ∧
    (∃ p, payloadOvw r = .ok p ∧ ∀ b, unz b = .ok p → fromBlobOvw2 b = .ok r.ovw) ∧
    (∃ p, payloadBeat r = .ok p ∧ ∀ b, unz b = .ok p → fromBlobBeat2 b = .ok r.beat) ∧
    (∃ p, payloadCues r = .ok p ∧ ∀ b, unz b = .ok p → fromBlobCues2 b = .ok r.cues) ∧
    (∃ p, payloadLoops r = .ok p ∧ fromBlobLoops2 p = .ok r.loops) := by
  have hc : ∀ q ∈ r.cues.1.cues, q.label.length ≤ 255 := fun q hq => by
    simpa using List.all_eq_true.mp h.labels.1 q hq
  have hl : ∀ q ∈ r.loops.1, q.label.length ≤ 255 := fun q hq => by
    simpa using List.all_eq_true.mp h.labels.2 q hq
  exact ⟨fromBlob_of_roundtrip (C03_v2_track_roundtrip r.trackData.1 r.trackData.2),
    fromBlob_of_roundtrip (C03_v2_ovw_roundtrip r.ovw.1 r.ovw.2 h.ovw h.ovwLen),
    fromBlob_of_roundtrip (C03_v2_beat_roundtrip r.beat.1 r.beat.2 h.beat),
    fromBlob_of_roundtrip (C03_v2_cues_roundtrip r.cues.1 r.cues.2 h.cues hc),
    C03_v2_loops_roundtrip r.loops.1 r.loops.2 h.loops hl⟩

/-- what decodes from everything that uncompresses to the payload decodes from the Spec framing of it -/
theorem framed_of_stored {α} {payload : Res Bytes} {read : Bytes → Res α} {v : α}
    (h : ∃ p, payload = .ok p ∧ ∀ b, unz b = .ok p → read b = .ok v) :
    ∀ p, payload = .ok p → p.length < 2147483648 → read (Zlib.frame p) = .ok v := by
  obtain ⟨p0, e, d⟩ := h
  intro p hp hlen
  rw [e] at hp; cases hp
  exact d _ (C02_unz_frame _ hlen)

/-- Each of the four compressed columns decodes from the Engine framing of its payload as the independent Spec encoder
writes it (`Zlib.frame`: 4-byte big-endian length + zlib stream of stored blocks): payloads below 2 GiB. -/
theorem C11Lib2_framed_blobs_decode (r : Row) (h : BlobShape r) :
    (∀ p, payloadTrack r = .ok p → p.length < 2147483648 → fromBlobTrack2 (Zlib.frame p) = .ok r.trackData) ∧
    (∀ p, payloadOvw r = .ok p → p.length < 2147483648 → fromBlobOvw2 (Zlib.frame p) = .ok r.ovw) ∧
    (∀ p, payloadBeat r = .ok p → p.length < 2147483648 → fromBlobBeat2 (Zlib.frame p) = .ok r.beat) ∧
    (∀ p, payloadCues r = .ok p → p.length < 2147483648 → fromBlobCues2 (Zlib.frame p) = .ok r.cues) :=
  let ⟨h1, h2, h3, h4, _⟩ := C11Lib2_stored_blobs_decode r h
  ⟨framed_of_stored h1, framed_of_stored h2, framed_of_stored h3, framed_of_stored h4⟩

/-! ### the label part of `BlobShape` is an invariant of the library -/

/-- **Reachable rows are encodable**: after every history of the composite (any calls, any snapshots and setter
values, failed calls included) every cue / loop label of every Track row fits its length byte — so `to_blob()` of
every stored value succeeds (`C11Lib2_stored_blobs_decode`: and what it stores decodes). -/
theorem C11Lib2_reachable_rows_encodable (ops : TracksV2.FOps) (s : Schema2) (uuid : Bytes) (hist : List Call) :
    ∀ t ∈ (run ops s (Lib2.empty s uuid) hist).tdb.rows, LabelsFit t.row := by
  rw [tdb_run]
  exact run_rows (P := LabelsFit)
    ⟨fun hr ha => ⟨(TracksV2.applySetter_keeps ops _ _ _ ha).2.1 hr.1, (TracksV2.applySetter_keeps ops _ _ _ ha).2.2 hr.2⟩,
      fun hw => (TracksV2.writeStore_keeps ops _ _ _ hw).2⟩
    (toT s) (TracksV2.inv_empty uuid) (fun t ht => nomatch ht) _

/-! ### non-vacuity: the row the library writes for a snapshot with a hot cue and a loop has `BlobShape` -/

def exRow : Row :=
  match TracksV2.writeStore ⟨fun _ => 0, fun _ => 0, fun _ _ => 0⟩ .s2_18_0
      { TracksV2.Snap.empty with relativePath := some [97, 46, 98], hotCues := [some ⟨[99], 0, ⟨1, 2, 3, 4⟩⟩],
                                 loops := [none, some ⟨[108], 0, 0x4000000000000000, ⟨1, 2, 3, 4⟩⟩] } with
  | .ok r => r
  | _ => default

example : BlobShape exRow :=
  ⟨⟨by decide +kernel, by decide +kernel⟩, by unfold Beat.Valid maxCount; decide +kernel,
   by unfold Ovw.Valid maxCount; decide +kernel, by unfold maxCount; decide +kernel, by unfold maxCount; decide +kernel,
   by unfold maxCount; decide +kernel⟩
example : exRow.cues.1.cues.length = 8 ∧ exRow.loops.1.length = 8 ∧ exRow.path = [97, 46, 98] := by decide +kernel

end EngineModel.Properties.C11Lib2
