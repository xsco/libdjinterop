/-
C15, schema 2.x tracks — "every public operation invoked with any argument
values on any state reachable through the API either completes or throws an
exception derived from std::exception; it never invokes undefined behaviour".

Model: `Api.C15TracksV2.step` = one dispatcher over `Db.create` / `Db.update` /
`Db.snapshot` / `Db.set` and the per-column getters of `EngineModel/TracksV2`
(every getter and setter incl. the per-slot accessors at ANY `int` index,
create / update with ANY snapshot) plus `remove` / `is_valid` / handle copy /
`id()`.  The `ub` outcomes this model can produce at all: `oob_index`
(`quick_cues[index]`, `loops[index]`, the waveform resampling loop) and
`signed_overflow` (`length * 1000` in `duration()` / `snapshot()`).  Casts of
doubles (`bpm`, sample rate) are guarded in the code after the `fix:` commits
and modelled as the guards (`toI64 … = none` → absent / `invalid_track_snapshot`).

`ops : FOps` (double arithmetic whose results never reach a snapshot) is
arbitrary: nothing is assumed of it.  `dbOk` = "every stored `length` scales
back to milliseconds inside int64"; it holds of the empty table and is kept by
every operation, hence on every reachable state.
-/
import Proofs.NoUbTracksV2
import Proofs.NoUbGuardsTracksV2
import Proofs.NoUbStaleTracksV2

namespace EngineModel.Properties.C15TracksV2
open EngineModel EngineModel.TracksV2 EngineModel.Api.C15TracksV2 EngineModel.Api.GuardedTracksV2

/-- No operation, with any arguments, has undefined behaviour on a table whose rows satisfy the invariant. -/
theorem v2t_C15_no_ub (ops : FOps) (s : Schema) (db : Db) (hd : dbOk db = true) (op : Op) (u : Ub) :
    (step ops s db op).2 ≠ .ub u :=
  step_defined ops s db hd op u

/-- Every operation keeps the invariant (whether it returns or throws). -/
theorem v2t_C15_invariant (ops : FOps) (s : Schema) (db : Db) (hd : dbOk db = true) (op : Op) :
    dbOk (step ops s db op).1 = true :=
  step_dbOk ops s db hd op

theorem v2t_C15_empty : dbOk Db.empty = true := rfl

/-- **Reachable states**: along any script of operations with any arguments, started on the empty
library of any 2.x version, no call has undefined behaviour. -/
theorem v2t_C15_reachable_no_ub (ops : FOps) (s : Schema) (l : List Op) :
    ∀ r ∈ outcomes ops s Db.empty l, ∀ u, r ≠ .ub u :=
  fun r hr u => outcomes_defined ops s l Db.empty rfl r hr u

/-- Every setter, with any value and any slot index, on ANY row (no invariant): a new row or an exception. -/
theorem v2t_C15_setter_any_row (ops : FOps) (σ : Setter) (r : Row) (u : Ub) : applySetter ops σ r ≠ .ub u :=
  applySetter_defined ops σ r u

/-- The per-slot getters at any `int` index on ANY row. -/
theorem v2t_C15_slot_any_index (r : Row) (i : UInt32) (u : Ub) :
    getHotCueAt r i ≠ .ub u ∧ getLoopAt r i ≠ .ub u :=
  ⟨getHotCueAt_defined r i u, getLoopAt_defined r i u⟩

/-- create_track / update with any snapshot (over-long lists and labels, absent optionals, a waveform
without sample count / rate, doubles of any bit pattern): a stored row or an exception. -/
theorem v2t_C15_write_any_snapshot (ops : FOps) (s : Schema) (x : Snap) (u : Ub) : writeStore ops s x ≠ .ub u :=
  writeStore_defined ops s x u

/-- **Stale handles, one step** (any table): right after `remove_track` the handle reports
`is_valid() = false`; `id()`, copying, assigning and destroying it succeed (they touch no library state:
a handle is its id — no model content; AddressSanitizer watches them in the tie); getters and setters throw,
`snapshot()` throws `track_deleted`, removing it again throws, `update` never has undefined behaviour. -/
theorem v2t_C15_stale_handle_one_step (ops : FOps) (s : Schema) (db : Db) (id : Nat) :
    let db' := (step ops s db (.remove id)).1
    (step ops s db' (.isValid id)).2 = .ok (.bool false) ∧
    (step ops s db' (.handleId id)).2 = .ok (.id id) ∧ (step ops s db' (.handleCopy id)).2 = .ok (.id id) ∧
    (∀ g, (step ops s db' (.get id g)).2 = .throw .runtime_error) ∧
    (∀ σ, (step ops s db' (.set id σ)).2 = .throw .runtime_error) ∧
    (step ops s db' (.snapshot id)).2 = .throw (.dj "track_deleted") ∧
    (step ops s db' (.remove id)).2 = .throw .invalid_argument ∧
    (∀ x u, (step ops s db' (.update id x)).2 ≠ .ub u) := by
  have hg : (step ops s db (.remove id)).1.get id = none := by
    simp only [step, lift_fst]; exact get_after_remove db id
  exact stale_calls ops s _ id hg

/-- **Stale handles, along every later history**: once `remove_track` of a stored track has succeeded on a
table whose ids are below the AUTOINCREMENT counter (`IdInv`: true of the empty library, kept by every
operation), then after ANY further operations — creations included — the handle still reports
`is_valid() = false` and every call through it answers as in the one-step theorem: `Track.id` is
AUTOINCREMENT, the id is never issued again. -/
theorem v2t_C15_stale_handle (ops : FOps) (s : Schema) (db : Db) (hI : IdInv db) (id : Nat)
    (hv : isValid db id = true) (l : List Op) :
    let db' := run ops s (step ops s db (.remove id)).1 l
    (step ops s db' (.isValid id)).2 = .ok (.bool false) ∧
    (step ops s db' (.handleId id)).2 = .ok (.id id) ∧ (step ops s db' (.handleCopy id)).2 = .ok (.id id) ∧
    (∀ g, (step ops s db' (.get id g)).2 = .throw .runtime_error) ∧
    (∀ σ, (step ops s db' (.set id σ)).2 = .throw .runtime_error) ∧
    (step ops s db' (.snapshot id)).2 = .throw (.dj "track_deleted") ∧
    (step ops s db' (.remove id)).2 = .throw .invalid_argument ∧
    (∀ x u, (step ops s db' (.update id x)).2 ≠ .ub u) :=
  stale_calls ops s _ id (get_none_of_absent (tgone_run ops s l (tgone_after_remove ops s hI hv)).absent)

/-- … in particular after any script from the empty library of any 2.x version. -/
theorem v2t_C15_stale_handle_reachable (ops : FOps) (s : Schema) (l1 : List Op) (id : Nat)
    (hv : isValid (run ops s Db.empty l1) id = true) (l2 : List Op) :
    (step ops s (run ops s (step ops s (run ops s Db.empty l1) (.remove id)).1 l2) (.isValid id)).2 = .ok (.bool false) :=
  (v2t_C15_stale_handle ops s _ (idInv_run ops s l1 idInv_empty) id hv l2).1

/-- The invariant of `v2t_C15_no_ub` is needed (registered): a stored `length` that does not scale back to
milliseconds inside `int64_t` — not writable through the API — makes `duration()` and `snapshot()` overflow. -/
theorem v2t_C15_duration_overflow_counterexample :
    readDuration 9223372036854775807 = .ub .signed_overflow ∧
    (∀ r : Row, r.length = 9223372036854775807 → rowOk r = false) := by
  refine ⟨by decide +kernel, ?_⟩
  intro r hr
  unfold rowOk
  rw [hr]
  decide +kernel

def exOps : FOps := ⟨fun _ => 0, fun _ => 0, fun _ _ => 0⟩

def exSnap : Snap :=
  { Snap.empty with
    relativePath := some [97, 46, 109, 112, 51], title := some [65],
    duration := some 9223372036854775807, lastPlayedAt := some 9223372036854775808,
    hotCues := [some ⟨[97], 0x40c3880000000000, ⟨255, 1, 2, 3⟩⟩],
    sampleCount := some 100000, sampleRate := some 0x40e5888000000000,
    waveform := [⟨1, 2, 3, 4, 5, 6⟩] }

/-- a table with one track whose stored length is extreme -/
def exDb : Db := (step exOps .s2_21_2 Db.empty (.create exSnap)).1

/-! ### the guards, taken from the source

`GuardedTracksV2.stepG` is the dispatcher with every `v[index]`, `*optional`, double→int64 conversion and
division of track_impl.cpp / convert_*.hpp / track_utils.hpp as a possible `ub` behind the guard the C++
source has — the guard conditions (`Gen.C15Guards`) and the extents arithmetic (`Gen.TrackUtils`) are
regenerated from the source on every run, so these theorems are re-checked against the code as it is. -/

/-- **The guarded dispatcher is the dispatcher, and never `ub`**: with the guards of the source no site of
the 2.x track call paths is reached outside its domain — for any arguments, on any table (equality), and
the outcome is a value or an exception on a table that satisfies the invariant. -/
theorem v2t_C15_guarded_step (ops : FOps) (s : Schema) (db : Db) (op : Op) :
    stepG ops s db op = step ops s db op ∧ (dbOk db = true → ∀ u, (stepG ops s db op).2 ≠ .ub u) :=
  ⟨stepG_eq ops s db op, fun hd u => stepG_defined ops s db hd op u⟩

/-- … along any script from the empty library of any 2.x version. -/
theorem v2t_C15_guarded_reachable_no_ub (ops : FOps) (s : Schema) (l : List Op) :
    ∀ r ∈ outcomesG ops s Db.empty l, ∀ u, r ≠ .ub u := by
  rw [outcomesG_eq]
  exact v2t_C15_reachable_no_ub ops s l

/-- The sites themselves, for ANY arguments and ANY stored row: the per-slot accessors at any `int` index
(range test, then `v[index]`), `convert::write::waveform` (optional dereferences, `static_cast<int64_t>`,
the extents division, the resampling index) and `convert::write::bpm` (the cast). -/
theorem v2t_C15_sites (ops : FOps) (r : Row) (i : UInt32) (σ : Setter) (x : Snap) :
    getHotCueAtG Guards.source r i = getHotCueAt r i ∧ getLoopAtG Guards.source r i = getLoopAt r i ∧
    setSiteG Guards.source r σ = .ok () ∧ snapSiteG Guards.source ops x = .ok () :=
  ⟨getHotCueAtG_eq r i, getLoopAtG_eq r i, setSiteG_ok r σ, snapSiteG_ok ops x⟩

/-- **The whole public alphabet** of `database` / `track` over this model — the operations above plus
`database::tracks`, `track_by_id`, `tracks_by_relative_path` (`*id_maybe` behind its regenerated guard) and
the four calls without model content (`uuid`, `version_name`, `directory`, `verify`: outcome `ok`, exercised
by the tie only) — along any script from the empty library of any 2.x version: never `ub`. -/
theorem v2t_C15_all_calls_no_ub (ops : FOps) (s : Schema) (l : List Call) :
    ∀ r ∈ callOutcomes ops s Db.empty l, ∀ u, r ≠ .ub u :=
  callOutcomes_defined ops s l Db.empty rfl

/-- Each guard is needed — what a regression of the C++ does to the model: with the slot test weakened
to `index > size` (the defect repaired by `fix:` dd4c9ca) index 8 reads past the eight slots; without the
`!sample_count || !sample_rate` test a waveform without a rate dereferences an empty optional; without the
range test on the rate an infinite rate is cast; with the `bpm` range test dropped a huge BPM is cast. -/
theorem v2t_C15_guard_dropped_counterexample :
    let weak : Int → Nat → Bool := fun index size => decide (index < 0) || decide (index % 4294967296 > (size : Int))
    (stepGW { Guards.source with hotCueAt := weak } exOps .s2_21_2 exDb (.get 1 (.hotCueAt 8))).2 = .ub .oob_index ∧
    (stepGW { Guards.source with setLoopAt := weak } exOps .s2_21_2 exDb (.set 1 (.loopAt 8 none))).2 = .ub .oob_index ∧
    (stepGW { Guards.source with waveAbsent := fun _ _ => false } exOps .s2_21_2 exDb
      (.update 1 { exSnap with sampleRate := none })).2 = .ub .empty_optional ∧
    (stepGW { Guards.source with waveRange := fun _ => false } exOps .s2_21_2 exDb
      (.update 1 { exSnap with sampleRate := some 0x7ff0000000000000 })).2 = .ub .float_cast_range ∧
    (stepGW { Guards.source with bpmInRange := fun b _ _ => b } exOps .s2_21_2 exDb
      (.update 1 { exSnap with bpm := some 0x7fe0000000000000 })).2 = .ub .float_cast_range ∧
    -- track_utils.hpp: `qn == 0` replaced by `!(sample_rate > 0)`: a rate of 100 Hz divides by zero
    (stepGW { Guards.source with utilOvwZero := fun n _ r => n == 0 || !(F64.lt F64.zero r) } exOps .s2_21_2 exDb
      (.update 1 { exSnap with sampleRate := some 0x4059000000000000 })).2 = .ub .div_zero := by
  decide +kernel

/-! ### non-vacuity -/

/-- The facts below about `exDb`, evaluated together: each needs the table, and building it (the
`create_track` of `exSnap`, with its 1024-entry overview waveform) is most of the evaluation. -/
theorem exDb_facts :
    (exDb.rows.length = 1) ∧
    (dbOk exDb = true) ∧
    (void (step exOps .s2_21_2 exDb (.get 1 (.hotCueAt 8))).2 = .throw .out_of_range) ∧
    (void (step exOps .s2_21_2 exDb (.get 1 (.loopAt 4294967295))).2 = .throw .out_of_range) ∧
    (void (step exOps .s2_21_2 exDb (.set 1 (.hotCueAt 8 none))).2 = .throw .out_of_range) ∧
    (void (step exOps .s2_21_2 exDb (.set 1 (.loopAt 2147483648 none))).2 = .throw .out_of_range) ∧
    (void (step exOps .s2_21_2 exDb (.get 1 (.hotCueAt 7))).2 = .ok ()) ∧
    (void (step exOps .s2_21_2 exDb (.set 1 (.hotCues (List.replicate 9 none)))).2 = .throw (.dj "hot_cues_overflow")) ∧
    (void (step exOps .s2_21_2 exDb (.update 1 { exSnap with sampleRate := none })).2 = .throw (.dj "invalid_track_snapshot")) ∧
    (void (step exOps .s2_21_2 exDb (.set 1 (.loopAt 0 (some ⟨List.replicate 300 65, 0, 0, ⟨0, 0, 0, 0⟩⟩)))).2 = .throw .invalid_argument) ∧
    (void (step exOps .s2_21_2 exDb (.get 1 .duration)).2 = .ok ()) ∧
    (void (step exOps .s2_21_2 (step exOps .s2_21_2 exDb (.remove 1)).1 (.isValid 1)).2 = .ok ()) := by
  decide +kernel

example : exDb.rows.length = 1 := exDb_facts.1
example : dbOk exDb = true := exDb_facts.2.1
/-- index 8 (= the number of slots), −1, INT_MAX, INT_MIN: an exception, not an out-of-bounds access -/
example : void (step exOps .s2_21_2 exDb (.get 1 (.hotCueAt 8))).2 = .throw .out_of_range := exDb_facts.2.2.1
example : void (step exOps .s2_21_2 exDb (.get 1 (.loopAt 4294967295))).2 = .throw .out_of_range := exDb_facts.2.2.2.1
example : void (step exOps .s2_21_2 exDb (.set 1 (.hotCueAt 8 none))).2 = .throw .out_of_range := exDb_facts.2.2.2.2.1
example : void (step exOps .s2_21_2 exDb (.set 1 (.loopAt 2147483648 none))).2 = .throw .out_of_range := exDb_facts.2.2.2.2.2.1
example : void (step exOps .s2_21_2 exDb (.get 1 (.hotCueAt 7))).2 = .ok () := exDb_facts.2.2.2.2.2.2.1
/-- nine cues, a waveform without a sample rate, a 300-byte label: exceptions -/
example : void (step exOps .s2_21_2 exDb (.set 1 (.hotCues (List.replicate 9 none)))).2 =
    .throw (.dj "hot_cues_overflow") := exDb_facts.2.2.2.2.2.2.2.1
example : void (step exOps .s2_21_2 exDb (.update 1 { exSnap with sampleRate := none })).2 =
    .throw (.dj "invalid_track_snapshot") := exDb_facts.2.2.2.2.2.2.2.2.1
example : void (step exOps .s2_21_2 exDb
    (.set 1 (.loopAt 0 (some ⟨List.replicate 300 65, 0, 0, ⟨0, 0, 0, 0⟩⟩)))).2 = .throw .invalid_argument := exDb_facts.2.2.2.2.2.2.2.2.2.1
/-- the extreme duration reads back without overflow -/
example : void (step exOps .s2_21_2 exDb (.get 1 .duration)).2 = .ok () := exDb_facts.2.2.2.2.2.2.2.2.2.2.1
/-- a row that violates the invariant does overflow: the hypothesis `dbOk` is needed -/
example : readDuration 9223372036854775807 = .ub .signed_overflow := v2t_C15_duration_overflow_counterexample.1
/-- removing and then using the handle -/
example : void (step exOps .s2_21_2 (step exOps .s2_21_2 exDb (.remove 1)).1 (.isValid 1)).2 = .ok () := exDb_facts.2.2.2.2.2.2.2.2.2.2.2

end EngineModel.Properties.C15TracksV2
