/-
C01 / stale handles on the WHOLE schema-2.x library.

"A snapshot is never silently corrupted: it either survives the round trip or the write is rejected with an
exception" — for a write through the handle of a track that has been REMOVED the second alternative must hold.
Before `fix:` 8862536 `track::update` through such a handle returned normally and dropped the snapshot (reproduced
on all seven versions).  Here: once `remove_track` went through, along EVERY later history of the composite — any
interleaving of track, crate and membership calls, creations included (2.x ids are AUTOINCREMENT: never re-issued) — every write
through the stale handle throws and writes nothing, every read throws or says "invalid", no crate lists the track.
-/
import Proofs.Lib2Stale
import Proofs.CratesV2MembersQueries

namespace EngineModel.Properties.C01Lib2
open EngineModel EngineModel.Db.Chain EngineModel.TracksV2 EngineModel.Lib.V2
open EngineModel.Table (Schema2)

/-- **Writes through a stale track handle are rejected, reads do not answer, along every later history.**
`L`: any library satisfying the invariant (e.g. any reachable one), `t` a track with a row; after
`database::remove_track(t)` and ANY admissible later history: -/
theorem C01Lib2_stale_track_handle (ops : FOps) (s : Schema2) (L : Lib2) (h : LibCore s L) (t : Nat)
    (hf : (L.tdb.find t).isSome = true) (later : List Call) (ha : later.all Call.admissible = true) :
    let L' := run ops s (step ops s L (.removeTrack t)).1 later
    (∀ x, ∃ e, step ops s L' (.trackUpdate t x) = (L', .throw e)) ∧
    (∀ σ, step ops s L' (.trackSet t σ) = (L', .throw .runtime_error)) ∧
    step ops s L' (.removeTrack t) = (L', .throw .invalid_argument) ∧
    (∀ c, ∃ e, step ops s L' (.crateAddTrack c (t : Int)) = (L', .throw e)) ∧
    (step ops s L' (.trackSnapshot t)).2 = .throw (.dj "track_deleted") ∧
    (∀ g, (step ops s L' (.trackGet t g)).2 = .throw .runtime_error) ∧
    (step ops s L' (.trackIsValid t)).2 = .ok (.bool false) ∧
    (step ops s L' (.trackById (t : Int))).2 = .ok (.oid none) ∧
    (∀ c l, (step ops s L' (.crateTracks c)).2 = .ok (.ids l) → (t : Int) ∉ l) := by
  intro L'
  have h' : LibCore s L' := libCore_run ops s (libCore_step ops s h _ rfl) later ha
  have hg : L'.tdb.find t = none := (gone_after_remove ops s h t hf later).1
  obtain ⟨a, b, c, d, e, f, g, i⟩ := stale_track_calls ops s L' t hg
  refine ⟨f, e, g, i, c, d, a, b, fun cr l hl hm => ?_⟩
  -- a crate lists rows of the Track table only
  obtain ⟨l', q1, _, _, q4⟩ := tracks_exactly_live_members ops s h' cr
  rw [q1] at hl
  cases hl
  obtain ⟨x, hx, ex, _⟩ := q4 _ hm
  exact absurd (by omega) (find_none hg x hx)

/-- the id `create_track` returns is the next AUTOINCREMENT value, above every id ever issued -/
theorem created_above {ops : FOps} {s : Schema2} {L : Lib2} (hs : SInv L.tdb) {t : Nat} (hg : Gone L.tdb t) (x : Snap)
    (i : Int) (hc : (step ops s L (.createTrack x)).2 = .ok (.id i)) : (t : Int) < i := by
  have hc' : (trackCall ops s (.create x) L).2.bind (fun a => .ok (Out.id a)) = .ok (.id i) :=
    m2_bind_pure_snd _ _ L ▸ hc
  rcases trackCall_cases (s := s) hs ops (.create x) with ⟨r, hr, e⟩ | ⟨v, ht, e⟩
  · rw [e] at hc'; cases r <;> first | exact absurd rfl (hr _) | cases hc'
  · rw [e] at hc'
    cases hc'
    have := (ht.live fun _ e => by cases e).2.2.2 x rfl
    have := hg.2
    omega

/-- **Ids are never re-issued**: a `create_track` at any later point returns an id above the removed one (so the
stale handle can never come to denote another track — unlike 1.x, known finding of C15). -/
theorem C01Lib2_removed_id_not_reissued (ops : FOps) (s : Schema2) (L : Lib2) (h : LibCore s L) (t : Nat)
    (hf : (L.tdb.find t).isSome = true) (later : List Call) (ha : later.all Call.admissible = true) (x : Snap) (i : Int)
    (hc : (step ops s (run ops s (step ops s L (.removeTrack t)).1 later) (.createTrack x)).2 = .ok (.id i)) :
    (t : Int) < i :=
  created_above (libCore_run ops s (libCore_step ops s h (.removeTrack t) rfl) later ha).tr.s
    (gone_after_remove ops s h t hf later) x i hc

/-! ### non-vacuity: the witness of the repaired defect, and a later creation -/

def exOps : FOps := ⟨fun _ => 0, fun _ => 0, fun _ _ => 0⟩
def exSnap (n : UInt8) : Snap := { Snap.empty with relativePath := some [97, 47, n, 46, 109, 112, 51], title := some [n] }

/-- create_track("a/1.mp3") → 1; remove_track; update({"a/2.mp3"}) → track_deleted (before 8862536: ok);
create_track → 2 -/
example : let L := run exOps .s2_21_2 (Lib2.empty .s2_21_2 [85]) [.createTrack (exSnap 49), .removeTrack 1]
    (step exOps .s2_21_2 L (.trackUpdate 1 (exSnap 50))) = (L, .throw (.dj "track_deleted")) ∧
    (step exOps .s2_21_2 L (.createTrack (exSnap 50))).2 = .ok (.id 2) := by decide +kernel
example : LibCore .s2_21_2 (Lib2.empty .s2_21_2 [85]) := (libInv_empty _ _).toLibCore

end EngineModel.Properties.C01Lib2
