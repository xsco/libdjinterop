/-
C02, in the shape of the property text.

(1) "Every blob the library writes is decoded to the same logical content by an independent
    implementation": `Impl.encodeX v = ok b → Spec.decodeX b = some (the content written)`.
(2) "Conversely every blob produced by that independent encoder is decoded by the library to the same
    content": `Spec.encodeX v = some b → Impl.decodeX b = ok (the content written)`.

"The content written" is the value itself for the 2.x kinds; for 1.x it is the value as the format reads
it (`normTrack`, `normCue`, `normLoop`, `opaq`, `normOptF`: an optional field holding zero is the absent
encoding, a cue/loop with offset −1.0 is the empty slot, the overview has no opacity channel — C03).
Both follow from the agreement theorems of Properties/C02.lean and the read-back theorems of
Properties/C03.lean; no hypothesis restricts the value beyond what makes the encoder accept it and the
C++ container sizes.  Framing: (3) the Model of `zlib_uncompress` reads what the Spec framing writes, and
whatever it accepts the Spec reading of the column accepts with the same payload; the Model's length
prefix is the Spec's big-endian 32-bit length.
-/
import Properties.C02
import Properties.C03
import Proofs.BlobLevel

namespace EngineModel.Properties.C02
open EngineModel EngineModel.Codec EngineModel.V2 EngineModel.Impl.V2 EngineModel.Properties.C03
open EngineModel.V1Proofs

theorem ofSpec_ok {α} {o : Option α} {a : α} (h : ofSpec o = .ok a) : o = some a :=
  ofOpt_ok_iff.mp (ofOpt_eq_ofSpec o ▸ h)

/-- The blob written is the one a read-back theorem of C03 speaks of. -/
theorem written_read_back {α} {enc : Res Bytes} {b : Bytes} {idec : Bytes → Res α} {x : α}
    (h : enc = .ok b) (hrb : ∃ b', enc = .ok b' ∧ idec b' = .ok x) : idec b = .ok x := by
  obtain ⟨b', h1, h2⟩ := hrb
  rw [h] at h1
  rwa [← Res.ok.inj h1] at h2

/-- From a read-back theorem of C03 and an agreement theorem of C02 to "written, hence decoded by the
Spec": where the Model decoder returns, the Spec's does. -/
theorem written_decodes {α} {enc : Res Bytes} {b : Bytes} {idec : Bytes → Res α} {sdec : Bytes → Option α} {x : α}
    (h : enc = .ok b) (hrb : ∃ b', enc = .ok b' ∧ idec b' = .ok x) (hag : idec b = ofSpec (sdec b)) :
    sdec b = some x :=
  ofSpec_ok (hag ▸ written_read_back h hrb)

/-- An encoder that returned had a value of its domain: outside it, it throws (`…_reject` of C03). -/
theorem accepted {P : Prop} [Decidable P] {r : Res Bytes} {b : Bytes} (h : r = .ok b)
    (hrej : ¬ P → ∃ e, r = .throw e) : P :=
  Decidable.byContradiction fun hn => by
    obtain ⟨e, he⟩ := hrej hn
    rw [he] at h
    cases h

/-- (1) what the library writes, the independent decoder reads back (value and trailing bytes). -/
theorem C02_v2_written_decodes :
    (∀ v extra b, encodeTrack v extra = .ok b → track.dec b = some (v, extra)) ∧
    (∀ v extra b, Beat.Valid v → encodeBeat v extra = .ok b → beat.dec b = some (v, extra)) ∧
    (∀ v extra b, Ovw.Valid v → 27 + v.points.length + extra.length < maxCount →
      encodeOvw v extra = .ok b → ovw.dec b = some (v, extra)) ∧
    (∀ v extra b, v.cues.length < maxCount → encodeCues v extra = .ok b → cues.dec b = some (v, extra)) ∧
    (∀ (v : Loops) extra b, v.length < maxCount → encodeLoops v extra = .ok b → loops.dec b = some (v, extra)) := by
  refine ⟨?_, ?_, ?_, ?_, ?_⟩
  · intro v extra b h
    exact written_decodes h (C03_v2_track_roundtrip v extra) (C02_v2_track_decode_agrees b)
  · intro v extra b hv h
    exact written_decodes h (C03_v2_beat_roundtrip v extra hv) (C02_v2_beat_decode_agrees b)
  · intro v extra b hv hlen h
    have hb : b.length < maxCount := by
      rw [(C02_v2_ovw_encode_agrees v hv extra b).mp h, List.length_append, ovw_enc_length, hv.2.2]; omega
    exact written_decodes h (C03_v2_ovw_roundtrip v extra hv hlen) (C02_v2_ovw_decode_agrees b hb)
  · intro v extra b hrep h
    exact written_decodes h (C03_v2_cues_roundtrip v extra hrep ((C02_v2_cues_encode_agrees v extra b).mp h).1)
      (C02_v2_cues_decode_agrees b)
  · intro v extra b hrep h
    exact written_decodes h (C03_v2_loops_roundtrip v extra hrep ((C02_v2_loops_encode_agrees v extra b).mp h).1)
      (C02_v2_loops_decode_agrees b)

/-- (2) what the independent encoder writes (`X.enc v ++ extra`), the library reads back. -/
theorem C02_v2_spec_written_decoded :
    (∀ v extra, decodeTrack (track.enc v ++ extra) = .ok (v, extra)) ∧
    (∀ v extra, Beat.Valid v → decodeBeat (beat.enc v ++ extra) = .ok (v, extra)) ∧
    (∀ v extra, Ovw.Valid v → 27 + v.points.length + extra.length < maxCount →
      decodeOvw (ovw.enc v ++ extra) = .ok (v, extra)) ∧
    (∀ v extra, v.cues.length < maxCount → (∀ q ∈ v.cues, q.label.length ≤ 255) →
      decodeCues (cues.enc v ++ extra) = .ok (v, extra)) ∧
    (∀ (v : Loops) extra, v.length < maxCount → (∀ l ∈ v, l.label.length ≤ 255) →
      decodeLoops (loops.enc v ++ extra) = .ok (v, extra)) := by
  refine ⟨?_, ?_, ?_, ?_, ?_⟩
  · intro v extra
    exact written_read_back (encodeTrack_ok v extra) (C03_v2_track_roundtrip v extra)
  · intro v extra hv
    exact written_read_back (encodeBeat_ok v extra) (C03_v2_beat_roundtrip v extra hv)
  · intro v extra hv hlen
    exact written_read_back (encodeOvw_ok v hv extra) (C03_v2_ovw_roundtrip v extra hv hlen)
  · intro v extra hrep hl
    exact written_read_back (encodeCues_ok v hl extra) (C03_v2_cues_roundtrip v extra hrep hl)
  · intro v extra hrep hl
    exact written_read_back (encodeLoops_ok v hl extra) (C03_v2_loops_roundtrip v extra hrep hl)

/-- (1) what the library writes, the independent decoder reads back (as the format reads it). -/
theorem C02_v1_written_decodes :
    (∀ v b, Impl.V1.encodeTrack v = .ok b → V1.decodeTrack b = some (normTrack v)) ∧
    (∀ v b, Impl.V1.encodeBeat v = .ok b →
      V1.decodeBeat b = some ⟨normOptF v.sampleRate, normOptF v.sampleCount, v.dflt, v.adj⟩) ∧
    (∀ v b, Impl.V1.encodeCues v = .ok b → V1.decodeCues b = some ⟨v.cues.map normCue, v.adjMain, v.defMain⟩) ∧
    (∀ (v : Impl.V1.Loops) b, v.length < maxCount → Impl.V1.encodeLoops v = .ok b →
      V1.decodeLoops b = some (v.map normLoop)) ∧
    (∀ v b, 27 + 3 * v.entries.length < maxCount → Impl.V1.encodeOvw v = .ok b →
      V1.decodeOvw b = some ⟨v.spe, v.entries.map opaq⟩) ∧
    (∀ v b, 30 + 6 * v.entries.length < maxCount → Impl.V1.encodeHires v = .ok b → V1.decodeHires b = some v) := by
  refine ⟨?_, ?_, ?_, ?_, ?_, ?_⟩
  · intro v b h
    exact written_decodes h (C03_v1_track_readback v) (C02_v1_track_decode_agrees b)
  · intro v b h
    -- no agreement theorem for every byte string here (the lenient family): the Spec decoder on the bytes
    -- an accepted value is written as
    have he : encodableBeat1 v := accepted h fun hn => ⟨_, C03_v1_beat_reject v hn⟩
    rw [encodeBeat_ok v he.1 he.2] at h
    cases h
    exact spec_beat_roundtrip v he.1 he.2
  · intro v b h
    exact written_decodes h (C03_v1_cues_readback v (accepted h (C03_v1_cues_reject v))) (C02_v1_cues_decode_agrees b)
  · intro v b hrep h
    exact written_decodes h (C03_v1_loops_readback v hrep (accepted h (C03_v1_loops_reject v)))
      (C02_v1_loops_decode_agrees b)
  · intro v b hrep h
    have hb : b.length = 27 + 3 * v.entries.length := Impl.V2.writeInto_length h
    exact written_decodes h (C03_v1_ovw_readback v hrep) (C02_v1_ovw_decode_agrees b (by omega))
  · intro v b hrep h
    have hb : b.length = 30 + 6 * v.entries.length := Impl.V2.writeInto_length h
    exact written_decodes h (C03_v1_hires_roundtrip v hrep) (C02_v1_hires_decode_agrees b (by omega))

/-- (2) what the independent encoder writes, the library reads back (as the format reads it) — in
particular nothing the independent ENCODER produces falls into the `missingSecondGrid` family of
`C02_v1_beat_decode_agrees_counterexample`. -/
theorem C02_v1_spec_written_decoded :
    (∀ v b, V1.encodeTrack v = some b → Impl.V1.decodeTrack b = .ok (normTrack v)) ∧
    (∀ v b, V1.encodeBeat v = some b →
      Impl.V1.decodeBeat b = .ok ⟨normOptF v.sampleRate, normOptF v.sampleCount, v.dflt, v.adj⟩) ∧
    (∀ v b, V1.encodeCues v = some b → Impl.V1.decodeCues b = .ok ⟨v.cues.map normCue, v.adjMain, v.defMain⟩) ∧
    (∀ (v : Impl.V1.Loops) b, v.length < maxCount → V1.encodeLoops v = some b →
      Impl.V1.decodeLoops b = .ok (v.map normLoop)) ∧
    (∀ v b, 27 + 3 * v.entries.length < maxCount → V1.encodeOvw v = some b →
      Impl.V1.decodeOvw b = .ok ⟨v.spe, v.entries.map opaq⟩) ∧
    (∀ v b, 30 + 6 * v.entries.length < maxCount → V1.encodeHires v = some b → Impl.V1.decodeHires b = .ok v) := by
  refine ⟨?_, ?_, ?_, ?_, ?_, ?_⟩
  · intro v b h
    exact written_read_back ((C02_v1_track_encode_agrees v b).mpr h) (C03_v1_track_readback v)
  · intro v b h
    have hi := (C02_v1_beat_encode_agrees v b).mpr h
    exact written_read_back hi (C03_v1_beat_readback v (accepted hi fun hn => ⟨_, C03_v1_beat_reject v hn⟩))
  · intro v b h
    have hi := (C02_v1_cues_encode_agrees v b).mpr h
    exact written_read_back hi (C03_v1_cues_readback v (accepted hi (C03_v1_cues_reject v)))
  · intro v b hrep h
    have hi := (C02_v1_loops_encode_agrees v b).mpr h
    exact written_read_back hi (C03_v1_loops_readback v hrep (accepted hi (C03_v1_loops_reject v)))
  · intro v b hrep h
    exact written_read_back ((C02_v1_ovw_encode_agrees v b).mpr h) (C03_v1_ovw_readback v hrep)
  · intro v b hrep h
    exact written_read_back ((C02_v1_hires_encode_agrees v b).mpr h) (C03_v1_hires_roundtrip v hrep)

/-- The family in which the library is more lenient than the Spec (`C02_v1_beat_decode_agrees_counterexample`:
a valid first grid followed by fewer than 8 bytes is read as "no grids") contains NO payload either encoder
produces: not the library's own (`Impl.V1.encodeBeat`), not the independent one (`V1.encodeBeat`).  Both
clauses of the property quantify over written blobs only, so the leniency is outside the property. -/
theorem C02_v1_beat_encoders_outside_lenient_family (v : Impl.V1.Beat) (b : Bytes)
    (h : V1.encodeBeat v = some b ∨ Impl.V1.encodeBeat v = .ok b) : missingSecondGrid b = false := by
  have hs : V1.encodeBeat v = some b := by
    rcases h with h | h
    · exact h
    · exact (C02_v1_beat_encode_agrees v b).mp h
  have hd' : V1.decodeBeat b = some ⟨normOptF v.sampleRate, normOptF v.sampleCount, v.dflt, v.adj⟩ :=
    C02_v1_written_decodes.2.1 v b ((C02_v1_beat_encode_agrees v b).mpr hs)
  cases hm : missingSecondGrid b with
  | false => rfl
  | true =>
    rw [(decodeBeat_lenient b hm).1] at hd'
    cases hd'

/-- What the library does INSIDE the lenient family: the Spec rejects, the library either returns the
header fields with both grids empty or (non-zero trailing bytes) throws `invalid_argument` — nothing else. -/
theorem C02_v1_beat_lenient_family_behaviour (bs : Bytes) (hm : missingSecondGrid bs = true) :
    V1.decodeBeat bs = none ∧
    ((∃ sr sc, Impl.V1.decodeBeat bs = .ok ⟨sr, sc, [], []⟩) ∨
      Impl.V1.decodeBeat bs = .throw .invalid_argument) :=
  decodeBeat_lenient bs hm

section Framing
open EngineModel.Impl.Zlib

/-- The 4-byte prefix `zlib_compress` writes is the Spec's big-endian 32-bit length. -/
theorem C02_lenPrefix_be32 (n : Nat) : lenPrefix n = Zlib.be32 n := lenPrefix_eq_be32 n

/-- The Model of `zlib_uncompress` reads what the Spec framing (`be32 length ++ stored-block zlib stream`)
writes: payloads below 2 GiB (the prefix is read as `int32_t`). -/
theorem C02_unz_frame (x : Bytes) (h : x.length < 2147483648) : unz (Zlib.frame x) = .ok x := unz_frame x h

/-- Whatever the Model of `zlib_uncompress` returns from a stored column, the independent reading of the
column (`unframe`: empty / zero length = no data, otherwise the zlib stream after the prefix) returns too. -/
theorem C02_unz_ok_unframe (b p : Bytes) (h : unz b = .ok p) : Zlib.unframe b = some p := unz_ok_unframe b p h

/-- Loops are stored uncompressed: the blob-level Model of the two loops kinds is the payload codec itself. -/
theorem C02_loops_blob_raw :
    (∀ blob, Impl.Blob.fromBlobLoops2 blob = Impl.V2.decodeLoops blob) ∧
    (∀ v extra, Impl.Blob.toBlobLoops2 v extra = Impl.V2.encodeLoops v extra) ∧
    (∀ blob, Impl.Blob.fromBlobLoops1 blob = Impl.V1.decodeLoops blob) ∧
    (∀ v, Impl.Blob.toBlobLoops1 v = Impl.V1.encodeLoops v) :=
  ⟨fun _ => rfl, fun _ _ => rfl, fun _ => rfl, fun _ => rfl⟩

example : ([1, 2, 3] : Bytes).length < 2147483648 := by decide

end Framing

end EngineModel.Properties.C02
