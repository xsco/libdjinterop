/-
Property C15 (no public call has undefined behaviour or fails to terminate), part
"schema-2.x table API": `track_table`, `playlist_table`, `playlist_entity_table`
(`EngineModel/Table/{Track,Lists}.lean`, statements regenerated from the source).

  * `track_table`: no operation has a `ub` outcome on any state reachable through
    the API, whatever its arguments (the only `ub` source, `to_time_point` of a
    stored timestamp, is excluded by the column invariant of `TDb.Wf`).
  * `playlist_entity_table`: add_back / remove / clear / get never have a `ub`
    outcome; `get_for_list` has one exactly in the missing-tail situation
    (recorded finding C09 v2-entity-nonpositive-track-not-relinked).
  * `playlist_table`: the statement "every call terminates on every reachable
    state" is FALSE of the code — counterexample theorems below (a parent cycle
    is creatable through `update` and through `add`, after which the recursive
    views of the schema never finish).  Recorded finding
    C15 tableapi-playlist-parent-cycle-nontermination.
-/
import Properties.C18

namespace EngineModel.Properties.C15TableApi
open EngineModel EngineModel.Table EngineModel.Properties.C18

/-- **track_table, all arguments, all reachable states, all seven schemas.** -/
theorem C15_tableapi_track_no_ub (s : Schema2) :
    ∃ st, genStmts s = some st ∧
      ∀ (uuid : Val) (clock : Int), uuidTyped uuid = true → in64 (clock * 1000000000) = true →
      ∀ (ops : List TOp), (∀ op ∈ ops, wtOp op) → ∀ (u : Ub),
        let d := tRun s st { TDb.empty with uuid := uuid, clock := clock } ops
        (∀ r, (tAdd st d r).2 ≠ .ub u) ∧ (∀ r, (tUpdate s st d r).2 ≠ .ub u) ∧
        (∀ i, (tRemove st d i).2 ≠ .ub u) ∧ (∀ f i v, (tSetc s st d f i v).2 ≠ .ub u) ∧
        (∀ i, tGet st d i ≠ .ub u) ∧ (∀ f i, tGetc s st d f i ≠ .ub u) := by
  obtain ⟨st, h1, h2⟩ := C18_track_bindings_aligned s
  refine ⟨st, h1, ?_⟩
  intro uuid clock hu hclk ops hops u d
  exact C18_track_no_ub h2 (C18_track_histories h2 (TDb.empty_wf uuid clock hu hclk) ops hops) u

/-- An aligned entity SELECT reads any row without `ub`: its members are integers and a string. -/
theorem readRow_entity_no_ub {sel : List (RB ECol EField)} (h : alignedR eSpec (fun _ => true) sel = true)
    (raw : Raw ECol) : ∃ g, readRow raw sel = .ok g :=
  readRow_defined h fun f => by cases f <;> exact ⟨_, rfl⟩

/-- **playlist_entity_table.**  On every state and for all arguments: `add_back`,
`remove`, both `get`s have no `ub` outcome; `get_for_list` has one only when the
list has entities none of which is a tail. -/
theorem C15_tableapi_entity_no_ub {st : LStmts} (ha : alignedL st = true) (d : LDb) (u : Ub) :
    (∀ r dup, (eAddBack st d r dup).2 ≠ .ub u) ∧ (∀ l e, (eRemove st d l e).2 ≠ .ub u) ∧
    (∀ l t, eGet st d l t ≠ .ub u) ∧ (∀ l t w, eGet3 st d l t w ≠ .ub u) ∧
    (∀ l, eGetForList st d l = .ub u →
      (d.pe.filter (fun x => x .listId == .int l)) ≠ [] ∧
      ∃ rows, readRows st.eSelList (d.pe.filter (fun x => x .listId == .int l)) = .ok rows ∧ mapFind rows 0 = none) := by
  obtain ⟨_, hesel, hsel3, hsellist, _⟩ := alignedL_entity ha
  refine ⟨?_, ?_, ?_, ?_, ?_⟩
  · intro r dup
    unfold eAddBack
    split
    · simp
    · split
      · split
        · split <;> simp
        · cases he : evalParams r st.eIns with
          | throw e => simp
          | ub u' => exact absurd he (evalParams_no_ub u')
          | ok ps => simp only; split <;> simp
      · simp
  · intro l e
    unfold eRemove
    split
    -- no row matches: an exception or nothing, as `eRemoveChecks` says
    · split <;> simp
    · simp
  · intro l t
    unfold eGet
    cases lastByUuid (d.pe.filter (fun x => x .listId == .int l && x .trackId == .int t)) with
    | none => simp
    | some raw =>
      obtain ⟨g, hg⟩ := readRow_entity_no_ub hesel raw
      simp [hg]
  · intro l t w
    unfold eGet3
    cases lastByUuid (d.pe.filter (fun x => x .listId == .int l && x .trackId == .int t && x .databaseUuid == .text w)) with
    | none => simp
    | some raw =>
      obtain ⟨g, hg⟩ := readRow_entity_no_ub hsel3 raw
      simp [hg]
  · intro l h
    unfold eGetForList at h
    cases hr : readRows st.eSelList (d.pe.filter (fun x => x .listId == .int l)) with
    | throw e => rw [hr] at h; cases h
    | ub u' =>
      -- the per-row reads cannot be `ub`
      exfalso
      have : ∀ raws : List (Raw ECol), ∃ gs, readRows st.eSelList raws = .ok gs := by
        intro raws
        induction raws with
        | nil => exact ⟨[], rfl⟩
        | cons x xs ih =>
          obtain ⟨g, hg⟩ := readRow_entity_no_ub hsellist x
          obtain ⟨gs, hgs⟩ := ih
          exact ⟨g :: gs, by simp [readRows, hg, hgs]⟩
      obtain ⟨gs, hgs⟩ := this (d.pe.filter (fun x => x .listId == .int l))
      rw [hgs] at hr; cases hr
    | ok rows =>
      rw [hr] at h
      cases rows with
      | nil => cases h
      | cons r0 rest =>
        simp only at h
        cases hm : mapFind (r0 :: rest) 0 with
        | some tail => rw [hm] at h; cases h
        | none =>
          refine ⟨?_, r0 :: rest, rfl, hm⟩
          intro hnil
          rw [hnil] at hr
          simp [readRows] at hr

/-- **Counterexample (get_for_list without a tail).**  `add_back` of a track with
id 1 and of a track with id 0 to list 1, then `remove(1, 2)`: the delete trigger
does not fire for the non-positive track id, entity 1 keeps pointing at the
deleted entity 2, and `get_for_list(1)` dereferences `end()`. -/
theorem C15_tableapi_get_for_list_counterexample :
    let d1 := (eAddBack genLStmts LDb.empty (exEntity 1 1 [97] 0) false).1
    let d2 := (eAddBack genLStmts d1 (exEntity 1 0 [97] 0) false).1
    let d3 := (eRemove genLStmts d2 1 2)
    d3.2 = .ok () ∧
    (match eGetForList genLStmts d3.1 1 with
     | .ub .oob_read => true
     | _ => false) = true := by
  decide +kernel

/-- **Counterexample (parent cycle through `update`).**  Playlists A (id 1) and
B (id 2, child of A); `update` makes A a child of B — accepted; afterwards
`add` of any persisted playlist and `remove` of any playlist never terminate
(the recursive views PlaylistAllParent / PlaylistAllChildren run for the whole
table).  Replayed on the real library: corpus/C15/tableapi_parent_cycle_*.txt. -/
theorem C15_tableapi_parent_cycle_counterexample :
    let d1 := (pAdd genLStmts LDb.empty (exPlaylist [65] 0 0 0 false)).1
    let d2 := (pAdd genLStmts d1 (exPlaylist [66] 1 0 0 false)).1
    let upd := pUpdate genLStmts d2 (fun f => if f = .id then .int 1 else exPlaylist [65] 2 0 0 false f)
    upd.2 = .ok () ∧
    (pAdd genLStmts upd.1 (exPlaylist [67] 0 0 0 true)).2 = .ub .nontermination ∧
    (pRemove genLStmts upd.1 2).2 = .ub .nontermination := by
  decide +kernel

/-- **Counterexample (self-parent through `add`).**  On the empty table, `add` of a
persisted playlist whose `parent_list_id` is the id the row will receive (1)
never terminates: the insert trigger walks the parents of the new row. -/
theorem C15_tableapi_self_parent_counterexample :
    (pAdd genLStmts LDb.empty (exPlaylist [65] 1 0 0 true)).2 = .ub .nontermination := by
  decide +kernel

end EngineModel.Properties.C15TableApi
