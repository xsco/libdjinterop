/-
C16 — Observing a library never modifies it.   Whole-library part for schema 1.x.

In the composite model `EngineModel/Lib/V1.lean` the observers (getters, `snapshot()`, listings and lookups, `verify()`,
`uuid()`, `version_name()`, `directory()`, `is_valid()`, `containing_crates()`; 24 constructors of the one `Call`
alphabet) are stepped by the SAME function `step : … → Lib1 → Call → Lib1 × Res Out` as the mutators and return a state
like every other call.  That the state returned is the state given is proved here over the composite step (it is not a
consequence of the type: `step` has the type of a function that could change any table).  `reload` (closing and loading)
is an observer of the stored state too (C10Lib1).
-/
import Proofs.Lib1Proj

namespace EngineModel.Properties.C16Lib1
open EngineModel EngineModel.Lib.V1 EngineModel.Api
open EngineModel.TracksV1 (Snap Field)
open EngineModel.TracksV1.Fl (FOps)

/-- **Every observing call leaves the whole library unchanged** — every table of both files, for ANY state (reachable or
not, well-formed or not), any schema version, any argument (a removed handle, an id that never existed). -/
theorem C16_lib1_observer_unchanged (o : FOps) (s : VSchema) (L : Lib1) (c : Call) (hc : c.isObserver = true) :
    (step o s L c).1 = L := step_observer o s L c hc

/-- The raw dump of all tables is the same before and after an observing call. -/
theorem C16_lib1_observer_raw_unchanged (o : FOps) (s : VSchema) (L : Lib1) (c : Call) (hc : c.isObserver = true) :
    raw (step o s L c).1 = raw L := by rw [step_observer o s L c hc]

/-- **Repeated observation returns the same answers**: after any sequence of observers the state is the one before, so
each of them — applied again, at any later point of the sequence — answers as it did the first time. -/
theorem C16_lib1_repeat (o : FOps) (s : VSchema) (L : Lib1) (qs : List Call) (hq : ∀ q ∈ qs, q.isObserver = true) :
    run o s L qs = L ∧ observeAll o s (run o s L qs) qs = observeAll o s L qs := by
  have h1 : run o s L qs = L := (isRun o s).idle (step_observer o s) qs L hq
  exact ⟨h1, by rw [h1]⟩

/-- **Frame**: observers can be dropped from (or inserted into) any history without changing the state it reaches. -/
theorem C16_lib1_frame (o : FOps) (s : VSchema) (cs : List Call) (L : Lib1) :
    run o s L (cs.filter fun c => !c.isObserver) = run o s L cs :=
  (isRun o s).filter_idle (step_observer o s) cs L

/-- An observer's answer is a function of the state alone (`observe`): the outcome of the step is what `observe` computes
from the state before. -/
theorem C16_lib1_answer_from_state (o : FOps) (s : VSchema) (L : Lib1) (c : Call) (hc : c.isObserver = true) :
    ∃ r, observe o s L c = some r ∧ (step o s L c).2 = r := by
  -- the 14 mutators contradict `hc`; each of the 24 observers has its clause in `observe`, which `step` returns
  cases c <;> first | (cases hc; done) | exact ⟨_, rfl, rfl⟩

/-- The classification is not vacuous: `create_root_crate` is not classified as an observer, and it does change the dump
(on the empty 1.6.0 library the Crate table of the raw dump goes from no row to one). -/
theorem C16_lib1_mutator_changes (o : FOps) :
    Call.isObserver (.createRootCrate [97]) = false ∧
    (raw (step o .s1_6_0 (Lib1.empty .s1_6_0 [77] [80] []) (.createRootCrate [97])).1).cr.crate =
      [⟨1, [97], [97, 59]⟩] ∧
    (raw (Lib1.empty .s1_6_0 [77] [80] [])).cr.crate = [] := by
  refine ⟨rfl, ?_, rfl⟩
  show (CratesV1.step (toDetect .s1_6_0) CratesV1.Db.empty (.createRoot [97])).1.crate = _
  decide +kernel

/-- non-vacuity: 24 of the 38 constructors are observers — e.g. a getter through the handle of a track that was never
created, `snapshot()`, `verify()`, `containing_crates()` — and `observeAll` of them is what `C16_lib1_repeat` speaks about. -/
example : Call.isObserver (.get 7 .title) = true ∧ Call.isObserver (.snapshot 1) = true ∧ Call.isObserver .verify = true ∧
    Call.isObserver (.containingCrates 2) = true ∧ Call.isObserver (.trackById 0) = true ∧
    Call.isObserver (.set 1 .title none) = false ∧ Call.isObserver (.removeTrack 1) = false := by decide

end EngineModel.Properties.C16Lib1
