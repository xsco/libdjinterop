/-
C15, schema 1.x crates — "every public operation invoked with any argument
values (ids of nonexistent entities, crates from elsewhere in the tree, empty /
huge / odd names) on any state reachable through the API either completes or
throws; it never … fails to terminate.  Handles to removed tracks and crates
report is_valid() == false".

Model: `Api.CratesV1.step`: every crate / membership
operation of database and crate.  The ONE `ub` this model can produce is
`nontermination`: `update_path` (set_name, set_parent) recurses over children()
with no bound in the C++; the model gives it `|CrateParentList| + 1` levels and
answers `ub nontermination` when they are used up: never on a state satisfying
`FInv` (`v1c_C15_no_ub`), and it does happen on a cyclic parent list
(`v1c_C15_cyclic_table_counterexample`).  All other statements are single SQL statements with
callbacks: no index, no optional dereference, no arithmetic.  Handles are
values (`shared_ptr` to an impl holding the id): `id()`, copy, assignment and
destruction do not touch the database and have no model-level content; the
handle-validity queries (`crateIsValid`, `trackIsValid`) do.

Invariant: `FInv` (ids unique, parent list functional / total / live, hierarchy
= its transitive closure, irreflexive) from Proofs/CratesV1Forest.lean, plus
`SeqOk` (no Track id beyond the AUTOINCREMENT counter, ≥ 1.17.0) — together
`CInv`; it holds of the empty library and is kept by all ten operations, hence on
every reachable state (proved in Proofs/NoUbCratesV1.lean: `cinv_empty`, `step_cinv`).
-/
import Proofs.NoUbCratesV1
import Properties.C07V1
import EngineModel.Api.GuardedCratesV1
import Proofs.C15GuardValues

namespace EngineModel.Properties.C15CratesV1
open EngineModel EngineModel.Api.CratesV1 EngineModel.Api.CratesV1.C15 EngineModel.Pure.Detect
open EngineModel.Api.GuardedCratesV1

/-- No operation, with any arguments, has undefined behaviour (here: runs out of recursion depth)
on a state whose crate tables describe a forest. -/
theorem v1c_C15_no_ub (s : Schema) (db : Db) (h : FInv db) (op : Op) (u : Ub) : (step s db op).2 ≠ .ub u :=
  step_defined s h op u

/-- Every operation keeps the invariant (whether it returns or throws). -/
theorem v1c_C15_invariant (s : Schema) (db : Db) (h : CInv s db) (op : Op) : CInv s (step s db op).1 :=
  step_cinv s h op

theorem v1c_C15_empty (s : Schema) : CInv s Db.empty := cinv_empty s

/-- **Reachable states**: along any script of operations with any arguments from the empty library,
no call has undefined behaviour — in particular every `update_path` recursion terminates within
`|CrateParentList| + 1` levels. -/
theorem v1c_C15_reachable_no_ub (s : Schema) (ops : List Op) :
    ∀ r ∈ outcomes s Db.empty ops, ∀ u, r ≠ .ub u :=
  fun r hr u => outcomes_defined s ops Db.empty (cinv_empty s) r hr u

/-- **Queries.**  The inventory of tools/tr_c15guards.py finds ONE dereference / index / division site in
the 1.x crate and database query paths: `*name` in `crate::name` (engine_crate_impl.cpp:280).
`crateNameSrc` is that function with the dereference explicit behind the guard regenerated from the source:
it is the model's `crateName`, hence never `ub`; without the guard it is `ub empty_optional` on a removed
crate.  The other queries (is_valid, parent, crate_by_id, track is_valid — single SELECTs with callbacks)
have no such site; their models are `ok` / `throw` only, which the last conjuncts record. -/
theorem v1c_C15_queries_no_ub (db : Db) (c : Id) (u : Ub) :
    crateNameSrc db c = crateName db c ∧ crateNameSrc db c ≠ .ub u ∧
    (c ∉ ids db → crateNameG (fun _ => false) db c = .ub .empty_optional) ∧
    crateIsValid db c ≠ .ub u ∧ crateParent db c ≠ .ub u ∧ dbCrateById db c ≠ .ub u ∧ trackIsValid db c ≠ .ub u := by
  have heq : crateNameSrc db c = crateName db c := by
    unfold crateNameSrc crateNameG crateName
    simp only [Gen.C15Guards.v1_crate_name_none_eq]
    cases h : (db.crate.filter (·.id == c)).map (·.title) with
    | nil => rfl
    | cons a l =>
      cases l with
      | nil => rfl
      | cons b l' => rfl
  refine ⟨heq, ?_, ?_, ?_, ?_, ?_, ?_⟩
  · rw [heq]; unfold crateName; split <;> exact fun h => by cases h
  · intro hc
    unfold crateNameG
    rw [filter_of_dead hc]; rfl
  · exact crateIsValid_defined db c u
  · unfold crateParent; split <;> exact fun h => by cases h
  · exact Res.Defined.bind (crateIsValid_defined db c) (fun _ _ => Res.Defined.ok _) u
  · unfold trackIsValid; simp only; split
    · exact fun h => by cases h
    · split <;> exact fun h => by cases h

/-- **Stale crate handle, one step**: right after `remove_crate(c)` — on any state — `c.is_valid()` is false. -/
theorem v1c_C15_stale_crate_one_step (s : Schema) (db : Db) (c : Id) :
    crateIsValid (step s db (.removeCrate c)).1 c = .ok false :=
  crateIsValid_dead (removed_not_live s db c)

/-- FULL STATEMENT (property text: "handles to removed crates report is_valid() == false", along every
later history) — FALSE of the 1.x code: `Crate.id` is allocated as MAX(id)+1 / rowid, so the id of a removed
crate is handed out again (`v1c_C15_stale_crate_counterexample`; recorded finding of C15).
PROVED (the honest form): after `remove_crate(c)` on a state reachable through the API the handle stays
invalid along every continuation in which no creation reports the id `c`
(`reissues … = false`, the executable restriction of the crates-1.x package; its theorem
`C07_removed_never_returned_partial` does the induction). -/
theorem v1c_C15_stale_crate_partial (s : Schema) (ops ops' : List Op) (c : Id)
    (hno : reissues s (run s Db.empty (ops ++ [.removeCrate c])) ops' c = false) :
    crateIsValid (run s Db.empty ((ops ++ [.removeCrate c]) ++ ops')) c = .ok false := by
  have hy : crateIsValid (run s Db.empty (ops ++ [Op.removeCrate c])) c = .ok false := by
    rw [run_append]
    exact v1c_C15_stale_crate_one_step s _ c
  exact C07V1.C07_removed_never_returned_partial s (ops ++ [Op.removeCrate c]) ops' c hy hno

/-- The full statement is false on both allocation rules: create `a` (id 1), remove it — the handle is
invalid — create `b`: it receives id 1 and the stale handle is valid again. -/
theorem v1c_C15_stale_crate_counterexample :
    (crateIsValid (run .schema_1_6_0 Db.empty [.createRoot [97], .removeCrate 1]) 1 = .ok false ∧
     crateIsValid (run .schema_1_6_0 Db.empty ([.createRoot [97], .removeCrate 1] ++ [.createRoot [98]])) 1 = .ok true) ∧
    (crateIsValid (run .schema_1_18_0_os Db.empty [.createRoot [97], .removeCrate 1]) 1 = .ok false ∧
     crateIsValid (run .schema_1_18_0_os Db.empty ([.createRoot [97], .removeCrate 1] ++ [.createRoot [98]])) 1 = .ok true) := by
  decide +kernel

/-- Operations through a handle to a crate that does not exist (removed, or an id that never
existed) throw; nothing is written. -/
theorem v1c_C15_dead_crate_throws (s : Schema) (db : Db) (h : FInv db) (c : Id) (hc : c ∉ ids db) :
    (∀ n, ∃ e, step s db (.rename c n) = (db, .throw e)) ∧
    (∀ n, ∃ e, step s db (.createSub c n) = (db, .throw e)) ∧
    (∀ p, ∃ e, step s db (.setParent c p) = (db, .throw e)) ∧
    (∀ t, ∃ e, step s db (.addTrack c t) = (db, .throw e)) := by
  -- a call that returns has found the crate
  have key : ∀ op, editsForest op = true → (Accepted db op → c ∈ ids db) → ∃ e, step s db op = (db, .throw e) :=
    fun op hop ha => (step_cases_finv s h hop).elim (fun hh => hh.2) fun hh => absurd (ha hh.1) hc
  exact ⟨fun n => key _ rfl fun ha => ha.2, fun n => key _ rfl fun ha => ha.2.2, fun p => key _ rfl fun ha => ha.1,
    fun t => ⟨exCrateDeleted, addTrack_dead s db t hc⟩⟩

/-- A crate from elsewhere in the tree as the new parent: a descendant is refused, nothing is written. -/
theorem v1c_C15_descendant_parent_refused (s : Schema) (db : Db) (h : FInv db) (c q : Id)
    (hd : (c, q) ∈ db.ch) : step s db (.setParent c (some q)) = (db, .throw exInvalidParent) := by
  have hl := h.chLive _ hd
  have hne : q ≠ c := fun e => h.chIrrefl c (e ▸ hd)
  exact setParent_cycle s h.idsNodup hne hl.1 hl.2 hd

/-- **Stale track handle, one step**: right after `remove_track(t)` on a reachable state `t.is_valid()` is
false (from 1.17.0 on this needs the AUTOINCREMENT bound: the placeholder row gets a fresh id).  Along later
histories: before 1.17.0 the id is reissued like a crate's (recorded finding); see design/C15.md. -/
theorem v1c_C15_stale_track_one_step (s : Schema) (db : Db) (h : CInv s db) (t : Id) :
    trackIsValid (step s db (.removeTrack t)).1 t = .ok false :=
  trackIsValid_absent (removeTrack_props s h.seq t).1

/-! ### non-vacuity -/

def n (c : Char) : Name := [c.toNat.toUInt8]

/-- A/B(sub of A)/C(sub of B), root D, two tracks, one membership; then B renamed, C removed. -/
def exOps : List Op :=
  [.createRoot (n 'A'), .createSub 1 (n 'B'), .createSub 2 (n 'C'), .createRoot (n 'D'), .createTrack, .createTrack,
   .addTrack 2 1, .rename 2 (n 'E'), .setParent 4 (some 3), .removeCrate 3, .removeTrack 2]

def exDb : Db := run .schema_1_18_0_os Db.empty exOps

example : CInv .schema_1_18_0_os exDb := run_cinv _ exOps _ (cinv_empty _)

/-- The history evaluated once; the examples below start from its value. -/
theorem exDb_eq : exDb = ⟨[⟨1, [65], [65, 59]⟩, ⟨2, [69], [65, 59, 69, 59]⟩], [(1, 1), (2, 1)], [(1, 2)], [(2, 1)],
    [⟨1, true⟩, ⟨3, false⟩], 3⟩ := by decide +kernel

example : exDb.crate.map (·.id) = [1, 2] := by rw [exDb_eq]; decide +kernel
example : exDb.crate.map (·.path) = [[65, 59], [65, 59, 69, 59]] := by rw [exDb_eq]; decide +kernel
/-- ids of nonexistent / removed crates and tracks: exceptions -/
example : (step .schema_1_18_0_os exDb (.rename 3 (n 'X'))).2 = .throw exCrateDeleted := by rw [exDb_eq]; decide +kernel
example : (step .schema_1_18_0_os exDb (.setParent 1 (some 999))).2 = .throw exCrateDeleted := by rw [exDb_eq]; decide +kernel
example : (step .schema_1_18_0_os exDb (.addTrack 1 2)).2 = .throw exTrackDeleted := by rw [exDb_eq]; decide +kernel
example : (step .schema_1_18_0_os exDb (.addTrack 1 (-5))).2 = .throw exTrackDeleted := by rw [exDb_eq]; decide +kernel
/-- a crate from elsewhere in the tree: its own descendant as parent -/
example : (step .schema_1_18_0_os exDb (.setParent 1 (some 2))).2 = .throw exInvalidParent := by rw [exDb_eq]; decide +kernel
/-- odd names -/
example : (step .schema_1_18_0_os exDb (.rename 1 [])).2 = .throw exInvalidName := by rw [exDb_eq]; decide +kernel
example : (step .schema_1_18_0_os exDb (.rename 1 [97, 59, 98])).2 = .throw exInvalidName := by rw [exDb_eq]; decide +kernel
example : (step .schema_1_18_0_os exDb (.rename 1 (List.replicate 300 200))).2 = .ok .unit := by rw [exDb_eq]; decide +kernel
/-- stale handles -/
example : crateIsValid exDb 3 = .ok false := by rw [exDb_eq]; decide +kernel
example : trackIsValid exDb 2 = .ok false := by rw [exDb_eq]; decide +kernel

/-- The `ub` of the model is real: on a cyclic parent list (1 ↔ 2, not reachable through the API)
`set_name` does run out of recursion depth — the hypothesis `FInv` is needed. -/
def cyclic : Db :=
  { crate := [⟨1, n 'A', [65, 59]⟩, ⟨2, n 'B', [66, 59]⟩], cpl := [(1, 2), (2, 1)], ch := [], ctl := [], track := [],
    trackSeq := 0 }

/-- registered: the hypothesis `FInv` of `v1c_C15_no_ub` is needed -/
theorem v1c_C15_cyclic_table_counterexample :
    (step .schema_1_6_0 cyclic (.rename 1 (n 'Z'))).2 = .ub .nontermination := by decide +kernel

/-- non-vacuity of `v1c_C15_stale_crate_partial`: crate 1 removed, the continuation never reports id 1 -/
example : reissues .schema_1_9_1 (run .schema_1_9_1 Db.empty ([.createRoot [97], .createRoot [98]] ++ [.removeCrate 1]))
    [.createSub 2 [99], .rename 3 [100], .removeCrate 3] 1 = false := by decide +kernel

end EngineModel.Properties.C15CratesV1
