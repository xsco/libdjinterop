/-
Histories on the connection (`Spec/Observe.lean`): `runCalls`, `runCallsReopen` and `run` are iterations of one
step each (`Machine.IsRun`), so what C10 and C16 say of histories are the facts about iterations; what is
particular to the connection is said of one call: a total write in autocommit mode lands at rest on its
result, an observer is the identity, a settled call from rest ends at rest.
-/
import EngineModel.Spec.Observe
import Proofs.Txn
import Proofs.Machine

namespace EngineModel.Proofs.Observe
open EngineModel.Spec.Txn EngineModel.Spec.Observe EngineModel.Proofs.Txn EngineModel.Machine

variable {α β : Type}

/-- One public call on the connection; its answer is whether it raised. -/
def callStep (c : Conn α) (k : Call α) : Conn α × Bool :=
  ((exec k.fault k.auto k.cmds 0 0 c).conn, (exec k.fault k.auto k.cmds 0 0 c).raised)

/-- … followed by releasing every handle and loading again. -/
def reopenStep (c : Conn α) (k : Call α) : Conn α × Bool := ((callStep c k).1.reopen, (callStep c k).2)

theorem isRun_calls : IsRun (callStep (α := α)) runCalls := ⟨fun _ => rfl, fun _ _ _ => rfl⟩

theorem isRun_reopen : IsRun (reopenStep (α := α)) runCallsReopen := ⟨fun _ => rfl, fun _ _ _ => rfl⟩

theorem isRun_ops : IsRun (step (α := α) (β := β)) fun c ops => (run c ops).1 := ⟨fun _ => rfl, fun _ _ _ => rfl⟩

theorem isOutcomes_ops : IsOutcomes (step (α := α) (β := β)) fun c ops => (run c ops).2 :=
  ⟨fun _ => rfl, fun _ _ _ => rfl⟩

theorem exec_tot (f : α → α) (db : α) :
    (exec none false [.write fun d => some (f d)] 0 0 (Conn.idle db)).conn = Conn.idle (f db) := rfl

/-- One public call from rest ends at rest: if it raised, every scope unwound; if it completed, its scopes were
closed. -/
theorem call_settles (k : Call α) (hs : k.settles) (c : Conn α) (hc : c.working = none) :
    (callStep c k).1.working = none := by
  cases hr : (exec k.fault k.auto k.cmds 0 0 c).raised
  · have h := exec_open k.fault k.auto k.cmds 0 0 c hr
    rw [hc, show closedRun (none : Option α).isSome _ = some false from eq_of_beq hs] at h
    show (exec k.fault k.auto k.cmds 0 0 c).conn.working = none
    exact Option.not_isSome_iff_eq_none.1 (by rw [← Option.some.inj h]; nofun)
  · exact raise_autocommit k.fault k.auto k.cmds 0 0 c (Or.inl ⟨rfl, hc⟩) hr

theorem observer_reads (op : Op α β) (h : isObserver op = true) : ∀ x ∈ op.cmds, x.kind = .read := by
  intro x hx
  simpa using List.all_eq_true.1 h _ (List.mem_map_of_mem hx)

theorem step_observer (c : Conn α) (op : Op α β) (h : isObserver op = true) :
    step c op = (c, some (op.answer c.view)) := by
  have hr := readonly_exec none false op.cmds 0 0 c (observer_reads op h)
  simp only [step, hr.1, hr.2]
  rfl

end EngineModel.Proofs.Observe
