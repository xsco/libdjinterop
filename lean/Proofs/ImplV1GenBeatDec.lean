/-
The 1.x beat-data *decoder* regenerated from the C++ sources (`Gen.ImplV1.decodeGrid`, `decodeBeat`;
tools/tr_blobs_v1.py) equals the hand-written mirror `Impl.V1.decodeGrid` / `decodeBeat`.

* `decode_beatgrid`: the C++ allocates `std::vector<beatgrid_marker> result(count)` and fills it in an indexed
  loop (`result[i].sample_offset = …`, `result[i].index = static_cast<int>(…)`), testing each marker against
  `result[i - 1]` and the carried local `beats_until_next_marker` *while reading*; the hand model reads all
  wire markers first (`forN (rd marker)`) and then runs `checkWire` over them.  Equal because the count guard
  `end - ptr < 24 * count` makes every read succeed.
* `beat_data::decode`: `try { grid; grid } catch (const std::invalid_argument&) {}` (`Cur.catchStmt`: the
  handler runs at the cursor the failing statement started from) against the hand model's nested `match`,
  and `while (ptr != end) { if (*ptr != 0) throw; ptr++; }` (`Cur.whileNotEnd`) against `allZero`.
-/
import EngineModel.Gen.ImplV1Gen
import EngineModel.Impl.V1
import Proofs.CursorCxxLemmas
import Proofs.CxxPrimsLemmas
import Proofs.CursorCxxV1Lemmas
import Proofs.CheckedArith
import Proofs.ImplV1Gen
import Proofs.ImplV1GenBeat
import Proofs.ImplV1Beat
-- As in ImplV2Gen.lean: `remaining_bind_const` serves the spelling `end - ptr` of the size test; at some steps the lists
-- also hold `remaining_run`, `pure_run`, `r3`, `r4`, which the present text does not need there.
set_option linter.unusedSimpArgs false

namespace EngineModel

namespace Gen.ImplV1
open Codec Cur

/-- `static_cast<int>(int64_t)` stored as a bit pattern = the low 32 bits: both signed readings only subtract
multiples of 2^32 -/
theorem lowInt_eq (x : UInt64) : Prim.u32OfInt (Cxx.i32OfInt (Prim.s64 x)) = Impl.V1.lowInt x := by
  have h1 : ∀ y : Int, Cxx.i32OfInt y % 4294967296 = y % 4294967296 := by
    -- (`simp only []` here and below: reduces a `let` or a `match` on a pair that `unfold` / `rw` has left)
    intro y; unfold Cxx.i32OfInt; simp only []; split <;> omega
  have h2 : Prim.s64 x % 4294967296 = (x.toNat : Int) % 4294967296 := by
    unfold Prim.s64; split <;> omega
  unfold Prim.u32OfInt Impl.V1.lowInt
  rw [h1, h2]
  congr 1

/-- the marker the four reads of one iteration see -/
def mkAt (bs : Bytes) : V2.Marker :=
  ⟨u64le.get bs, u64le.get (bs.drop 8), u32le.get (bs.drop 16), u32le.get (bs.drop 20)⟩

theorem reads24 (bs : Bytes) (h : 24 ≤ bs.length) :
    rd u64le bs = .ok (u64le.get bs, bs.drop 8) ∧ rd u64le (bs.drop 8) = .ok (u64le.get (bs.drop 8), bs.drop (8 + 8)) ∧
    rd u32le (bs.drop 16) = .ok (u32le.get (bs.drop 16), bs.drop (16 + 4)) ∧
    rd u32le (bs.drop 20) = .ok (u32le.get (bs.drop 20), bs.drop (20 + 4)) := by
  have r2 := rd_u64le_run (bs := bs.drop 8) (by simp; omega)
  have r3 := rd_u32le_run (bs := bs.drop 16) (by simp; omega)
  have r4 := rd_u32le_run (bs := bs.drop 20) (by simp; omega)
  rw [List.drop_drop] at r2 r3 r4
  exact ⟨rd_u64le_run (by omega), r2, r3, r4⟩

theorem rd_marker_run (bs : Bytes) (h : 24 ≤ bs.length) : rd V2.marker bs = .ok (mkAt bs, bs.drop 24) := by
  obtain ⟨r1, r2, r3, r4⟩ := reads24 bs h
  simp only [V2.marker, rd_map_seq, rd_pair_seq, bind_run, r1, r2, r3, r4, pure_run, mkAt]

def curOf (m : V2.Marker) : Impl.V1.GMarker := ⟨Impl.V1.lowInt m.beatNo, m.off⟩

/-- What the loop has of the previous iteration, as the hand model's `checkWire` carries it: the marker stored last
in `result`, with the `number_of_beats` it announced (the local `beats_until_next_marker`). -/
def prevOf (pre : List Impl.V1.GMarker) (nb : UInt32) : Option (Impl.V1.GMarker × UInt32) := pre.getLast?.map (·, nb)

theorem eq_nil_or_snoc {α} (l : List α) : l = [] ∨ ∃ pre p, l = pre ++ [p] := by
  rcases List.eq_nil_or_concat l with h | ⟨pre, p, h⟩
  · exact .inl h
  · exact .inr ⟨pre, p, h.trans List.concat_eq_append⟩

theorem prevOf_concat (pre : List Impl.V1.GMarker) (p : Impl.V1.GMarker) (nb : UInt32) :
    prevOf (pre ++ [p]) nb = some (p, nb) := by
  simp [prevOf]

/-- the three tests of one iteration; there is none on the first (`i = 0`) -/
def markerBad : Option (Impl.V1.GMarker × UInt32) → Impl.V1.GMarker → Bool
  | none, _ => false
  | some (p, nb), cur =>
    decide (Prim.s32 cur.index ≤ Prim.s32 p.index) || F64.le cur.off p.off ||
      decide (Prim.s32 cur.index - Prim.s32 p.index ≠ Prim.s32 nb)

/-- One iteration with `pre` already stored: the marker read goes to `result[i]`, after the tests against
`result[i - 1]` and `beats_until_next_marker` when there is a previous one. -/
theorem decodeGrid_body1_run (pre : List Impl.V1.GMarker) (x : Impl.V1.GMarker) (tail : List Impl.V1.GMarker)
    (nb : UInt32) (bs : Bytes) (h : 24 ≤ bs.length) (hk : pre.length < 18446744073709551616) :
    decodeGrid_body1 pre.length (pre ++ x :: tail, nb) bs =
      if markerBad (prevOf pre nb) (curOf (mkAt bs)) then .throw .invalid_argument
      else .ok ((pre ++ curOf (mkAt bs) :: tail, (mkAt bs).nBeats), bs.drop 24) := by
  obtain ⟨r1, r2, r3, r4⟩ := reads24 bs h
  rcases eq_nil_or_snoc pre with rfl | ⟨pre, p, rfl⟩
  · have s1 := fun f => Cxx.vecSet_append_cons [] x tail f
    have s2 := fun (y : Impl.V1.GMarker) f => Cxx.vecSet_append_cons [] y tail f
    simp only [List.nil_append, List.length_nil] at s1 s2
    unfold decodeGrid_body1
    simp only [CxxPrims.decode_double_le_eq, CxxPrims.decode_int64_le_eq, CxxPrims.decode_int32_le_eq,
      bind_run, r1, r2, r3, r4, s1, s2, lift_ok_run, ne_eq, not_true_eq_false, decide_false, Bool.false_eq_true,
      if_false, pure_run, lowInt_eq, curOf, mkAt, List.nil_append, List.length_nil, prevOf, List.getLast?_nil,
      Option.map_none, markerBad]
  · have hlen : (pre ++ [p]).length = pre.length + 1 := by simp
    have hne : (pre ++ [p]).length ≠ 0 := by omega
    have hsub : Cxx.U64.sub (pre ++ [p]).length 1 = pre.length := by
      rw [hlen]; exact Cxx.u64_sub_one _ (by omega)
    have hp : ∀ c, Cxx.vecGet ((pre ++ [p]) ++ c :: tail) pre.length = .ok p := fun c => by
      rw [List.append_assoc]; exact Cxx.vecGet_append_cons _ _ _
    have hA := Prim.s32_range (curOf (mkAt bs)).index
    have hB := Prim.s32_range p.index
    unfold decodeGrid_body1
    simp only [CxxPrims.decode_double_le_eq, CxxPrims.decode_int64_le_eq, CxxPrims.decode_int32_le_eq,
      bind_run, r1, r2, r3, r4, Cxx.vecSet_append_cons, lift_ok_run, ne_eq, hne, not_false_eq_true, decide_true,
      if_true, pure_run, lowInt_eq, Cxx.vecGet_append_cons, hsub, hp, prevOf_concat]
    show _ = if markerBad (some (p, nb)) (curOf (mkAt bs)) then _ else _
    unfold markerBad curOf mkAt at *
    simp only [] at hA ⊢
    by_cases h1 : Prim.s32 (Impl.V1.lowInt (u64le.get (List.drop 8 bs))) ≤ Prim.s32 p.index
    · simp [h1]
    · simp only [h1, decide_false, Bool.false_eq_true, if_false, Bool.false_or, bind_run, lift_ok_run]
      cases h2 : F64.le (u64le.get bs) p.off
      · simp only [Bool.false_eq_true, if_false, Bool.false_or, bind_run, lift_ok_run]
        rw [chkI64_run (by omega) (by omega)]
        simp only []
        by_cases h3 : Prim.s32 (Impl.V1.lowInt (u64le.get (List.drop 8 bs))) - Prim.s32 p.index = Prim.s32 nb
        · simp [h3, r3, r4]
        · simp [h3]
      · simp

def zeroMarker : Impl.V1.GMarker := ⟨(0 : UInt32), F64.zero⟩

/-- the test after the loop: `if (beats_until_next_marker != 0) throw` -/
def decodeGrid_fin : (List Impl.V1.GMarker × UInt32) → Cur (List Impl.V1.GMarker) :=
  fun (result, nb) => if decide (Prim.s32 nb ≠ 0) then throwC .invalid_argument else pure result

theorem forIdxFrom_succ {σ} (body : Nat → σ → Cur σ) (lo n : Nat) (s : σ) :
    Cur.forIdxFrom body lo (n + 1) s = (body lo s >>= fun s' => Cur.forIdxFrom body (lo + 1) n s') := rfl

theorem forN_marker (n : Nat) (bs : Bytes) (h : 24 * n ≤ bs.length) :
    ∃ wire, forN (rd V2.marker) n bs = .ok (wire, bs.drop (24 * n)) := by
  obtain ⟨l, hl⟩ := decN_some_of_len V2.marker_fixed n _ h
  exact ⟨l, by rw [forN_rd_eq, hl]⟩

theorem drop_drop_24_mul (bs : Bytes) (n : Nat) : (bs.drop 24).drop (24 * n) = bs.drop (24 * (n + 1)) := by
  rw [List.drop_drop]; congr 1; omega

theorem checkWire_cons (prev : Option (Impl.V1.GMarker × UInt32)) (m : V2.Marker) (rest : List V2.Marker) :
    Impl.V1.checkWire prev (m :: rest) =
      if markerBad prev (curOf m) then .throw .invalid_argument else
      match Impl.V1.checkWire (some (curOf m, m.nBeats)) rest with
      | .ok l => .ok (curOf m :: l)
      | .throw e => .throw e
      | .ub u => .ub u := by
  cases prev <;> simp only [Impl.V1.checkWire, markerBad, curOf] <;> rfl

/-- The loop from index `pre.length` on, with `pre` stored and `n` markers to go, then the test after it, is
`checkWire` on the `n` wire markers the hand model reads first; all reads succeed because the bytes are there. -/
theorem decodeGrid_loop : ∀ (n : Nat) (bs : Bytes) (pre : List Impl.V1.GMarker) (nb : UInt32) (wire : List V2.Marker),
    24 * n ≤ bs.length → pre.length + n < 18446744073709551616 → (pre = [] → nb = 0) →
    forN (rd V2.marker) n bs = .ok (wire, bs.drop (24 * n)) →
    (Cur.forIdxFrom decodeGrid_body1 pre.length n (pre ++ List.replicate n zeroMarker, nb) >>= decodeGrid_fin) bs =
      match Impl.V1.checkWire (prevOf pre nb) wire with
      | .ok l => .ok (pre ++ l, bs.drop (24 * n))
      | .throw e => .throw e
      | .ub u => .ub u := by
  intro n
  induction n with
  | zero =>
    intro bs pre nb wire _ _ h0 hw
    obtain rfl : wire = [] := by simpa [forN] using hw.symm
    simp only [Cur.forIdxFrom, List.replicate_zero, List.append_nil, bind_run, pure_run, decodeGrid_fin,
      Nat.mul_zero, List.drop_zero]
    rcases eq_nil_or_snoc pre with rfl | ⟨pre, p, rfl⟩
    · simp [h0 rfl, prevOf, Impl.V1.checkWire, Prim.s32]
    · rw [prevOf_concat]
      by_cases hnb : nb = 0
      · subst hnb; simp [Impl.V1.checkWire, Prim.s32]
      · have : Prim.s32 nb ≠ 0 := fun hx => hnb ((Prim.s32_eq_zero nb).mp hx)
        simp [Impl.V1.checkWire, hnb, this]
  | succ n ih =>
    intro bs pre nb wire hlen hk _ hw
    have h24 : 24 ≤ bs.length := by omega
    obtain ⟨wire', hw'⟩ := forN_marker n (bs.drop 24) (by simp; omega)
    obtain rfl : wire = mkAt bs :: wire' := by
      simp only [forN, bind_run, rd_marker_run bs h24, hw', pure_run, Res.ok.injEq, Prod.mk.injEq] at hw
      exact hw.1.symm
    have hloop := ih (bs.drop 24) (pre ++ [curOf (mkAt bs)]) (mkAt bs).nBeats wire' (by simp; omega)
      (by simp; omega) (by simp) hw'
    rw [drop_drop_24_mul, prevOf_concat, bind_run] at hloop
    simp only [List.length_append, List.length_cons, List.length_nil, Nat.zero_add, List.append_assoc,
      List.singleton_append] at hloop
    simp only [List.replicate_succ, forIdxFrom_succ, bind_run]
    rw [decodeGrid_body1_run pre zeroMarker (List.replicate n zeroMarker) nb bs h24 (by omega), checkWire_cons]
    cases hb : markerBad (prevOf pre nb) (curOf (mkAt bs))
    · simp only [Bool.false_eq_true, if_false]
      rw [hloop]
      cases Impl.V1.checkWire (some (curOf (mkAt bs), (mkAt bs).nBeats)) wire' <;> rfl
    · simp only [if_true]

theorem decodeGrid_eq : decodeGrid = Impl.V1.decodeGrid := by
  funext bs
  -- the hand model with `24 * count` read in `Int`: the checked product of the regenerated side is then `chkI64_run`
  rw [ArithZ.decodeGrid1_eq_Z]
  unfold decodeGrid ArithZ.decodeGrid1Z
  simp only [CxxPrims.decode_int64_be_eq, bind_run, remaining_run]
  by_cases h8 : bs.length < 8
  · have : ((bs.length : Int) < 8) := by omega
    simp [h8, this]
  · have h8i : ¬ ((bs.length : Int) < 8) := by omega
    have h8' : 8 ≤ bs.length := by omega
    simp only [h8, h8i, decide_false, Bool.false_eq_true, if_false, rd_u64be_run h8', bind_run, remaining_run]
    generalize u64be.get bs = k
    generalize bs.drop 8 = r
    by_cases h0 : Prim.s64 k = 0
    · simp [h0]
    · by_cases h2 : Prim.s64 k < 2
      · simp [h0, h2]
      · by_cases hb : Prim.s64 k > 32768
        · simp [h0, h2, hb]
        · simp only [h0, h2, hb, decide_false, Bool.false_eq_true, if_false, bind_run, remaining_run]
          rw [chkI64_run (by omega) (by omega)]
          simp only []
          by_cases hr : (r.length : Int) < 24 * Prim.s64 k
          · simp [hr]
          · have hneg : ¬ Prim.s64 k < 0 := by omega
            have hk : Prim.s64 k = (k.toNat : Int) := by
              have := Prim.s64_toNat_of_nonneg hneg; omega
            have hres : k.toNat ≤ 9223372036854775807 / 16 := by omega
            simp only [hr, decide_false, Bool.false_eq_true, if_false, bind_run, u64OfInt_s64_of_nonneg hneg,
              reserve_run hres, List.length_replicate]
            obtain ⟨n, hn⟩ : ∃ n, k.toNat = n + 1 := ⟨k.toNat - 1, by omega⟩
            rw [hn]
            obtain ⟨wire, hw⟩ := forN_marker (n + 1) r (by omega)
            -- `erw`: the continuation is a `fun wire bs => …`, typed as a function and not as a `Cur`; `rw [bind_run]`
            -- does not match that `>>=`, up to unfolding `Cur` it does
            erw [bind_run, hw]
            refine (decodeGrid_loop (n + 1) r [] _ wire (by omega) (by simp; omega) (fun _ => u32OfInt_zero)
              hw).trans ?_
            simp only [prevOf, List.getLast?_nil, Option.map_none, List.nil_append]
            cases Impl.V1.checkWire none wire <;> rfl

theorem decodeBeat_body1_run (b : UInt8) (r : Bytes) :
    decodeBeat_body1 (b :: r) = if b = 0 then .ok ((), r) else .throw .invalid_argument := by
  unfold decodeBeat_body1
  simp only [bind_run, Cur.peek1]
  by_cases hb : b = 0
  · subst hb; simp [Cur.advance]
  · have hb' : ¬ (b.toNat = 0) := by
      intro hx
      apply hb
      apply UInt8.toNat_inj.mp
      simp; omega
    simp [hb', hb]

theorem whileNotEndFuel_run : ∀ (fuel : Nat) (r : Bytes), r.length < fuel →
    Cur.whileNotEndFuel decodeBeat_body1 fuel r =
      if Impl.V1.allZero r then .ok ((), []) else .throw .invalid_argument := by
  intro fuel
  induction fuel with
  | zero => intro r h; omega
  | succ f ih =>
    intro r h
    cases r with
    | nil => simp [Cur.whileNotEndFuel, Impl.V1.allZero]
    | cons b r' =>
      have hl : r'.length < f := by simp at h; omega
      unfold Impl.V1.allZero at ih ⊢
      simp only [Cur.whileNotEndFuel, List.length_cons, Nat.add_one_ne_zero, if_false, decodeBeat_body1_run, List.all_cons]
      by_cases hb : b = 0
      · subst hb
        simp only [if_true, ih r' hl, beq_self_eq_true, Bool.true_and]
      · have : (b == 0) = false := by simp [hb]
        simp only [hb, if_false, this, Bool.false_and, Bool.false_eq_true]

theorem whileNotEnd_run (r : Bytes) :
    Cur.whileNotEnd decodeBeat_body1 r = if Impl.V1.allZero r then .ok ((), []) else .throw .invalid_argument :=
  whileNotEndFuel_run (r.length + 1) r (by omega)

theorem decodeGrid_throw {bs : Bytes} {e : Exn} (h : Impl.V1.decodeGrid bs = .throw e) : e = .invalid_argument := by
  rw [V1Proofs.decodeGrid_gridV] at h
  exact ofOpt_throw h

theorem decodeBeat_eq : decodeBeat = Impl.V1.decodeBeat := by
  funext bs
  unfold decodeBeat Impl.V1.decodeBeat
  simp only [ImplV2.prims, remaining_bind_const, decodeGrid_eq]
  -- the hand model goes on with a `match` on the run of the header reads: only the size test is shared
  refine (fromBlob_sizeTest (· < 33) _ _ _ (fun _ => by omega) bs fun _ => rfl).trans
    (ite_congr rfl (fun _ => rfl) fun h33 => ?_)
  have r1 := rd_u64be_run (bs := bs) (by omega)
  have r2 := rd_u64be_run (bs := bs.drop 8) (by simp; omega)
  have r3 := rd_u8_run (bs := bs.drop 16) (by simp; omega)
  simp only [List.drop_drop] at r2 r3
  simp only [r1, r2, r3, bind_run, pure_run, Cur.catchStmt, F64.ne_zero_eq, ite_bnot]
  generalize u64be.get bs = sr
  generalize u64be.get (List.drop 8 bs) = sc
  generalize List.drop (16 + 1) bs = r0
  cases hg1 : Impl.V1.decodeGrid r0 with
  | ub u => simp [Res.bind]
  | throw e =>
    have := decodeGrid_throw hg1
    subst this
    simp only [beq_self_eq_true, if_true, pure_run, whileNotEnd_run]
    cases Impl.V1.allZero r0 <;> simp [Res.bind]
  | ok p =>
    obtain ⟨d, r1'⟩ := p
    simp only []
    cases hg2 : Impl.V1.decodeGrid r1' with
    | ub u => simp [Res.bind]
    | throw e =>
      have := decodeGrid_throw hg2
      subst this
      simp only [beq_self_eq_true, if_true, pure_run, whileNotEnd_run]
      cases Impl.V1.allZero r1' <;> simp [Res.bind]
    | ok q =>
      obtain ⟨a, r2'⟩ := q
      simp only [pure_run, whileNotEnd_run]
      cases Impl.V1.allZero r2' <;> simp [Res.bind]

end Gen.ImplV1
end EngineModel
