/-
Composite 2.x library: `database::remove_track` — the one call that writes several tables — as a statement program
under the fault model of C14 (`Spec/Txn.lean`): its shape is atomic, the fault-free run makes exactly the step's
result durable, and a fault at ANY statement leaves the connection at rest on the library it started from.
-/
import Proofs.Lib2Inv
import Proofs.Stmts

namespace EngineModel.Lib.V2
open EngineModel EngineModel.Db.Chain EngineModel.TracksV2 EngineModel.Spec.Txn EngineModel.Spec.Stmts
open EngineModel.Proofs.Stmts EngineModel.Proofs.Txn
open EngineModel.Table (Schema2)

theorem removeTrackBody_rw (s : Schema2) (L : Lib2) (t : Nat) : ∀ c ∈ removeTrackBody s L t, Cmd.rw c = true := by
  intro c hc
  simp only [removeTrackBody, List.mem_append, List.mem_flatMap, List.mem_cons, List.not_mem_nil,
    or_false] at hc
  rcases hc with ((⟨l, _, rfl | rfl⟩ | hc) | rfl) | rfl
  · rfl
  · rfl
  · split at hc
    · cases List.mem_singleton.mp hc; rfl
    · cases hc
  · rfl
  · rfl

theorem removeTrack_shape_atomic (s : Schema2) (L : Lib2) (t : Nat) :
    atomicShape ((removeTrackStmts s L t).map Cmd.kind) = true :=
  atomic_txn _ (removeTrackBody_rw s L t)

theorem loop_writes (t : Nat) (ls : List Int) (M : Lib2) :
    applyAll (writesOf (ls.flatMap fun l =>
      [Cmd.read, tot fun (M : Lib2) => { M with pe := EngineModel.Db.V2.rmTrackIn (t : Int) M.pe l }])) M
      = some { M with pe := ls.foldl (EngineModel.Db.V2.rmTrackIn (t : Int)) M.pe } := by
  induction ls generalizing M with
  | nil => rfl
  | cons l ls ih =>
    simp only [List.flatMap_cons, List.cons_append, List.nil_append, writesOf, tot, applyAll, Option.bind, List.foldl_cons]
    exact ih _

theorem removeTrack_writes (s : Schema2) (L : Lib2) (t : Nat)
    (hz : ¬ (L.tdb.rows.filter fun e => e.id == t).length = 0) :
    applyAll (writesOf (removeTrackBody s L t)) L = some (removed s t L) := by
  unfold removeTrackBody
  rw [writesOf_append, writesOf_append, writesOf_append]
  rw [List.append_assoc, List.append_assoc]
  rw [applyAll_append_of_some _ _ L _ (loop_writes t (ids L.pl) L)]
  cases hc : hasChangeLog s <;>
    simp only [Bool.false_eq_true, if_true, if_false, writesOf, tot, List.cons_append, List.nil_append, applyAll, Option.bind,
      Lib2.logNullify, hz, removed, hc]

/-- **fault-free run**: the statement program of `remove_track` on an existing track completes and makes durable
exactly the library the composite `step` returns -/
theorem removeTrack_stmts_run (ops : FOps) (s : Schema2) (L : Lib2) (t : Nat) (auto : Bool)
    (hz : (L.tdb.find t).isSome = true) :
    (call none auto (removeTrackStmts s L t) L).raised = false ∧
    (call none auto (removeTrackStmts s L t) L).conn = Conn.idle (step ops s L (.removeTrack t)).1 := by
  have hz' : ¬ (L.tdb.rows.filter fun e => e.id == t).length = 0 := by rw [count_eq_zero_iff, hz]; nofun
  rw [step_removeTrack, hz]
  exact txn_run auto _ (removeTrackBody_rw s L t) L _ (removeTrack_writes s L t hz')

/-- **all or nothing, at every fault position**: whichever faultable statement of `remove_track` fails — BEGIN, the
DELETE of any membership, the UPDATE of ChangeLog, the DELETE on PreparelistEntity, the DELETE of the track, COMMIT —
the call raises and the connection is at rest on the library it started from: memberships, ChangeLog, prepare list
and Track table untouched. -/
theorem removeTrack_all_or_nothing (s : Schema2) (L : Lib2) (t : Nat) (k : Nat) (auto : Bool)
    (hk : k < countFaultable ((removeTrackStmts s L t).map Cmd.kind)) :
    (call (some k) auto (removeTrackStmts s L t) L).raised = true ∧
    (call (some k) auto (removeTrackStmts s L t) L).conn = Conn.idle L :=
  all_or_nothing _ (removeTrack_shape_atomic s L t) k auto L hk

end EngineModel.Lib.V2
