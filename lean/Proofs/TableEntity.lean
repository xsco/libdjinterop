/-
`playlist_entity_table` (property C18): the byte-string order of the uuid index
(`bytesLt_iff`: the lexicographic order of lists) and the entry
`get(list, track)` picks by it (`lastByUuid_spec`); the table after an inserting
`add_back`, seen through a predicate on the key columns (`eAddBack_filter`),
from which the round trips through both `get`s follow (Properties/C18.lean);
`get_for_list` returns rows of the table, and the row just appended to an empty
list.
-/
import Proofs.TableLists
namespace EngineModel
namespace Table

theorem bytesLt_iff (a b : Bytes) : bytesLt a b = true ↔ a < b := by
  induction a generalizing b with
  | nil => cases b <;> simp [bytesLt]
  | cons x xs ih =>
    cases b with
    | nil => simp [bytesLt]
    | cons y ys =>
      simp only [bytesLt, List.cons_lt_cons_iff]
      split
      · simp [*]
      · split
        · rename_i h1 h2
          have : x ≠ y := fun h => by subst h; exact h1 h2
          simp [*]
        · rename_i h1 h2
          have : x = y := UInt8.le_antisymm (UInt8.not_lt.mp h2) (UInt8.not_lt.mp h1)
          subst this
          simp [ih, UInt8.lt_irrefl]

theorem bytesLt_irrefl (a : Bytes) : bytesLt a a = false := by
  rw [Bool.eq_false_iff, ne_eq, bytesLt_iff]; exact List.lt_irrefl a

theorem bytesLt_asymm {a b : Bytes} (h : bytesLt a b = true) : bytesLt b a = false := by
  rw [Bool.eq_false_iff, ne_eq, bytesLt_iff]; exact List.lt_asymm ((bytesLt_iff _ _).mp h)

/-- `¬ (b < a)` is transitive (the order is total). -/
theorem bytesLe_trans {a b c : Bytes} (h1 : bytesLt b a = false) (h2 : bytesLt c b = false) :
    bytesLt c a = false := by
  rw [Bool.eq_false_iff, ne_eq, bytesLt_iff] at *
  exact List.not_lt.mpr (List.le_trans (List.not_lt.mp h1) (List.not_lt.mp h2))

def uuidOf (x : Raw ECol) : Bytes := readStr (x .databaseUuid)

theorem lastByUuid_none {l : List (Raw ECol)} : lastByUuid l = none ↔ l = [] := by
  cases l with
  | nil => simp [lastByUuid]
  | cons r rs =>
    simp only [lastByUuid]
    cases lastByUuid rs with
    | none => simp
    | some q => simp only; split <;> simp

theorem lastByUuid_spec {l : List (Raw ECol)} {m : Raw ECol} (h : lastByUuid l = some m) :
    m ∈ l ∧ ∀ x ∈ l, bytesLt (uuidOf m) (uuidOf x) = false := by
  induction l generalizing m with
  | nil => simp [lastByUuid] at h
  | cons r rs ih =>
    simp only [lastByUuid] at h
    cases hq : lastByUuid rs with
    | none =>
      rw [hq] at h
      simp only [Option.some.injEq] at h; subst h
      have : rs = [] := lastByUuid_none.mp hq
      subst this
      exact ⟨List.mem_cons_self, fun x hx => by
        rcases List.mem_cons.mp hx with rfl | hx
        · exact bytesLt_irrefl _
        · cases hx⟩
    | some q =>
      rw [hq] at h
      simp only at h
      obtain ⟨hqmem, hqmax⟩ := ih hq
      split at h
      · rename_i hlt
        simp only [Option.some.injEq] at h; subst h
        refine ⟨List.mem_cons_self, fun x hx => ?_⟩
        rcases List.mem_cons.mp hx with rfl | hx
        · exact bytesLt_irrefl _
        · -- q ≥ x and r > q
          exact bytesLe_trans (hqmax x hx) (bytesLt_asymm hlt)
      · rename_i hnlt
        simp only [Option.some.injEq] at h; subst h
        refine ⟨List.mem_cons_of_mem _ hqmem, fun x hx => ?_⟩
        rcases List.mem_cons.mp hx with rfl | hx
        · unfold uuidOf; simpa using hnlt
        · exact hqmax x hx

theorem lastByUuid_append_greatest (xs : List (Raw ECol)) (r : Raw ECol)
    (h : ∀ x ∈ xs, bytesLt (uuidOf x) (uuidOf r) = true) : lastByUuid (xs ++ [r]) = some r := by
  induction xs with
  | nil => rfl
  | cons x xs ih =>
    simp only [List.cons_append, lastByUuid]
    rw [ih (fun y hy => h y (List.mem_cons_of_mem _ hy))]
    simp only
    have := bytesLt_asymm (h x List.mem_cons_self)
    unfold uuidOf at this
    rw [this]
    simp

/-- No entry of the same (list, track, database uuid) triple yet: `add_back` inserts. -/
def noEntry3 (t : Rows ECol) (l tr : Int) (u : Bytes) : Prop :=
  ∀ x ∈ t, ¬ ((x .listId == .int l && x .trackId == .int tr && x .databaseUuid == .text u) = true)

theorem eAddBack_inserted3 {st : LStmts} {d d' : LDb} {r : Row EField} {dup : Bool} {i l tr : Int} {u : Bytes}
    (hl : r .list_id = .int l) (ht : r .track_id = .int tr) (hu : r .database_uuid = .str u)
    (hnone : noEntry3 d.pe l tr u) (h : eAddBack st d r dup = (d', .ok i)) :
    ∃ ps, evalParams r st.eIns = .ok ps ∧ i = d.peSeq + 1 ∧
      d' = { d with
        pe := updWhere (d.pe ++ [assign (setCol nullRaw .id (.int (d.peSeq + 1))) ps])
          (fun x => x .listId == .int l && x .nextEntityId == .int 0 && !(rowId .id x == d.peSeq + 1))
          (fun x => setCol x .nextEntityId (.int (d.peSeq + 1))),
        peSeq := d.peSeq + 1 } := by
  unfold eAddBack at h
  split at h
  · cases h
  · rw [hl, ht, hu] at h
    simp only at h
    rw [List.filter_eq_nil_iff.mpr hnone] at h
    simp only [lastByUuid] at h
    split at h
    · cases h
    · cases h
    · rename_i ps he
      split at h <;> cases h
      exact ⟨ps, he, rfl, rfl⟩

theorem inserted_cols {ins : List (WB ECol EField)} {r : Row EField} {ps : List (ECol × Val)}
    (heins : alignedW eSpec eNeed [(.nextEntityId, .int 0)] ins = true) (he : evalParams r ins = .ok ps)
    (hr : wtRowE r) {l tr : Int} {u : Bytes}
    (hl : r .list_id = .int l) (ht : r .track_id = .int tr) (hu : r .database_uuid = .str u) (i : Int) :
    let raw := assign (setCol nullRaw .id (.int i)) ps
    raw .listId = .int l ∧ raw .trackId = .int tr ∧ raw .databaseUuid = .text u ∧ rowId .id raw = i := by
  obtain ⟨x1, hx1, hc1⟩ := assign_evalParams heins he (setCol nullRaw .id (.int i)) (f := .list_id) (by decide)
  obtain ⟨x2, hx2, hc2⟩ := assign_evalParams heins he (setCol nullRaw .id (.int i)) (f := .track_id) (by decide)
  obtain ⟨x3, hx3, hc3⟩ := assign_evalParams heins he (setCol nullRaw .id (.int i)) (f := .database_uuid) (by decide)
  obtain ⟨k1, hk1, hk1'⟩ := written_i64 (hr .list_id) rfl hx1
  obtain ⟨k2, hk2, hk2'⟩ := written_i64 (hr .track_id) rfl hx2
  obtain ⟨k3, hk3, hk3'⟩ := written_str (hr .database_uuid) rfl hx3
  rw [hl] at hk1; rw [ht] at hk2; rw [hu] at hk3
  cases hk1; cases hk2; cases hk3
  subst hk1' hk2' hk3'
  refine ⟨hc1, hc2, hc3, ?_⟩
  show readInt (assign (setCol nullRaw .id (.int i)) ps .id) = _
  rw [show ECol.id = eSpec.colOf .id from rfl, assign_not_need eSpec_ok heins he rfl _ (by decide)]; rfl

/-- The rows of the table after the insert that satisfy a predicate on the key
columns only (`listId`, `trackId`, `databaseUuid` — untouched by the chain
update): the old rows that did, in order, then possibly the new row. -/
theorem filter_after_insert (t : Rows ECol) (raw : Raw ECol) (l i : Int) (hrid : rowId .id raw = i)
    (q : Val → Val → Val → Bool) :
    (updWhere (t ++ [raw])
      (fun x => x .listId == .int l && x .nextEntityId == .int 0 && !(rowId .id x == i))
      (fun x => setCol x .nextEntityId (.int i))).filter (fun x => q (x .listId) (x .trackId) (x .databaseUuid))
    = ((t.filter (fun x => q (x .listId) (x .trackId) (x .databaseUuid))).map
        (fun r => if (r .listId == .int l && r .nextEntityId == .int 0 && !(rowId .id r == i)) = true
          then setCol r .nextEntityId (.int i) else r))
      ++ (if q (raw .listId) (raw .trackId) (raw .databaseUuid) then [raw] else []) := by
  unfold updWhere
  rw [List.map_append, List.filter_append, List.filter_map]
  congr 1
  · congr 1
    refine List.filter_congr fun x _ => ?_
    simp only [Function.comp]
    split
    · rw [setCol_other _ _ (by decide), setCol_other _ _ (by decide), setCol_other _ _ (by decide)]
    · rfl
  · have h2 : (raw .listId == .int l && raw .nextEntityId == .int 0 && !(rowId .id raw == i)) = false := by
      rw [hrid]; simp
    simp only [List.map_cons, List.map_nil, h2, Bool.false_eq_true, if_false, List.filter_cons, List.filter_nil]

theorem uuidOf_chain (r : Raw ECol) (l i : Int) :
    uuidOf (if (r .listId == .int l && r .nextEntityId == .int 0 && !(rowId .id r == i)) = true
      then setCol r .nextEntityId (.int i) else r) = uuidOf r := by
  unfold uuidOf
  split
  · rw [setCol_other _ _ (by decide)]
  · rfl

/-- The table after `add_back` inserted a row, seen through a predicate `q` on
the key columns: the old rows that satisfy it, each with its uuid, then — if its
keys satisfy `q` — the new row, which every aligned SELECT reads as `normRowE i r`. -/
theorem eAddBack_filter {st : LStmts} (ha : alignedL st = true) {d d' : LDb}
    {r : Row EField} (hr : wtRowE r) {dup : Bool} {i l tr : Int} {u : Bytes}
    (hl : r .list_id = .int l) (ht : r .track_id = .int tr) (hu : r .database_uuid = .str u)
    (hnone : noEntry3 d.pe l tr u) (h : eAddBack st d r dup = (d', .ok i)) (q : Val → Val → Val → Bool) :
    ∃ (raw : Raw ECol) (chain : Raw ECol → Raw ECol), (∀ x, uuidOf (chain x) = uuidOf x) ∧ uuidOf raw = u ∧
      (∀ sel, alignedR eSpec (fun _ => true) sel = true → readRow raw sel = .ok (normRowE i r)) ∧
      d'.pe.filter (fun x => q (x .listId) (x .trackId) (x .databaseUuid)) =
        (d.pe.filter (fun x => q (x .listId) (x .trackId) (x .databaseUuid))).map chain
          ++ (if q (.int l) (.int tr) (.text u) then [raw] else []) := by
  obtain ⟨heins, _⟩ := alignedL_entity ha
  obtain ⟨ps, he, rfl, rfl⟩ := eAddBack_inserted3 hl ht hu hnone h
  obtain ⟨hrawl, hrawt, hrawu, hrid⟩ := inserted_cols heins he hr hl ht hu (d.peSeq + 1)
  refine ⟨_, _, fun x => uuidOf_chain x l (d.peSeq + 1), by unfold uuidOf; rw [hrawu]; rfl, fun sel hsel =>
    (readRow_eq_ok_iff eSpec_ok hsel).mpr (read_entity_inserted heins he hr (d.peSeq + 1)), ?_⟩
  have := filter_after_insert d.pe _ l (d.peSeq + 1) hrid q
  rw [hrawl, hrawt, hrawu] at this
  exact this

theorem readRows_ok {sel : List (RB ECol EField)} {raws : List (Raw ECol)} {gs : List (Row EField)}
    (h : readRows sel raws = .ok gs) : ∀ g ∈ gs, ∃ raw ∈ raws, readRow raw sel = .ok g := by
  induction raws generalizing gs with
  | nil => simp only [readRows, Res.ok.injEq] at h; subst h; intro g hg; cases hg
  | cons raw rest ih =>
    simp only [readRows] at h
    cases hr : readRow raw sel with
    | ok g =>
      rw [hr] at h
      cases hrest : readRows sel rest with
      | ok gs' =>
        rw [hrest] at h
        simp only [Res.ok.injEq] at h; subst h
        intro g' hg'
        rcases List.mem_cons.mp hg' with rfl | hg'
        · exact ⟨raw, List.mem_cons_self, hr⟩
        · obtain ⟨raw', hm, hrd⟩ := ih hrest g' hg'
          exact ⟨raw', List.mem_cons_of_mem _ hm, hrd⟩
      | throw e => rw [hrest] at h; cases h
      | ub u => rw [hrest] at h; cases h
    | throw e => rw [hr] at h; cases h
    | ub u => rw [hr] at h; cases h

theorem mapFind_mem {rows : List (Row EField)} {k : Int} {g : Row EField} (h : mapFind rows k = some g) : g ∈ rows := by
  unfold mapFind at h
  exact (List.mem_filter.mp (List.mem_of_getLast? h)).1

theorem walkBack_mem (rows : List (Row EField)) (n : Nat) (g : Row EField) (acc : List (Row EField))
    (hg : g ∈ rows) (hacc : ∀ x ∈ acc, x ∈ rows) : ∀ x ∈ walkBack rows n g acc, x ∈ rows := by
  induction n generalizing g acc with
  | zero =>
    intro x hx
    simp only [walkBack, List.mem_cons] at hx
    rcases hx with rfl | hx
    · exact hg
    · exact hacc x hx
  | succ n ih =>
    intro x hx
    simp only [walkBack] at hx
    cases hm : mapFind rows (entId g) with
    | none =>
      rw [hm] at hx
      simp only [List.mem_cons] at hx
      rcases hx with rfl | hx
      · exact hg
      · exact hacc x hx
    | some g' =>
      rw [hm] at hx
      exact ih g' (g :: acc) (mapFind_mem hm) (fun y hy => by
        rcases List.mem_cons.mp hy with rfl | hy
        · exact hg
        · exact hacc y hy) x hx

/-- **`get_for_list` returns rows of the table**: every row it returns is what
the aligned SELECT reads from an entry of that list. -/
theorem entity_list_sound {st : LStmts} {d : LDb} {l : Int} {gs : List (Row EField)}
    (h : eGetForList st d l = .ok gs) :
    ∀ g ∈ gs, ∃ raw ∈ d.pe, raw .listId = .int l ∧ readRow raw st.eSelList = .ok g := by
  unfold eGetForList at h
  cases hr : readRows st.eSelList (d.pe.filter (fun x => x .listId == .int l)) with
  | throw e => rw [hr] at h; cases h
  | ub u => rw [hr] at h; cases h
  | ok rows =>
    rw [hr] at h
    have hall := readRows_ok hr
    have hrow : ∀ g ∈ rows, ∃ raw ∈ d.pe, raw .listId = .int l ∧ readRow raw st.eSelList = .ok g := by
      intro g hg
      obtain ⟨raw, hraw, hread⟩ := hall g hg
      obtain ⟨hin, hk⟩ := List.mem_filter.mp hraw
      exact ⟨raw, hin, by simpa using hk, hread⟩
    cases rows with
    | nil => simp only [Res.ok.injEq] at h; subst h; intro g hg; cases hg
    | cons r0 rest =>
      simp only at h
      cases hm : mapFind (r0 :: rest) 0 with
      | none => rw [hm] at h; cases h
      | some tail =>
        rw [hm] at h
        simp only [Res.ok.injEq] at h; subst h
        intro g hg
        exact hrow g (walkBack_mem _ _ _ _ (mapFind_mem hm) (fun _ hx => by cases hx) g hg)

/-- **`get_for_list` after the first `add_back`**: on a list without entries, the
list read back is exactly the row written. -/
theorem entity_list_single {st : LStmts} (ha : alignedL st = true) {d d' : LDb}
    {r : Row EField} (hr : wtRowE r) {dup : Bool} {i l tr : Int} {u : Bytes}
    (hl : r .list_id = .int l) (ht : r .track_id = .int tr) (hu : r .database_uuid = .str u)
    (hseq : 0 ≤ d.peSeq)
    (hempty : ∀ x ∈ d.pe, ¬ ((x .listId == .int l) = true)) (h : eAddBack st d r dup = (d', .ok i)) :
    eGetForList st d' l = .ok [normRowE i r] := by
  have hnone : noEntry3 d.pe l tr u := by
    intro x hx hc
    simp only [Bool.and_eq_true] at hc
    exact hempty x hx hc.1.1
  obtain ⟨raw, chain, _, _, hread, hf⟩ := eAddBack_filter ha hr hl ht hu hnone h (fun a _ _ => a == .int l)
  obtain ⟨ps, he, rfl, rfl⟩ := eAddBack_inserted3 hl ht hu hnone h
  unfold eGetForList
  simp only
  rw [hf, List.filter_eq_nil_iff.mpr hempty]
  simp only [List.map_nil, List.nil_append, beq_self_eq_true, if_true, readRows]
  obtain ⟨_, _, _, hselList, _⟩ := alignedL_entity ha
  rw [hread _ hselList]
  simp only
  have hnext : entNext (normRowE (d.peSeq + 1) r) = 0 := rfl
  have hidg : entId (normRowE (d.peSeq + 1) r) = d.peSeq + 1 := rfl
  have hfind0 : mapFind [normRowE (d.peSeq + 1) r] 0 = some (normRowE (d.peSeq + 1) r) := by
    simp [mapFind, hnext]
  rw [hfind0]
  simp only [List.length_singleton, walkBack, hidg]
  have hfind1 : mapFind [normRowE (d.peSeq + 1) r] (d.peSeq + 1) = none := by
    -- the new id is positive (`hseq`), so the row's own next pointer 0 does not name it
    have hne : ((0 : Int) == d.peSeq + 1) = false := by simp; omega
    simp [mapFind, hnext, hne]
  rw [hfind1]

end Table
end EngineModel
