/-
Run-lemmas for the combinators of
Impl/CursorCxx.lean, which relate the generated decoders (Gen/ImplV2Gen.lean,
Gen/ImplV1Gen.lean) to the hand-written ones; at the end the tests that several
blobs share (`fromBlob_sizeTest`, `countTest_run` with `countGuard_run` and `waveGuard_run`, `waveHeader_run`).
-/
import EngineModel.Impl.CursorCxx
import Proofs.CursorLemmas
import Proofs.Cxx

namespace EngineModel

theorem u64OfInt_s64_of_nonneg {k : UInt64} (h : ¬ Prim.s64 k < 0) : Cxx.u64OfInt (Prim.s64 k) = k.toNat := by
  rw [Prim.s64_of_nonneg k h]; exact Cxx.u64OfInt_natCast _ k.toNat_lt

namespace Cur
open Codec

theorem pure_bind' {α β} (a : α) (f : α → Cur β) : (pure a >>= f) = f a := rfl

@[simp] theorem orElse_pure_run (a : Bool) (m : Cur Bool) (bs : Bytes) :
    orElse (pure a) m bs = if a then .ok (true, bs) else m bs := by
  cases a <;> rfl

@[simp] theorem andAlso_pure_run (a : Bool) (m : Cur Bool) (bs : Bytes) :
    andAlso (pure a) m bs = if a then m bs else .ok (false, bs) := by
  cases a <;> rfl

theorem chkI64_run {x : Int} (h1 : -9223372036854775808 ≤ x) (h2 : x ≤ 9223372036854775807) (bs : Bytes) :
    chkI64 x bs = .ok (x, bs) := by
  have : Cxx.inI64 x = true := by simp [Cxx.inI64, Cxx.i64Min, Cxx.i64Max, h1, h2]
  simp [chkI64, this]

theorem chkI32_run {x : Int} (h1 : -2147483648 ≤ x) (h2 : x ≤ 2147483647) (bs : Bytes) :
    chkI32 x bs = .ok (x, bs) := by
  have : Cxx.inI32 x = true := by simp [Cxx.inI32, Cxx.i32Min, Cxx.i32Max, h1, h2]
  simp [chkI32, this]

theorem reserve_run {n e : Nat} (h : n ≤ 9223372036854775807 / e) (bs : Bytes) :
    reserve n e bs = .ok ((), bs) := by
  have : ¬ (9223372036854775807 / e < n) := by omega
  simp [reserve, this]

/-- `s.assign(ptr, n); ptr += n;` is taking `n` bytes. -/
theorem peek_advance {β} (n : Nat) (f : Bytes → Cur β) :
    (peekN n >>= fun s => advance n >>= fun _ => f s) = (takeN n >>= f) := by
  funext bs
  simp only [bind_run, peekN, advance, takeN]
  by_cases h : n ≤ bs.length <;> simp [h]

theorem advance_bind {β} (n : Nat) (k : Cur β) :
    (advance n >>= fun _ => k) = (takeN n >>= fun _ => k) := by
  funext bs
  simp only [bind_run, Cur.advance, takeN]
  by_cases h : n ≤ bs.length <;> simp [h]

theorem takeN_zero (bs : Bytes) : takeN 0 bs = .ok ([], bs) := by simp [takeN]

@[simp] theorem forCount_eq {α} (body : Cur α) (n : Int) : forCount body n = forN body n.toNat := rfl
@[simp] theorem forEach_eq {α} (body : Cur α) (n : Nat) : forEach body n = forN body n := rfl

theorem remaining_bind {β} (f : Nat → Cur β) (bs : Bytes) : (remaining >>= f) bs = f bs.length bs := rfl

theorem bind_of_run {α β} {m : Cur α} {bs r : Bytes} {a : α} (h : m bs = .ok (a, r)) (f : α → Cur β) :
    (m >>= f) bs = f a r := by
  rw [bind_run, h]

/-- `end - ptr` computed and not used: the translator binds `buf.size()` at the head of a `from_blob` even when the
test that follows reads `end - ptr` instead. -/
theorem remaining_bind_const {β} (m : Cur β) : (remaining >>= fun _ => m) = m := rfl

/-- A `from_blob` that opens with a test of the payload size (`if (size < K) throw …`), against the hand model's opening
`if`: what follows needs to agree only on payloads that pass the test.  `q` is the test as the translator spells it
(`buf.size() < K` on `size_t`, `end - ptr < K` on `ptrdiff_t`, …), `p` as the hand model does.  Where a use ends in
`fun _ => rfl`, that closes because the hand decoder unfolds to exactly `if p bs.length then .throw e else (m' bs).bind …`:
those proofs rest on the opening shape of the hand model. -/
theorem fromBlob_sizeTest {α} (p : Nat → Prop) [DecidablePred p] {q : Nat → Prop} [DecidablePred q] (e : Exn)
    (m m' : Cur α) (hq : ∀ n, q n ↔ p n) (bs : Bytes) (h : ¬ p bs.length → m bs = m' bs) :
    fromBlob (remaining >>= fun n => if decide (q n) = true then throwC e else m) bs =
      if p bs.length then .throw e else (m' bs).bind (fun r => .ok r.1) := by
  unfold fromBlob
  rw [remaining_bind]
  by_cases hp : p bs.length
  · simp [hp, hq, Res.bind]
  · rw [if_neg hp, ← h hp]
    simp [hp, hq]

/-- The count test `n < 0 || n > (end - ptr) / w` (short-circuit, C++ `/`), then `G` on its verdict, against the hand
model's test: `G true` must throw, and `G false` needs to agree with `K'` only for a count the test lets through. -/
theorem countTest_run {β} (k : UInt64) (w : Int) (G : Bool → Cur β) (K' : Cur β) (r : Bytes)
    (hT : G true r = .throw .invalid_argument)
    (hK : ¬ Prim.s64 k < 0 → ¬ (r.length : Int) / w < Prim.s64 k → G false r = K' r) :
    (orElse (pure (decide (Prim.s64 k < 0)))
          (remaining >>= fun t => pure (decide (Prim.s64 k > Int.tdiv (t : Int) w))) >>= G) r =
      (if Prim.s64 k < 0 ∨ (r.length : Int) / w < Prim.s64 k then throwC .invalid_argument else K') r := by
  rw [bind_run, orElse_pure_run]
  have hdiv : Int.tdiv (r.length : Int) w = (r.length : Int) / w := Int.tdiv_eq_ediv_of_nonneg (by omega)
  by_cases hneg : Prim.s64 k < 0
  · simp [hneg, hT]
  · by_cases hc : (r.length : Int) / w < Prim.s64 k
    · simp [hneg, hc, hT]
    · simp only [hneg, hc, hdiv, gt_iff_lt, decide_false, Bool.false_eq_true, if_false, bind_run, remaining_run,
        pure_run, or_self, hK hneg hc]

/-- The count test of a list blob, `reserve(n)` and the loop, against the hand model's test and loop.  The hand model
has no `reserve`: it stays below `max_size()` as long as `(end - ptr) / w` does. -/
theorem countGuard_run {α β} (k : UInt64) (w : Int) (esz : Nat) (body : Cur α) (K : List α → Cur β) (r : Bytes)
    (hres : (r.length : Int) / w ≤ ((9223372036854775807 / esz : Nat) : Int)) :
    (orElse (pure (decide (Prim.s64 k < 0)))
          (remaining >>= fun t => pure (decide (Prim.s64 k > Int.tdiv (t : Int) w))) >>= fun t =>
        if t = true then throwC .invalid_argument else
          reserve (Cxx.u64OfInt (Prim.s64 k)) esz >>= fun _ => forCount body (Prim.s64 k) >>= K) r =
      (if Prim.s64 k < 0 ∨ (r.length : Int) / w < Prim.s64 k then throwC .invalid_argument
        else forN body k.toNat >>= K) r :=
  countTest_run k w _ _ r rfl fun hneg hc => by
    have hk := Prim.s64_toNat_of_nonneg hneg
    rw [if_neg Bool.false_ne_true, u64OfInt_s64_of_nonneg hneg, bind_of_run (reserve_run (by omega) r), forCount_eq,
      hk]

/-- The size test of a waveform blob, `n < 0 || n > (end - ptr) / w || p (end - ptr) (w * (n + 1))` (short-circuit;
the `int64_t` sum and product checked) and `resize(n)`, against the hand model's test, which checks the same
two operations.  `K` is what follows in the generated code, which has the entry count as the `size_t` `c`, `K'` what
follows in the hand model; they need to agree only where the test lets them run. -/
theorem waveGuard_run {β} (n : UInt64) (w : Int) (esz : Nat) (p : Int → Int → Prop) [∀ a b, Decidable (p a b)]
    (c : Nat) (hc : Cxx.u64OfInt (Prim.s64 n) = c) (K K' : Cur β) (r : Bytes) (hw : 0 < w) (hlen : (r.length : Int) + w < 9223372036854775808)
    (hres : (r.length : Int) / w ≤ ((9223372036854775807 / esz : Nat) : Int))
    (hK : c = n.toNat → ¬ Prim.s64 n < 0 → ¬ p (r.length : Int) (w * (Prim.s64 n + 1)) → K r = K' r) :
    (orElse (pure (decide (Prim.s64 n < 0)))
          (remaining >>= fun t => pure (decide (Prim.s64 n > Int.tdiv (t : Int) w))) >>= fun t2 =>
        orElse (pure t2) (remaining >>= fun t3 => chkI64 (Prim.s64 n + 1) >>= fun t4 => chkI64 (w * t4) >>= fun t5 =>
          pure (decide (p (t3 : Int) t5))) >>= fun t6 =>
        if t6 = true then throwC .invalid_argument else
          reserve c esz >>= fun _ => K) r =
      (if Prim.s64 n < 0 ∨ (r.length : Int) / w < Prim.s64 n then throwC .invalid_argument else
        lift (Chk.add64 (Prim.s64 n) 1) >>= fun n1p => lift (Chk.mul64 w n1p) >>= fun need =>
          if p (r.length : Int) need then throwC .invalid_argument else K') r := by
  subst hc
  refine countTest_run n w _ _ r rfl fun hneg hc => ?_
  have hk := Prim.s64_toNat_of_nonneg hneg
  have hres' : n.toNat ≤ 9223372036854775807 / esz := by omega
  -- `n ≤ (end - ptr) / w` keeps the sum and the product in range
  have hmul : w * Prim.s64 n ≤ (r.length : Int) :=
    Int.le_trans (Int.mul_le_mul_of_nonneg_left (Int.not_lt.mp hc) (Int.le_of_lt hw))
      (Int.mul_ediv_self_le (Int.ne_of_gt hw))
  have hle := Int.ediv_le_self w (Int.natCast_nonneg r.length)
  have hpos := Int.mul_nonneg (Int.le_of_lt hw) (Int.not_lt.mp hneg)
  have h1 : Chk.in64 (Prim.s64 n + 1) := by unfold Chk.in64; omega
  have h2 : Chk.in64 (w * (Prim.s64 n + 1)) := by rw [Int.mul_add, Int.mul_one]; unfold Chk.in64; omega
  simp only [Bool.false_eq_true, if_false, bind_run, remaining_run, pure_run, orElse_pure_run,
    chkI64_run h1.1 h1.2, chkI64_run h2.1 h2.2, Chk.add64_ok h1, Chk.mul64_ok h2, lift_ok_run,
    u64OfInt_s64_of_nonneg hneg]
  by_cases hp : p (r.length : Int) (w * (Prim.s64 n + 1))
  · simp [hp]
  · simp only [hp, decide_false, Bool.false_eq_true, if_false, bind_run, reserve_run hres',
      hK (u64OfInt_s64_of_nonneg hneg) hneg hp]

/-- The head of a waveform blob: the entry count twice (the copies must agree; the generated code compares them as
`int64_t`, the hand model as bit patterns), the samples per entry, then `G` resp. `G'` on the remaining bytes. -/
theorem waveHeader_run {β} (bs : Bytes) (h24 : 24 ≤ bs.length) (G G' : UInt64 → UInt64 → Cur β)
    (hG : ∀ n spp, G n spp (bs.drop 24) = G' n spp (bs.drop 24)) :
    (rd u64be >>= fun n1 => rd u64be >>= fun n2 => rd u64be >>= fun spp =>
        if decide (Prim.s64 n1 ≠ Prim.s64 n2) = true then throwC .invalid_argument else G n1 spp) bs =
      (rd u64be >>= fun n1 => rd u64be >>= fun n2 => rd u64be >>= fun spp =>
        if n1 ≠ n2 then throwC .invalid_argument else G' n1 spp) bs := by
  have r1 := rd_u64be_run (bs := bs) (by omega)
  have r2 := rd_u64be_run (bs := bs.drop 8) (by simp; omega)
  have r3 := rd_u64be_run (bs := bs.drop (8 + 8)) (by simp; omega)
  rw [List.drop_drop] at r2 r3
  rw [bind_of_run r1, bind_of_run r2, bind_of_run r3, bind_of_run r1, bind_of_run r2, bind_of_run r3]
  by_cases hn : u64be.get bs = u64be.get (bs.drop 8)
  · simp only [← hn, ne_eq, not_true_eq_false, decide_false, Bool.false_eq_true, if_false]
    exact hG _ _
  · have : Prim.s64 (u64be.get bs) ≠ Prim.s64 (u64be.get (bs.drop 8)) := fun h => hn (Prim.s64_inj.mp h)
    simp [hn, this]

end Cur

end EngineModel
