/-
Generic lemmas about binding tables (property C18).  The value level is the
round trip `rconv ∘ wconv = normV` for every declared member type
(`conv_written`).  The row level turns on `view`, what an aligned SELECT reads
member by member from a stored row (`readRow_eq_ok_iff`): it is computed after
one column is set (`view_setCol`) and after an aligned write (`view_assign_mem`,
`view_assign_not_mem`).  Alignment of a write statement is decided by sorting it
(`alignedWs`).  Last, the row store (Table/Store.lean).
-/
import EngineModel.Table.Store

namespace EngineModel
namespace Table

theorem in64_iff (i : Int) : in64 i = true ↔ (-9223372036854775808 ≤ i ∧ i ≤ 9223372036854775807) := by
  unfold in64; simp

theorem in32_iff (i : Int) : in32 i = true ↔ (-2147483648 ≤ i ∧ i ≤ 2147483647) := by
  unfold in32; simp

theorem wrap32_of_in32 {i : Int} (h : in32 i = true) : wrap32 i = i := by
  rw [in32_iff] at h
  unfold wrap32
  omega

theorem truncSec_in64 {ns : Int} (h : in64 ns = true) : in64 (truncSec ns * 1000000000) = true := by
  rw [in64_iff] at *
  unfold truncSec
  split <;> omega

theorem toTimePoint_of_in64 {ts : Int} (h : in64 (ts * 1000000000) = true) :
    toTimePoint ts = .ok (ts * 1000000000) := by
  unfold toTimePoint
  rw [if_pos h]

theorem truncSec_mul (q : Int) : truncSec (q * 1000000000) = q := by
  unfold truncSec
  split
  · exact Int.mul_ediv_cancel q (by decide)
  · rw [← Int.neg_mul, Int.mul_ediv_cancel _ (by decide), Int.neg_neg]

theorem truncSec_idem (ns : Int) : truncSec (truncSec ns * 1000000000) = truncSec ns := truncSec_mul _

theorem floorSec_idem (ns : Int) : floorSec (floorSec ns * 1000000000) = floorSec ns := by
  unfold floorSec
  omega

theorem readOptReal_storeReal (x : UInt64) :
    FVal.oreal (readOptReal (storeReal x)) = normV .odbl (.oreal (some x)) := by
  simp only [storeReal, normV]
  split
  · rfl
  · split <;> rfl

theorem conv_written {ty : FTy} {v : FVal} {x : Val}
    (hv : wtv ty v = true) (hw : wconv ty.wconv v = .ok x) :
    colTyped ty x = true ∧ rconv ty.pty ty.rconv x = .ok (normV ty v) := by
  -- `split` yields the fifteen clauses of `wtv` in order, `h_1` … `h_15`
  unfold wtv at hv
  split at hv
  case h_15 => cases hv  -- no clause applies: `hv` is `false = true`
  case h_14 k b =>
    -- a blob: `to_blob` accepted it, and it is of the member's kind
    change (if b.encodable = true then Res.ok (Val.blob b) else _) = _ at hw
    split at hw
    · cases hw
      rename_i henc
      refine ⟨?_, ?_⟩
      · show (decide (b.kind = k) && b.encodable) = true
        rw [hv, henc]; rfl
      · show (if b.kind = k then Res.ok (FVal.blob b) else _) = _
        rw [if_pos (decide_eq_true_eq.mp hv)]; rfl
    · cases hw
  case h_7 o => cases o <;> (cases hw; exact ⟨rfl, rfl⟩)  -- `.ostr`
  case h_8 o =>  -- `.odbl`
    cases o with
    | none => cases hw; exact ⟨rfl, rfl⟩
    | some b =>
      cases hw
      refine ⟨?_, ?_⟩
      · unfold storeReal
        split
        · rfl
        · rename_i hnan
          split
          · decide
          · show (!F64.isNaN b) = true
            simpa using hnan
      · show Res.ok (FVal.oreal (readOptReal (storeReal b))) = _
        rw [readOptReal_storeReal]
  all_goals cases hw
  case h_5 i =>  -- `.oi32`, `some i`
    refine ⟨hv, ?_⟩
    show Res.ok (FVal.oint (some (wrap32 i))) = _
    rw [wrap32_of_in32 hv]; rfl
  case h_9 b => cases b <;> exact ⟨rfl, rfl⟩  -- `.bool`
  case h_10 ns =>  -- `.time`
    refine ⟨truncSec_in64 hv, ?_⟩
    show (toTimePoint (truncSec ns)).bind (fun t => Res.ok (FVal.time t)) = _
    rw [toTimePoint_of_in64 (truncSec_in64 hv)]; rfl
  case h_12 ns =>  -- `.otime`, `some ns`
    refine ⟨truncSec_in64 hv, ?_⟩
    show (toTimePoint (truncSec ns)).bind (fun t => Res.ok (FVal.otime (some t))) = _
    rw [toTimePoint_of_in64 (truncSec_in64 hv)]; rfl
  case h_13 ns =>  -- `.timeText`
    simp only [Bool.and_eq_true] at hv
    refine ⟨hv.2, ?_⟩
    show (toTimePoint (ns / 1000000000)).bind (fun t => Res.ok (FVal.time t)) = _
    rw [toTimePoint_of_in64 (ts := ns / 1000000000) hv.2]; rfl
  all_goals exact ⟨rfl, rfl⟩

theorem conv_roundtrip {ty : FTy} {v : FVal} {x : Val}
    (hv : wtv ty v = true) (hw : wconv ty.wconv v = .ok x) :
    rconv ty.pty ty.rconv x = .ok (normV ty v) := (conv_written hv hw).2

theorem wconv_colTyped {ty : FTy} {v : FVal} {x : Val} (hv : wtv ty v = true)
    (hw : wconv ty.wconv v = .ok x) : colTyped ty x = true := (conv_written hv hw).1

theorem wtv_normV {ty : FTy} {v : FVal} (hv : wtv ty v = true) : wtv ty (normV ty v) = true := by
  unfold wtv at hv
  split at hv
  case h_15 => cases hv
  case h_8 o =>  -- `.odbl`
    cases o with
    | none => rfl
    | some x =>
      simp only [normV]
      split
      · rfl
      · split <;> rfl
  case h_10 ns => exact truncSec_in64 hv  -- `.time`
  case h_12 ns => exact truncSec_in64 hv  -- `.otime`, `some ns`
  case h_13 ns =>  -- `.timeText`
    simp only [Bool.and_eq_true] at hv
    simp only [normV, wtv, Bool.and_eq_true, floorSec_idem]
    exact ⟨hv.2, hv.2⟩
  all_goals first | exact hv | rfl

theorem wt_i64 {v : FVal} (h : wtv .i64 v = true) : ∃ i, v = .int i := by
  cases v <;> first | exact ⟨_, rfl⟩ | cases h

theorem wt_str {v : FVal} (h : wtv .str v = true) : ∃ b, v = .str b := by
  cases v <;> first | exact ⟨_, rfl⟩ | cases h

-- `k` is a variable, with `hk` given as `rfl` at the call, so that a caller's `(sp.tyOf f).wconv` is accepted as it stands
theorem written_i64 {k : WConv} {v : FVal} {x : Val} (hv : wtv .i64 v = true) (hk : k = FTy.wconv .i64)
    (hw : wconv k v = .ok x) : ∃ i, v = .int i ∧ x = .int i := by
  obtain ⟨i, rfl⟩ := wt_i64 hv
  subst hk
  cases hw
  exact ⟨_, rfl, rfl⟩

theorem written_str {k : WConv} {v : FVal} {x : Val} (hv : wtv .str v = true) (hk : k = FTy.wconv .str)
    (hw : wconv k v = .ok x) : ∃ b, v = .str b ∧ x = .text b := by
  obtain ⟨b, rfl⟩ := wt_str hv
  subst hk
  cases hw
  exact ⟨_, rfl, rfl⟩

/-- `to_blob` accepts exactly the encodable values. -/
theorem toBlob_eq_ok {v : BlobV} {x : Val} : wconv .toBlob (.blob v) = .ok x ↔ v.encodable = true ∧ x = .blob v := by
  show (if v.encodable = true then Res.ok (Val.blob v) else _) = _ ↔ _
  split
  · rename_i h; exact ⟨fun hx => ⟨h, (Res.ok.inj hx).symm⟩, fun hx => hx.2 ▸ rfl⟩
  · rename_i h; exact ⟨nofun, fun hx => absurd hx.1 h⟩

theorem wconv_no_ub (k : WConv) (v : FVal) (u : Ub) : wconv k v ≠ .ub u := by
  unfold wconv
  split <;> first | (split <;> nofun) | nofun

theorem rconv_colTyped {ty : FTy} {x : Val} (h : colTyped ty x = true) :
    ∃ v, rconv ty.pty ty.rconv x = .ok v := by
  cases ty
  -- only the time stamps (`to_time_point`), the text time stamp and the blobs have reads that can fail
  case time | otime =>
    cases x
    case null => exact ⟨_, rfl⟩
    case int ts =>
      exact ⟨_, by show (toTimePoint ts).bind _ = _; rw [toTimePoint_of_in64 h]; rfl⟩
    all_goals cases h
  case timeText =>
    cases x
    case ft sec frac => exact ⟨_, by show (toTimePoint sec).bind _ = _; rw [toTimePoint_of_in64 h]; rfl⟩
    all_goals cases h
  case blob k =>
    cases x
    case blob v =>
      have h : (decide (v.kind = k) && v.encodable) = true := h
      rw [Bool.and_eq_true, decide_eq_true_eq] at h
      exact ⟨.blob v, by show (if v.kind = k then Res.ok (FVal.blob v) else _) = _; rw [if_pos h.1]⟩
    all_goals cases h
  all_goals exact ⟨_, rfl⟩

set_option linter.unusedSectionVars false
variable {C F : Type} [DecidableEq C] [DecidableEq F]

theorem setCol_same (raw : Raw C) (c : C) (v : Val) : setCol raw c v c = v := by simp [setCol]
theorem setCol_other (raw : Raw C) {c c' : C} (v : Val) (h : c' ≠ c) : setCol raw c v c' = raw c' := by
  simp [setCol, h]

theorem setCol_same_val (r : Raw C) (c : C) (v : Val) (h : r c = v) : setCol r c v = r := by
  funext c'
  unfold setCol
  split
  · rename_i hc; rw [hc, h]
  · rfl

theorem nodupB_cons {c : C} {cs : List C} (h : nodupB (c :: cs) = true) : c ∉ cs ∧ nodupB cs = true := by
  simpa [nodupB] using h

theorem assign_not_mem (raw : Raw C) (l : List (C × Val)) (c : C) (h : c ∉ l.map (·.1)) :
    assign raw l c = raw c := by
  induction l generalizing raw with
  | nil => rfl
  | cons p rest ih =>
    simp only [List.map_cons, List.mem_cons, not_or] at h
    rw [assign, ih _ h.2, setCol_other _ _ h.1]

theorem assign_mem (raw : Raw C) (l : List (C × Val)) (c : C) (v : Val)
    (hn : nodupB (l.map (·.1)) = true) (h : (c, v) ∈ l) : assign raw l c = v := by
  induction l generalizing raw with
  | nil => cases h
  | cons p rest ih =>
    obtain ⟨hnot, hn'⟩ := nodupB_cons hn
    rcases List.mem_cons.mp h with heq | hmem
    · subst heq
      rw [assign, assign_not_mem _ _ _ hnot, setCol_same]
    · exact ih _ hn' hmem

theorem evalParams_ok {r : Row F} {ps : List (WB C F)} {l : List (C × Val)}
    (h : evalParams r ps = .ok l) :
    l.map (·.1) = ps.map (·.col) ∧
    ∀ p ∈ ps, ∃ v, evalSrc r p.src = .ok v ∧ (p.col, v) ∈ l := by
  induction ps generalizing l with
  | nil => cases h; exact ⟨rfl, fun p hp => by cases hp⟩
  | cons p ps ih =>
    unfold evalParams at h
    split at h
    · rename_i v hw
      split at h
      · rename_i rest he
        cases h
        obtain ⟨h1, h2⟩ := ih he
        refine ⟨by simp [h1], fun q hq => ?_⟩
        rcases List.mem_cons.mp hq with rfl | hq'
        · exact ⟨v, hw, List.mem_cons_self⟩
        · obtain ⟨v', hv', hm⟩ := h2 q hq'
          exact ⟨v', hv', List.mem_cons_of_mem _ hm⟩
      all_goals cases h
    all_goals cases h

theorem alignedW_iff {sp : TSpec C F} {need : List F} {consts : List (C × Val)} {ps : List (WB C F)} :
    alignedW sp need consts ps = true ↔
      (∀ p ∈ ps, match p.src with
        | .field f k => p.col = sp.colOf f ∧ k = (sp.tyOf f).wconv ∧ f ∈ need
        | .const v => (p.col, v) ∈ consts) ∧
      nodupB (ps.map (·.col)) = true ∧
      (∀ f ∈ need, ⟨sp.colOf f, .field f (sp.tyOf f).wconv⟩ ∈ ps) ∧
      (∀ cv ∈ consts, ⟨cv.1, .const cv.2⟩ ∈ ps) := by
  simp only [alignedW, Bool.and_eq_true, List.all_eq_true, List.contains_eq_mem, decide_eq_true_eq, and_assoc]
  refine and_congr_left' (forall₂_congr fun p _ => ?_)
  obtain ⟨c, src⟩ := p
  cases src <;> simp [and_assoc]

theorem assign_evalParams {sp : TSpec C F} {need : List F} {consts : List (C × Val)}
    {ps : List (WB C F)} {r : Row F}
    {l : List (C × Val)} (ha : alignedW sp need consts ps = true) (he : evalParams r ps = .ok l)
    (raw : Raw C) {f : F} (hf : f ∈ need) :
    ∃ v, wconv (sp.tyOf f).wconv (r f) = .ok v ∧ assign raw l (sp.colOf f) = v := by
  obtain ⟨_, hnd, hneed, _⟩ := alignedW_iff.mp ha
  obtain ⟨hcols, hvals⟩ := evalParams_ok he
  obtain ⟨v, hv, hm⟩ := hvals _ (hneed f hf)
  exact ⟨v, hv, assign_mem raw l _ v (hcols ▸ hnd) hm⟩

theorem assign_evalParams_const {sp : TSpec C F} {need : List F} {consts : List (C × Val)}
    {ps : List (WB C F)} {r : Row F}
    {l : List (C × Val)} (ha : alignedW sp need consts ps = true) (he : evalParams r ps = .ok l)
    (raw : Raw C) {c : C} {v : Val} (hc : (c, v) ∈ consts) :
    assign raw l c = v := by
  obtain ⟨_, hnd, _, hconst⟩ := alignedW_iff.mp ha
  obtain ⟨hcols, hvals⟩ := evalParams_ok he
  obtain ⟨v', hv', hm⟩ := hvals _ (hconst _ hc)
  cases hv'
  exact assign_mem raw l _ _ (hcols ▸ hnd) hm

theorem alignedW_cols {sp : TSpec C F} {need : List F} {consts : List (C × Val)}
    {ps : List (WB C F)} (ha : alignedW sp need consts ps = true) {c : C}
    (hc : c ∈ ps.map (·.col)) : c ∈ need.map sp.colOf ∨ c ∈ consts.map (·.1) := by
  obtain ⟨p, hp, rfl⟩ := List.mem_map.mp hc
  have := (alignedW_iff.mp ha).1 p hp
  split at this
  · exact .inl (this.1 ▸ List.mem_map_of_mem this.2.2)
  · exact .inr (List.mem_map.mpr ⟨_, this, rfl⟩)

theorem alignedW_mem {sp : TSpec C F} {need : List F} {consts : List (C × Val)} {ps : List (WB C F)}
    (ha : alignedW sp need consts ps = true) {f : F} (hf : f ∈ need) : sp.colOf f ∈ ps.map (·.col) :=
  List.mem_map.mpr ⟨_, (alignedW_iff.mp ha).2.2.1 f hf, rfl⟩

theorem assign_evalParams_frame {ps : List (WB C F)} {r : Row F} {l : List (C × Val)}
    (he : evalParams r ps = .ok l) (raw : Raw C) {c : C} (hc : c ∉ ps.map (·.col)) :
    assign raw l c = raw c :=
  assign_not_mem raw l c ((evalParams_ok he).1 ▸ hc)

theorem assign_evalParams_other {sp : TSpec C F} {need : List F} {consts : List (C × Val)}
    {ps : List (WB C F)} {r : Row F} {l : List (C × Val)}
    (ha : alignedW sp need consts ps = true) (he : evalParams r ps = .ok l) (raw : Raw C) {c : C}
    (hc : c ∉ need.map sp.colOf) (hc' : c ∉ consts.map (·.1)) : assign raw l c = raw c :=
  assign_evalParams_frame he raw fun h => (alignedW_cols ha h).elim hc hc'

/-!
`alignedW` looks every needed member up in the statement and every binding up in
the needed members.  The same is decided by one comparison: the statement, sorted
by a numeric key of its columns, against the Spec's bindings in the order of
`need`. -/

/-- Insertion sort by a numeric key (linear on a list already in order). -/
def insertBy {α : Type} (key : α → Nat) (a : α) : List α → List α
  | [] => [a]
  | b :: l => if key a ≤ key b then a :: b :: l else b :: insertBy key a l

def sortBy {α : Type} (key : α → Nat) (l : List α) : List α := l.foldr (insertBy key) []

theorem insertBy_perm {α : Type} (key : α → Nat) (a : α) (l : List α) : (insertBy key a l).Perm (a :: l) := by
  induction l with
  | nil => exact .refl _
  | cons b l ih =>
    unfold insertBy
    split
    · exact .refl _
    · exact (List.Perm.cons b ih).trans (List.Perm.swap a b l)

theorem sortBy_perm {α : Type} (key : α → Nat) (l : List α) : (sortBy key l).Perm l := by
  induction l with
  | nil => exact .refl _
  | cons a l ih => exact (insertBy_perm key a _).trans (ih.cons a)

theorem nodupB_iff (l : List C) : nodupB l = true ↔ l.Nodup := by
  induction l with
  | nil => simp [nodupB]
  | cons c cs ih => simp [nodupB, ih]

theorem alignedW_of_perm {sp : TSpec C F} {need : List F} {ps : List (WB C F)}
    (hinj : ∀ f g, sp.colOf f = sp.colOf g → f = g) (hnd : nodupB need = true)
    (h : ps.Perm (need.map fun f => ⟨sp.colOf f, .field f (sp.tyOf f).wconv⟩)) :
    alignedW sp need [] ps = true := by
  refine alignedW_iff.mpr ⟨fun p hp => ?_, ?_, fun f hf => h.mem_iff.mpr (List.mem_map_of_mem hf), nofun⟩
  · obtain ⟨f, hf, rfl⟩ := List.mem_map.mp (h.mem_iff.mp hp)
    exact ⟨rfl, rfl, hf⟩
  · rw [nodupB_iff, (h.map _).nodup_iff, List.map_map]
    exact List.Pairwise.map _ (fun f g hfg heq => hfg (hinj f g heq)) ((nodupB_iff need).mp hnd)

def alignedWs (sp : TSpec C F) (key : C → Nat) (need : List F) (ps : List (WB C F)) : Bool :=
  decide (sortBy (fun p => key p.col) ps = need.map fun f => ⟨sp.colOf f, .field f (sp.tyOf f).wconv⟩)

theorem alignedWs_sound {sp : TSpec C F} {key : C → Nat} {need : List F} {ps : List (WB C F)}
    (hinj : ∀ f g, sp.colOf f = sp.colOf g → f = g) (hnd : nodupB need = true)
    (h : alignedWs sp key need ps = true) : alignedW sp need [] ps = true :=
  alignedW_of_perm hinj hnd (of_decide_eq_true h ▸ (sortBy_perm _ ps).symm)

theorem evalSrc_no_ub (r : Row F) (s : WSrc F) (u : Ub) : evalSrc r s ≠ .ub u := by
  cases s with
  | field f k => exact wconv_no_ub _ _ _
  | const v => nofun

theorem evalParams_no_ub {r : Row F} {ps : List (WB C F)} : ∀ u, evalParams r ps ≠ .ub u := by
  induction ps with
  | nil => nofun
  | cons p ps ih =>
    intro u h
    unfold evalParams at h
    split at h
    · split at h
      · cases h
      · cases h
      · rename_i he; exact ih _ he
    · cases h
    · rename_i hw; exact evalSrc_no_ub _ _ _ hw

theorem readRow_ok {raw : Raw C} {sel : List (RB C F)} {g : Row F}
    (h : readRow raw sel = .ok g) (hn : nodupB (sel.map (·.field)) = true) :
    ∀ b ∈ sel, readSrc raw b.src = .ok (g b.field) := by
  induction sel generalizing g with
  | nil => intro b hb; cases hb
  | cons b bs ih =>
    obtain ⟨hnot, hn'⟩ := nodupB_cons hn
    unfold readRow at h
    split at h
    · rename_i v hs
      split at h
      · rename_i g' hr
        cases h
        intro q hq
        rcases List.mem_cons.mp hq with rfl | hq'
        · simpa using hs
        · have hne : q.field ≠ b.field := fun heq => hnot (List.mem_map.mpr ⟨q, hq', heq⟩)
          simpa [hne] using ih hr hn' q hq'
      all_goals cases h
    all_goals cases h

theorem readRow_of_all {raw : Raw C} {sel : List (RB C F)}
    (h : ∀ b ∈ sel, ∃ v, readSrc raw b.src = .ok v) : ∃ g, readRow raw sel = .ok g := by
  induction sel with
  | nil => exact ⟨_, rfl⟩
  | cons b bs ih =>
    obtain ⟨v, hv⟩ := h b List.mem_cons_self
    obtain ⟨g, hg⟩ := ih (fun q hq => h q (List.mem_cons_of_mem _ hq))
    exact ⟨fun f => if f = b.field then v else g f, by simp only [readRow, hv, hg]⟩

/-- The source an aligned `SELECT` reads member `f` from. -/
def expectedSrc (sp : TSpec C F) (present : F → Bool) (f : F) : RSrc C :=
  if present f then .col (sp.colOf f) (sp.tyOf f).pty (sp.tyOf f).rconv else absentSrc (sp.tyOf f)

theorem alignedR_fields {sp : TSpec C F} {present : F → Bool} {sel : List (RB C F)}
    (har : alignedR sp present sel = true) : sel.map (·.field) = sp.fields := by
  simp only [alignedR, Bool.and_eq_true, decide_eq_true_eq] at har
  exact har.1

theorem alignedR_src {sp : TSpec C F} {present : F → Bool} {sel : List (RB C F)}
    (har : alignedR sp present sel = true) {b : RB C F} (hb : b ∈ sel) :
    b.src = expectedSrc sp present b.field := by
  simp only [alignedR, Bool.and_eq_true, decide_eq_true_eq, List.all_eq_true] at har
  exact har.2 b hb

/-- The members are listed once each, and each has its own column. -/
structure TSpec.Ok (sp : TSpec C F) : Prop where
  inj : ∀ {f g}, sp.colOf f = sp.colOf g → f = g
  nodup : nodupB sp.fields = true
  mem : ∀ f, f ∈ sp.fields

/-- What an aligned `SELECT` reads for member `f` from the stored row `raw`. -/
def view (sp : TSpec C F) (present : F → Bool) (raw : Raw C) (f : F) : Res FVal :=
  readSrc raw (expectedSrc sp present f)

theorem view_present {sp : TSpec C F} {present : F → Bool} {f : F} (h : present f = true) (raw : Raw C) :
    view sp present raw f = rconv (sp.tyOf f).pty (sp.tyOf f).rconv (raw (sp.colOf f)) := by
  simp only [view, expectedSrc, h, if_true, readSrc]

theorem view_congr {sp : TSpec C F} {present : F → Bool} {raw1 raw2 : Raw C} {f : F}
    (h : raw1 (sp.colOf f) = raw2 (sp.colOf f)) : view sp present raw1 f = view sp present raw2 f := by
  unfold view expectedSrc
  split
  · simp only [readSrc, h]
  · cases sp.tyOf f <;> rfl

theorem readRow_eq_ok_iff {sp : TSpec C F} (ok : sp.Ok) {present : F → Bool} {sel : List (RB C F)}
    (har : alignedR sp present sel = true) {raw : Raw C} {g : Row F} :
    readRow raw sel = .ok g ↔ ∀ f, view sp present raw f = .ok (g f) := by
  unfold view
  have hnd : nodupB (sel.map (·.field)) = true := alignedR_fields har ▸ ok.nodup
  have hread : ∀ {g'}, readRow raw sel = .ok g' → ∀ f, readSrc raw (expectedSrc sp present f) = .ok (g' f) :=
    fun h f => by
      obtain ⟨b, hb, rfl⟩ := List.mem_map.mp (alignedR_fields har ▸ ok.mem f)
      exact alignedR_src har hb ▸ readRow_ok h hnd b hb
  refine ⟨hread, fun h => ?_⟩
  obtain ⟨g', hg'⟩ := readRow_of_all (raw := raw) (sel := sel) (fun b hb => ⟨_, alignedR_src har hb ▸ h b.field⟩)
  rw [hg']
  congr 1
  funext f
  exact Res.ok.inj ((hread hg' f).symm.trans (h f))

theorem view_setCol {sp : TSpec C F} (ok : sp.Ok) (present : F → Bool) (raw : Raw C) (m : F) (x : Val) (g : F) :
    view sp present (setCol raw (sp.colOf m) x) g =
      if g = m ∧ present g = true then rconv (sp.tyOf g).pty (sp.tyOf g).rconv x else view sp present raw g := by
  by_cases hg : g = m
  · subst hg
    by_cases hp : present g = true
    · rw [if_pos ⟨rfl, hp⟩, view_present hp, setCol_same]
    · rw [if_neg (fun h => hp h.2)]
      simp only [view, expectedSrc, hp, Bool.false_eq_true, if_false]
      cases sp.tyOf g <;> rfl
  · rw [if_neg (fun h => hg h.1)]
    exact view_congr (setCol_other _ _ (fun hc => hg (ok.inj hc)))

theorem view_assign_mem {sp : TSpec C F} {present : F → Bool} {need : List F} {consts : List (C × Val)}
    {ps : List (WB C F)} {r : Row F} {l : List (C × Val)}
    (ha : alignedW sp need consts ps = true) (he : evalParams r ps = .ok l) (base : Raw C) {f : F}
    (hf : f ∈ need) (hp : present f = true) (hwt : wtv (sp.tyOf f) (r f) = true) :
    view sp present (assign base l) f = .ok (normV (sp.tyOf f) (r f)) := by
  rw [view_present hp]
  obtain ⟨v, hv, hcol⟩ := assign_evalParams ha he base hf
  rw [hcol]
  exact conv_roundtrip hwt hv

theorem col_not_written {sp : TSpec C F} (ok : sp.Ok) {need : List F} {ps : List (WB C F)} {r : Row F}
    {l : List (C × Val)} (ha : alignedW sp need [] ps = true) (he : evalParams r ps = .ok l) {f : F} (hf : f ∉ need) :
    sp.colOf f ∉ l.map (·.1) := by
  rw [(evalParams_ok he).1]
  intro hc
  rcases alignedW_cols ha hc with h | h
  · obtain ⟨g, hg, hcol⟩ := List.mem_map.mp h
    exact hf (ok.inj hcol ▸ hg)
  · cases h

theorem assign_not_need {sp : TSpec C F} (ok : sp.Ok) {need : List F} {consts : List (C × Val)}
    {ps : List (WB C F)} {r : Row F} {l : List (C × Val)}
    (ha : alignedW sp need consts ps = true) (he : evalParams r ps = .ok l)
    (hc : nodupB (consts.map (·.1)) = true) (base : Raw C) {f : F} (hf : f ∉ need) :
    assign base l (sp.colOf f) = assign base consts (sp.colOf f) := by
  by_cases hcc : sp.colOf f ∈ consts.map (·.1)
  · obtain ⟨cv, hcv, hcol⟩ := List.mem_map.mp hcc
    rw [assign_evalParams_const ha he base (c := sp.colOf f) (v := cv.2) (hcol ▸ hcv),
      assign_mem base consts _ cv.2 hc (hcol ▸ hcv)]
  · rw [assign_evalParams_other ha he base
      (fun h => by obtain ⟨g, hg, hgc⟩ := List.mem_map.mp h; exact hf (ok.inj hgc ▸ hg)) hcc,
      assign_not_mem _ _ _ hcc]

theorem view_assign_not_mem {sp : TSpec C F} (ok : sp.Ok) {present : F → Bool} {need : List F}
    {consts : List (C × Val)} {ps : List (WB C F)} {r : Row F} {l : List (C × Val)}
    (ha : alignedW sp need consts ps = true) (he : evalParams r ps = .ok l)
    (hc : nodupB (consts.map (·.1)) = true) (base : Raw C) {f : F} (hf : f ∉ need) :
    view sp present (assign base l) f = view sp present (assign base consts) f :=
  view_congr (assign_not_need ok ha he hc base hf)

/-- Every column holds what the API can have put there for the member's declared type. -/
def Typed (sp : TSpec C F) (raw : Raw C) : Prop := ∀ f, colTyped (sp.tyOf f) (raw (sp.colOf f)) = true

theorem Typed.setCol {sp : TSpec C F} (ok : sp.Ok) {raw : Raw C} (h : Typed sp raw) {f : F} {x : Val}
    (hx : colTyped (sp.tyOf f) x = true) : Typed sp (setCol raw (sp.colOf f) x) := by
  intro g
  by_cases hg : g = f
  · subst hg; rw [setCol_same]; exact hx
  · rw [setCol_other _ _ (fun hc => hg (ok.inj hc))]; exact h g

theorem Typed.assign {sp : TSpec C F} (ok : sp.Ok) {need : List F} {consts : List (C × Val)}
    {ps : List (WB C F)} {r : Row F} {l : List (C × Val)}
    (ha : alignedW sp need consts ps = true) (he : evalParams r ps = .ok l)
    (hc : nodupB (consts.map (·.1)) = true)
    (hwt : ∀ f ∈ need, wtv (sp.tyOf f) (r f) = true) {base : Raw C}
    (hbase : ∀ f, f ∉ need → colTyped (sp.tyOf f) (assign base consts (sp.colOf f)) = true) :
    Typed sp (assign base l) := by
  intro f
  by_cases hf : f ∈ need
  · obtain ⟨x, hx, hcol⟩ := assign_evalParams ha he base hf
    rw [hcol]
    exact wconv_colTyped (hwt f hf) hx
  · rw [assign_not_need ok ha he hc base hf]
    exact hbase f hf

theorem view_typed {sp : TSpec C F} (present : F → Bool) {raw : Raw C} {f : F}
    (h : present f = true → colTyped (sp.tyOf f) (raw (sp.colOf f)) = true) :
    ∃ v, view sp present raw f = .ok v := by
  by_cases hp : present f = true
  · rw [view_present hp]; exact rconv_colTyped (h hp)
  · simp only [view, expectedSrc, hp, Bool.false_eq_true, if_false]
    cases sp.tyOf f <;> exact ⟨_, rfl⟩

theorem readRow_defined {sp : TSpec C F} {present : F → Bool} {sel : List (RB C F)}
    (har : alignedR sp present sel = true) {raw : Raw C}
    (h : ∀ f, ∃ v, view sp present raw f = .ok v) : ∃ g, readRow raw sel = .ok g :=
  readRow_of_all fun b hb => alignedR_src har hb ▸ h b.field

section Store

theorem findRow_append_fresh (idc : C) (t : Rows C) (new : Raw C) (i : Int)
    (hfresh : ∀ r ∈ t, rowId idc r ≠ i) (hnew : rowId idc new = i) :
    findRow idc (t ++ [new]) i = some new := by
  unfold findRow
  rw [List.find?_append]
  have : t.find? (fun r => rowId idc r == i) = none := by
    rw [List.find?_eq_none]
    intro r hr
    simp [hfresh r hr]
  rw [this]
  simp [hnew]

theorem findRow_some {idc : C} {t : Rows C} {i : Int} {raw : Raw C}
    (h : findRow idc t i = some raw) : raw ∈ t ∧ rowId idc raw = i := by
  unfold findRow at h
  have h1 := List.mem_of_find?_eq_some h
  have h2 := List.find?_some h
  exact ⟨h1, by simpa using h2⟩

theorem findRow_none {idc : C} {t : Rows C} {i : Int}
    (h : findRow idc t i = none) : ∀ r ∈ t, rowId idc r ≠ i := by
  unfold findRow at h
  rw [List.find?_eq_none] at h
  intro r hr
  simpa using h r hr

theorem findRow_updRow_same (idc : C) (t : Rows C) (i : Int) (f : Raw C → Raw C) {old : Raw C}
    (h : findRow idc t i = some old) (hid : rowId idc (f old) = i) :
    findRow idc (updRow idc t i f) i = some (f old) := by
  unfold findRow updRow at *
  induction t with
  | nil => cases h
  | cons r rs ih =>
    rw [List.map_cons, List.find?_cons]
    rw [List.find?_cons] at h
    split at h
    · rename_i hr
      cases h
      simp [hr, hid]
    · rename_i hr
      simp only [hr, Bool.false_eq_true, if_false]
      exact ih h

theorem findRow_updRow_other (idc : C) (t : Rows C) (i j : Int) (f : Raw C → Raw C)
    (hij : j ≠ i) (hid : ∀ r ∈ t, rowId idc r = i → rowId idc (f r) = i) :
    findRow idc (updRow idc t i f) j = findRow idc t j := by
  unfold findRow updRow
  induction t with
  | nil => rfl
  | cons r rs ih =>
    simp only [List.map_cons, List.find?_cons]
    have ih' := ih (fun r hr => hid r (List.mem_cons_of_mem _ hr))
    by_cases hr : rowId idc r = i
    · have h1 : rowId idc (f r) = i := hid r List.mem_cons_self hr
      have h2 : (i == j) = false := by simp; omega
      have h3 : (rowId idc (f r) == j) = false := by simp [h1]; omega
      simp only [hr, beq_self_eq_true, if_true, h3, h2]
      exact ih'
    · have hr' : (rowId idc r == i) = false := by simp [hr]
      simp only [hr', if_false, Bool.false_eq_true]
      rw [ih']

theorem findRow_delRow_same (idc : C) (t : Rows C) (i : Int) :
    findRow idc (delRow idc t i) i = none := by
  unfold findRow delRow
  rw [List.find?_eq_none]
  intro r hr
  have := (List.mem_filter.mp hr).2
  simpa using this

theorem findRow_delRow_other (idc : C) (t : Rows C) (i j : Int) (hij : j ≠ i) :
    findRow idc (delRow idc t i) j = findRow idc t j := by
  unfold findRow delRow
  rw [List.find?_filter]
  congr 1
  funext r
  by_cases h : rowId idc r = j <;> simp [h, hij]

theorem mem_updRow {idc : C} {t : Rows C} {i : Int} {f : Raw C → Raw C} {r : Raw C}
    (h : r ∈ updRow idc t i f) : r ∈ t ∨ ∃ o ∈ t, rowId idc o = i ∧ r = f o := by
  unfold updRow at h
  obtain ⟨o, ho, hro⟩ := List.mem_map.mp h
  split at hro
  · rename_i hi
    exact .inr ⟨o, ho, by simpa using hi, hro.symm⟩
  · exact .inl (hro ▸ ho)

theorem findRow_updWhere (idc : C) (t : Rows C) (p : Raw C → Bool) (f : Raw C → Raw C) (i : Int)
    (hid : ∀ r, rowId idc (f r) = rowId idc r) :
    findRow idc (updWhere t p f) i = (findRow idc t i).map (fun r => if p r then f r else r) := by
  unfold findRow updWhere
  induction t with
  | nil => rfl
  | cons r rs ih =>
    simp only [List.map_cons, List.find?_cons]
    have : rowId idc (if p r = true then f r else r) = rowId idc r := by split <;> simp [hid]
    rw [this]
    split
    · rfl
    · exact ih

theorem updWhere_all {P : Raw C → Prop} {t : Rows C} (h : ∀ r ∈ t, P r) (p : Raw C → Bool) (f : Raw C → Raw C)
    (hf : ∀ r, P r → P (f r)) : ∀ r ∈ updWhere t p f, P r := by
  intro x hx
  obtain ⟨o, ho, rfl⟩ := List.mem_map.mp hx
  split
  · exact hf o (h o ho)
  · exact h o ho

theorem findRow_fresh {idc : C} {t : Rows C} {seq : Int} (h : idsBelow idc t seq) {i : Int} (hi : seq < i) :
    findRow idc t i = none := by
  unfold findRow
  rw [List.find?_eq_none]
  intro r hr
  have := h r hr
  simp only [beq_iff_eq]
  omega

theorem rowId_setCol (idc : C) (r : Raw C) {c : C} (v : Val) (h : c ≠ idc) :
    rowId idc (setCol r c v) = rowId idc r := by
  unfold rowId
  rw [setCol_other _ _ (fun hc => h hc.symm)]

theorem idsBelow_mono {C : Type} [DecidableEq C] {idc : C} {t : Rows C} {a b : Int} (h : idsBelow idc t a) (hab : a ≤ b) :
    idsBelow idc t b := fun r hr => by have := h r hr; omega

end Store

end Table
end EngineModel
