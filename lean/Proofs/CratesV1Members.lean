/-
The membership and track operations of the schema-1.x model on a state
satisfying `Inv`: exact outcomes and preservation of `Inv`.
(add_track, remove_track (from a crate), clear_tracks, create_track, database::remove_track.)
-/
import Proofs.CratesV1Abs

namespace EngineModel.Api.CratesV1
open EngineModel.Pure.Detect EngineModel.Spec

variable {db : Db}

theorem Inv.of_crates_eq {db db' : Db} (h : Inv db) (h1 : db'.crate = db.crate) (h2 : db'.cpl = db.cpl)
    (h3 : db'.ch = db.ch) (hn : db'.ctl.Nodup) (hl : ∀ r ∈ db'.ctl, r.1 ∈ ids db ∧ liveTrack db' r.2)
    (ht : (db'.track.map (·.id)).Nodup) : Inv db' := by
  have hids : ids db' = ids db := by unfold ids; rw [h1]
  have hrp : ∀ p, rowPath db' p = rowPath db p := by intro p; unfold rowPath; rw [h1]
  refine ⟨h.toFInv.congr hids h2 h3, ?_, ?_, hn, ?_, ht⟩
  · rw [h1]; exact h.namesValid
  · rw [h1, h2]
    intro r hr p hp
    rw [hrp]; exact h.pathStep r hr p hp
  · intro r hr
    rw [hids]; exact hl r hr

theorem ctlVisible_of_live (s : Schema) {r : Id × Id} (hr : r.1 ∈ ids db) : ctlVisible s db r = true := by
  unfold ctlVisible crateExists
  obtain ⟨row, hrow, hid⟩ := exists_row hr
  rw [Bool.or_eq_true]
  right
  rw [List.any_eq_true]
  exact ⟨row, hrow, by simp [hid]⟩

/-- Under `Inv` every stored membership row is visible through the view: the DELETE is a plain filter. -/
theorem deleteCtl_inv (s : Schema) (h : Inv db) (p : Id × Id → Bool) :
    deleteCtl s db p = { db with ctl := db.ctl.filter (fun r => !p r) } := by
  obtain ⟨o1, o2, o3, o4, o5⟩ := deleteCtl_other s db p
  refine Db.ext_tables (b := { db with ctl := db.ctl.filter (fun r => !p r) }) o1 o2 o3 ?_ o4 o5
  show (deleteCtl s db p).ctl = db.ctl.filter (fun r => !p r)
  rw [deleteCtl_ctl]
  apply List.filter_congr
  intro r hr
  rw [ctlVisible_of_live s (h.ctlLive r hr).1, Bool.true_and]

theorem ctlView_inv (s : Schema) (h : Inv db) : ctlView s db = db.ctl := by
  rw [ctlView_eq, List.filter_eq_self]
  intro r hr
  exact ctlVisible_of_live s (h.ctlLive r hr).1

theorem liveTrack_iff_count (db : Db) (t : Id) :
    (db.track.filter (fun r => r.id == t && r.hasPath)).length > 0 ↔ liveTrack db t := by
  unfold liveTrack
  constructor
  · intro hl
    obtain ⟨x, hx⟩ := List.exists_mem_of_length_pos hl
    simp only [List.mem_filter, Bool.and_eq_true, beq_iff_eq] at hx
    exact ⟨x, hx.1, hx.2.1, hx.2.2⟩
  · rintro ⟨x, hx, h1, h2⟩
    apply List.length_pos_of_mem (a := x)
    simp [List.mem_filter, hx, h1, h2]

theorem addTrack_dead (s : Schema) (db : Db) {c : Id} (t : Id) (hc : c ∉ ids db) :
    addTrack s db c t = (db, .throw exCrateDeleted) := by
  unfold addTrack
  simp [transaction, requireValid_dead hc]

theorem addTrack_dead_track (s : Schema) (h : (ids db).Nodup) {c t : Id} (hc : c ∈ ids db) (ht : ¬ liveTrack db t) :
    addTrack s db c t = (db, .throw exTrackDeleted) := by
  unfold addTrack
  have : ¬ (db.track.filter (fun r => r.id == t && r.hasPath)).length > 0 := fun hl => ht ((liveTrack_iff_count db t).mp hl)
  simp only [transaction, requireValid_live h hc, Res.bind_ok, this, if_false]
  rfl

theorem addTrack_ok (s : Schema) (h : Inv db) {c t : Id} (hc : c ∈ ids db) (ht : liveTrack db t) :
    addTrack s db c t = (afterAddTrack db c t, .ok .unit) := by
  unfold addTrack
  have : (db.track.filter (fun r => r.id == t && r.hasPath)).length > 0 := (liveTrack_iff_count db t).mpr ht
  simp only [transaction, requireValid_live h.idsNodup hc, Res.bind_ok, this, if_true, Res.pure_eq, deleteCtl_inv s h]
  rfl

theorem inv_addTrack (h : Inv db) {c t : Id} (hc : c ∈ ids db) (ht : liveTrack db t) : Inv (afterAddTrack db c t) := by
  refine Inv.of_crates_eq (db' := afterAddTrack db c t) h rfl rfl rfl ?_ ?_ ?_
  · exact nodup_snoc (h.ctlNodup.sublist List.filter_sublist) fun hm => by simpa using (List.mem_filter.mp hm).2
  · intro r hr
    have hr' : r ∈ db.ctl.filter (fun r => !(r.1 == c && r.2 == t)) ++ [(c, t)] := hr
    rw [List.mem_append, List.mem_filter, List.mem_singleton] at hr'
    rcases hr' with ⟨hm, _⟩ | rfl
    · exact ⟨(h.ctlLive r hm).1, (liveTrack_congr rfl _).mpr (h.ctlLive r hm).2⟩
    · exact ⟨hc, (liveTrack_congr rfl _).mpr ht⟩
  · exact h.trackNodup

theorem inv_filterCtl (h : Inv db) (p : Id × Id → Bool) : Inv (filterCtl db p) := by
  refine Inv.of_crates_eq (db' := filterCtl db p) h rfl rfl rfl ?_ ?_ ?_
  · exact h.ctlNodup.sublist List.filter_sublist
  · intro r hr
    have hm : r ∈ db.ctl := (List.mem_filter.mp hr).1
    exact ⟨(h.ctlLive r hm).1, (liveTrack_congr rfl _).mpr (h.ctlLive r hm).2⟩
  · exact h.trackNodup

theorem removeTrackFrom_eq (s : Schema) (h : Inv db) (c t : Id) :
    removeTrackFrom s db c t = (filterCtl db (fun r => r.1 == c && r.2 == t), .ok .unit) := by
  unfold removeTrackFrom; rw [deleteCtl_inv s h]; rfl

theorem clearTracks_eq (s : Schema) (h : Inv db) (c : Id) :
    clearTracks s db c = (filterCtl db (fun r => r.1 == c), .ok .unit) := by
  unfold clearTracks; rw [deleteCtl_inv s h]; rfl

theorem maxId_lt_fresh {l : List Int} {x n : Int} (hx : x ∈ l) (hn : maxId l < n) : x ≠ n := by
  have h1 : x ≤ maxId l := le_maxId hx
  have : ∀ a b c : Int, a ≤ b → b < c → a ≠ c := by intro a b c; omega
  exact this _ _ _ h1 hn

theorem createTrack_spec (s : Schema) (db : Db) :
    ∃ id seq, createTrack s db = ({ db with track := db.track ++ [⟨id, true⟩], trackSeq := seq }, .ok (.id id)) ∧
      maxId (db.track.map (·.id)) < id := by
  unfold createTrack
  split
  · exact ⟨_, _, rfl, Int.lt_add_one_of_le (Int.le_max_right _ _)⟩
  · refine ⟨_, db.trackSeq, rfl, ?_⟩
    rw [idRowid_eq]; exact Int.lt_succ _

theorem inv_createTrack (h : Inv db) {id seq : Int} (hid : maxId (db.track.map (·.id)) < id) :
    Inv { db with track := db.track ++ [⟨id, true⟩], trackSeq := seq } := by
  refine Inv.of_crates_eq (db' := { db with track := db.track ++ [⟨id, true⟩], trackSeq := seq }) h rfl rfl rfl
    h.ctlNodup ?_ ?_
  · intro r hr
    refine ⟨(h.ctlLive r hr).1, ?_⟩
    obtain ⟨x, hx, h1, h2⟩ := (h.ctlLive r hr).2
    exact ⟨x, List.mem_append_left _ hx, h1, h2⟩
  · show ((db.track ++ [(⟨id, true⟩ : TrackRow)]).map (fun r : TrackRow => r.id)).Nodup
    rw [List.map_append]
    exact nodup_snoc h.trackNodup fun ha => maxId_lt_fresh ha hid rfl

/-- What the AUTOINCREMENT trigger loop may do to the Track table: the rows with a path are untouched. -/
def SameLive (tr tr' : List TrackRow) : Prop :=
  (tr'.map (·.id)).Nodup ∧ ∀ r, r.hasPath = true → (r ∈ tr' ↔ r ∈ tr)

theorem trigger_fold (tr : List TrackRow) (olds : List TrackRow) (acc : Db) (h : SameLive tr acc.track) :
    (olds.foldl triggerStep acc).crate = acc.crate ∧ (olds.foldl triggerStep acc).cpl = acc.cpl ∧
    (olds.foldl triggerStep acc).ch = acc.ch ∧ (olds.foldl triggerStep acc).ctl = acc.ctl ∧
    SameLive tr (olds.foldl triggerStep acc).track := by
  refine triggerFold_induction
    (fun d => d.crate = acc.crate ∧ d.cpl = acc.cpl ∧ d.ch = acc.ch ∧ d.ctl = acc.ctl ∧ SameLive tr d.track)
    (fun d id ⟨e1, e2, e3, e4, e5⟩ _ hid => ⟨e1, e2, e3, e4, ?_, fun r hr => ?_⟩) olds acc ⟨rfl, rfl, rfl, rfl, h⟩
  · -- the placeholder's id is above every id kept
    show ((d.track.filter (fun r : TrackRow => r.hasPath) ++ [_]).map (fun r : TrackRow => r.id)).Nodup
    rw [List.map_append]
    refine nodup_snoc (e5.1.sublist (List.Sublist.map _ List.filter_sublist)) fun ha => ?_
    obtain ⟨r, hr, e⟩ := List.mem_map.mp ha
    exact absurd e (Int.ne_of_lt (hid r hr))
  · show r ∈ d.track.filter (fun r : TrackRow => r.hasPath) ++ [_] ↔ _
    rw [List.mem_append, List.mem_filter, List.mem_singleton, ← e5.2 r hr]
    exact ⟨fun hh => hh.elim And.left fun e => (by rw [e] at hr; cases hr), fun hm => Or.inl ⟨hm, hr⟩⟩

theorem removeTrack_spec (s : Schema) (h : Inv db) (t : Id) :
    (removeTrack s db t).2 = .ok .unit ∧ (removeTrack s db t).1.crate = db.crate ∧
    (removeTrack s db t).1.cpl = db.cpl ∧ (removeTrack s db t).1.ch = db.ch ∧
    (removeTrack s db t).1.ctl = db.ctl.filter (fun r => !(r.2 == t)) ∧
    ((removeTrack s db t).1.track.map (·.id)).Nodup ∧
    ∀ x, liveTrack (removeTrack s db t).1 x ↔ (liveTrack db x ∧ x ≠ t) := by
  have hbase : SameLive (db.track.filter (fun r => !(r.id == t))) (db.track.filter (fun r => !(r.id == t))) :=
    ⟨h.trackNodup.sublist (List.Sublist.map _ List.filter_sublist), fun _ _ => Iff.rfl⟩
  have hlive : ∀ tr' : List TrackRow, SameLive (db.track.filter (fun r => !(r.id == t))) tr' →
      ∀ x, (∃ r ∈ tr', r.id = x ∧ r.hasPath = true) ↔ (liveTrack db x ∧ x ≠ t) := by
    intro tr' hs x
    unfold liveTrack
    constructor
    · rintro ⟨r, hr, h1, h2⟩
      have := ((hs.2 r h2).mp hr)
      rw [List.mem_filter] at this
      refine ⟨⟨r, this.1, h1, h2⟩, ?_⟩
      rw [← h1]; simpa using this.2
    · rintro ⟨⟨r, hr, h1, h2⟩, hne⟩
      refine ⟨r, (hs.2 r h2).mpr ?_, h1, h2⟩
      rw [List.mem_filter]
      exact ⟨hr, by rw [h1]; simpa using hne⟩
  rw [removeTrack_unfold, deleteCtl_inv s h]
  split
  · obtain ⟨e1, e2, e3, e4, e5⟩ := trigger_fold (db.track.filter (fun r => !(r.id == t))) (db.track.filter (·.id == t))
      { db with ctl := db.ctl.filter (fun r => !(r.2 == t)), track := db.track.filter (fun r => !(r.id == t)) } hbase
    exact ⟨rfl, e1, e2, e3, e4, e5.1, fun x => hlive _ e5 x⟩
  · exact ⟨rfl, rfl, rfl, rfl, rfl, hbase.1, fun x => hlive _ hbase x⟩

theorem inv_removeTrack (s : Schema) (h : Inv db) (t : Id) : Inv (removeTrack s db t).1 := by
  obtain ⟨_, e1, e2, e3, e4, e5, e6⟩ := removeTrack_spec s h t
  refine Inv.of_crates_eq (db' := (removeTrack s db t).1) h e1 e2 e3 ?_ ?_ e5
  · rw [e4]; exact h.ctlNodup.sublist List.filter_sublist
  · intro r hr
    rw [e4, List.mem_filter] at hr
    refine ⟨(h.ctlLive r hr.1).1, (e6 r.2).mpr ⟨(h.ctlLive r hr.1).2, ?_⟩⟩
    simpa using hr.2

end EngineModel.Api.CratesV1
