/-
C01 on schema 2.x: `snapshot_to_row`, the row store and `snapshot()` composed
are `Spec.normalize`.
-/
import Proofs.TracksV2Convert

namespace EngineModel
namespace TracksV2

open Prim

/-- one row: `create_track` / `update`, then `snapshot()` -/
def writeRead (ops : FOps) (s : Schema) (x : Snap) : Res Snap := (writeStore ops s x).bind (readSnap ops)

theorem writeRead_of_normalize (ops : FOps) (s : Schema) (x y : Snap) (h : Spec.normalize s x = some y) :
    writeRead ops s x = .ok y := by
  obtain ⟨p, wv, hp, hnw, rfl, hext, hc, hl, hlc, hll⟩ := Spec.normalize_eq_some h
  have hw := read_write_waveform ops x.waveform x.sampleCount x.sampleRate
  simp only [hnw] at hw
  obtain ⟨o, ho, hro⟩ := hw
  rw [hasExtension_iff] at hext
  obtain ⟨ft, hft⟩ := Option.isSome_iff_exists.mp hext
  unfold getFileExtension at hft
  simp only [writeRead, writeStore, writeSnap, hp, getFileExtension, hft, ho, writeHotCues, writeLoops,
    Nat.not_lt.mpr hc, Nat.not_lt.mpr hl, if_false, Res.bind, tablePut, putCues, putLoops, cuesEncodable_write,
    loopsEncodable_write, hlc, hll, if_true, readSnap, read_write_duration]
  simp only [readAverageLoudness, readSampleCount, readSampleRate, writeAverageLoudness, writeSampleRate,
    readMainCue, writeMainCue, read_write_count, map_trunc32_sext32, read_write_bpm,
    read_write_rating, readHotCues, read_write_hotCues, readLoops, read_write_loops, read_write_grid,
    map_storeTime, writeKey, hro]
  simp only [Res.ok.injEq, Snap.mk.injEq, true_and, and_true]
  exact ⟨zeroAbsent_getD _, zeroAbsent_getD _, zeroAbsent_getD _⟩


theorem writeStore_throw_of_reject (ops : FOps) (s : Schema) (x : Snap) (h : Spec.normalize s x = none) :
    ∃ e, writeStore ops s x = .throw e := by
  unfold writeStore writeSnap
  cases hp : x.relativePath with
  | none => exact ⟨_, rfl⟩
  | some p =>
    simp only []
    cases hft : getFileExtension (getFilename p) with
    | none => exact ⟨_, rfl⟩
    | some ft =>
      simp only []
      have hext : Spec.hasExtension p = true := by rw [hasExtension_iff, hft]; rfl
      have hw := read_write_waveform ops x.waveform x.sampleCount x.sampleRate
      cases hnw : Spec.normWaveform x.waveform x.sampleCount x.sampleRate with
      | none =>
        simp only [hnw] at hw
        exact ⟨_, by simp [hw, Res.bind]; rfl⟩
      | some wv =>
        simp only [hnw] at hw
        obtain ⟨o, ho, _⟩ := hw
        by_cases hc : 8 < x.hotCues.length
        · exact ⟨_, by simp [ho, Res.bind, writeHotCues, hc]; rfl⟩
        · by_cases hl : 8 < x.loops.length
          · exact ⟨_, by simp [ho, Res.bind, writeHotCues, hc, writeLoops, hl]; rfl⟩
          · cases hlc : Spec.labelsOk HotCue.label x.hotCues with
            | false =>
              exact ⟨_, by simp [ho, Res.bind, writeHotCues, hc, writeLoops, hl, tablePut, putCues,
                cuesEncodable_write, hlc]; rfl⟩
            | true =>
              cases hll : Spec.labelsOk LoopV.label x.loops with
              | false =>
                exact ⟨_, by simp [ho, Res.bind, writeHotCues, hc, writeLoops, hl, tablePut, putCues, putLoops,
                  cuesEncodable_write, loopsEncodable_write, hlc, hll]; rfl⟩
              | true =>
                exfalso
                simp [Spec.normalize, hp, hext, hc, hl, hlc, hll, hnw] at h

theorem writeStore_total (ops : FOps) (s : Schema) (x : Snap) :
    (∃ r, writeStore ops s x = .ok r) ∨ (∃ e, writeStore ops s x = .throw e) := by
  cases h : Spec.normalize s x with
  | none => exact Or.inr (writeStore_throw_of_reject ops s x h)
  | some y =>
    left
    have := writeRead_of_normalize ops s x y h
    unfold writeRead at this
    cases hw : writeStore ops s x with
    | ok r => exact ⟨r, rfl⟩
    | throw e => rw [hw] at this; cases this
    | ub u => rw [hw] at this; cases this

end TracksV2
end EngineModel
