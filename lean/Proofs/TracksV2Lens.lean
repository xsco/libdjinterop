/-
Every setter of `v2::track_impl` refines the lens Spec: on the snapshot of its
track it does exactly what `Spec.applySetter` says (the named field takes the
normalised value, the other 24 are unchanged), and it throws exactly where the
Spec rejects.
-/
import Proofs.TracksV2Convert
import EngineModel.TracksV2.SpecLens

namespace EngineModel
namespace TracksV2

open Prim

/-- what `tablePut` and every blob setter guarantee of a stored row -/
def RowEnc (r : Row) : Prop := cuesEncodable r.cues.1 = true ∧ loopsEncodable r.loops.1 = true

/-- the snapshot of a row, given the (checked) duration -/
def snapWith (ops : FOps) (r : Row) (d : Option UInt64) : Snap :=
  { album := r.album, artist := r.artist, averageLoudness := readAverageLoudness r.trackData.1,
    beatgrid := readGridMarkers r.beat.1.adj, bitrate := r.bitrate.map trunc32,
    bpm := readBpm ops r.bpmAnalyzed r.bpm, comment := r.comment, composer := r.composer, duration := d,
    fileBytes := r.fileBytes, genre := r.genre, hotCues := readHotCues r.cues.1, key := r.key,
    lastPlayedAt := r.timeLastPlayed, loops := readLoops r.loops.1, mainCue := readMainCue r.cues.1.adjMain,
    publisher := r.label, rating := readRating r.rating, relativePath := some r.path,
    sampleCount := readSampleCount r.trackData.1, sampleRate := readSampleRate r.trackData.1, title := r.title,
    trackNumber := r.playOrder.map trunc32, waveform := readWaveform r.ovw.1, year := r.year.map trunc32 }

theorem readSnap_eq (ops : FOps) (r : Row) :
    readSnap ops r = (readDuration r.length).bind fun d => .ok (snapWith ops r d) := rfl

theorem readSnap_ok (ops : FOps) (r : Row) (y : Snap) (h : readSnap ops r = .ok y) :
    ∃ d, readDuration r.length = .ok d ∧ y = snapWith ops r d := by
  rw [readSnap_eq] at h
  cases hd : readDuration r.length with
  | ok d => rw [hd] at h; simp only [Res.bind, Res.ok.injEq] at h; exact ⟨d, rfl, h.symm⟩
  | throw e => rw [hd] at h; cases h
  | ub u => rw [hd] at h; cases h

theorem readSnap_of_duration (ops : FOps) (r : Row) (d : Option UInt64) (h : readDuration r.length = .ok d) :
    readSnap ops r = .ok (snapWith ops r d) := by
  rw [readSnap_eq, h]; rfl

theorem slotIndex_eq (i : UInt32) (n : Nat) :
    slotIndex i n = match Spec.slot i n with
      | some k => .ok k
      | none => .throw .out_of_range := by
  unfold slotIndex Spec.slot
  have hi := i.toNat_lt
  by_cases h : s32 i < 0 ∨ n ≤ i.toNat
  · have : ¬ (0 ≤ s32 i ∧ s32 i < (n : Int)) := by
      unfold s32 at h ⊢
      split at h <;> split <;> omega
    simp [h, this]
  · have : (0 ≤ s32 i ∧ s32 i < (n : Int)) := by
      unfold s32 at h ⊢
      split at h <;> split <;> omega
    simp [h, this]

theorem slot_lt (i : UInt32) (n k : Nat) (h : Spec.slot i n = some k) : k < n := by
  unfold Spec.slot at h
  have hi := i.toNat_lt
  split at h
  · rename_i hh
    cases h
    unfold s32 at hh
    split at hh <;> omega
  · cases h

theorem setter_refines (ops : FOps) (σ : Setter) (r : Row) (y : Snap) (hr : readSnap ops r = .ok y)
    (henc : RowEnc r) :
    match Spec.applySetter σ y with
    | some y' => ∃ r', applySetter ops σ r = .ok r' ∧ readSnap ops r' = .ok y' ∧ RowEnc r'
    | none => ∃ e, applySetter ops σ r = .throw e := by
  obtain ⟨d, hd, rfl⟩ := readSnap_ok ops r y hr
  cases σ
  -- Six setters can throw or touch `length`: duration, the four slot-list setters (instances of `slot_write` /
  -- `slots_write`: the blob's label test is the Spec's, the list reads back as the Spec's list), and the waveform.
  case duration v =>
    refine ⟨_, rfl, ?_, henc⟩
    exact readSnap_of_duration ops _ _ (read_write_duration v)
  case hotCueAt i v =>
    simp only [Spec.applySetter, applySetter, snapWith, readHotCues, List.length_map, slotIndex_eq]
    cases hs : Spec.slot i r.cues.1.cues.length with
    | none => exact ⟨_, rfl⟩
    | some k =>
      obtain ⟨he, hm⟩ := slot_write _ read_write_hotCue cueSlot_enc _ henc.1 (slot_lt _ _ _ hs) v
      have henc' : cuesEncodable { r.cues.1 with cues := r.cues.1.cues.set k (writeHotCue v) } = _ := he
      simp only [Res.bind, putCues, henc']
      cases hl : Spec.labelOk HotCue.label v with
      | false => exact ⟨_, rfl⟩
      | true =>
        refine ⟨_, rfl, ?_, henc'.trans hl, henc.2⟩
        refine (readSnap_of_duration ops _ d (by exact hd)).trans ?_
        simp only [snapWith, readHotCues, hm]
  case hotCues v =>
    simp only [Spec.applySetter, applySetter, writeHotCues]
    by_cases hlen : 8 < v.length
    · simp only [hlen, true_or, if_true, Res.bind]; exact ⟨_, rfl⟩
    · simp only [hlen, false_or, if_false, Res.bind, putCues, cuesEncodable_write]
      cases hl : Spec.labelsOk HotCue.label v with
      | false => exact ⟨_, rfl⟩
      | true =>
        refine ⟨_, rfl, ?_, (cuesEncodable_write ..).trans hl, henc.2⟩
        refine (readSnap_of_duration ops _ d (by exact hd)).trans ?_
        simp only [snapWith, readHotCues, read_write_hotCues]
  case loopAt i v =>
    simp only [Spec.applySetter, applySetter, snapWith, readLoops, List.length_map, slotIndex_eq]
    cases hs : Spec.slot i r.loops.1.length with
    | none => exact ⟨_, rfl⟩
    | some k =>
      obtain ⟨he, hm⟩ := slot_write (nm := id) _ read_write_loop loopSlot_enc _ henc.2 (slot_lt _ _ _ hs) v
      have henc' : loopsEncodable (r.loops.1.set k (writeLoop v)) = _ := he
      simp only [Res.bind, putLoops, henc']
      cases hl : Spec.labelOk LoopV.label v with
      | false => exact ⟨_, rfl⟩
      | true =>
        refine ⟨_, rfl, ?_, henc.1, henc'.trans hl⟩
        refine (readSnap_of_duration ops _ d (by exact hd)).trans ?_
        simp only [snapWith, readLoops, hm, id]
  case loops v =>
    simp only [Spec.applySetter, applySetter, writeLoops]
    by_cases hlen : 8 < v.length
    · simp only [hlen, true_or, if_true, Res.bind]; exact ⟨_, rfl⟩
    · simp only [hlen, false_or, if_false, Res.bind, putLoops, loopsEncodable_write]
      cases hl : Spec.labelsOk LoopV.label v with
      | false => exact ⟨_, rfl⟩
      | true =>
        refine ⟨_, rfl, ?_, henc.1, (loopsEncodable_write ..).trans hl⟩
        refine (readSnap_of_duration ops _ d (by exact hd)).trans ?_
        simp only [snapWith, readLoops, read_write_loops]
  case waveform v =>
    have hw := read_write_waveform ops v (getSampleCount r) (getSampleRate r)
    simp only [getSampleCount, getSampleRate] at hw
    simp only [Spec.applySetter, applySetter, snapWith, getSampleCount, getSampleRate]
    cases hn : Spec.normWaveform v (readSampleCount r.trackData.1) (readSampleRate r.trackData.1) with
    | none =>
      simp only [hn] at hw
      exact ⟨_, by rw [hw]; rfl⟩
    | some w =>
      simp only [hn] at hw
      obtain ⟨o, ho, hro⟩ := hw
      refine ⟨{ r with ovw := (o, r.ovw.2) }, by rw [ho]; rfl, ?_, henc⟩
      refine (readSnap_of_duration ops _ d (by exact hd)).trans ?_
      simp only [snapWith, hro]
  -- The 20 plain setters: `applySetter` returns `.ok` of the row with one or two columns rewritten (`rfl`), the
  -- duration column is untouched, and the rewritten columns read back through a conversion pair whose composition is
  -- the Spec's normalisation of that field (the `read_write_*` lemmas), so both snapshots agree field by field.
  all_goals
    refine ⟨_, rfl, ?_, henc⟩
    refine (readSnap_of_duration ops _ d (by exact hd)).trans ?_
    simp only [snapWith, read_write_grid, map_trunc32_sext32, read_write_bpm, map_storeTime,
      read_write_rating, writeKey, readAverageLoudness, writeAverageLoudness, readSampleCount, readSampleRate,
      writeSampleRate, readMainCue, readHotCues, Res.ok.injEq, Snap.mk.injEq, true_and, and_true]
  -- left over: the four performance-data fields, whose sentinels are 0 and ±0.0
  case sampleCount v => exact read_write_count v
  all_goals exact zeroAbsent_getD _

theorem spec_of_model_ok (ops : FOps) (σ : Setter) (r r' : Row) (y : Snap) (hr : readSnap ops r = .ok y)
    (henc : RowEnc r) (hs : applySetter ops σ r = .ok r') :
    ∃ y', Spec.applySetter σ y = some y' ∧ readSnap ops r' = .ok y' ∧ RowEnc r' := by
  have := setter_refines ops σ r y hr henc
  cases hsp : Spec.applySetter σ y with
  | none =>
    rw [hsp] at this
    obtain ⟨e, he⟩ := this
    rw [he] at hs; cases hs
  | some y' =>
    rw [hsp] at this
    obtain ⟨r'', h1, h2, h3⟩ := this
    rw [h1] at hs
    cases hs
    exact ⟨y', rfl, h2, h3⟩

end TracksV2
end EngineModel
