/-
Lemmas about the beat-grid model that hold for EVERY arithmetic `Num α`
(no law is assumed of `add`, `mul`, `div`, … — so they hold for the hardware
`Float` instance the driver runs as well as for exact rationals): the two
moves in closed form, what the two trimming steps keep (`trim_spec`, from which
Proofs/BeatgridWindow.lean derives `trim = window`), and the outcomes of
`normalize` on `int` indices (`normalize_front`, `normalize_cases`).
-/
import EngineModel.Pure.Beatgrid

namespace EngineModel.Pure.Beatgrid
open EngineModel

variable {α : Type}

theorem bind_eq_ok {α β} {x : Res α} {f : α → Res β} {b : β} :
    (x >>= f) = .ok b ↔ ∃ a, x = .ok a ∧ f a = .ok b := Res.bind_eq_ok

theorem chk64_of_bound {x : Int} (h : -9223372036854775808 ≤ x ∧ x ≤ 9223372036854775807) :
    chk64 x = .ok x := by
  unfold chk64; rw [if_pos h]

theorem chk64_sub {a b : Int} (ha : In32 a) (hb : In32 b) : chk64 (a - b) = .ok (a - b) := by
  unfold In32 at ha hb; exact chk64_of_bound (by omega)

theorem chk64_add {a b : Int} (ha : In32 a) (hb : In32 b) : chk64 (a + b) = .ok (a + b) := by
  unfold In32 at ha hb; exact chk64_of_bound (by omega)

theorem in32_four : In32 4 := by unfold In32; omega
theorem in32_neg_four : In32 (-4) := by unfold In32; omega

theorem exists_append_two {α} (x y : α) (r : List α) : ∃ pre p l, x :: y :: r = pre ++ [p, l] := by
  induction r generalizing x y with
  | nil => exact ⟨[], x, y, rfl⟩
  | cons z r ih =>
    obtain ⟨pre, p, l, h⟩ := ih y z
    exact ⟨x :: pre, p, l, by rw [h]; rfl⟩

theorem shape_cases {α} {a' b : α} {rest pre : List α} {p l : α}
    (h : a' :: b :: rest = pre ++ [p, l]) :
    (pre = [] ∧ p = a' ∧ l = b ∧ rest = []) ∨
      ∃ pre', pre = a' :: pre' ∧ b :: rest = pre' ++ [p, l] := by
  cases pre with
  | nil =>
    left
    simp only [List.nil_append, List.cons.injEq] at h
    obtain ⟨rfl, rfl, rfl⟩ := h
    simp
  | cons x pre' =>
    right
    simp only [List.cons_append, List.cons.injEq] at h
    exact ⟨pre', by rw [h.1], h.2⟩

theorem dropLast_append_pair {α} (pre : List α) (p l : α) :
    (pre ++ [p, l]).dropLast = pre ++ [p] := by
  rw [List.append_cons, List.dropLast_concat]

theorem getElem?_penult {α} (pre : List α) (p l : α) :
    (pre ++ [p, l])[(pre ++ [p, l]).length - 2]? = some p := by
  rw [List.length_append]
  show (pre ++ [p, l])[pre.length + 2 - 2]? = _
  rw [Nat.add_sub_cancel, List.getElem?_append_right (Nat.le_refl _), Nat.sub_self]
  rfl

theorem getElem?_ult {α} (pre : List α) (p l : α) :
    (pre ++ [p, l])[(pre ++ [p, l]).length - 1]? = some l := by
  rw [List.length_append, show pre.length + [p, l].length - 1 = pre.length + 1 from rfl,
    List.getElem?_append_right (Nat.le_add_right _ _), Nat.add_sub_cancel_left]
  rfl

theorem lastTwo_eq {α} {pre : List α} {p l x y : α}
    (hx : (pre ++ [p, l])[(pre ++ [p, l]).length - 2]? = some x)
    (hy : (pre ++ [p, l])[(pre ++ [p, l]).length - 1]? = some y) : p = x ∧ l = y := by
  rw [getElem?_penult] at hx
  rw [getElem?_ult] at hy
  exact ⟨Option.some.inj hx, Option.some.inj hy⟩

theorem same_head {α} {b : α} {rest pre' : List α} {p l l' : α}
    (h : b :: rest = pre' ++ [p, l]) : ∃ r', pre' ++ [p, l'] = b :: r' := by
  cases pre' with
  | nil => cases h; exact ⟨_, rfl⟩
  | cons z pre'' => cases h; exact ⟨_, rfl⟩

theorem mem_dropLast_or_last {β} {l : List β} {x : β} (hx : x ∈ l) :
    ∃ d z, l = d ++ [z] ∧ (x ∈ d ∨ x = z) := by
  have hne : l ≠ [] := List.ne_nil_of_mem hx
  refine ⟨l.dropLast, l.getLast hne, (List.dropLast_concat_getLast hne).symm, ?_⟩
  rw [← List.dropLast_concat_getLast hne] at hx
  rcases List.mem_append.mp hx with h | h
  · exact Or.inl h
  · right; simpa using h

theorem mem_dropLast_tail {α} {m : α} {t : List α} (hm : m ∈ t) (hh : t.head? ≠ some m)
    (hl : t.getLast? ≠ some m) : m ∈ t.dropLast.tail := by
  rcases t with _ | ⟨a, r⟩
  · cases hm
  · rcases List.mem_cons.mp hm with rfl | hmr
    · exact absurd rfl hh
    · obtain ⟨d, z, rfl, hd⟩ := mem_dropLast_or_last hmr
      rw [← List.cons_append, List.getLast?_concat] at hl
      rw [← List.cons_append, List.dropLast_concat]
      exact hd.resolve_right fun e => hl (e ▸ rfl)

theorem dropLast_subset_of_suffix {α} {l₁ l₂ : List α} (h : l₁ <:+ l₂) :
    l₁.dropLast ⊆ l₂.dropLast := by
  obtain ⟨s, rfl⟩ := h
  by_cases hn : l₁ = []
  · subst hn; exact List.nil_subset _
  · rw [List.dropLast_append_of_ne_nil hn]; exact List.subset_append_right _ _

/-- Samples per beat of the segment between two markers, as the code computes it. -/
def spbOf (num : Num α) (a b : Marker α) : α :=
  num.div (num.sub b.off a.off) (num.ofInt (b.index - a.index))

def firstOf (num : Num α) (a b : Marker α) : Marker α :=
  ⟨-4, num.sub a.off (num.mul (num.ofInt (4 + a.index)) (spbOf num a b))⟩

/-- The argument of `ceil` in the last move. -/
def beatsToEndOf (num : Num α) (p l : Marker α) (n : Int) : α :=
  num.div (num.sub (num.ofInt n) l.off) (spbOf num p l)

def lastOf (num : Num α) (p l : Marker α) (adj : Int) : Marker α :=
  ⟨l.index + adj, num.add l.off (num.mul (num.ofInt adj) (spbOf num p l))⟩

@[simp] theorem firstOf_index (num : Num α) (a b : Marker α) : (firstOf num a b).index = -4 := rfl
@[simp] theorem lastOf_index (num : Num α) (p l : Marker α) (adj : Int) :
    (lastOf num p l adj).index = l.index + adj := rfl

theorem fixFirst_eq (num : Num α) (a b : Marker α) (rest : List (Marker α))
    (ha : In32 a.index) (hb : In32 b.index) :
    fixFirst num (a :: b :: rest) = .ok (firstOf num a b :: b :: rest) := by
  show (chk64 (b.index - a.index) >>= fun di => chk64 (4 + a.index) >>= fun k =>
    .ok (⟨-4, num.sub a.off (num.mul (num.ofInt k)
      (num.div (num.sub b.off a.off) (num.ofInt di)))⟩ :: b :: rest)) = _
  rw [chk64_sub hb ha]
  simp only [Res.bind_ok]
  rw [chk64_add in32_four ha]
  rfl

theorem fixFirst_short (num : Num α) (g : List (Marker α)) (h : g.length < 2) :
    fixFirst num g = .ok g := by
  rcases g with _ | ⟨a, _ | ⟨b, rest⟩⟩
  · rfl
  · rfl
  · simp at h; omega

def lastStep (num : Num α) (pre : List (Marker α)) (p l : Marker α) (n : Int) :
    Res (List (Marker α)) :=
  match num.ceil32 (beatsToEndOf num p l n) with
  | none => .throw .invalid_argument
  | some adj =>
    if l.index + adj ≤ p.index then .throw .invalid_argument
    else if 2147483647 < l.index + adj then .throw .invalid_argument
    else .ok (pre ++ [p, lastOf num p l adj])

theorem fixLast_append_two (num : Num α) (hc : num.Ceil32Ok) (pre : List (Marker α))
    (p l : Marker α) (n : Int) (hp : In32 p.index) (hl : In32 l.index) :
    fixLast num (pre ++ [p, l]) n = lastStep num pre p l n := by
  have hr : (pre ++ [p, l]).reverse = l :: p :: pre.reverse := by rw [List.reverse_append]; rfl
  unfold fixLast lastStep
  rw [hr]
  dsimp only
  rw [chk64_sub hl hp, Res.bind_ok]
  show (match num.ceil32 (beatsToEndOf num p l n) with
    | none => _ | some adj => _) = _
  cases hce : num.ceil32 (beatsToEndOf num p l n) with
  | none => rfl
  | some adj =>
    dsimp only
    rw [chk64_add hl (hc _ _ hce), Res.bind_ok, List.reverse_cons, List.reverse_cons,
      List.reverse_reverse, List.append_assoc]
    rfl

theorem fixLast_short (num : Num α) (g : List (Marker α)) (n : Int) (h : g.length < 2) :
    fixLast num g n = .ok g := by
  rcases g with _ | ⟨a, _ | ⟨b, rest⟩⟩
  · rfl
  · rfl
  · simp at h; omega

theorem trimEnd_cons (num : Num α) (x : Marker α) (xs : List (Marker α)) (n : Int) :
    trimEnd num (x :: xs) n =
      if num.le (num.ofInt n) x.off then [x] else x :: trimEnd num xs n := by
  unfold trimEnd
  rw [List.findIdx?_cons]
  cases num.le (num.ofInt n) x.off
  · cases List.findIdx? (fun m => num.le (num.ofInt n) m.off) xs <;> rfl
  · rfl

theorem trimStart_singleton (num : Num α) (x : Marker α) : trimStart num [x] = [x] := by
  unfold trimStart
  simp only [List.findIdx_cons]
  cases num.lt (num.ofInt 0) x.off <;> rfl

theorem trimStart_cons_cons (num : Num α) (x y : Marker α) (ys : List (Marker α)) :
    trimStart num (x :: y :: ys) =
      if num.lt (num.ofInt 0) x.off ∨ num.lt (num.ofInt 0) y.off then x :: y :: ys
      else trimStart num (y :: ys) := by
  unfold trimStart
  simp only [List.findIdx_cons]
  cases num.lt (num.ofInt 0) x.off <;> cases num.lt (num.ofInt 0) y.off <;> simp

theorem trimEnd_spec (num : Num α) (g : List (Marker α)) (n : Int) :
    ∃ C, g = trimEnd num g n ++ C ∧
      (∀ x ∈ (trimEnd num g n).dropLast, num.le (num.ofInt n) x.off = false) ∧
      (C = [] ∨ ∃ l, (trimEnd num g n).getLast? = some l ∧ num.le (num.ofInt n) l.off = true) := by
  induction g with
  | nil => exact ⟨[], rfl, nofun, .inl rfl⟩
  | cons x xs ih =>
    rw [trimEnd_cons]
    by_cases hx : num.le (num.ofInt n) x.off = true
    · rw [if_pos hx]; exact ⟨xs, rfl, nofun, .inr ⟨x, rfl, hx⟩⟩
    · rw [if_neg hx]
      obtain ⟨C, hC, h1, h2⟩ := ih
      refine ⟨C, congrArg (x :: ·) hC, ?_, ?_⟩
      · cases ht : trimEnd num xs n with
        | nil => nofun
        | cons y t =>
          rw [ht] at h1
          intro m hm
          rcases List.mem_cons.mp hm with rfl | hm
          · exact Bool.eq_false_iff.mpr hx
          · exact h1 m hm
      · refine h2.imp_right fun ⟨l, hl, hle⟩ => ⟨l, ?_, hle⟩
        obtain ⟨d, hd⟩ := List.getLast?_eq_some_iff.mp hl
        rw [hd, ← List.cons_append, List.getLast?_concat]

theorem trimStart_spec (num : Num α) (te : List (Marker α)) :
    ∃ A, te = A ++ trimStart num te ∧
      (A = [] ∨ ∃ h, (trimStart num te).head? = some h ∧ num.lt (num.ofInt 0) h.off = false) ∧
      (∀ x y r, trimStart num te = x :: y :: r →
        num.lt (num.ofInt 0) x.off = true ∨ num.lt (num.ofInt 0) y.off = true) := by
  induction te with
  | nil => exact ⟨[], rfl, .inl rfl, nofun⟩
  | cons x xs ih =>
    cases xs with
    | nil => rw [trimStart_singleton]; exact ⟨[], rfl, .inl rfl, nofun⟩
    | cons y ys =>
      rw [trimStart_cons_cons]
      by_cases h : num.lt (num.ofInt 0) x.off = true ∨ num.lt (num.ofInt 0) y.off = true
      · rw [if_pos h]
        refine ⟨[], rfl, .inl rfl, ?_⟩
        intro _ _ _ e
        cases e
        exact h
      · rw [if_neg h]
        obtain ⟨A, hA, h1, h2⟩ := ih
        refine ⟨x :: A, congrArg (x :: ·) hA, .inr ?_, h2⟩
        rcases h1 with rfl | h1
        · rw [show trimStart num (y :: ys) = y :: ys from hA.symm]
          exact ⟨y, rfl, Bool.eq_false_iff.mpr fun hy => h (.inr hy)⟩
        · exact h1

theorem trimEnd_eq_self (num : Num α) {g : List (Marker α)} {n : Int}
    (h : ∀ x ∈ g.dropLast, num.le (num.ofInt n) x.off = false) : trimEnd num g n = g := by
  induction g with
  | nil => rfl
  | cons x xs ih =>
    rw [trimEnd_cons]
    cases xs with
    | nil => split <;> rfl
    | cons y ys =>
      rw [List.dropLast_cons_cons] at h
      rw [h x (List.mem_cons_self ..), ih fun m hm => h m (List.mem_cons_of_mem _ hm)]
      rfl

theorem trim_spec (num : Num α) (g : List (Marker α)) (n : Int) :
    ∃ A C, g = A ++ trim num g n ++ C ∧
      (∀ x ∈ (A ++ trim num g n).dropLast, num.le (num.ofInt n) x.off = false) ∧
      (C = [] ∨ ∃ l, (A ++ trim num g n).getLast? = some l ∧ num.le (num.ofInt n) l.off = true) ∧
      (A = [] ∨ ∃ h, (trim num g n).head? = some h ∧ num.lt (num.ofInt 0) h.off = false) ∧
      (∀ x y r, trim num g n = x :: y :: r →
        num.lt (num.ofInt 0) x.off = true ∨ num.lt (num.ofInt 0) y.off = true) := by
  obtain ⟨C, hC, h1, h2⟩ := trimEnd_spec num g n
  obtain ⟨A, hA, h3, h4⟩ := trimStart_spec num (trimEnd num g n)
  refine ⟨A, C, ?_⟩
  unfold trim
  rw [← hA]
  exact ⟨hC, h1, h2, h3, h4⟩

theorem trim_infix (num : Num α) (g : List (Marker α)) (n : Int) : trim num g n <:+: g := by
  obtain ⟨A, C, h, -⟩ := trim_spec num g n
  exact ⟨A, C, h.symm⟩

theorem trim_mem {num : Num α} {g : List (Marker α)} {n : Int} {m : Marker α}
    (h : m ∈ trim num g n) : m ∈ g := (trim_infix num g n).subset h

theorem normalize_eq (num : Num α) {g : List (Marker α)} (hne : g ≠ []) (n : Int) :
    normalize num g n = match trim num g n with
      | a :: b :: rest => if b.index ≤ -4 then .throw .invalid_argument
          else fixFirst num (a :: b :: rest) >>= fun f => fixLast num f n
      | _ => .throw .invalid_argument := by
  unfold normalize
  have he : g.isEmpty = false := by cases g <;> simp_all
  rw [he]
  simp only [Bool.false_eq_true, if_false]
  generalize trim num g n = t
  rcases t with _ | ⟨a, _ | ⟨b, rest⟩⟩ <;> rfl

theorem trim_cases (num : Num α) {g : List (Marker α)} (n : Int) (hne : g ≠ []) :
    (((trim num g n).length < 2 ∨ ∃ m1, (trim num g n)[1]? = some m1 ∧ m1.index ≤ -4) ∧
      normalize num g n = .throw .invalid_argument) ∨
    (¬ ((trim num g n).length < 2 ∨ ∃ m1, (trim num g n)[1]? = some m1 ∧ m1.index ≤ -4) ∧
      ∃ a b rest, trim num g n = a :: b :: rest ∧ -4 < b.index) := by
  rw [normalize_eq num hne]
  rcases trim num g n with _ | ⟨a, _ | ⟨b, rest⟩⟩
  · exact .inl ⟨.inl Nat.zero_lt_two, rfl⟩
  · exact .inl ⟨.inl Nat.one_lt_two, rfl⟩
  · by_cases hb4 : b.index ≤ -4
    · exact .inl ⟨.inr ⟨b, rfl, hb4⟩, if_pos hb4⟩
    · refine .inr ⟨?_, a, b, rest, rfl, Int.not_le.mp hb4⟩
      rintro (hlen | ⟨m1, hm1, hidx⟩)
      · exact absurd hlen (Nat.not_lt.mpr (Nat.le_add_left 2 _))
      · cases hm1; exact hb4 hidx

theorem gen_reject_of {num : Num α} {g : List (Marker α)} {n : Int} (hne : g ≠ [])
    (hc : (trim num g n).length < 2 ∨
      ∃ m1, (trim num g n)[1]? = some m1 ∧ m1.index ≤ -4) :
    normalize num g n = .throw .invalid_argument :=
  (trim_cases num n hne).elim (·.2) (absurd hc ·.1)

/-- All beat indices of the grid are `int` values (the type invariant of the C++ field). -/
def Idx32 (g : List (Marker α)) : Prop := ∀ m ∈ g, In32 m.index

theorem Idx32.trim {num : Num α} {g : List (Marker α)} {n : Int} (h : Idx32 g) :
    Idx32 (trim num g n) := fun m hm => h m (trim_mem hm)

theorem Idx32.cons_firstOf {num : Num α} {a b : Marker α} {rest : List (Marker α)}
    (h : Idx32 (a :: b :: rest)) : Idx32 (firstOf num a b :: b :: rest) := by
  intro m hm
  rcases List.mem_cons.mp hm with rfl | hm
  · exact in32_neg_four
  · exact h m (List.mem_cons_of_mem _ hm)

theorem normalize_eq_of_shape (num : Num α) (hc : num.Ceil32Ok) {g : List (Marker α)} {n : Int}
    {a b : Marker α} {rest pre : List (Marker α)} {p l : Marker α}
    (hne : g ≠ []) (hi : Idx32 g) (ht : trim num g n = a :: b :: rest) (hb4 : ¬ b.index ≤ -4)
    (hf : firstOf num a b :: b :: rest = pre ++ [p, l]) :
    normalize num g n = lastStep num pre p l n := by
  have hit : Idx32 (a :: b :: rest) := ht ▸ hi.trim
  rw [normalize_eq num hne, ht]
  dsimp only
  rw [if_neg hb4, fixFirst_eq num a b rest (hit a (List.mem_cons_self ..))
    (hit b (List.mem_cons_of_mem _ (List.mem_cons_self ..))), Res.bind_ok]
  have hif := hit.cons_firstOf (num := num)
  rw [hf] at hif ⊢
  exact fixLast_append_two num hc pre p l n
    (hif p (List.mem_append_right _ (List.mem_cons_self ..)))
    (hif l (List.mem_append_right _ (List.mem_cons_of_mem _ (List.mem_cons_self ..))))

theorem normalize_front (num : Num α) (hc : num.Ceil32Ok) {g : List (Marker α)} (n : Int)
    (hne : g ≠ []) (hi : Idx32 g) :
    (((trim num g n).length < 2 ∨ ∃ m1, (trim num g n)[1]? = some m1 ∧ m1.index ≤ -4) ∧
      normalize num g n = .throw .invalid_argument) ∨
    ∃ a b rest pre p l, trim num g n = a :: b :: rest ∧ -4 < b.index ∧
      firstOf num a b :: b :: rest = pre ++ [p, l] ∧
      normalize num g n = lastStep num pre p l n := by
  refine (trim_cases num n hne).imp_right fun ⟨_, a, b, rest, ht, hb4⟩ => ?_
  obtain ⟨pre, p, l, hf⟩ := exists_append_two (firstOf num a b) b rest
  exact ⟨a, b, rest, pre, p, l, ht, hb4, hf,
    normalize_eq_of_shape num hc hne hi ht (Int.not_le.mpr hb4) hf⟩

theorem lastStep_cases (num : Num α) (hc : num.Ceil32Ok) (pre : List (Marker α)) (p l : Marker α)
    (n : Int) :
    lastStep num pre p l n = .throw .invalid_argument ∨
    ∃ adj, num.ceil32 (beatsToEndOf num p l n) = some adj ∧ In32 adj ∧ p.index < l.index + adj ∧
      l.index + adj ≤ 2147483647 ∧
      lastStep num pre p l n = .ok (pre ++ [p, lastOf num p l adj]) := by
  unfold lastStep
  cases hce : num.ceil32 (beatsToEndOf num p l n) with
  | none => exact .inl rfl
  | some adj =>
    dsimp only
    by_cases h1 : l.index + adj ≤ p.index
    · rw [if_pos h1]; exact .inl rfl
    · by_cases h2 : 2147483647 < l.index + adj
      · rw [if_neg h1, if_pos h2]; exact .inl rfl
      · rw [if_neg h1, if_neg h2]
        exact .inr ⟨adj, rfl, hc _ _ hce, by omega, by omega, rfl⟩

/-- What a successful `normalize num g n = .ok out` has done, for any arithmetic.  Trimming left `a :: b :: rest`
(`ht`) with `b` after beat −4 (`hb4`); with the first marker moved the grid reads `pre ++ [p, l]` from its end
(`hf`); the last move went `adj` beats on (`hce`: what `ceil32` answered; `hadj`, `hil`, `hil32`: the three tests it
passed), and `out` is the grid with `l` moved (`hout`). -/
structure GShape (num : Num α) (g : List (Marker α)) (n : Int) (out : List (Marker α))
    (a b : Marker α) (rest pre : List (Marker α)) (p l : Marker α) (adj : Int) : Prop where
  ht : trim num g n = a :: b :: rest
  hb4 : -4 < b.index
  hf : firstOf num a b :: b :: rest = pre ++ [p, l]
  hce : num.ceil32 (beatsToEndOf num p l n) = some adj
  hadj : In32 adj
  hil : p.index < l.index + adj
  hil32 : l.index + adj ≤ 2147483647
  hout : out = pre ++ [p, lastOf num p l adj]

theorem normalize_cases (num : Num α) (hc : num.Ceil32Ok) {g : List (Marker α)} (n : Int)
    (hne : g ≠ []) (hi : Idx32 g) :
    normalize num g n = .throw .invalid_argument ∨
    ∃ out a b rest pre p l adj, normalize num g n = .ok out ∧
      GShape num g n out a b rest pre p l adj := by
  rcases normalize_front num hc n hne hi with hrej | ⟨a, b, rest, pre, p, l, ht, hb4, hf, heq⟩
  · exact .inl hrej.2
  · rw [heq]
    exact (lastStep_cases num hc pre p l n).imp_right fun ⟨adj, hce, hadj, h1, h2, h⟩ =>
      ⟨_, a, b, rest, pre, p, l, adj, h, ht, hb4, hf, hce, hadj, h1, h2, rfl⟩

theorem normalize_ok_shape (num : Num α) (hc : num.Ceil32Ok) {g out : List (Marker α)} {n : Int}
    (hne : g ≠ []) (hi : Idx32 g) (h : normalize num g n = .ok out) :
    ∃ a b rest pre p l adj, GShape num g n out a b rest pre p l adj := by
  rcases normalize_cases num hc n hne hi with h' | ⟨out', a, b, rest, pre, p, l, adj, h', sh⟩
  · rw [h] at h'; cases h'
  · rw [h] at h'; cases h'
    exact ⟨a, b, rest, pre, p, l, adj, sh⟩

section clauses
variable {num : Num α} {g out : List (Marker α)} {n : Int}

theorem gen_ok_or_invalid (hc : num.Ceil32Ok) (hi : Idx32 g) :
    (∃ out, normalize num g n = .ok out) ∨ normalize num g n = .throw .invalid_argument := by
  by_cases hne : g = []
  · subst hne; exact .inl ⟨[], rfl⟩
  · exact (normalize_cases num hc n hne hi).symm.imp_left fun ⟨out, _, _, _, _, _, _, _, h, _⟩ =>
      ⟨out, h⟩

/-- Totality: on `int` indices normalisation returns a grid or throws — never undefined
behaviour, for any arithmetic. -/
theorem normalize_defined (num : Num α) (hc : num.Ceil32Ok) (g : List (Marker α)) (n : Int)
    (hi : Idx32 g) : ∀ u, normalize num g n ≠ .ub u := by
  intro u
  rcases gen_ok_or_invalid (n := n) hc hi with ⟨out, h⟩ | h <;> rw [h] <;> nofun

theorem gen_interior_unchanged (hc : num.Ceil32Ok) (hi : Idx32 g)
    (h : normalize num g n = .ok out) (hne : g ≠ []) :
    out.length = (trim num g n).length ∧
    ∀ i, 0 < i → i + 1 < out.length → out[i]? = (trim num g n)[i]? := by
  obtain ⟨a, b, rest, pre, p, l, adj, sh⟩ := normalize_ok_shape num hc hne hi h
  have hlen : (a :: b :: rest).length = (pre ++ [p, lastOf num p l adj]).length :=
    (congrArg List.length sh.hf).trans (by rw [List.length_append, List.length_append]; rfl)
  rw [sh.ht, sh.hout]
  refine ⟨hlen.symm, fun i hi0 hi => ?_⟩
  -- position `i` lies before the last marker, where `out` and the grid after the first move agree
  have hi' : i < (pre ++ [p]).length := by
    rw [List.length_append] at hi ⊢; exact Nat.lt_of_succ_lt_succ hi
  rw [List.append_cons pre p [_], List.getElem?_append_left hi',
    ← List.getElem?_append_left (l₂ := [l]) hi', ← List.append_cons, ← sh.hf]
  obtain ⟨j, rfl⟩ := Nat.exists_eq_succ_of_ne_zero (Nat.ne_of_gt hi0)
  rfl

theorem gen_first_index (hc : num.Ceil32Ok) (hi : Idx32 g)
    (h : normalize num g n = .ok out) (hne : g ≠ []) :
    ∃ m, out.head? = some m ∧ m.index = -4 := by
  obtain ⟨a, b, rest, pre, p, l, adj, sh⟩ := normalize_ok_shape num hc hne hi h
  rw [sh.hout]
  rcases shape_cases sh.hf with ⟨rfl, rfl, rfl, rfl⟩ | ⟨pre', rfl, -⟩
  · exact ⟨_, rfl, rfl⟩
  · exact ⟨_, rfl, rfl⟩

theorem gen_out_idx32 (hc : num.Ceil32Ok) (hi : Idx32 g)
    (h : normalize num g n = .ok out) (hne : g ≠ []) : Idx32 out := by
  obtain ⟨a, b, rest, pre, p, l, adj, sh⟩ := normalize_ok_shape num hc hne hi h
  have hif : Idx32 (pre ++ [p, l]) := sh.hf ▸ (sh.ht ▸ hi.trim : Idx32 (a :: b :: rest)).cons_firstOf
  have hp := hif p (List.mem_append_right _ (List.mem_cons_self ..))
  rw [sh.hout]
  intro m hm
  rcases List.mem_append.mp hm with hm | hm
  · exact hif m (List.mem_append_left _ hm)
  · rcases List.mem_cons.mp hm with rfl | hm
    · exact hp
    · cases List.mem_singleton.mp hm
      exact And.intro (Int.le_trans hp.1 (Int.le_of_lt sh.hil)) sh.hil32

end clauses

end EngineModel.Pure.Beatgrid
