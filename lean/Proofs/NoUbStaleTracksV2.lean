/-
C15, schema 2.x tracks: a removed track stays removed along EVERY later history — `Track.id` is
AUTOINCREMENT (the model's `nextId` only grows and every stored id is below it), so the id of a removed
track is never issued again; `stale_calls` says what each call through the handle of an absent track answers.
-/
import Proofs.NoUbTracksV2

namespace EngineModel.Api.C15TracksV2
open EngineModel EngineModel.TracksV2

/-- `id` is not a stored track and can never be issued again; every stored id is below `nextId`. -/
structure TGone (db : Db) (id : Nat) : Prop where
  lt : id < db.nextId
  absent : ∀ e ∈ db.rows, e.1 ≠ id
  bound : ∀ e ∈ db.rows, e.1 < db.nextId

theorem put_nextId (db : Db) (i : Nat) (r : Row) : (db.put i r).nextId = db.nextId := rfl

theorem _root_.EngineModel.TracksV2.Eff.tgone {ops : FOps} {db db' : Db} {id : Nat} (h : Eff ops db db')
    (hg : TGone db id) : TGone db' id :=
  ⟨(h.gone hg.lt hg.absent).1, (h.gone hg.lt hg.absent).2, h.fresh hg.bound⟩

theorem tgone_step (ops : FOps) (s : Schema) {db : Db} {id : Nat} (h : TGone db id) (op : Op) :
    TGone (step ops s db op).1 id :=
  (step_ran ops s db op).eff.tgone h

def run (ops : FOps) (s : Schema) (db : Db) : List Op → Db
  | [] => db
  | op :: t => run ops s (step ops s db op).1 t

theorem isRun (ops : FOps) (s : Schema) : Machine.IsRun (step ops s) (run ops s) := ⟨fun _ => rfl, fun _ _ _ => rfl⟩

theorem tgone_run (ops : FOps) (s : Schema) {id : Nat} (l : List Op) {db : Db} (h : TGone db id) : TGone (run ops s db l) id :=
  (isRun ops s).inv (Inv := (TGone · id)) (fun _ op h => tgone_step ops s h op) l db h

def IdInv (db : Db) : Prop := ∀ e ∈ db.rows, e.1 < db.nextId

theorem idInv_empty : IdInv Db.empty := by intro e he; cases he

theorem get_none_of_absent {db : Db} {id : Nat} (h : ∀ e ∈ db.rows, e.1 ≠ id) : db.get id = none := by
  unfold Db.get
  rw [List.find?_eq_none.mpr]
  · rfl
  · intro e he hc; exact h e he (by simpa using hc)

theorem stale_calls (ops : FOps) (s : Schema) (db' : Db) (id : Nat) (hg' : db'.get id = none) :
    (step ops s db' (.isValid id)).2 = .ok (.bool false) ∧
    (step ops s db' (.handleId id)).2 = .ok (.id id) ∧ (step ops s db' (.handleCopy id)).2 = .ok (.id id) ∧
    (∀ g, (step ops s db' (.get id g)).2 = .throw .runtime_error) ∧
    (∀ σ, (step ops s db' (.set id σ)).2 = .throw .runtime_error) ∧
    (step ops s db' (.snapshot id)).2 = .throw (.dj "track_deleted") ∧
    (step ops s db' (.remove id)).2 = .throw .invalid_argument ∧
    (∀ x u, (step ops s db' (.update id x)).2 ≠ .ub u) := by
  refine ⟨?_, rfl, rfl, ?_, ?_, ?_, ?_, ?_⟩
  · simp only [step, isValid, hg']; rfl
  · intro g; simp only [step, hg']
  · intro σ; simp only [step, Db.set, hg', lift]
  · simp only [step, Db.snapshot, hg', lift]
  · simp only [step, remove, isValid, hg', lift]; rfl
  · intro x u
    simp only [step, hg']
    exact lift_defined _ _ _ (update_defined ops s db' id x) u

theorem tgone_after_remove (ops : FOps) (s : Schema) {db : Db} (hI : IdInv db) {id : Nat}
    (hv : isValid db id = true) : TGone (step ops s db (.remove id)).1 id := by
  simp only [step, remove, hv, if_true]
  unfold isValid at hv
  cases hg : db.get id with
  | none => rw [hg] at hv; cases hv
  | some r =>
    refine ⟨hI _ (get_mem db id r hg), ?_, ?_⟩
    · intro e' he'
      have := (List.mem_filter.mp he').2
      simpa using this
    · intro e' he'; exact hI e' (List.mem_filter.mp he').1

theorem idInv_step (ops : FOps) (s : Schema) {db : Db} (hI : IdInv db) (op : Op) : IdInv (step ops s db op).1 :=
  (step_ran ops s db op).eff.fresh hI

theorem idInv_run (ops : FOps) (s : Schema) (l : List Op) {db : Db} (h : IdInv db) : IdInv (run ops s db l) :=
  (isRun ops s).inv (Inv := IdInv) (fun _ op h => idInv_step ops s h op) l db h

end EngineModel.Api.C15TracksV2
