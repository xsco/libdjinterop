/-
The machinery of the setter-frame half of C04.  The stored payload of a
performance-data column of a 2.x Track row is the Spec encoding
(`Format/V2.lean`) of its decoded value followed by the trailing `extra_data`
(`payloadTrack … payloadLoops`).  Here: where the bytes of a replaced
fixed-layout field or list slot lie in the payload (what a successful
read-modify-write setter of `v2::track_impl` did to the row is `hotCueAt_row` …
`waveform_row` of Proofs/TracksV2Eff.lean), and a concrete foreign-looking row.
The frame theorems themselves are in `Properties/C04.lean`.
-/
import Proofs.ImplV2Lists
import Proofs.TracksV2Eff

namespace EngineModel
namespace SetterFrame

open Codec

def payloadTrack (r : TracksV2.Row) : Bytes := V2.track.enc r.trackData.1 ++ r.trackData.2
def payloadOvw   (r : TracksV2.Row) : Bytes := V2.ovw.enc r.ovw.1 ++ r.ovw.2
def payloadBeat  (r : TracksV2.Row) : Bytes := V2.beat.enc r.beat.1 ++ r.beat.2
def payloadCues  (r : TracksV2.Row) : Bytes := V2.cues.enc r.cues.1 ++ r.cues.2
def payloadLoops (r : TracksV2.Row) : Bytes := V2.loops.enc r.loops.1 ++ r.loops.2

/-- `p` and `q` have one length and differ at most in the bytes `a ≤ i < b`. -/
def AgreeOutside (a b : Nat) (p q : Bytes) : Prop :=
  p.length = q.length ∧ p.take a = q.take a ∧ p.drop b = q.drop b

theorem encL_append {α} (c : Codec α) (l₁ l₂ : List α) :
    encL c (l₁ ++ l₂) = encL c l₁ ++ encL c l₂ := by
  induction l₁ with
  | nil => rfl
  | cons a l ih => simp only [List.cons_append, encL, ih, List.append_assoc]

/-- `encL_set` and `encL_split` cut the encodings of the list with slot `k` replaced and of the
list itself at the same places: only the middle part differs. -/
theorem encL_set {α} (c : Codec α) (l : List α) (k : Nat) (x : α) (h : k < l.length) :
    encL c (l.set k x) = encL c (l.take k) ++ c.enc x ++ encL c (l.drop (k + 1)) := by
  rw [List.set_eq_take_append_cons_drop, if_pos h, encL_append]
  simp only [encL, List.append_assoc]

theorem encL_split {α} (c : Codec α) (l : List α) (k : Nat) (h : k < l.length) :
    encL c l = encL c (l.take k) ++ c.enc l[k] ++ encL c (l.drop (k + 1)) := by
  rw [← encL_set c l k l[k] h, List.set_getElem_self]

theorem agree_mid (pre mid mid' post : Bytes) (n : Nat) (hm : mid.length = n) (hm' : mid'.length = n) :
    AgreeOutside pre.length (pre.length + n) (pre ++ (mid ++ post)) (pre ++ (mid' ++ post)) := by
  refine ⟨?_, ?_, ?_⟩
  · simp only [List.length_append, hm, hm']
  · rw [List.take_left, List.take_left]
  · rw [← List.append_assoc, ← List.append_assoc, List.drop_left' (by rw [List.length_append, hm]),
      List.drop_left' (by rw [List.length_append, hm'])]

theorem cues_enc_eq (v : V2.Cues) :
    V2.cues.enc v = u64be.enc (UInt64.ofNat v.cues.length) ++ encL V2.cue v.cues ++
      Impl.V2.cuesTail.enc (v.adjMain, (if v.isAdj then 1 else 0), v.defMain) := rfl

theorem loops_enc_eq (v : V2.Loops) :
    V2.loops.enc v = u64le.enc (UInt64.ofNat v.length) ++ encL V2.loop v := rfl

theorem track_enc_eq (t : V2.Track) :
    V2.track.enc t = u64be.enc t.sampleRate ++ (u64be.enc t.samples ++ (u32be.enc t.key ++
      (u64be.enc t.lo ++ (u64be.enc t.mid ++ u64be.enc t.hi)))) := rfl

theorem beat_enc_eq (v : V2.Beat) :
    V2.beat.enc v = u64be.enc v.sampleRate ++ (u64be.enc v.samples ++ ([v.isSet] ++
      (V2.grid.enc v.dflt ++ V2.grid.enc v.adj))) := rfl

theorem u32be_enc_length (x : UInt32) : (u32be.enc x).length = 4 := rfl

/-- bytes 0..7 of the track-data and of the beat-data blob -/
theorem agree_first (x x' : UInt64) (rest : Bytes) :
    AgreeOutside 0 8 (u64be.enc x ++ rest) (u64be.enc x' ++ rest) := by
  simpa only [List.nil_append, List.length_nil, Impl.V2.u64be_enc_length] using
    agree_mid [] (u64be.enc x) (u64be.enc x') rest 8 (Impl.V2.u64be_enc_length x) (Impl.V2.u64be_enc_length x')

/-- bytes 8..15 of the track-data and of the beat-data blob -/
theorem agree_second (x y y' : UInt64) (rest : Bytes) :
    AgreeOutside 8 16 (u64be.enc x ++ (u64be.enc y ++ rest)) (u64be.enc x ++ (u64be.enc y' ++ rest)) := by
  simpa only [Impl.V2.u64be_enc_length] using
    agree_mid (u64be.enc x) (u64be.enc y) (u64be.enc y') rest 8 (Impl.V2.u64be_enc_length y) (Impl.V2.u64be_enc_length y')

theorem agree_sampleRate_track (r : TracksV2.Row) (c : UInt64) :
    AgreeOutside 0 8 (payloadTrack r)
      (payloadTrack { r with trackData := ({ r.trackData.1 with sampleRate := c }, r.trackData.2) }) := by
  simpa only [payloadTrack, track_enc_eq, List.append_assoc] using agree_first _ c _

theorem agree_sampleRate_beat (r : TracksV2.Row) (c : UInt64) :
    AgreeOutside 0 8 (payloadBeat r)
      (payloadBeat { r with beat := ({ r.beat.1 with sampleRate := c }, r.beat.2) }) := by
  simpa only [payloadBeat, beat_enc_eq, List.append_assoc] using agree_first _ c _

theorem agree_samples_track (r : TracksV2.Row) (n : UInt64) :
    AgreeOutside 8 16 (payloadTrack r)
      (payloadTrack { r with trackData := ({ r.trackData.1 with samples := n }, r.trackData.2) }) := by
  simpa only [payloadTrack, track_enc_eq, List.append_assoc] using agree_second _ _ n _

theorem agree_samples_beat (r : TracksV2.Row) (n : UInt64) :
    AgreeOutside 8 16 (payloadBeat r)
      (payloadBeat { r with beat := ({ r.beat.1 with samples := n }, r.beat.2) }) := by
  simpa only [payloadBeat, beat_enc_eq, List.append_assoc] using agree_second _ _ n _

theorem agree_key (r : TracksV2.Row) (k : UInt32) :
    AgreeOutside 16 20 (payloadTrack r)
      (payloadTrack { r with trackData := ({ r.trackData.1 with key := k }, r.trackData.2) }) := by
  simpa only [payloadTrack, track_enc_eq, List.append_assoc, List.length_append, Impl.V2.u64be_enc_length,
    u32be_enc_length] using
    agree_mid (u64be.enc r.trackData.1.sampleRate ++ u64be.enc r.trackData.1.samples)
      (u32be.enc r.trackData.1.key) (u32be.enc k) _ 4 (u32be_enc_length _) (u32be_enc_length k)

theorem agree_loudness (r : TracksV2.Row) (c : UInt64) :
    AgreeOutside 20 44 (payloadTrack r)
      (payloadTrack { r with trackData := ({ r.trackData.1 with lo := c, mid := c, hi := c }, r.trackData.2) }) := by
  simpa only [payloadTrack, track_enc_eq, List.append_assoc, List.length_append, Impl.V2.u64be_enc_length,
    u32be_enc_length] using
    agree_mid (u64be.enc r.trackData.1.sampleRate ++ (u64be.enc r.trackData.1.samples ++ u32be.enc r.trackData.1.key))
      (u64be.enc r.trackData.1.lo ++ (u64be.enc r.trackData.1.mid ++ u64be.enc r.trackData.1.hi))
      (u64be.enc c ++ (u64be.enc c ++ u64be.enc c)) r.trackData.2 24
      (by simp only [List.length_append, Impl.V2.u64be_enc_length])
      (by simp only [List.length_append, Impl.V2.u64be_enc_length])

/-- `pre` is the count and the entries of the slots before `i`, `post` is the
entries of the slots after `i`, the 17 main-cue bytes and the trailing
`extra_data`. -/
theorem frame_hotCueAt_located (ops : TracksV2.FOps) (i : UInt32) (v : Option TracksV2.HotCue)
    (r r' : TracksV2.Row) (h : TracksV2.applySetter ops (.hotCueAt i v) r = .ok r') :
    ∃ (hk : i.toNat < r.cues.1.cues.length),
      let pre := u64be.enc (UInt64.ofNat r.cues.1.cues.length) ++
        encL V2.cue (r.cues.1.cues.take i.toNat)
      let post := encL V2.cue (r.cues.1.cues.drop (i.toNat + 1)) ++
        Impl.V2.cuesTail.enc (r.cues.1.adjMain, (if r.cues.1.isAdj then 1 else 0), r.cues.1.defMain) ++
        r.cues.2
      payloadCues r = pre ++ V2.cue.enc r.cues.1.cues[i.toNat] ++ post ∧
      payloadCues r' = pre ++ V2.cue.enc (TracksV2.writeHotCue v) ++ post := by
  obtain ⟨hk, -, -, rfl⟩ := TracksV2.hotCueAt_row h
  refine ⟨hk, ?_, ?_⟩
  · simp only [payloadCues, cues_enc_eq, encL_split V2.cue _ _ hk, List.append_assoc]
  · simp only [payloadCues, cues_enc_eq, List.length_set, encL_set V2.cue _ _ _ hk, List.append_assoc]

theorem frame_loopAt_located (ops : TracksV2.FOps) (i : UInt32) (v : Option TracksV2.LoopV)
    (r r' : TracksV2.Row) (h : TracksV2.applySetter ops (.loopAt i v) r = .ok r') :
    ∃ (hk : i.toNat < r.loops.1.length),
      let pre := u64le.enc (UInt64.ofNat r.loops.1.length) ++ encL V2.loop (r.loops.1.take i.toNat)
      let post := encL V2.loop (r.loops.1.drop (i.toNat + 1)) ++ r.loops.2
      payloadLoops r = pre ++ V2.loop.enc r.loops.1[i.toNat] ++ post ∧
      payloadLoops r' = pre ++ V2.loop.enc (TracksV2.writeLoop v) ++ post := by
  obtain ⟨hk, -, -, rfl⟩ := TracksV2.loopAt_row h
  refine ⟨hk, ?_, ?_⟩
  · simp only [payloadLoops, loops_enc_eq, encL_split V2.loop _ _ hk, List.append_assoc]
  · simp only [payloadLoops, loops_enc_eq, List.length_set, encL_set V2.loop _ _ _ hk, List.append_assoc]

def ops0 : TracksV2.FOps := ⟨fun _ => 0, fun _ => 0, fun _ _ => 0⟩

/-- 44100 Hz / 1000 samples / key 5; an empty overview waveform followed by one
foreign byte; a two-marker grid followed by ten trailing bytes; THREE quick-cue
entries (a set cue, an EMPTY slot that still carries the label "old" and the
colour ff/7f/00/7f, a plain empty slot), flag true, two trailing bytes; three
loop entries (the second an empty slot with a label) and one trailing byte. -/
def row0 : TracksV2.Row :=
  { (default : TracksV2.Row) with
    trackData := (⟨0x40e5888000000000, 1000, 5, 0x3fe0000000000000, 0x3fe0000000000001, 0x3fe0000000000002⟩,
                  [0x01, 0x02])
    ovw := (⟨0, [], [0, 0, 0]⟩, [0x09])
    beat := (⟨0x40e5888000000000, 0x408f400000000000, 1,
              [⟨0, 0, 4, 0⟩, ⟨0x40e5888000000000, 4, 0, 0⟩],
              [⟨0x4059000000000000, 0, 4, 0⟩, ⟨0x40e5888000000000, 4, 0, 0⟩]⟩,
             [0, 0, 0, 0, 0, 0, 0, 0, 0, 0x55])
    cues := (⟨[⟨[0x61], 0x40f0000000000000, ⟨0xff, 0x01, 0x02, 0x03⟩⟩,
               ⟨[0x6f, 0x6c, 0x64], TracksV2.negOne, ⟨0xff, 0x7f, 0x00, 0x7f⟩⟩,
               ⟨[], TracksV2.negOne, TracksV2.zeroColor⟩],
              0x4024000000000000, true, 0x4034000000000000⟩, [0xaa, 0xbb])
    loops := ([⟨[0x4c], 0x40f0000000000000, 0x40f8000000000000, 1, 1, ⟨0xff, 0x10, 0x20, 0x30⟩⟩,
               ⟨[0x6f, 0x6c, 0x64], TracksV2.negOne, TracksV2.negOne, 0, 0, ⟨0xff, 0x7f, 0x00, 0x7f⟩⟩,
               ⟨[], TracksV2.negOne, TracksV2.negOne, 0, 0, TracksV2.zeroColor⟩],
              [0xcc]) }

def cue0 : TracksV2.HotCue := ⟨[0x6e, 0x65, 0x77], 0x4059000000000000, ⟨0xff, 0x00, 0xff, 0x00⟩⟩
def loop0 : TracksV2.LoopV := ⟨[0x6e], 0x4059000000000000, 0x4069000000000000, ⟨0xff, 0x00, 0xff, 0x00⟩⟩

example : ∃ r', TracksV2.applySetter ops0 (.hotCueAt 0 (some cue0)) row0 = .ok r' := ⟨_, rfl⟩
example : ∃ r', TracksV2.applySetter ops0 (.hotCueAt 1 (some cue0)) row0 = .ok r' := ⟨_, rfl⟩
example : ∃ r', TracksV2.applySetter ops0 (.hotCueAt 2 none) row0 = .ok r' := ⟨_, rfl⟩
example : ∃ r', TracksV2.applySetter ops0 (.loopAt 1 (some loop0)) row0 = .ok r' := ⟨_, rfl⟩
example : ∃ r', TracksV2.applySetter ops0 (.loopAt 2 none) row0 = .ok r' := ⟨_, rfl⟩
example : ∃ r', TracksV2.applySetter ops0 (.mainCue (some 0x4059000000000000)) row0 = .ok r' := ⟨_, rfl⟩
example : ∃ r', TracksV2.applySetter ops0 (.hotCues [none, some cue0]) row0 = .ok r' := ⟨_, rfl⟩
example : ∃ r', TracksV2.applySetter ops0 (.averageLoudness (some 0x3fd0000000000000)) row0 = .ok r' :=
  ⟨_, rfl⟩
example : ∃ r', TracksV2.applySetter ops0 (.key (some 11)) row0 = .ok r' := ⟨_, rfl⟩
example : ∃ r', TracksV2.applySetter ops0 (.sampleCount (some 2000)) row0 = .ok r' := ⟨_, rfl⟩
example : ∃ r', TracksV2.applySetter ops0 (.sampleRate (some 0x40e7700000000000)) row0 = .ok r' := ⟨_, rfl⟩
example : ∃ r', TracksV2.applySetter ops0 (.beatgrid [⟨0, 0x4059000000000000⟩, ⟨8, 0x40e5888000000000⟩]) row0
    = .ok r' := ⟨_, rfl⟩

/-- Writing a hot cue into slot 0 of the concrete row: the stored quick-cues
blob afterwards, byte for byte.  Slot 1 (EMPTY, label "old", colour
ff/7f/00/7f), slot 2, the count 3, the main-cue fields and the two trailing
bytes aa bb are exactly the old ones. -/
example : ∀ r', TracksV2.applySetter ops0 (.hotCueAt 0 (some cue0)) row0 = .ok r' →
    payloadCues row0 =
      [0, 0, 0, 0, 0, 0, 0, 3] ++
      [1, 0x61, 0x40, 0xf0, 0, 0, 0, 0, 0, 0, 0xff, 0x01, 0x02, 0x03] ++
      ([3, 0x6f, 0x6c, 0x64, 0xbf, 0xf0, 0, 0, 0, 0, 0, 0, 0xff, 0x7f, 0x00, 0x7f] ++
       [0, 0xbf, 0xf0, 0, 0, 0, 0, 0, 0, 0, 0, 0, 0] ++
       [0x40, 0x24, 0, 0, 0, 0, 0, 0, 1, 0x40, 0x34, 0, 0, 0, 0, 0, 0] ++ [0xaa, 0xbb]) ∧
    payloadCues r' =
      [0, 0, 0, 0, 0, 0, 0, 3] ++
      [3, 0x6e, 0x65, 0x77, 0x40, 0x59, 0, 0, 0, 0, 0, 0, 0xff, 0x00, 0xff, 0x00] ++
      ([3, 0x6f, 0x6c, 0x64, 0xbf, 0xf0, 0, 0, 0, 0, 0, 0, 0xff, 0x7f, 0x00, 0x7f] ++
       [0, 0xbf, 0xf0, 0, 0, 0, 0, 0, 0, 0, 0, 0, 0] ++
       [0x40, 0x24, 0, 0, 0, 0, 0, 0, 1, 0x40, 0x34, 0, 0, 0, 0, 0, 0] ++ [0xaa, 0xbb]) := by
  intro r' h
  cases h
  exact ⟨rfl, rfl⟩

/-- A row whose loops blob has eight well-formed entries followed by one foreign byte. -/
def rowL : TracksV2.Row :=
  { row0 with loops := ([⟨[0x4c], 0x40f0000000000000, 0x40f8000000000000, 1, 1, ⟨0xff, 0x10, 0x20, 0x30⟩⟩,
      TracksV2.emptyLoop, TracksV2.emptyLoop, TracksV2.emptyLoop, TracksV2.emptyLoop, TracksV2.emptyLoop,
      TracksV2.emptyLoop, TracksV2.emptyLoop], [0xcc]) }

/-- `set_loops(get_loops())` on `rowL`: the call succeeds and the stored payload, foreign byte included, is exactly
what it was. -/
theorem loops_setter_keeps_extra_example :
    ∃ r', TracksV2.applySetter ops0 (.loops (TracksV2.getLoops rowL)) rowL = .ok r' ∧
      payloadLoops r' = payloadLoops rowL ∧ (payloadLoops r').getLast? = some 0xcc :=
  ⟨_, rfl, rfl, rfl⟩

/-- a different list on the same row: the payload changes, the foreign byte stays -/
example : ∃ r', TracksV2.applySetter ops0 (.loops [none, some loop0]) rowL = .ok r' ∧
    payloadLoops r' ≠ payloadLoops rowL ∧ r'.loops.2 = [0xcc] := ⟨_, rfl, by decide, rfl⟩

/-- `set_waveform(get_waveform())` on the concrete row (empty waveform, one
foreign trailing byte in the overview blob): the byte is kept. -/
theorem waveform_setter_keeps_extra_example :
    ∃ r', TracksV2.applySetter ops0 (.waveform (TracksV2.getWaveform row0)) row0 = .ok r' ∧
      payloadOvw r' = payloadOvw row0 ∧ (payloadOvw r').getLast? = some 0x09 :=
  ⟨_, rfl, rfl, rfl⟩

end SetterFrame
end EngineModel
