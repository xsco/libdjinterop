/-
C15: the extents arithmetic of src/djinterop/engine/track_utils.hpp, as REGENERATED from the source
(`Gen.TrackUtils`, tools/tr_trackutils.py), never divides by zero and never overflows a signed
integer once its argument can be converted to `int64_t` — for any double arithmetic `ops`.
The regenerated bodies are read only through facts that hold of every spelling of the same values: the checked
product through `Int` arithmetic (`qn_arith`), `/` and `%` by the converted `qn` through `U64.div_pos` /
`U64.mod_pos`.  A rewrite of the C++ that keeps the values (`2 * (x / 210)`, `(n - 1) / qn + 1`, `n - n % qn`)
keeps these proofs; a change of the `qn == 0` guard breaks them.
-/
import EngineModel.Gen.TrackUtilsGen
import EngineModel.Api.GuardedUtils
import Proofs.Cxx

namespace EngineModel.Gen.TrackUtils
open EngineModel

variable {F : Type}

-- the simp sets below name a lemma for each spelling the source may take; the present text does not meet them all
set_option linter.unusedSimpArgs false

/-- The arithmetic of `waveform_quantisation_number`: the truncating quotient by 210 exists, and twice it stays
inside `int64_t` (the division shrinks the magnitude far more than doubling restores).  Stated on the plain
product, so that the checked product is defined whichever way round the source writes its factors. -/
theorem qn_arith (v : Int) (hin : Cxx.inI64 v = true) :
    ∃ d, Cxx.I64.div v 210 = some d ∧ Cxx.inI64 (d * 2) = true := by
  rw [Cxx.inI64_iff] at hin
  have ht : v.tdiv 210 = v / 210 ∨ v.tdiv 210 = -(-v / 210) := by
    by_cases h0 : 0 ≤ v
    · exact Or.inl (Int.tdiv_eq_ediv_of_nonneg h0)
    · have := Int.tdiv_eq_ediv_of_nonneg (a := -v) (b := 210) (by omega)
      rw [Int.neg_tdiv] at this
      exact Or.inr (by omega)
  have h1 : Cxx.inI64 (v.tdiv 210) = true := by rw [Cxx.inI64_iff]; omega
  refine ⟨v.tdiv 210, ?_, by rw [Cxx.inI64_iff]; omega⟩
  unfold Cxx.I64.div
  rw [if_neg (by decide), Cxx.chk64_of_inI64 h1]

theorem gen_qn_some (ops : Cxx.FloatOps F) (x : F) (v : Int) (h : ops.toI64 x = some v) (hin : Cxx.inI64 v = true) :
    ∃ q, waveform_quantisation_number ops x = some q ∧ Cxx.inI64 q = true := by
  obtain ⟨d, hd, h2⟩ := qn_arith v hin
  refine ⟨d * 2, ?_, h2⟩
  unfold waveform_quantisation_number
  simp only [h, hd, Option.bind_eq_bind, Option.bind_some, Cxx.I64.mul]
  -- what is left is `chk64 e = some (d * 2)`, `e` the product as the source spells it
  exact (congrArg Cxx.chk64 (by omega)).trans (Cxx.chk64_of_inI64 h2)

theorem gen_u64OfInt_ne_zero (q : Int) (hq : q ≠ 0) (hin : Cxx.inI64 q = true) : Cxx.u64OfInt q ≠ 0 := by
  rw [Cxx.inI64_iff] at hin
  unfold Cxx.u64OfInt Cxx.two64
  omega

theorem gen_ovw_some (ops : Cxx.FloatOps F) (n : Nat) (x : F) (v : Int) (h : ops.toI64 x = some v)
    (hin : Cxx.inI64 v = true) :
    ∃ size spe, calculate_overview_waveform_extents ops n x = some (size, spe) ∧ (size = 0 ∨ size = 1024) := by
  obtain ⟨q, hq, hqin⟩ := gen_qn_some ops x v h hin
  unfold calculate_overview_waveform_extents
  rw [hq]
  simp only [Option.bind_eq_bind, Option.bind_some, Option.pure_def]
  -- the guard is taken as the source writes it: all that is read of it is that it holds when `q = 0`
  split
  · exact ⟨_, _, rfl, Or.inl (by decide)⟩
  · next hz =>
    have hq0 : q ≠ 0 := by
      intro h0; apply hz; simp [h0]
    have hu := gen_u64OfInt_ne_zero q hq0 hqin
    simp only [Cxx.U64.div_pos _ _ hu, Cxx.U64.mod_pos _ _ hu, Option.bind_some]
    exact ⟨_, _, rfl, Or.inr rfl⟩

theorem gen_hires_some (ops : Cxx.FloatOps F) (n : Nat) (x : F) (v : Int) (h : ops.toI64 x = some v)
    (hin : Cxx.inI64 v = true) :
    ∃ e, calculate_high_resolution_waveform_extents ops n x = some e := by
  obtain ⟨q, hq, hqin⟩ := gen_qn_some ops x v h hin
  unfold calculate_high_resolution_waveform_extents
  rw [hq]
  simp only [Option.bind_eq_bind, Option.bind_some, Option.pure_def]
  split
  · exact ⟨_, rfl⟩
  · next hz =>
    have hq0 : q ≠ 0 := by
      intro h0; apply hz; simp [h0]
    have hu := gen_u64OfInt_ne_zero q hq0 hqin
    simp only [Cxx.U64.div_pos _ _ hu, Cxx.U64.mod_pos _ _ hu, Option.bind_some]
    exact ⟨_, rfl⟩

theorem extentsSiteG_ok (zero : Nat → Int → F64.Bits → Bool)
    (hz : ∀ n qn r, qn = 0 → zero n qn r = true)
    (toI64 : F64.Bits → Option Int) (n : Nat) (r : F64.Bits) (t : Int) (ht : toI64 r = some t)
    (hin : Cxx.inI64 t = true) : Api.GuardedUtils.extentsSiteG zero toI64 n r = .ok () := by
  obtain ⟨d, hd, h2⟩ := qn_arith t hin
  unfold Api.GuardedUtils.extentsSiteG
  rw [ht]
  simp only [hd, Option.bind_some, Cxx.I64.mul, Cxx.chk64_of_inI64 h2]
  by_cases h0 : d * 2 = 0
  · rw [if_pos (hz n _ r h0)]
  · split
    · rfl
    · have hu := gen_u64OfInt_ne_zero _ h0 h2
      simp [Cxx.U64.div, hu]

end EngineModel.Gen.TrackUtils
