/-
C19: arithmetic of the recommended waveform extents of `Pure/Waveform.lean` (quantisation number
`qn r = r / 210 * 2`, ceiling division), on `Nat`; then the extents regenerated from track_utils.hpp
(`Gen.TrackUtils`) in closed form wherever the rate converts to a non-negative `int64_t`.
-/
import EngineModel.Pure.Waveform
import EngineModel.Gen.TrackUtilsGen
import Proofs.Cxx

namespace EngineModel.Pure.Waveform
open EngineModel

theorem qn_eq_zero_iff (r : Nat) : qn r = 0 ↔ r < 210 := by
  unfold qn
  rw [Nat.mul_eq_zero, or_iff_left (by decide), Nat.div_eq_zero_iff, or_iff_right (by decide)]

theorem qn_even (r : Nat) : qn r % 2 = 0 := Nat.mul_mod_left _ _

theorem qn_le (r : Nat) : qn r ≤ r / 105 := by
  unfold qn
  rw [← Nat.div_div_eq_div_mul r 105 2]
  exact Nat.div_mul_le_self _ _

section
variable {n r : Nat}

theorem hiSize_of_ne (hn : n ≠ 0) (hq : qn r ≠ 0) : hiSize n r = (n + qn r - 1) / qn r :=
  if_neg (not_or.mpr ⟨hn, hq⟩)

theorem ovRounded_of_ne (hn : n ≠ 0) (hq : qn r ≠ 0) : ovRounded n r = n / qn r * qn r :=
  if_neg (not_or.mpr ⟨hn, hq⟩)

theorem extents_of_empty (h : n = 0 ∨ qn r = 0) :
    hiSize n r = 0 ∧ hiSpan n r = 0 ∧ ovSize n r = 0 ∧ ovRounded n r = 0 :=
  ⟨if_pos h, if_pos h, if_pos h, if_pos h⟩

end

/-- Ceiling division is the lower adjoint of multiplication: `⌈n / q⌉ ≤ k ↔ n ≤ k · q`. -/
theorem ceilDiv_le_iff {n q k : Nat} (hq : 0 < q) : (n + q - 1) / q ≤ k ↔ n ≤ k * q := by
  obtain ⟨q, rfl⟩ := Nat.exists_eq_add_one_of_ne_zero (Nat.ne_of_gt hq)
  rw [Nat.div_le_iff_le_mul_add_pred hq, Nat.add_sub_cancel, ← Nat.add_assoc, Nat.add_sub_cancel,
    Nat.add_le_add_iff_right, Nat.mul_comm]

section
variable {n r : Nat} (hn : n ≠ 0) (hq : qn r ≠ 0)
include hn hq

/-- `hiSize n r` is the least number of entries of `qn r` samples each that cover `n` samples. -/
theorem hiSize_le_iff {k : Nat} : hiSize n r ≤ k ↔ n ≤ k * qn r := by
  rw [hiSize_of_ne hn hq]; exact ceilDiv_le_iff (Nat.pos_of_ne_zero hq)

theorem le_hiSize_mul : n ≤ hiSize n r * qn r := (hiSize_le_iff hn hq).mp (Nat.le_refl _)

theorem hiSize_ne_zero : hiSize n r ≠ 0 := fun h =>
  hn (Nat.le_zero.mp (Nat.zero_mul (qn r) ▸ h ▸ le_hiSize_mul hn hq))

end

end EngineModel.Pure.Waveform

/-! ### the regenerated extents (`Gen.TrackUtils`, tools/tr_trackutils.py) compute the hand model

They stand in the namespace `EngineModel.Properties.C19`; `gen_qn`, `C19_gen_hi`, `C19_gen_ov` of `Properties/C19.lean`
are their instances at the property's bounds. -/

namespace EngineModel.Properties.C19
open EngineModel EngineModel.Pure.Waveform EngineModel.Cxx

variable {F : Type}

-- a bound that suffices for the no-wrap conditions below, not the least one (⌊2^31 / 105⌋ = 20452225)
theorem qn_bound {r : Nat} (h : r ≤ 2147483648) : qn r ≤ 20453102 :=
  Nat.le_trans (qn_le r) (Nat.le_trans (Nat.div_le_div_right h) (by decide))

theorem qn_le_self (r : Nat) : qn r ≤ r := Nat.le_trans (qn_le r) (Nat.div_le_self r 105)

theorem gen_qn_of_toI64 (ops : FloatOps F) (rate : F) (r : Nat)
    (hr : ops.toI64 rate = some (r : Int)) (hr2 : r ≤ 9223372036854775807) :
    Gen.TrackUtils.waveform_quantisation_number ops rate = some ((qn r : Nat) : Int) := by
  unfold Gen.TrackUtils.waveform_quantisation_number
  have e1 : I64.div (r : Int) (210 : Int) = some ((r / 210 : Nat) : Int) :=
    I64.div_natCast r 210 hr2 (by decide)
  have e2 : I64.mul ((r / 210 : Nat) : Int) (2 : Int) = some ((r / 210 * 2 : Nat) : Int) :=
    I64.mul_natCast (r / 210) 2 (Nat.le_trans (qn_le_self r) hr2)
  have e2' : I64.mul (2 : Int) ((r / 210 : Nat) : Int) = some ((r / 210 * 2 : Nat) : Int) :=
    (congrArg chk64 (Int.mul_comm ..)).trans e2
  simp only [hr, Option.bind_eq_bind, Option.bind_some, e1, e2, e2', qn, Option.pure_def]

/- In `gen_hi_of_toI64` / `gen_ov_of_toI64` the regenerated integer code is normalised by one `simp` call:
every wrap-around / checked operation is replaced by the plain operation on ℕ, its side condition
(no wrap, no overflow, divisor ≠ 0) discharged by `omega` from the bounds in the context.  Written
to survive behaviour-preserving rewrites of the source: the operand order of `2 * (x / 210)` (`e2'` in
`gen_qn_of_toI64`), the order of the guard's two disjuncts (`if_pos h0.symm`, `if_neg (h0 ∘ Or.symm)`),
`(n − 1) / q + 1` for the ceiling division and `n − n % q` for the rounding (`hc`, and the bounds `b1 b2 b3` on the
intermediate values these spellings form).  The seeded demonstrations self-C19-r1 / -r2 rewrite the source in these
ways and re-check this file: a `have` or a simp lemma that today's text leaves unused serves one of them. -/

/-- The high-resolution extents wherever `sample_count + qn` does not wrap around. -/
theorem gen_hi_of_toI64 (ops : FloatOps F) (rate : F) (r n : Nat)
    (hr : ops.toI64 rate = some (r : Int)) (hr2 : r ≤ 9223372036854775807)
    (hn : n + qn r < 18446744073709551616) :
    Gen.TrackUtils.calculate_high_resolution_waveform_extents ops n rate
      = some (hiSize n r, ops.ofI64 (hiSpan n r : Nat)) := by
  unfold Gen.TrackUtils.calculate_high_resolution_waveform_extents hiSize hiSpan
  simp only [gen_qn_of_toI64 ops rate r hr hr2, Option.bind_eq_bind, Option.bind_some, Bool.or_eq_true,
    decide_eq_true_eq, u64OfInt_zero, Int.natCast_eq_zero]
  -- the guard now reads `n = 0 ∨ qn r = 0`, its disjuncts in the order of the source
  by_cases h0 : n = 0 ∨ qn r = 0
  · simp only [if_pos h0, if_pos h0.symm, u64OfInt_zero]
    rfl
  · have hn0 : n ≠ 0 := fun h => h0 (Or.inl h)
    have hq0 : qn r ≠ 0 := fun h => h0 (Or.inr h)
    -- bounds on the intermediate values a rewriting of the ceiling division may form
    have b1 : (n - 1) / qn r ≤ n - 1 := Nat.div_le_self _ _
    have b2 : (n + qn r - 1) / qn r ≤ n + qn r - 1 := Nat.div_le_self _ _
    have b3 : n / qn r ≤ n := Nat.div_le_self _ _
    have hc := ceil_div_alt n (qn r) (Nat.pos_of_ne_zero hn0) (Nat.pos_of_ne_zero hq0)
    -- every `U64.*` / `u64OfInt` becomes the operation on ℕ, since nothing wraps (`omega` discharges the no-wrap
    -- conditions from `b1 b2 b3 hn hq0`); `rfl` closes the spelling of the hand model, `rw [hc]` the other one
    simp (disch := omega) only [if_neg h0, if_neg (h0 ∘ Or.symm), u64OfInt_zero, u64OfInt_one, u64OfInt_natCast,
      U64.add_small, U64.sub_small, U64.mul_small, U64.div_pos, U64.mod_pos, Option.bind_eq_bind,
      Option.bind_some, Option.pure_def] <;>
    first
      | rfl
      | (rw [hc])

/-- The overview extents for every `unsigned long long` sample count. -/
theorem gen_ov_of_toI64 (ops : FloatOps F) (rate : F) (r n : Nat)
    (hr : ops.toI64 rate = some (r : Int)) (hr2 : r ≤ 9223372036854775807)
    (hn : n < 18446744073709551616) :
    Gen.TrackUtils.calculate_overview_waveform_extents ops n rate
      = some (ovSize n r,
          if n = 0 ∨ qn r = 0 then ops.ofI64 0 else ops.div (ops.ofU64 (ovRounded n r)) (ops.ofU64 1024)) := by
  unfold Gen.TrackUtils.calculate_overview_waveform_extents ovSize ovRounded
  have hq := Nat.le_trans (qn_le_self r) hr2
  simp only [gen_qn_of_toI64 ops rate r hr hr2, Option.bind_eq_bind, Option.bind_some, Bool.or_eq_true,
    decide_eq_true_eq, u64OfInt_zero, Int.natCast_eq_zero]
  -- the guard now reads `n = 0 ∨ qn r = 0`, its disjuncts in the order of the source
  by_cases h0 : n = 0 ∨ qn r = 0
  · simp only [if_pos h0, if_pos h0.symm, u64OfInt_zero]
    rfl
  · have hq0 : qn r ≠ 0 := fun h => h0 (Or.inr h)
    have b1 : n / qn r * qn r ≤ n := Nat.div_mul_le_self _ _
    have b2 : n % qn r ≤ n := Nat.mod_le _ _
    have b3 : n / qn r ≤ n := Nat.div_le_self _ _
    have hc := round_down_alt n (qn r)
    -- as in `gen_hi_of_toI64`: `rfl` for `n / q * q`, `rw [hc]` for `n − n % q`
    simp (disch := omega) only [if_neg h0, if_neg (h0 ∘ Or.symm), u64OfInt_zero, u64OfInt_one, u64OfInt_natCast,
      U64.add_small, U64.sub_small, U64.mul_small, U64.div_pos, U64.mod_pos, Option.bind_eq_bind,
      Option.bind_some, Option.pure_def] <;>
    first
      | rfl
      | (rw [hc])

end EngineModel.Properties.C19
