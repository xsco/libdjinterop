/-
`static_cast<int64_t>(double)` on bit patterns (`TracksV1.Fl.toI64`) is the
floor of the exact value for finite non-negative doubles below 2^63 — the link
between "the sample rate is a finite number in [0, 2^31]" and the hypothesis
`ops.toI64 rate = some ⌊rate⌋` of the C19 theorems.
-/
import EngineModel.Basic.F64Rat
import EngineModel.TracksV1.Float
import Mathlib.Data.Rat.Floor

namespace EngineModel.F64
open EngineModel EngineModel.TracksV1

theorem manOf_lt (x : Bits) : manOf x < 4503599627370496 := Nat.mod_lt _ (by decide)

theorem magRat_nonneg (x : Bits) : 0 ≤ magRat x := by
  unfold magRat
  split
  · exact div_nonneg (Nat.cast_nonneg _) (Nat.cast_nonneg _)
  · split
    · exact Nat.cast_nonneg _
    · exact div_nonneg (Nat.cast_nonneg _) (Nat.cast_nonneg _)

/-- The integer part of the magnitude, as `toI64` computes it. -/
def magNat (x : Bits) : Nat :=
  if expOf x = 0 then 0
  else if expOf x ≥ 1075 then (manOf x + 4503599627370496) * 2 ^ (expOf x - 1075)
  else (manOf x + 4503599627370496) / 2 ^ (1075 - expOf x)

theorem floor_magRat (x : Bits) : ⌊magRat x⌋ = (magNat x : Int) := by
  unfold magRat magNat
  split
  · -- subnormal or zero: magnitude below 1
    rw [Rat.floor_natCast_div_natCast]
    exact Int.ediv_eq_zero_of_lt (Int.natCast_nonneg _)
      (Int.ofNat_lt.mpr (Nat.lt_of_lt_of_le (manOf_lt x : manOf x < 2 ^ 52)
        (Nat.pow_le_pow_right Nat.zero_lt_two (by decide : 52 ≤ 1074))))
  · split
    · exact Int.floor_natCast _
    · exact Rat.floor_natCast_div_natCast _ _

/-- `static_cast<int64_t>` of a finite, non-negative double below 2^63 is the floor of its value. -/
theorem toI64_of_nonneg (x : Bits) (hf : isFinite x = true) (hs : signOf x = false)
    (hb : toRat x < 9223372036854775808) : Fl.toI64 x = some ⌊toRat x⌋ := by
  have he : expOf x ≠ 2047 := by simpa [isFinite] using hf
  have hv : toRat x = magRat x := by unfold toRat; rw [hs, if_neg Bool.false_ne_true]
  rw [hv] at hb ⊢
  have hlt : (magNat x : Int) < 9223372036854775808 :=
    floor_magRat x ▸ Int.floor_lt.mpr (by rw [Int.cast_ofNat]; exact hb)
  have hin : Cxx.inI64 (magNat x : Int) = true :=
    decide_eq_true ⟨Int.le_trans (by decide) (Int.natCast_nonneg _), Int.le_of_lt_add_one hlt⟩
  rw [floor_magRat]
  unfold Fl.toI64
  simp only [he, if_false, hs, Bool.false_eq_true]
  exact if_pos hin

/-- A NaN or an infinity has no `int64_t` value (the conversion is undefined behaviour). -/
theorem toI64_of_not_finite (x : Bits) (hf : isFinite x = false) : Fl.toI64 x = none := by
  have he : expOf x = 2047 := by simpa [isFinite] using hf
  unfold Fl.toI64; simp [he]

end EngineModel.F64
