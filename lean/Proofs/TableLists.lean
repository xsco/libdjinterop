/-
Lemmas about the `playlist_table` / `playlist_entity_table` model
(Table/Lists.lean) for property C18: the row the INSERT / UPDATE stored is found
again by id after the schema's triggers ran (they touch other rows only, or
rewrite a column with the value it has), and the aligned SELECT reads from it
the row written; what `add` / `update` do, exit by exit (`pAdd_cases`,
`pUpdate_cases`).
-/
import EngineModel.Table.Lists
import Proofs.TableCore
namespace EngineModel
namespace Table

theorem PField.mem_all (f : PField) : f ∈ PField.all := by cases f <;> decide
theorem PField.nodup_all : nodupB PField.all = true := by decide
theorem PField.col_inj {f g : PField} (h : f.col = g.col) : f = g := by
  have hc : ∀ f : PField, f.col.ctorIdx = f.ctorIdx := fun f => by cases f <;> rfl
  have hi := congrArg PCol.ctorIdx h
  rw [hc, hc] at hi
  rw [← PField.ofNat_ctorIdx f, hi, PField.ofNat_ctorIdx]
theorem PField.mem_writable {f : PField} : f ∈ PField.writable ↔ f ≠ .id := by
  unfold PField.writable
  simp [List.mem_filter, PField.mem_all]

theorem EField.mem_all (f : EField) : f ∈ EField.all := by cases f <;> decide
theorem EField.nodup_all : nodupB EField.all = true := by decide
theorem EField.col_inj {f g : EField} (h : f.col = g.col) : f = g := by
  have hc : ∀ f : EField, f.col.ctorIdx = f.ctorIdx := fun f => by cases f <;> rfl
  have hi := congrArg ECol.ctorIdx h
  rw [hc, hc] at hi
  rw [← EField.ofNat_ctorIdx f, hi, EField.ofNat_ctorIdx]

theorem pSpec_colOf (f : PField) : pSpec.colOf f = f.col := rfl
theorem pSpec_tyOf (f : PField) : pSpec.tyOf f = f.ty := rfl
theorem eSpec_colOf (f : EField) : eSpec.colOf f = f.col := rfl
theorem eSpec_tyOf (f : EField) : eSpec.tyOf f = f.ty := rfl

theorem pSpec_ok : pSpec.Ok := ⟨PField.col_inj, PField.nodup_all, PField.mem_all⟩
theorem eSpec_ok : eSpec.Ok := ⟨EField.col_inj, EField.nodup_all, EField.mem_all⟩

theorem alignedL_core {st : LStmts} (h : alignedL st = true) : alignedLcore st = true := by
  simp only [alignedL, Bool.and_eq_true] at h; exact h.1

theorem alignedL_playlist {st : LStmts} (h : alignedL st = true) :
    alignedW pSpec PField.writable [] st.pIns = true ∧ alignedW pSpec PField.writable [] st.pUpdFull = true ∧
    alignedW pSpec [.title, .is_persisted, .last_edit_time, .is_explicitly_exported] [] st.pUpdSimple = true ∧
    alignedR pSpec (fun _ => true) st.pSel = true ∧ st.pRemoveChecks = true := by
  have := alignedL_core h
  simp only [alignedLcore, Bool.and_eq_true] at this
  obtain ⟨⟨⟨⟨⟨⟨⟨⟨⟨_, _⟩, hpIns⟩, hpUpdFull⟩, hpUpdSimple⟩, hpSel⟩, _⟩, _⟩, hpRemove⟩, _⟩ := this
  exact ⟨hpIns, hpUpdFull, hpUpdSimple, hpSel, hpRemove⟩

theorem alignedL_entity {st : LStmts} (h : alignedL st = true) :
    alignedW eSpec eNeed [(.nextEntityId, .int 0)] st.eIns = true ∧ alignedR eSpec (fun _ => true) st.eSel = true ∧
    alignedR eSpec (fun _ => true) st.eSel3 = true ∧ alignedR eSpec (fun _ => true) st.eSelList = true ∧
    st.eRemoveWhere = [(.listId, 0), (.id, 1)] ∧ st.eRemoveChecks = true := by
  have hc := alignedL_core h
  have he : alignedLext st = true := by simp only [alignedL, Bool.and_eq_true] at h; exact h.2
  simp only [alignedLcore, Bool.and_eq_true] at hc
  simp only [alignedLext, Bool.and_eq_true, decide_eq_true_eq] at he
  obtain ⟨⟨⟨⟨_, heIns⟩, heSel⟩, _⟩, heRemove⟩ := hc
  obtain ⟨⟨heSel3, heSelList⟩, heWhere⟩ := he
  exact ⟨heIns, heSel, heSel3, heSelList, heWhere, heRemove⟩

/-- No entry of the same (list, track) pair yet. -/
def noEntry (t : Rows ECol) (l tr : Int) : Prop :=
  ∀ x ∈ t, ¬ ((x .listId == .int l && x .trackId == .int tr) = true)

theorem read_entity_inserted {ins : List (WB ECol EField)} {r : Row EField} {ps : List (ECol × Val)}
    (hins : alignedW eSpec eNeed [(.nextEntityId, .int 0)] ins = true) (he : evalParams r ins = .ok ps)
    (hr : wtRowE r) (i : Int) (f : EField) :
    view eSpec (fun _ => true) (assign (setCol nullRaw .id (.int i)) ps) f = .ok (normRowE i r f) := by
  by_cases hf : f ∈ eNeed
  · rw [view_assign_mem hins he _ hf rfl (hr f)]
    cases f <;> first | rfl | exact absurd hf (by decide)
  · rw [view_assign_not_mem eSpec_ok hins he rfl _ hf]
    cases f <;> first | rfl | exact absurd (by decide) hf

/-- The aligned WHERE clause of `remove` selects by the PAIR (list, entity). -/
theorem whereMatches_pair (l e : Int) (x : Raw ECol) :
    whereMatches [(.listId, 0), (.id, 1)] [l, e] x = (x .listId == .int l && x .id == .int e) := by
  simp [whereMatches]

theorem setPersist_find (t : Rows PCol) (ids : List Int) (v : Int) (i : Int) :
    findRow .id (setPersist t ids v) i =
      (findRow .id t i).map (fun r => if ids.contains (rowId .id r) then setCol r .isPersisted (.int v) else r) := by
  unfold setPersist
  exact findRow_updWhere .id t _ _ i (fun r => rowId_setCol (C := PCol) .id r (c := .isPersisted) _ (by decide))

theorem persistUp_val {old : Option (Raw PCol)} {new : Raw PCol} (h : persistUp old new = true) :
    new .isPersisted = .int 1 := by
  cases old <;> simp [persistUp] at h
  · exact h
  · rcases h with h | h <;> exact h.2

theorem persistDown_val {old : Option (Raw PCol)} {new : Raw PCol} (h : persistDown old new = true) :
    new .isPersisted = .int 0 := by
  cases old <;> simp [persistDown] at h
  exact h.2

/-- The isPersist triggers leave the table alone or set `isPersisted` of some
rows to the value the row they fire for already holds. -/
theorem persistTriggers_ok {t t' : Rows PCol} {old : Option (Raw PCol)} {new : Raw PCol}
    (h : persistTriggers t old new = .ok t') :
    t' = t ∨ ∃ ids v, t' = setPersist t ids v ∧ new .isPersisted = .int v := by
  unfold persistTriggers at h
  split at h
  · rename_i hup
    split at h
    · cases h
    · split at h
      · cases h
      · cases h; exact .inr ⟨_, 1, rfl, persistUp_val hup⟩
  · split at h
    · rename_i hdown
      split at h
      · cases h
      · split at h
        · cases h
        · cases h; exact .inr ⟨_, 0, rfl, persistDown_val hdown⟩
    · cases h; exact .inl rfl

/-- The isPersist triggers leave the row they fire for as it is (they rewrite
its `isPersisted` with the value it already has, at most). -/
theorem persistTriggers_subject {t t' : Rows PCol} {old : Option (Raw PCol)} {new : Raw PCol} {i : Int}
    (hfind : findRow .id t i = some new)
    (h : persistTriggers t old new = .ok t') : findRow .id t' i = some new := by
  rcases persistTriggers_ok h with rfl | ⟨ids, v, rfl, hv⟩
  · exact hfind
  · rw [setPersist_find, hfind, Option.map_some]
    split
    · rw [setCol_same_val _ _ _ hv]
    · rfl

/-- The steps of a successful `INSERT INTO Playlist`: the splice triggers around
the appended row, then the isPersist trigger. -/
theorem pInsertRow_ok {t t' : Rows PCol} {raw : Raw PCol} (h : pInsertRow t raw = .ok (some t')) :
    persistTriggers
      (updWhere
        (updWhere t (fun r => r .nextListId == raw .nextListId && r .parentListId == raw .parentListId)
          (fun r => setCol r .nextListId (.int (-(1 + readInt (r .nextListId))))) ++ [raw])
        (fun r => r .nextListId == .int (-(1 + readInt (raw .nextListId))) && r .parentListId == raw .parentListId)
        (fun r => setCol r .nextListId (.int (rowId .id raw)))) none raw = .ok t' := by
  unfold pInsertRow at h
  simp only at h
  split at h
  · cases h
  · split at h
    · cases h
    · split at h
      · cases h
      · split at h <;> cases h
        assumption

theorem pUpdRow_ok {t t' : Rows PCol} {i : Int} {ps : List (PCol × Val)} (h : pUpdRow t i ps = .ok (some t')) :
    (findRow .id t i = none ∧ t' = t) ∨
    ∃ old, findRow .id t i = some old ∧
      persistTriggers (updRow .id t i (fun _ => assign old ps)) (some old) (assign old ps) = .ok t' := by
  unfold pUpdRow at h
  split at h
  · cases h; exact .inl ⟨by assumption, rfl⟩
  · rename_i old hold
    simp only at h
    split at h
    · cases h
    · split at h <;> cases h
      exact .inr ⟨old, hold, by assumption⟩

theorem setNext_rowId (r : Raw PCol) (v : Val) : rowId .id (setCol r .nextListId v) = rowId .id r :=
  rowId_setCol (C := PCol) .id r (c := .nextListId) v (by decide)

theorem pInsertRow_find {t t' : Rows PCol} {seq : Int} (hwf : idsBelow .id t seq) {raw : Raw PCol} {i : Int}
    (hi : seq < i) (hrid : rowId .id raw = i) {k : Int} (hnext : raw .nextListId = .int k)
    (h : pInsertRow t raw = .ok (some t')) : findRow .id t' i = some raw := by
  refine persistTriggers_subject ?_ (pInsertRow_ok h)
  -- the row is found after the splice triggers: the second one does not select it
  rw [findRow_updWhere .id _ _ _ i (fun r => setNext_rowId r _),
    findRow_append_fresh .id _ raw i
      (fun r hr => by
        have : rowId .id r ≤ seq :=
          updWhere_all hwf _ _ (fun r (h : rowId .id r ≤ seq) => by rw [setNext_rowId]; exact h) r hr
        omega) hrid]
  have : (raw .nextListId == .int (-(1 + readInt (raw .nextListId)))) = false := by
    rw [hnext]
    simp only [readInt, beq_eq_false_iff_ne, ne_eq, Val.int.injEq]
    omega
  simp only [Option.map_some, this, Bool.false_and, Bool.false_eq_true, if_false]

theorem pUpdRow_find {t t' : Rows PCol} {i : Int} {ps : List (PCol × Val)} {old : Raw PCol}
    (hold : findRow .id t i = some old) (hidcol : PCol.id ∉ ps.map (·.1))
    (h : pUpdRow t i ps = .ok (some t')) : findRow .id t' i = some (assign old ps) := by
  rcases pUpdRow_ok h with ⟨hn, _⟩ | ⟨old', hold', hp⟩
  · rw [hold] at hn; cases hn
  cases hold.symm.trans hold'
  have hrid : rowId .id (assign old ps) = i := by
    unfold rowId
    rw [assign_not_mem _ _ _ hidcol]
    exact (findRow_some hold).2
  exact persistTriggers_subject (findRow_updRow_same .id t i _ hold hrid) hp

theorem pUpdNext_ok {t t' : Rows PCol} {p : Raw PCol → Bool} {f : Raw PCol → Raw PCol}
    (h : pUpdNext t p f = some t') : t' = updWhere t p f := by
  unfold pUpdNext at h
  simp only at h
  split at h <;> cases h
  rfl

theorem pUpdNext_keeps {t t' : Rows PCol} {p : Raw PCol → Bool} {v : Raw PCol → Val} {i : Int} {old : Raw PCol}
    (hold : findRow .id t i = some old)
    (h : pUpdNext t p (fun x => setCol x .nextListId (v x)) = some t') :
    ∃ old', findRow .id t' i = some old' := by
  rw [pUpdNext_ok h, findRow_updWhere .id t _ _ i (fun r => setNext_rowId r _), hold]
  exact ⟨_, rfl⟩

theorem pid_not_written {need : List PField} (hneed : PField.id ∉ need) {ps : List (WB PCol PField)}
    {r : Row PField} {l : List (PCol × Val)}
    (ha : alignedW pSpec need [] ps = true) (he : evalParams r ps = .ok l) : PCol.id ∉ l.map (·.1) :=
  col_not_written pSpec_ok ha he hneed

theorem normRowP_other {i : Int} {r : Row PField} {f : PField} (h : f ≠ .id) :
    normRowP i r f = normV f.ty (r f) := by
  cases f <;> first | rfl | contradiction

theorem read_playlist_written {need : List PField} (hneedid : PField.id ∉ need)
    {ps : List (WB PCol PField)} {r : Row PField} {l : List (PCol × Val)}
    (hps : alignedW pSpec need [] ps = true) (he : evalParams r ps = .ok l) (hr : wtRowP r)
    (base : Raw PCol) (i : Int) (hbase : rowId .id base = i)
    (hrest : ∀ f, f ∉ need → f ≠ .id → view pSpec (fun _ => true) base f = .ok (normV f.ty (r f)))
    (f : PField) :
    view pSpec (fun _ => true) (assign base l) f = .ok (normRowP i r f) := by
  by_cases hfn : f ∈ need
  · rw [view_assign_mem hps he base hfn rfl (hr f), normRowP_other (fun h => hneedid (h ▸ hfn))]; rfl
  · rw [view_assign_not_mem pSpec_ok hps he rfl base hfn]
    by_cases hfid : f = .id
    · subst hfid; rw [← hbase]; rfl
    · rw [normRowP_other hfid]; exact hrest f hfn hfid

theorem pAdd_cases (st : LStmts) (d : LDb) (r : Row PField) :
    ((pAdd st d r).1 = d ∧ ∀ i, (pAdd st d r).2 ≠ .ok i) ∨
    ∃ ps t, evalParams r st.pIns = .ok ps ∧
      pInsertRow d.pl (assign (setCol nullRaw .id (.int (d.plSeq + 1))) ps) = .ok (some t) ∧
      pAdd st d r = ({ d with pl := t, plSeq := d.plSeq + 1 }, .ok (d.plSeq + 1)) := by
  generalize hres : pAdd st d r = res
  unfold pAdd at hres
  split at hres
  · subst hres; exact .inl ⟨rfl, nofun⟩
  · split at hres
    · split at hres
      · subst hres; exact .inl ⟨rfl, nofun⟩
      · split at hres
        · subst hres; exact .inl ⟨rfl, nofun⟩
        · subst hres; exact .inl ⟨rfl, nofun⟩
        · rename_i ps he
          simp only at hres
          split at hres
          · rename_i t hins; subst hres; exact .inr ⟨ps, t, he, hins, rfl⟩
          all_goals subst hres; exact .inl ⟨rfl, nofun⟩
    · subst hres; exact .inl ⟨rfl, nofun⟩

theorem pAdd_ok {st : LStmts} {d d' : LDb} {r : Row PField} {i : Int} (h : pAdd st d r = (d', .ok i)) :
    ∃ ps t, evalParams r st.pIns = .ok ps ∧ i = d.plSeq + 1 ∧
      pInsertRow d.pl (assign (setCol nullRaw .id (.int (d.plSeq + 1))) ps) = .ok (some t) ∧
      d' = { d with pl := t, plSeq := d.plSeq + 1 } := by
  rcases pAdd_cases st d r with ⟨_, hne⟩ | ⟨ps, t, he, hins, h'⟩
  · exact absurd (by rw [h]) (hne i)
  · cases h.symm.trans h'
    exact ⟨ps, t, he, rfl, hins, rfl⟩

theorem rowId_pInserted {ps : List (WB PCol PField)} {r : Row PField} {l : List (PCol × Val)}
    (hps : alignedW pSpec PField.writable [] ps = true) (he : evalParams r ps = .ok l) (i : Int) :
    rowId .id (assign (setCol nullRaw .id (.int i)) l) = i := by
  unfold rowId
  rw [assign_not_mem _ _ _ (pid_not_written (fun h => PField.mem_writable.mp h rfl) hps he), setCol_same]
  rfl

/-- The three next-pointer statements by which `update` moves a playlist. -/
def NextSteps (t t' : Rows PCol) : Prop :=
  ∃ (p1 : Raw PCol → Bool) (v1 : Raw PCol → Val) (p2 : Raw PCol → Bool) (v2 : Raw PCol → Val)
    (p3 : Raw PCol → Bool) (v3 : Raw PCol → Val) (t1 t2 : Rows PCol),
    pUpdNext t p1 (fun x => setCol x .nextListId (v1 x)) = some t1 ∧
    pUpdNext t1 p2 (fun x => setCol x .nextListId (v2 x)) = some t2 ∧
    pUpdNext t2 p3 (fun x => setCol x .nextListId (v3 x)) = some t'

/-- `update` leaves the state it found unless it succeeds; then the subject row,
found by its id, was rewritten by the simple statement in place, or — after the
three next-pointer statements — by the full statement. -/
theorem pUpdate_cases (st : LStmts) (d : LDb) (r : Row PField) :
    ((pUpdate st d r).1 = d ∧ (pUpdate st d r).2 ≠ .ok ()) ∨
    ∃ i old t0 ps t, r .id = .int i ∧ findRow .id d.pl i = some old ∧
      pUpdRow t0 i ps = .ok (some t) ∧ pUpdate st d r = ({ d with pl := t }, .ok ()) ∧
      ((t0 = d.pl ∧ evalParams r st.pUpdSimple = .ok ps ∧
          r .parent_list_id = .int (readInt (old .parentListId)) ∧
          r .next_list_id = .int (readInt (old .nextListId))) ∨
       (NextSteps d.pl t0 ∧ evalParams r st.pUpdFull = .ok ps)) := by
  generalize hres : pUpdate st d r = res
  unfold pUpdate at hres
  -- every exit but the two successful ones returns the database as it was, with a throw or `ub`
  have unchanged : ∀ {x : Res Unit}, (d, x) = res → x ≠ .ok () → res.1 = d ∧ res.2 ≠ .ok () :=
    fun h hx => h ▸ ⟨rfl, hx⟩
  split at hres
  case isTrue => exact .inl (unchanged hres nofun)         -- the row carries no id
  split at hres
  case h_2 => exact .inl (unchanged hres nofun)            -- members of other C++ types
  rename_i i title parent next hi _ hparent hnext
  split at hres
  case isTrue => exact .inl (unchanged hres nofun)         -- invalid name
  split at hres
  case h_1 => exact .inl (unchanged hres nofun)            -- no row with that id
  rename_i old hold
  simp only at hres
  split at hres
  case isTrue hsame =>
    -- the position is unchanged: the simple statement
    simp only [Bool.and_eq_true, beq_iff_eq] at hsame
    split at hres
    case h_1 => exact .inl (unchanged hres nofun)          -- a conversion throws
    case h_2 => exact .inl (unchanged hres nofun)          -- (the `ub` branch of `evalParams`)
    rename_i ps he
    split at hres
    case h_2 => exact .inl (unchanged hres nofun)          -- a UNIQUE constraint fails
    case h_3 => exact .inl (unchanged hres nofun)          -- the isPersist triggers throw
    case h_4 => exact .inl (unchanged hres nofun)          -- … or do not terminate
    rename_i t hu
    subst hres
    exact .inr ⟨i, old, d.pl, ps, t, hi, hold, hu, rfl,
      .inl ⟨rfl, he, by rw [hparent, hsame.2], by rw [hnext, hsame.1]⟩⟩
  -- the position changes: three next-pointer statements, each under the UNIQUE constraints, then the full statement
  split at hres
  case h_1 => exact .inl (unchanged hres nofun)            -- detaching the subject fails
  rename_i t1 h1
  split at hres
  case h_1 => exact .inl (unchanged hres nofun)            -- its predecessor cannot take over its successor
  rename_i t2 h2
  split at hres
  case h_1 => exact .inl (unchanged hres nofun)            -- the target's predecessor cannot point to it
  rename_i t3 h3
  split at hres
  case h_1 => exact .inl (unchanged hres nofun)            -- a conversion throws
  case h_2 => exact .inl (unchanged hres nofun)            -- (the `ub` branch of `evalParams`)
  rename_i ps he
  split at hres
  case h_2 => exact .inl (unchanged hres nofun)            -- a UNIQUE constraint fails
  case h_3 => exact .inl (unchanged hres nofun)            -- the isPersist triggers throw
  case h_4 => exact .inl (unchanged hres nofun)            -- … or do not terminate
  rename_i t hu
  subst hres
  exact .inr ⟨i, old, t3, ps, t, hi, hold, hu, rfl, .inr ⟨⟨_, _, _, _, _, _, t1, t2, h1, h2, h3⟩, he⟩⟩

theorem NextSteps.keeps {t t' : Rows PCol} (h : NextSteps t t') {i : Int} {old : Raw PCol}
    (hold : findRow .id t i = some old) : ∃ old', findRow .id t' i = some old' := by
  obtain ⟨_, _, _, _, _, _, t1, t2, h1, h2, h3⟩ := h
  obtain ⟨o1, ho1⟩ := pUpdNext_keeps hold h1
  obtain ⟨o2, ho2⟩ := pUpdNext_keeps ho1 h2
  exact pUpdNext_keeps ho2 h3

end Table
end EngineModel
