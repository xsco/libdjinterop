/-
C06 1.x: the decode-after-encode guard of `set_performance_data_column`, characterised exactly.  A column
value passes iff it is `stable…`, and is then stored as given (`guard…_iff`); in the Spec's terms a stored
cue or loop column holds eight acceptable slots in normal form (`guard_cues`, `guard_loops`,
`stableCues_spec`).  Hence a single-column update returns normally iff the value is stable and the
PerformanceData row exists (`setCol_iff`).
-/
import EngineModel.TracksV1.Accept
import Proofs.TracksV1Codec

namespace EngineModel.TracksV1

open Impl.V1 (GMarker HotCue LoopV Entry Wave Beat Cues Loops)
open Fl (FOps)


theorem all2_self {α} (eq : α → α → Bool) (p : α → Bool) (h : ∀ a, eq a a = p a) (l : List α) :
    all2 eq l l = l.all p := by
  induction l with
  | nil => rfl
  | cons a t ih => simp only [all2, List.all_cons, h a, ih]

theorem eqMarker_self (m : GMarker) : eqMarker m m = !F64.isNaN m.off := by
  unfold eqMarker
  rw [F64.eq_self]; simp

theorem all2_marker_self (g : List GMarker) : all2 eqMarker g g = gridNum g :=
  all2_self eqMarker _ eqMarker_self g

theorem eqOptF_znf (x : Option Bits) : eqOptF (zeroNoneF x) x = numOpt x := by
  cases x with
  | none => rfl
  | some a =>
    unfold zeroNoneF numOpt
    simp only [Option.bind_some, Option.all_some]
    cases hz : F64.isZero a
    · simp only [Bool.false_eq_true, if_false, eqOptF, F64.eq_self]; simp
    · simp [eqOptF]

theorem znf_of_numOpt (x : Option Bits) (h : numOpt x = true) : zeroNoneF x = x := by
  cases x with
  | none => rfl
  | some a =>
    unfold numOpt at h
    simp only [Option.all_some, Bool.and_eq_true, Bool.not_eq_true'] at h
    unfold zeroNoneF
    simp [h.2]

theorem colGuard_ok_iff {α} (norm : α → Res α) (eq : α → α → Bool) (v v' : α) :
    colGuard norm eq v = .ok v' ↔ (norm v = .ok v' ∧ eq v' v = true) := by
  unfold colGuard
  cases hn : norm v with
  | ok w =>
    simp only
    constructor
    · intro h
      split at h
      · cases h; exact ⟨rfl, by assumption⟩
      · cases h
    · intro ⟨h1, h2⟩
      cases h1
      rw [if_pos h2]
  | throw e => simp
  | ub u => simp

theorem mapRes_length {α β} (f : α → Res β) (l : List α) (r : List β) (h : mapRes f l = .ok r) :
    r.length = l.length := by
  induction l generalizing r with
  | nil => unfold mapRes at h; cases h; rfl
  | cons a t ih =>
    unfold mapRes at h
    cases hf : f a with
    | ok b =>
      rw [hf] at h
      simp only at h
      cases hm : mapRes f t with
      | ok r' => rw [hm] at h; cases h; simp [ih r' hm]
      | throw e => rw [hm] at h; cases h
      | ub u => rw [hm] at h; cases h
    | throw e => rw [hf] at h; cases h
    | ub u => rw [hf] at h; cases h

theorem all2_map_self {α} (eq : α → α → Bool) (g : α → α) (hg : ∀ a, eq (g a) a = true → g a = a) (l : List α)
    (h : all2 eq (l.map g) l = true) : l.map g = l := by
  induction l with
  | nil => rfl
  | cons a t ih =>
    simp only [List.map_cons, all2, Bool.and_eq_true] at h
    simp only [List.map_cons]
    rw [hg a h.1, ih h.2]

theorem normCue_fix (q : Option HotCue) (h : eqOpt eqCue (Spec.normCue q) q = true) : Spec.normCue q = q := by
  cases q with
  | none => rfl
  | some c =>
    unfold Spec.normCue at h ⊢
    simp only at h ⊢
    by_cases hc : c.off = F64.negOne
    · rw [if_pos hc] at h; simp [eqOpt] at h
    · rw [if_neg hc]

theorem normLoop_fix (q : Option LoopV) (h : eqOpt eqLoop (Spec.normLoop q) q = true) : Spec.normLoop q = q := by
  cases q with
  | none => rfl
  | some c =>
    unfold Spec.normLoop at h ⊢
    simp only at h ⊢
    by_cases hc : c.start = F64.negOne
    · rw [if_pos hc] at h; simp [eqOpt] at h
    · rw [if_neg hc]

theorem guard_cues (v v' : Cues) (h : colGuard normCues eqCues v = .ok v') :
    v' = v ∧ v.cues.length = 8 ∧ v.cues.all Spec.cueOk = true ∧ v.cues.map Spec.normCue = v.cues := by
  obtain ⟨hn, he⟩ := (colGuard_ok_iff _ _ _ _).mp h
  obtain ⟨h8, hall, rfl⟩ := (normCues_ok_iff v v').mp hn
  unfold eqCues at he
  simp only [Bool.and_eq_true] at he
  have hfix := all2_map_self (eqOpt eqCue) Spec.normCue normCue_fix _ he.1.1
  exact ⟨by rw [hfix], h8, hall, hfix⟩

theorem guard_loops (v v' : Loops) (h : colGuard normLoops eqLoops v = .ok v') :
    v' = v ∧ List.all v Spec.loopOk = true ∧ List.map Spec.normLoop v = v := by
  obtain ⟨hn, he⟩ := (colGuard_ok_iff _ _ _ _).mp h
  obtain ⟨hall, rfl⟩ := (normLoops_ok_iff v v').mp hn
  have hfix := all2_map_self (eqOpt eqLoop) Spec.normLoop normLoop_fix _ he
  exact ⟨hfix, hall, hfix⟩

theorem setCol_ok {α} (r r' : TrackRows) (norm : α → Res α) (eq : α → α → Bool) (v : α)
    (put : PerfRow → α → PerfRow) (h : setCol r norm eq v put = .ok r') :
    ∃ v' p, colGuard norm eq v = .ok v' ∧ r.perf = some p ∧
      r' = { r with perf := some { put p v' with isAnalyzed := 1 } } := by
  unfold setCol at h
  cases hg : colGuard norm eq v with
  | throw e => rw [hg] at h; cases h
  | ub u => rw [hg] at h; cases h
  | ok v' =>
    rw [hg] at h
    simp only at h
    cases hp : r.perf with
    | none => rw [hp] at h; cases h
    | some p =>
      rw [hp] at h
      cases h
      exact ⟨v', p, rfl, rfl, rfl⟩

theorem setCol_iff {α} (r r' : TrackRows) (norm : α → Res α) (eq : α → α → Bool) (v : α)
    (put : PerfRow → α → PerfRow) (stable : Bool)
    (hg : ∀ v', colGuard norm eq v = .ok v' ↔ (stable = true ∧ v' = v)) :
    setCol r norm eq v put = .ok r' ↔
      (stable = true ∧ ∃ p, r.perf = some p ∧ r' = { r with perf := some { put p v with isAnalyzed := 1 } }) := by
  constructor
  · intro h
    obtain ⟨v', p, h1, h2, h3⟩ := setCol_ok _ _ _ _ _ _ h
    obtain ⟨hs, he⟩ := (hg v').mp h1
    subst he
    exact ⟨hs, p, h2, h3⟩
  · intro ⟨hs, p, hp, hr⟩
    unfold setCol
    rw [(hg v).mpr ⟨hs, rfl⟩]
    simp only [hp, hr]

theorem dropZero_beq {α} [DecidableEq α] (z : α) (v : Option α) :
    ((v.bind fun n => if n = z then none else some n) == v) = (v != some z) := by
  cases v with
  | none => rfl
  | some n => by_cases h : n = z <;> simp [h]

theorem dropZero_of_ne {α} [DecidableEq α] (z : α) (v : Option α) (h : (v != some z) = true) :
    (v.bind fun n => if n = z then none else some n) = v :=
  eq_of_beq ((dropZero_beq z v).trans h)

/-- A count or key of zero is stored as absent, so what is stored is never `some 0`. -/
theorem dropZero_ne {α} [DecidableEq α] (z : α) (v : Option α) :
    ((v.bind fun x => if x = z then none else some x) != some z) = true := by
  cases v with
  | none => rfl
  | some x => by_cases hx : x = z <;> simp [hx]

theorem eqTrack_norm (v : Impl.V1.Track) : eqTrack (normTrack v) v = stableTrack v := by
  unfold eqTrack normTrack stableTrack
  simp only [eqOptF_znf, dropZero_beq]

theorem normTrack_of_stable (v : Impl.V1.Track) (h : stableTrack v = true) : normTrack v = v := by
  unfold stableTrack at h
  simp only [Bool.and_eq_true] at h
  obtain ⟨⟨⟨h1, h2⟩, h3⟩, h4⟩ := h
  unfold normTrack
  rw [znf_of_numOpt _ h1, znf_of_numOpt _ h3, dropZero_of_ne 0 _ h2, dropZero_of_ne 0 _ h4]

theorem guardTrack_iff (v v' : Impl.V1.Track) :
    colGuard (fun x => Res.ok (normTrack x)) eqTrack v = .ok v' ↔ (stableTrack v = true ∧ v' = v) := by
  rw [colGuard_ok_iff]
  constructor
  · intro ⟨h1, h2⟩
    simp only [Res.ok.injEq] at h1
    subst h1
    rw [eqTrack_norm] at h2
    exact ⟨h2, normTrack_of_stable v h2⟩
  · intro ⟨h1, h2⟩
    subst h2
    have hn := normTrack_of_stable v' h1
    have he : eqTrack v' v' = true := by
      have := eqTrack_norm v'
      rw [hn, h1] at this
      exact this
    rw [hn]
    exact ⟨rfl, he⟩

theorem guardBeat_iff (v v' : Beat) :
    colGuard normBeat eqBeat v = .ok v' ↔ (stableBeat v = true ∧ v' = v) := by
  rw [colGuard_ok_iff]
  obtain ⟨sr, sc, d, a⟩ := v
  unfold normBeat stableBeat
  simp only
  cases hd : Impl.V1.validGrid d <;> cases ha : Impl.V1.validGrid a <;>
    simp only [Bool.not_true, Bool.not_false, Bool.or_true, Bool.or_false, if_true, if_false,
      Bool.false_eq_true, Bool.and_false, Bool.false_and, Bool.and_true, false_and, reduceCtorEq]
  constructor
  · intro ⟨h1, h2⟩
    simp only [Res.ok.injEq] at h1
    subst h1
    unfold eqBeat at h2
    simp only [eqOptF_znf, all2_marker_self] at h2
    refine ⟨h2, ?_⟩
    simp only [Bool.and_eq_true] at h2
    rw [znf_of_numOpt _ h2.1.1.1, znf_of_numOpt _ h2.1.1.2]
  · intro ⟨h1, h2⟩
    subst h2
    have h1' := h1
    simp only [Bool.and_eq_true] at h1'
    rw [znf_of_numOpt _ h1'.1.1.1, znf_of_numOpt _ h1'.1.1.2]
    refine ⟨rfl, ?_⟩
    have := h1
    unfold eqBeat
    simp only
    have e1 : eqOptF sr sr = numOpt sr := by
      have := eqOptF_znf sr; rw [znf_of_numOpt _ h1'.1.1.1] at this; exact this
    have e2 : eqOptF sc sc = numOpt sc := by
      have := eqOptF_znf sc; rw [znf_of_numOpt _ h1'.1.1.2] at this; exact this
    rw [e1, e2, all2_marker_self, all2_marker_self]
    exact h1

def cueNum (q : Option HotCue) : Bool := q.all fun c => !F64.isNaN c.off
def loopNum (q : Option LoopV) : Bool := q.all fun l => !F64.isNaN l.start && !F64.isNaN l.stop

theorem eqOptCue_self (q : Option HotCue) : eqOpt eqCue q q = cueNum q := by
  cases q with
  | none => rfl
  | some c => simp [eqOpt, eqCue, cueNum, F64.eq_self]

theorem eqOptLoop_self (q : Option LoopV) : eqOpt eqLoop q q = loopNum q := by
  cases q with
  | none => rfl
  | some c => simp [eqOpt, eqLoop, loopNum, F64.eq_self]

theorem eqCues_self (v : Cues) :
    eqCues v v = (v.cues.all cueNum && !F64.isNaN v.adjMain && !F64.isNaN v.defMain) := by
  unfold eqCues
  rw [all2_self (eqOpt eqCue) cueNum eqOptCue_self, F64.eq_self, F64.eq_self]

theorem eqLoops_self (v : Loops) : eqLoops v v = List.all v loopNum := by
  unfold eqLoops
  rw [all2_self (eqOpt eqLoop) loopNum eqOptLoop_self]

theorem bne_negOne (x : Bits) : (x != F64.negOne) = true ↔ x ≠ F64.negOne := by simp

theorem normCueSlot_stored (q : Option HotCue) (h : cueStored q = true) : normCueSlot q = .ok q := by
  cases q with
  | none => rfl
  | some c =>
    unfold cueStored at h
    simp only [Bool.and_eq_true, bne_iff_ne, ne_eq, Bool.not_eq_true'] at h
    obtain ⟨⟨h1, h2⟩, _⟩ := h
    have hok : Spec.cueOk (some c) = true := h1
    rw [normCueSlot_of_ok _ hok]
    unfold Spec.normCue
    simp [h2]

theorem normLoopSlot_stored (q : Option LoopV) (h : loopStored q = true) : normLoopSlot q = .ok q := by
  cases q with
  | none => rfl
  | some c =>
    unfold loopStored at h
    simp only [Bool.and_eq_true, bne_iff_ne, ne_eq, Bool.not_eq_true'] at h
    obtain ⟨⟨⟨h1, h2⟩, _⟩, _⟩ := h
    have hok : Spec.loopOk (some c) = true := h1
    rw [normLoopSlot_of_ok _ hok]
    unfold Spec.normLoop
    simp [h2]

theorem cueStored_iff (q : Option HotCue) :
    cueStored q = true ↔ (Spec.cueOk q = true ∧ Spec.normCue q = q ∧ cueNum q = true) := by
  cases q with
  | none => simp [cueStored, Spec.cueOk, Spec.normCue, cueNum]
  | some c =>
    unfold cueStored Spec.cueOk Spec.normCue cueNum
    simp only [Bool.and_eq_true, bne_iff_ne, ne_eq, Option.all_some]
    by_cases h : c.off = F64.negOne
    · simp [h]
    · simp [h]

theorem loopStored_iff (q : Option LoopV) :
    loopStored q = true ↔ (Spec.loopOk q = true ∧ Spec.normLoop q = q ∧ loopNum q = true) := by
  cases q with
  | none => simp [loopStored, Spec.loopOk, Spec.normLoop, loopNum]
  | some c =>
    unfold loopStored Spec.loopOk Spec.normLoop loopNum
    simp only [Bool.and_eq_true, bne_iff_ne, ne_eq, Option.all_some]
    by_cases h : c.start = F64.negOne
    · simp [h]
    · simp [h, and_assoc]

theorem all_stored_of {α} (stored ok num : α → Bool) (g : α → α)
    (hiff : ∀ q, stored q = true ↔ (ok q = true ∧ g q = q ∧ num q = true))
    (l : List α) (h1 : l.all ok = true) (h2 : l.map g = l) (h3 : l.all num = true) : l.all stored = true := by
  rw [List.all_eq_true] at h1 h3 ⊢
  intro q hq
  exact (hiff q).mpr ⟨h1 q hq, ListAux.map_eq_self_iff.mp h2 q hq, h3 q hq⟩

theorem guardCues_iff (v v' : Cues) :
    colGuard normCues eqCues v = .ok v' ↔ (stableCues v = true ∧ v' = v) := by
  constructor
  · intro h
    obtain ⟨he, h8, hall, hfix⟩ := guard_cues v v' h
    subst he
    rw [colGuard_ok_iff] at h
    have heq := h.2
    rw [eqCues_self] at heq
    simp only [Bool.and_eq_true] at heq
    refine ⟨?_, rfl⟩
    unfold stableCues
    simp only [Bool.and_eq_true, decide_eq_true_eq]
    exact ⟨⟨⟨h8, all_stored_of cueStored Spec.cueOk cueNum Spec.normCue cueStored_iff _ hall hfix heq.1.1⟩,
      heq.1.2⟩, heq.2⟩
  · intro ⟨hs, he⟩
    subst he
    unfold stableCues at hs
    simp only [Bool.and_eq_true, decide_eq_true_eq] at hs
    obtain ⟨⟨⟨h8, hall⟩, ha⟩, hd⟩ := hs
    rw [colGuard_ok_iff]
    have hn : normCues v' = .ok v' := by
      unfold normCues
      have : ¬ 8 < v'.cues.length := by omega
      rw [if_neg this]
      have hm : mapRes normCueSlot v'.cues = .ok (v'.cues.map id) :=
        mapRes_ok_map _ _ _ (fun a ha => normCueSlot_stored a (List.all_eq_true.mp hall a ha))
      rw [hm, List.map_id]
      simp only
      have : ¬ v'.cues.length < 8 := by omega
      rw [if_neg this]
    refine ⟨hn, ?_⟩
    rw [eqCues_self]
    simp only [Bool.and_eq_true]
    refine ⟨⟨?_, ha⟩, hd⟩
    rw [List.all_eq_true] at hall ⊢
    intro q hq
    exact ((cueStored_iff q).mp (hall q hq)).2.2

theorem guardLoops_iff (v v' : Loops) :
    colGuard normLoops eqLoops v = .ok v' ↔ (stableLoops v = true ∧ v' = v) := by
  constructor
  · intro h
    obtain ⟨he, hall, hfix⟩ := guard_loops v v' h
    subst he
    rw [colGuard_ok_iff] at h
    have heq := h.2
    rw [eqLoops_self] at heq
    exact ⟨all_stored_of loopStored Spec.loopOk loopNum Spec.normLoop loopStored_iff _ hall hfix heq, rfl⟩
  · intro ⟨hs, he⟩
    subst he
    unfold stableLoops at hs
    rw [colGuard_ok_iff]
    have hn : normLoops v' = .ok v' := by
      unfold normLoops
      have hm : mapRes normLoopSlot v' = .ok (List.map id v') :=
        mapRes_ok_map _ _ _ (fun a ha => normLoopSlot_stored a (List.all_eq_true.mp hs a ha))
      rw [hm, List.map_id]
    refine ⟨hn, ?_⟩
    rw [eqLoops_self]
    rw [List.all_eq_true] at hs ⊢
    intro q hq
    exact ((loopStored_iff q).mp (hs q hq)).2.2

theorem guardHires_iff (v v' : Wave) :
    colGuard (fun x => Res.ok (normHires x)) eqWave v = .ok v' ↔ (stableWave v = true ∧ v' = v) := by
  rw [colGuard_ok_iff]
  unfold normHires stableWave eqWave
  simp only [Res.ok.injEq]
  constructor
  · intro ⟨h1, h2⟩
    subst h1
    rw [F64.eq_self] at h2
    simp only [Bool.and_eq_true, beq_self_eq_true, and_true] at h2
    exact ⟨h2, rfl⟩
  · intro ⟨h1, h2⟩
    subst h2
    rw [F64.eq_self]
    simp [h1]

theorem guardOvw_iff (spe : Bits) (es : List Entry) (v' : Wave) :
    colGuard (fun x => Res.ok (normOvw x)) eqWave ⟨spe, es.map opaque255⟩ = .ok v' ↔
      ((!F64.isNaN spe) = true ∧ v' = ⟨spe, es.map opaque255⟩) := by
  rw [colGuard_ok_iff]
  have hn : normOvw ⟨spe, es.map opaque255⟩ = ⟨spe, es.map opaque255⟩ := by
    unfold normOvw
    simp only [List.map_map]
    congr 1
  rw [hn]
  unfold eqWave
  simp only [Res.ok.injEq]
  constructor
  · intro ⟨h1, h2⟩
    subst h1
    rw [F64.eq_self] at h2
    simp only [Bool.and_eq_true, beq_self_eq_true, and_true] at h2
    exact ⟨h2, rfl⟩
  · intro ⟨h1, h2⟩
    subst h2
    rw [F64.eq_self]
    simp [h1]

theorem opaque255_idem (e : Entry) : opaque255 (opaque255 e) = opaque255 e := rfl

theorem stableCues_spec {c : Cues} (h : stableCues c = true) :
    c.cues.length = 8 ∧ c.cues.all Spec.cueOk = true ∧ c.cues.map Spec.normCue = c.cues := by
  unfold stableCues at h
  simp only [Bool.and_eq_true, decide_eq_true_eq] at h
  obtain ⟨⟨⟨h8, hall⟩, _⟩, _⟩ := h
  rw [List.all_eq_true] at hall
  refine ⟨h8, List.all_eq_true.mpr fun q hq => ((cueStored_iff q).mp (hall q hq)).1, ?_⟩
  exact ListAux.map_eq_self_iff.mpr fun q hq => ((cueStored_iff q).mp (hall q hq)).2.1

theorem stableLoops_spec {l : Loops} (h : stableLoops l = true) :
    List.all l Spec.loopOk = true ∧ List.map Spec.normLoop l = l := by
  unfold stableLoops at h
  rw [List.all_eq_true] at h
  refine ⟨List.all_eq_true.mpr fun q hq => ((loopStored_iff q).mp (h q hq)).1, ?_⟩
  exact ListAux.map_eq_self_iff.mpr fun q hq => ((loopStored_iff q).mp (h q hq)).2.1

/-- Without NaN the codec's `validGrid` is the Spec's `gridOk`. -/
theorem stableBeat_gridOk {b : Beat} (h : stableBeat b = true) : Spec.gridOk b.adj = true := by
  unfold stableBeat at h
  simp only [Bool.and_eq_true] at h
  rw [← validGrid_eq_gridOk b.adj fun m hm => by simpa using List.all_eq_true.mp h.2 m hm]
  exact h.1.1.2

end EngineModel.TracksV1
