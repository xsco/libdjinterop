/-
The transaction theory behind C14 / C16 / C10 (`EngineModel.Spec.Txn`; Mathlib-free).

Everything is an induction over `exec` whose step is one of three facts about a single statement:
what a successful statement does to the connection (`stepStmt_some`), what the monitor does on a
statement it accepts (`shapeStep_some`), and that the two stay related (`TInv.stmt`).
-/
import EngineModel.Spec.Txn

namespace EngineModel.Proofs.Txn
open EngineModel.Spec.Txn
variable {α : Type}

/-- The shape monitor's state describes the state of the run. -/
structure TInv (s : ShapeSt) (scopes : Nat) (c : Conn α) (db0 : α) : Prop where
  open_ : s.inTxn = true → ∃ w, c.working = some w ∧ (s.pending = false → w = c.committed)
  closed : s.inTxn = false → c.working = none
  scopes_eq : scopes = if s.inTxn then 1 else 0
  untouched : s.effected = false → c.committed = db0

def injectedAt (fault : Option Nat) (k : CmdKind) (seen : Nat) : Bool := faultable k && (fault == some seen)
def seenAfter (k : CmdKind) (seen : Nat) : Nat := if faultable k then seen + 1 else seen
def raiseConn (auto : Bool) (c : Conn α) (scopes : Nat) : Conn α :=
  unwind (if auto then ⟨c.committed, none⟩ else c) scopes

theorem stepStmt_some {c c' : Conn α} {cmd : Cmd α} (h : stepStmt c cmd = some c') :
    match cmd with
    | .begin => c.working = none ∧ ⟨c.committed, some c.committed⟩ = c'
    | .commit => ∃ w, c.working = some w ∧ ⟨w, none⟩ = c'
    | .rollback => ⟨c.committed, none⟩ = c'
    | .write f => ∃ v, f c.view = some v ∧
        (if c.working.isSome then ⟨c.committed, some v⟩ else ⟨v, none⟩) = c'
    | .read => c = c' := by
  rcases c with ⟨cm, _ | w⟩ <;> cases cmd
  case none.write | some.write => exact Option.map_eq_some_iff.1 h
  all_goals cases h
  case none.begin => exact ⟨rfl, rfl⟩
  case some.commit => exact ⟨w, rfl, rfl⟩
  all_goals rfl

theorem shapeStep_some {s s1 : ShapeSt} {k : CmdKind} (h : shapeStep s k = some s1) :
    (s.effected && faultable k) = false ∧
    match k with
    | .begin => s.inTxn = false ∧ { inTxn := true, pending := false, effected := s.effected } = s1
    | .commit => s.inTxn = true ∧ { inTxn := false, pending := false, effected := s.effected || s.pending } = s1
    | .rollback => { inTxn := false, pending := false, effected := s.effected } = s1
    | .write => (if s.inTxn then { inTxn := true, pending := true, effected := s.effected }
        else { inTxn := false, pending := false, effected := true }) = s1
    | .read => s = s1 := by
  rcases s with ⟨inTxn, pending, effected⟩
  cases k
  case begin | commit => cases effected <;> cases inTxn <;> cases h; exact ⟨rfl, rfl, rfl⟩
  case write => cases effected <;> cases inTxn <;> cases h <;> exact ⟨rfl, rfl⟩
  all_goals cases effected <;> cases h <;> exact ⟨rfl, rfl⟩

theorem stepStmt_closedStep {c c' : Conn α} {cmd : Cmd α} (h : stepStmt c cmd = some c') :
    closedStep c.working.isSome cmd.kind = some c'.working.isSome := by
  have h := stepStmt_some h
  rcases c with ⟨cm, wk⟩
  cases cmd with
  | begin => obtain ⟨rfl, rfl⟩ := h; rfl
  | commit => obtain ⟨w, rfl, rfl⟩ := h; rfl
  | rollback => cases h; rfl
  | write f => obtain ⟨v, _, rfl⟩ := h; cases wk <;> rfl
  | read => cases h; rfl

/-- `P` holds of the result of every write of the call; then it holds of whatever the monitor records as written:
the committed database once `effected`, the working copy while `pending`. -/
def Marked (P : α → Prop) (s : ShapeSt) (c : Conn α) : Prop :=
  (s.effected = true → P c.committed) ∧ (s.pending = true → ∀ w, c.working = some w → P w)

/-- A statement the monitor accepts keeps the invariant; the only way it can fail is a write failing by itself. -/
theorem TInv.stmt {P : α → Prop} {s s1 : ShapeSt} {scopes : Nat} {c : Conn α} {db0 : α} {cmd : Cmd α}
    (hinv : TInv s scopes c db0) (hm : Marked P s c) (hP : ∀ f a b, cmd = .write f → f a = some b → P b)
    (hstep : shapeStep s cmd.kind = some s1) :
    match stepStmt c cmd with
    | some c' => TInv s1 (scopesAfter cmd.kind scopes) c' db0 ∧ Marked P s1 c'
    | none => ¬ cmd.total := by
  obtain ⟨he, hk⟩ := shapeStep_some hstep
  obtain ⟨ho, hc, rfl, hu⟩ := hinv
  rcases s with ⟨inTxn, pending, effected⟩
  rcases c with ⟨cm, wk⟩
  cases cmd with
  | begin =>
    obtain ⟨rfl, rfl⟩ := hk
    obtain rfl : wk = none := hc rfl
    exact ⟨⟨fun _ => ⟨cm, rfl, fun _ => rfl⟩, nofun, rfl, hu⟩, hm.1, nofun⟩
  | commit =>
    obtain ⟨rfl, rfl⟩ := hk
    obtain ⟨w, rfl, hw⟩ := ho rfl
    cases effected
    · exact ⟨⟨nofun, fun _ => rfl, rfl, fun h => (hw h).trans (hu rfl)⟩, fun h => hm.2 h w rfl, nofun⟩
    · cases he
  | rollback =>
    cases hk
    exact ⟨⟨nofun, fun _ => rfl, by cases inTxn <;> rfl, hu⟩, hm.1, nofun⟩
  | write f =>
    cases effected
    case true => cases he
    cases inTxn
    · cases hk
      obtain rfl : wk = none := hc rfl
      rw [show stepStmt ⟨cm, none⟩ (.write f) = (f cm).map fun d => ⟨d, none⟩ from rfl]
      cases hf : f cm with
      | none => exact fun htot => by have := htot cm; rw [hf] at this; cases this
      | some d => exact ⟨⟨nofun, fun _ => rfl, rfl, nofun⟩, fun _ => hP f cm d rfl hf, nofun⟩
    · cases hk
      obtain ⟨w, rfl, _⟩ := ho rfl
      rw [show stepStmt ⟨cm, some w⟩ (.write f) = (f w).map fun w' => ⟨cm, some w'⟩ from rfl]
      cases hf : f w with
      | none => exact fun htot => by have := htot w; rw [hf] at this; cases this
      | some w' =>
        exact ⟨⟨fun _ => ⟨w', rfl, nofun⟩, nofun, rfl, hu⟩, nofun, fun _ v hv => by cases hv; exact hP f w w' rfl hf⟩
  | read =>
    cases hk
    exact ⟨⟨ho, hc, rfl, hu⟩, hm⟩

theorem injectedAt_none (k : CmdKind) (seen : Nat) : injectedAt none k seen = false :=
  Bool.and_false _

theorem exec_cons_ok (fault : Option Nat) (auto : Bool) (cmd : Cmd α) (rest : List (Cmd α))
    (seen scopes : Nat) (c c' : Conn α)
    (hi : injectedAt fault cmd.kind seen = false) (hs : stepStmt c cmd = some c') :
    exec fault auto (cmd :: rest) seen scopes c =
      (exec fault auto rest (seenAfter cmd.kind seen) (scopesAfter cmd.kind scopes) c').cons ⟨cmd.kind, false⟩ := by
  simp only [injectedAt] at hi
  simp [exec, hi, hs, seenAfter]

theorem exec_cons_fail (fault : Option Nat) (auto : Bool) (cmd : Cmd α) (rest : List (Cmd α))
    (seen scopes : Nat) (c : Conn α)
    (h : injectedAt fault cmd.kind seen = true ∨ stepStmt c cmd = none) :
    (exec fault auto (cmd :: rest) seen scopes c).raised = true ∧
    (exec fault auto (cmd :: rest) seen scopes c).conn = raiseConn auto c scopes := by
  have hn : (if injectedAt fault cmd.kind seen then none else stepStmt c cmd) = none := by
    rcases h with h | h <;> simp [h]
  simp only [exec]
  rw [show (faultable cmd.kind && fault == some seen) = injectedAt fault cmd.kind seen from rfl, hn]
  exact ⟨rfl, rfl⟩

theorem exec_cons_cases (fault : Option Nat) (auto : Bool) (cmd : Cmd α) (rest : List (Cmd α))
    (seen scopes : Nat) (c : Conn α) :
    (∃ c', injectedAt fault cmd.kind seen = false ∧ stepStmt c cmd = some c' ∧
      exec fault auto (cmd :: rest) seen scopes c =
        (exec fault auto rest (seenAfter cmd.kind seen) (scopesAfter cmd.kind scopes) c').cons ⟨cmd.kind, false⟩) ∨
    ((injectedAt fault cmd.kind seen = true ∨ stepStmt c cmd = none) ∧
      (exec fault auto (cmd :: rest) seen scopes c).raised = true ∧
      (exec fault auto (cmd :: rest) seen scopes c).conn = raiseConn auto c scopes) := by
  cases hi : injectedAt fault cmd.kind seen
  · cases hs : stepStmt c cmd with
    | none => exact Or.inr ⟨Or.inr rfl, exec_cons_fail fault auto cmd rest seen scopes c (Or.inr hs)⟩
    | some c' => exact Or.inl ⟨c', rfl, rfl, exec_cons_ok fault auto cmd rest seen scopes c c' hi hs⟩
  · exact Or.inr ⟨Or.inl rfl, exec_cons_fail fault auto cmd rest seen scopes c (Or.inl hi)⟩

theorem atomicShape_iff {ks : List CmdKind} :
    atomicShape ks = true ↔ ∃ s', shapeRun ShapeSt.init ks = some s' ∧ s'.inTxn = false := by
  unfold atomicShape
  cases shapeRun ShapeSt.init ks with
  | none => exact ⟨nofun, nofun⟩
  | some s =>
    show (!s.inTxn) = true ↔ _
    cases hs : s.inTxn
    · exact ⟨fun _ => ⟨s, rfl, hs⟩, fun _ => rfl⟩
    · exact ⟨nofun, fun ⟨_, h1, h2⟩ => by cases h1; rw [hs] at h2; cases h2⟩

theorem TInv.init (db : α) : TInv ShapeSt.init 0 (Conn.idle db) db :=
  ⟨nofun, fun _ => rfl, rfl, fun _ => rfl⟩

theorem raise_idle (auto : Bool) {s : ShapeSt} {scopes : Nat} {c : Conn α} {db0 : α}
    (hinv : TInv s scopes c db0) (he : s.effected = false) : raiseConn auto c scopes = Conn.idle db0 := by
  obtain ⟨_, hc, rfl, hu⟩ := hinv
  rcases c with ⟨cm, wk⟩
  obtain rfl : cm = db0 := hu he
  rcases s with ⟨inTxn, pending, effected⟩
  cases inTxn
  · obtain rfl : wk = none := hc rfl
    cases auto <;> rfl
  · cases auto <;> rfl

/-- A statement the monitor accepts fails only while nothing is durable, and without an injected fault only
by a write failing by itself. -/
theorem TInv.fail {s s1 : ShapeSt} {scopes seen : Nat} {c : Conn α} {db0 : α} {cmd : Cmd α} {fault : Option Nat}
    (hinv : TInv s scopes c db0) (hstep : shapeStep s cmd.kind = some s1)
    (h : injectedAt fault cmd.kind seen = true ∨ stepStmt c cmd = none) :
    s.effected = false ∧ (fault = none → ¬ cmd.total) := by
  have hst := hinv.stmt (P := fun _ => True) ⟨fun _ => trivial, fun _ _ _ => trivial⟩ (fun _ _ _ _ _ => trivial) hstep
  have he := (shapeStep_some hstep).1
  rcases h with h | h
  · rw [(Bool.and_eq_true_iff.1 h).1, Bool.and_true] at he
    exact ⟨he, fun hf => by rw [hf, injectedAt_none] at h; cases h⟩
  · rw [h] at hst
    have : faultable cmd.kind = true := by
      cases cmd <;> first | rfl | exact absurd trivial hst
    rw [this, Bool.and_true] at he
    exact ⟨he, fun _ => hst⟩

theorem sound_aux (fault : Option Nat) (auto : Bool) (db0 : α) :
    ∀ (cs : List (Cmd α)) (s s' : ShapeSt) (seen scopes : Nat) (c : Conn α),
      TInv s scopes c db0 → shapeRun s (cs.map Cmd.kind) = some s' →
      ((exec fault auto cs seen scopes c).raised = true →
          (exec fault auto cs seen scopes c).conn = Conn.idle db0) ∧
      ((exec fault auto cs seen scopes c).raised = false → s'.inTxn = false →
          (exec fault auto cs seen scopes c).conn.working = none) ∧
      (fault = none → (∀ x ∈ cs, x.total) → (exec fault auto cs seen scopes c).raised = false) := by
  intro cs
  induction cs with
  | nil =>
    intro s s' seen scopes c hinv hs
    cases hs
    exact ⟨nofun, fun _ => hinv.closed, fun _ _ => rfl⟩
  | cons cmd rest ih =>
    intro s s' seen scopes c hinv hs
    cases hstep : shapeStep s cmd.kind with
    | none => simp only [List.map_cons, shapeRun, hstep] at hs; cases hs
    | some s1 =>
      simp only [List.map_cons, shapeRun, hstep] at hs
      rcases exec_cons_cases fault auto cmd rest seen scopes c with ⟨c', _, hc', heq⟩ | ⟨hwhy, hr, hc⟩
      · have hst := hinv.stmt (P := fun _ => True) ⟨fun _ => trivial, fun _ _ _ => trivial⟩
          (fun _ _ _ _ _ => trivial) hstep
        rw [hc'] at hst
        rw [heq]
        have := ih s1 s' (seenAfter cmd.kind seen) (scopesAfter cmd.kind scopes) c' hst.1 hs
        exact ⟨this.1, this.2.1, fun hf htot => this.2.2 hf fun x hx => htot x (List.mem_cons_of_mem _ hx)⟩
      · obtain ⟨he, hnt⟩ := hinv.fail hstep hwhy
        refine ⟨fun _ => hc ▸ raise_idle auto hinv he, fun h => ?_,
          fun hf htot => absurd (htot cmd List.mem_cons_self) (hnt hf)⟩
        rw [hr] at h; cases h

/-- Link between the C++ scope objects and the connection: holds at the start of
every public call and is kept by every successful statement. -/
def Linked (scopes : Nat) (c : Conn α) : Prop :=
  (scopes = 0 ∧ c.working = none) ∨ (scopes = 1 ∧ c.working.isSome = true)

theorem Linked.idle (db : α) : Linked 0 (Conn.idle db) := Or.inl ⟨rfl, rfl⟩

theorem Linked.iff {scopes : Nat} {c : Conn α} : Linked scopes c ↔ scopes = if c.working.isSome then 1 else 0 := by
  rcases c with ⟨cm, _ | w⟩ <;> simp [Linked]

/-- The scope count follows the bracket monitor's bit, statement kind by statement kind. -/
theorem Linked.step {cmd : Cmd α} {scopes : Nat} {c c' : Conn α}
    (hl : Linked scopes c) (hs : stepStmt c cmd = some c') : Linked (scopesAfter cmd.kind scopes) c' := by
  have h := stepStmt_closedStep hs
  rw [Linked.iff] at hl ⊢
  subst hl
  generalize c.working.isSome = t at h
  generalize c'.working.isSome = t' at h
  revert h
  cases cmd.kind <;> cases t <;> cases t' <;> decide

theorem TInv.linked {s : ShapeSt} {scopes : Nat} {c : Conn α} {db0 : α} (h : TInv s scopes c db0) :
    Linked scopes c := by
  obtain ⟨ho, hc, rfl, _⟩ := h
  cases ht : s.inTxn
  · exact Or.inl ⟨rfl, hc ht⟩
  · obtain ⟨w, hw, _⟩ := ho ht
    exact Or.inr ⟨rfl, by rw [hw]; rfl⟩

theorem raiseConn_working (auto : Bool) (scopes : Nat) (c : Conn α) (hl : Linked scopes c) :
    (raiseConn auto c scopes).working = none ∧ (raiseConn auto c scopes).committed = c.committed := by
  rcases c with ⟨cm, wk⟩
  rcases hl with ⟨rfl, rfl⟩ | ⟨rfl, _⟩ <;> cases auto <;> exact ⟨rfl, rfl⟩

theorem raise_autocommit (fault : Option Nat) (auto : Bool) :
    ∀ (cs : List (Cmd α)) (seen scopes : Nat) (c : Conn α), Linked scopes c →
      (exec fault auto cs seen scopes c).raised = true →
      (exec fault auto cs seen scopes c).conn.working = none := by
  intro cs
  induction cs with
  | nil => intro seen scopes c _ h; cases h
  | cons cmd rest ih =>
    intro seen scopes c hl h
    rcases exec_cons_cases fault auto cmd rest seen scopes c with ⟨c', _, hs, heq⟩ | ⟨_, _, hc⟩
    · rw [heq] at h ⊢
      exact ih _ _ c' (hl.step hs) h
    · rw [hc]; exact (raiseConn_working auto scopes c hl).1

theorem applyAll_append (p q : List (α → Option α)) (a : α) :
    applyAll (p ++ q) a = (applyAll p a).bind (applyAll q) := by
  induction p generalizing a with
  | nil => rfl
  | cons f p ih =>
    show (f a).bind (applyAll (p ++ q)) = ((f a).bind (applyAll p)).bind (applyAll q)
    cases f a with
    | none => rfl
    | some b => exact ih b

/-- `p` = the writes of the open scope, already applied to the working copy. -/
def PendLink (p : List (α → Option α)) (t : Bool) (c : Conn α) : Prop :=
  (t = true → ∃ w, c.working = some w ∧ applyAll p c.committed = some w) ∧
  (t = false → c.working = none)

/-- One successful statement: what remains to be made durable, seen from the new connection. -/
theorem PendLink.step {p : List (α → Option α)} {t : Bool} {c c' : Conn α} {cmd : Cmd α}
    (hl : PendLink p t c) (hs : stepStmt c cmd = some c') :
    ∃ p' t', PendLink p' t' c' ∧ ∀ rest,
      applyAll (effWrites (cmd :: rest) p t) c.committed = applyAll (effWrites rest p' t') c'.committed := by
  have hc' := stepStmt_some hs
  obtain ⟨ht, hf⟩ := hl
  rcases c with ⟨cm, wk⟩
  cases cmd with
  | begin =>
    obtain ⟨rfl, rfl⟩ := hc'
    exact ⟨[], true, ⟨fun _ => ⟨cm, rfl, rfl⟩, nofun⟩, fun _ => rfl⟩
  | commit =>
    obtain ⟨w, rfl, rfl⟩ := hc'
    cases t
    · cases hf rfl
    · obtain ⟨_, hw, hp⟩ := ht rfl
      cases hw
      refine ⟨[], false, ⟨nofun, fun _ => rfl⟩, fun rest => ?_⟩
      show applyAll (p ++ effWrites rest [] false) cm = _
      rw [applyAll_append, hp]; rfl
  | rollback =>
    cases hc'
    exact ⟨[], false, ⟨nofun, fun _ => rfl⟩, fun _ => rfl⟩
  | write f =>
    obtain ⟨v, hv, rfl⟩ := hc'
    cases t
    · obtain rfl : wk = none := hf rfl
      refine ⟨p, false, ⟨nofun, fun _ => rfl⟩, fun rest => ?_⟩
      show (f cm).bind (applyAll (effWrites rest p false)) = _
      rw [show f cm = some v from hv]; rfl
    · obtain ⟨w, rfl, hp⟩ := ht rfl
      have hp' : applyAll (p ++ [f]) cm = some v := by
        rw [applyAll_append, hp]; show (f w).bind _ = _; rw [show f w = some v from hv]; rfl
      exact ⟨p ++ [f], true, ⟨fun _ => ⟨v, rfl, hp'⟩, nofun⟩, fun _ => rfl⟩
  | read =>
    cases hc'
    exact ⟨p, t, ⟨ht, hf⟩, fun _ => rfl⟩

theorem durable_aux (fault : Option Nat) (auto : Bool) :
    ∀ (cs : List (Cmd α)) (p : List (α → Option α)) (t : Bool) (seen scopes : Nat) (c : Conn α),
      PendLink p t c → (exec fault auto cs seen scopes c).raised = false →
      applyAll (effWrites cs p t) c.committed = some (exec fault auto cs seen scopes c).conn.committed := by
  intro cs
  induction cs with
  | nil => intro p t seen scopes c _ _; rfl
  | cons cmd rest ih =>
    intro p t seen scopes c hl h
    rcases exec_cons_cases fault auto cmd rest seen scopes c with ⟨c', _, hs, heq⟩ | ⟨_, hr, _⟩
    · rw [heq] at h ⊢
      obtain ⟨p', t', hl', he⟩ := hl.step hs
      rw [he]
      exact ih p' t' _ _ c' hl' h
    · rw [hr] at h; cases h

theorem incCmds_cons (k : CmdKind) (ks : List CmdKind) :
    ∃ cmd, incCmds (k :: ks) = cmd :: incCmds ks ∧ cmd.kind = k ∧ cmd.total ∧
      ∀ f a b, cmd = .write f → f a = some b → b ≠ 0 := by
  cases k
  case write =>
    refine ⟨_, rfl, rfl, fun _ => rfl, fun f a b hf hb => ?_⟩
    cases hf; cases hb; exact Nat.succ_ne_zero a
  all_goals exact ⟨_, rfl, rfl, trivial, nofun⟩

theorem incCmds_kind (ks : List CmdKind) : (incCmds ks).map Cmd.kind = ks := by
  induction ks with
  | nil => rfl
  | cons k ks ih =>
    obtain ⟨cmd, h, hk, _⟩ := incCmds_cons k ks
    rw [h, List.map_cons, hk, ih]

theorem incCmds_total (ks : List CmdKind) : ∀ x ∈ incCmds ks, x.total := by
  induction ks with
  | nil => nofun
  | cons k ks ih =>
    obtain ⟨cmd, h, _, ht, _⟩ := incCmds_cons k ks
    rw [h]
    exact List.forall_mem_cons.2 ⟨ht, ih⟩

/-- What makes a run a witness against atomicity. -/
def Bad (fault : Option Nat) (r : Outcome Nat) : Prop :=
  (r.raised = true ∧ r.conn.committed ≠ 0) ∨
  (fault = none ∧ r.raised = true) ∨
  (r.raised = false ∧ r.conn.working ≠ none)

/-- Monitor state vs. run state in the counter model. -/
structure CInv (s : ShapeSt) (scopes : Nat) (c : Conn Nat) : Prop where
  open_ : s.inTxn = true → ∃ w, c.working = some w ∧ (s.pending = false → w = c.committed) ∧
            (s.pending = true → w ≠ 0)
  closed : s.inTxn = false → c.working = none
  scopes_eq : scopes = if s.inTxn then 1 else 0
  untouched : s.effected = false → c.committed = 0
  touched : s.effected = true → c.committed ≠ 0

/-- It is the general invariant from database 0, with "not 0" as the mark of what has been written. -/
theorem CInv.iff {s : ShapeSt} {scopes : Nat} {c : Conn Nat} :
    CInv s scopes c ↔ TInv s scopes c 0 ∧ Marked (· ≠ 0) s c := by
  constructor
  · intro ⟨ho, hc, hsc, hu, htc⟩
    refine ⟨⟨fun ht => ?_, hc, hsc, hu⟩, htc, fun hp w hw => ?_⟩
    · obtain ⟨w, hw, h1, _⟩ := ho ht
      exact ⟨w, hw, h1⟩
    · cases ht : s.inTxn
      · rw [hc ht] at hw; cases hw
      · obtain ⟨w', hw', _, h2⟩ := ho ht
        cases hw.symm.trans hw'
        exact h2 hp
  · intro ⟨⟨ho, hc, hsc, hu⟩, htc, hm⟩
    refine ⟨fun ht => ?_, hc, hsc, hu, htc⟩
    obtain ⟨w, hw, h1⟩ := ho ht
    exact ⟨w, hw, h1, fun hp => hm hp w hw⟩

theorem CInv.init : CInv ShapeSt.init 0 (Conn.idle 0) :=
  ⟨nofun, fun _ => rfl, rfl, fun _ => rfl, nofun⟩

/-- The monitor rejects a statement either because something is durable and the statement can fail, or because
the statement is ill-bracketed and fails by itself. -/
theorem TInv.rejected {s : ShapeSt} {scopes : Nat} {c : Conn α} {db0 : α} {cmd : Cmd α}
    (hinv : TInv s scopes c db0) (hstep : shapeStep s cmd.kind = none) :
    (s.effected = true ∧ faultable cmd.kind = true) ∨ stepStmt c cmd = none := by
  obtain ⟨ho, hc, _, _⟩ := hinv
  rcases s with ⟨inTxn, pending, effected⟩
  rcases c with ⟨cm, wk⟩
  cases effected
  · right
    cases cmd
    case begin => cases inTxn <;> cases hstep; obtain ⟨w, rfl, _⟩ := ho rfl; rfl
    case commit => cases inTxn <;> cases hstep; obtain rfl : wk = none := hc rfl; rfl
    case write => cases inTxn <;> cases hstep
    all_goals cases hstep
  · left
    cases cmd <;> cases hstep <;> exact ⟨rfl, rfl⟩

/-- A fault plan that lies after this statement does not hit it, and lies after what came before. -/
theorem later_fault {fault : Option Nat} {k : CmdKind} {seen : Nat}
    (h : fault = none ∨ ∃ j, fault = some j ∧ seenAfter k seen ≤ j) :
    injectedAt fault k seen = false ∧ (fault = none ∨ ∃ j, fault = some j ∧ seen ≤ j) := by
  rcases h with rfl | ⟨j, rfl, hle⟩
  · exact ⟨injectedAt_none k seen, Or.inl rfl⟩
  · unfold injectedAt seenAfter at *
    cases hf : faultable k <;> simp [hf] at hle ⊢ <;> omega

/-- Completeness core: if the monitor rejects the rest of the call, some fault
plan (not touching earlier statements) makes the run a witness. -/
theorem complete_aux :
    ∀ (ks : List CmdKind) (s : ShapeSt) (seen scopes : Nat) (c : Conn Nat), CInv s scopes c →
      (shapeRun s ks = none ∨ ∃ s', shapeRun s ks = some s' ∧ s'.inTxn = true) →
      ∃ fault, (fault = none ∨ ∃ j, fault = some j ∧ seen ≤ j) ∧
        Bad fault (exec fault false (incCmds ks) seen scopes c) := by
  intro ks
  induction ks with
  | nil =>
    intro s seen scopes c hinv h
    rcases h with h | ⟨s', h, ht⟩
    · cases h
    · cases h
      obtain ⟨w, hw, _⟩ := hinv.open_ ht
      exact ⟨none, Or.inl rfl, Or.inr (Or.inr ⟨rfl, fun hn => nomatch hw.symm.trans hn⟩)⟩
  | cons k ks ih =>
    intro s seen scopes c hinv h
    obtain ⟨cmd, hcons, rfl, htot, hpos⟩ := incCmds_cons k ks
    obtain ⟨hi, hm⟩ := CInv.iff.1 hinv
    rw [hcons]
    cases hstep : shapeStep s cmd.kind with
    | some s1 =>
      simp only [shapeRun, hstep] at h
      -- the counter command is total, so the accepted statement runs; the witness comes from the rest
      have hst := hi.stmt hm hpos hstep
      cases hs : stepStmt c cmd with
      | none => rw [hs] at hst; exact absurd htot hst
      | some c' =>
        rw [hs] at hst
        obtain ⟨fault, hlate, hbad⟩ := ih s1 _ _ c' (CInv.iff.2 hst) h
        obtain ⟨hni, hlate'⟩ := later_fault hlate
        refine ⟨fault, hlate', ?_⟩
        rw [exec_cons_ok fault false cmd _ seen scopes c c' hni hs]
        exact hbad
    | none =>
      rcases hi.rejected hstep with ⟨he, hk⟩ | hfail
      · -- something is durable and this statement can fail: inject the fault here
        have hinj : injectedAt (some seen) cmd.kind seen = true := by simp [injectedAt, hk]
        obtain ⟨hr, hc⟩ := exec_cons_fail (some seen) false cmd (incCmds ks) seen scopes c (Or.inl hinj)
        refine ⟨some seen, Or.inr ⟨seen, rfl, Nat.le_refl _⟩, Or.inl ⟨hr, ?_⟩⟩
        rw [hc, (raiseConn_working false scopes c hi.linked).2]
        exact hm.1 he
      · -- the statement is ill-bracketed and fails by itself
        exact ⟨none, Or.inl rfl, Or.inr (Or.inl ⟨rfl,
          (exec_cons_fail none false cmd (incCmds ks) seen scopes c (Or.inr hfail)).1⟩)⟩

theorem readonly_exec (fault : Option Nat) (auto : Bool) :
    ∀ (cs : List (Cmd α)) (seen scopes : Nat) (c : Conn α), (∀ x ∈ cs, x.kind = .read) →
      (exec fault auto cs seen scopes c).conn = c ∧ (exec fault auto cs seen scopes c).raised = false := by
  intro cs
  induction cs with
  | nil => intro seen scopes c _; exact ⟨rfl, rfl⟩
  | cons cmd rest ih =>
    intro seen scopes c h
    have hk := h cmd List.mem_cons_self
    cases cmd <;> cases hk
    rw [exec_cons_ok fault auto (Cmd.read : Cmd α) rest seen scopes c c rfl rfl]
    exact ih _ _ c (fun x hx => h x (List.mem_cons_of_mem _ hx))

theorem nowrite_exec (fault : Option Nat) (auto : Bool) :
    ∀ (cs : List (Cmd α)) (seen scopes : Nat) (c : Conn α), (∀ x ∈ cs, x.kind ≠ .write) →
      Linked scopes c → (c.working = none ∨ c.working = some c.committed) →
      (exec fault auto cs seen scopes c).conn.committed = c.committed := by
  intro cs
  induction cs with
  | nil => intro seen scopes c _ _ _; rfl
  | cons cmd rest ih =>
    intro seen scopes c h hl hw
    rcases exec_cons_cases fault auto cmd rest seen scopes c with ⟨c', _, hs, heq⟩ | ⟨_, _, hc⟩
    · rw [heq]
      have hrest := fun x hx => h x (List.mem_cons_of_mem _ hx)
      have hc' := stepStmt_some hs
      rcases c with ⟨cm, wk⟩
      cases cmd with
      | write f => exact absurd rfl (h _ List.mem_cons_self)
      | begin =>
        obtain ⟨_, rfl⟩ := hc'
        exact ih _ _ _ hrest (hl.step hs) (Or.inr rfl)
      | commit =>
        obtain ⟨w, rfl, rfl⟩ := hc'
        obtain rfl : w = cm := by
          rcases hw with hw | hw
          · cases hw
          · exact Option.some.inj hw
        exact ih _ _ _ hrest (hl.step hs) (Or.inl rfl)
      | rollback =>
        cases hc'
        exact ih _ _ _ hrest (hl.step hs) (Or.inl rfl)
      | read =>
        cases hc'
        exact ih _ _ _ hrest (hl.step hs) hw
    · rw [hc]; exact (raiseConn_working auto scopes c hl).2

theorem exec_open (fault : Option Nat) (auto : Bool) :
    ∀ (cs : List (Cmd α)) (seen scopes : Nat) (c : Conn α), (exec fault auto cs seen scopes c).raised = false →
      closedRun c.working.isSome (cs.map Cmd.kind) = some (exec fault auto cs seen scopes c).conn.working.isSome := by
  intro cs
  induction cs with
  | nil => intro _ _ _ _; rfl
  | cons cmd rest ih =>
    intro seen scopes c h
    rcases exec_cons_cases fault auto cmd rest seen scopes c with ⟨c', _, hs, heq⟩ | ⟨_, hraise, _⟩
    · rw [heq] at h ⊢
      rw [List.map_cons, closedRun, stepStmt_closedStep hs]
      exact ih _ _ c' h
    · rw [hraise] at h; cases h

theorem effWrites_all :
    ∀ (cs : List (Cmd α)) (p : List (α → Option α)) (t : Bool),
      closedRun t (cs.map Cmd.kind) = some false → (∀ x ∈ cs, x.kind ≠ .rollback) →
      effWrites cs p t = (if t then p else []) ++ writesOf cs := by
  intro cs
  induction cs with
  | nil =>
    intro p t h _
    cases h
    rfl
  | cons cmd rest ih =>
    intro p t h hnr
    have hrest := fun x hx => hnr x (List.mem_cons_of_mem _ hx)
    cases hstep : closedStep t cmd.kind with
    | none => simp only [List.map_cons, closedRun, hstep] at h; cases h
    | some t1 =>
      simp only [List.map_cons, closedRun, hstep] at h
      cases cmd with
      | rollback => exact absurd rfl (hnr _ List.mem_cons_self)
      | begin =>
        cases t <;> cases hstep
        exact ih [] true h hrest
      | commit =>
        cases t <;> cases hstep
        exact (congrArg (p ++ ·) (ih [] false h hrest))
      | write f =>
        cases hstep
        cases t
        · exact congrArg (f :: ·) (ih p false h hrest)
        · exact (ih (p ++ [f]) true h hrest).trans (List.append_assoc p [f] _)
      | read =>
        cases hstep
        exact ih p t h hrest

theorem closedStep_of_shapeStep {s s1 : ShapeSt} {k : CmdKind} (h : shapeStep s k = some s1) :
    closedStep s.inTxn k = some s1.inTxn := by
  obtain ⟨_, hk⟩ := shapeStep_some h
  rcases s with ⟨inTxn, pending, effected⟩
  cases k
  case begin | commit => obtain ⟨rfl, rfl⟩ := hk; rfl
  case write => cases hk; cases inTxn <;> rfl
  all_goals cases hk; rfl

theorem shapeRun_closedRun :
    ∀ (ks : List CmdKind) (s s' : ShapeSt), shapeRun s ks = some s' →
      closedRun s.inTxn ks = some s'.inTxn := by
  intro ks
  induction ks with
  | nil => intro s s' h; cases h; rfl
  | cons k ks ih =>
    intro s s' h
    cases hstep : shapeStep s k with
    | none => simp only [shapeRun, hstep] at h; cases h
    | some s1 =>
      simp only [shapeRun, hstep] at h
      simp only [closedRun, closedStep_of_shapeStep hstep]
      exact ih s1 s' h

/-- Soundness of the monitor, as `Properties/C14.lean: C14_shape_sound` states it; stated here for the modules
that use it without the operation tables the property file imports. -/
theorem shape_sound (cs : List (Cmd α)) (h : atomicShape (cs.map Cmd.kind) = true)
    (fault : Option Nat) (auto : Bool) (db : α) :
    ((call fault auto cs db).raised = true → (call fault auto cs db).conn = Conn.idle db) ∧
    ((call fault auto cs db).raised = false →
      (call fault auto cs db).conn.working = none ∧
      applyAll (effWrites cs [] false) db = some (call fault auto cs db).conn.committed) := by
  obtain ⟨s', hs, hin⟩ := atomicShape_iff.1 h
  have := sound_aux fault auto db cs ShapeSt.init s' 0 0 (Conn.idle db) (TInv.init db) hs
  exact ⟨this.1, fun hr => ⟨this.2.1 hr hin,
    durable_aux fault auto cs [] false 0 0 (Conn.idle db) ⟨nofun, fun _ => rfl⟩ hr⟩⟩

theorem closedShape_of_atomicShape {ks : List CmdKind} (h : atomicShape ks = true) : closedShape ks = true := by
  obtain ⟨s', hs, hin⟩ := atomicShape_iff.1 h
  have hc : closedRun false ks = some s'.inTxn := shapeRun_closedRun _ _ _ hs
  rw [closedShape, hc, hin]; rfl

theorem all_writes_closed (cs : List (Cmd α)) (h : closedShape (cs.map Cmd.kind) = true)
    (hnr : ∀ x ∈ cs, x.kind ≠ .rollback) (fault : Option Nat) (auto : Bool) (db : α)
    (hr : (call fault auto cs db).raised = false) :
    applyAll (writesOf cs) db = some (call fault auto cs db).conn.committed := by
  have hd := durable_aux fault auto cs [] false 0 0 (Conn.idle db) ⟨nofun, fun _ => rfl⟩ hr
  rwa [effWrites_all cs [] false (eq_of_beq h) hnr] at hd

/-- `C14_all_writes`, stated here for the modules that use it without the operation tables the property file imports. -/
theorem all_writes (cs : List (Cmd α)) (h : atomicShape (cs.map Cmd.kind) = true)
    (hnr : ∀ x ∈ cs, x.kind ≠ .rollback) (fault : Option Nat) (auto : Bool) (db : α)
    (hr : (call fault auto cs db).raised = false) :
    applyAll (writesOf cs) db = some (call fault auto cs db).conn.committed :=
  all_writes_closed cs (closedShape_of_atomicShape h) hnr fault auto db hr

end EngineModel.Proofs.Txn
