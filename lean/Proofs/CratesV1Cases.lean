/-
Which calls of the schema-1.x crate model return and what they return: `Accepted`, `Returns`.  For the four calls
that write only Crate, CrateParentList and CrateHierarchy and can throw (`editsForest`) the case analysis needs the
forest invariant `FInv` alone (`step_cases_finv`); all ten calls under `Inv`: `step_cases` (Proofs/CratesV1Sim).
-/
import Proofs.CratesV1SetName
import Proofs.CratesV1Remove
import Proofs.Machine

namespace EngineModel.Api.CratesV1
open EngineModel.Pure.Detect EngineModel.Spec

variable {db : Db}

def afterAddTrack (db : Db) (c t : Id) : Db :=
  { db with ctl := db.ctl.filter (fun r => !(r.1 == c && r.2 == t)) ++ [(c, t)] }

def filterCtl (db : Db) (p : Id × Id → Bool) : Db := { db with ctl := db.ctl.filter (fun r => !p r) }

/-- When a call returns normally (on a state satisfying `Inv`); otherwise it throws. -/
def Accepted (db : Db) : Op → Prop
  | .createRoot n => Forest.validName n = true ∧ ¬ RootNamed db n
  | .createSub c n => Forest.validName n = true ∧ ¬ SubNamed db c n ∧ c ∈ ids db
  | .rename c n => Forest.validName n = true ∧ c ∈ ids db
  | .setParent c p => ReparentOk db c p
  | .addTrack c t => c ∈ ids db ∧ liveTrack db t
  | _ => True

/-- The state `d` a call that returns normally leaves, and the value `o` it returns. -/
def Returns (s : Schema) (db : Db) : Op → Db → Out → Prop
  | .createRoot n, d, o => d = afterCreate s db none n ∧ o = .id (newCrateId s db)
  | .createSub c n, d, o => d = afterCreate s db (some c) n ∧ o = .id (newCrateId s db)
  | .rename c n, d, o => d = afterSetName db c n ∧ o = .unit
  | .setParent c p, d, o => d = afterSetParent db c p ∧ o = .unit
  | .removeCrate c, d, o => d = afterRemove db c ∧ o = .unit
  | .addTrack c t, d, o => d = afterAddTrack db c t ∧ o = .unit
  | .removeTrackFrom c t, d, o => d = filterCtl db (fun r => r.1 == c && r.2 == t) ∧ o = .unit
  | .clearTracks c, d, o => d = filterCtl db (fun r => r.1 == c) ∧ o = .unit
  | .createTrack, d, o => ∃ id seq, d = { db with track := db.track ++ [⟨id, true⟩], trackSeq := seq } ∧ o = .id id ∧
      maxId (db.track.map (·.id)) < id
  | .removeTrack t, d, o => d = (removeTrack s db t).1 ∧ o = .unit

/-- create_root_crate, create_sub_crate, set_name, set_parent. -/
def editsForest : Op → Bool
  | .createRoot _ | .createSub _ _ | .rename _ _ | .setParent _ _ => true
  | _ => false

theorem step_cases_finv (s : Schema) (h : FInv db) {op : Op} (hop : editsForest op = true) :
    (¬ Accepted db op ∧ ∃ e, step s db op = (db, .throw e)) ∨
    (Accepted db op ∧ ∃ d o, step s db op = (d, .ok o) ∧ Returns s db op d o) := by
  cases op with
  | createRoot n =>
    by_cases ha : Forest.validName n = true ∧ ¬ RootNamed db n
    · exact Or.inr ⟨ha, _, _, createRoot_ok s db ha.1 ha.2, rfl, rfl⟩
    · refine Or.inl ⟨ha, ?_⟩
      rcases Bool.eq_false_or_eq_true (Forest.validName n) with hv | hv
      · exact ⟨_, createRoot_dup s db hv (Classical.byContradiction fun hd => ha ⟨hv, hd⟩)⟩
      · exact ⟨_, createRoot_invalid s db hv⟩
  | createSub c n =>
    by_cases ha : Forest.validName n = true ∧ ¬ SubNamed db c n ∧ c ∈ ids db
    · exact Or.inr ⟨ha, _, _, createSub_ok s h.idsNodup ha.1 ha.2.1 ha.2.2, rfl, rfl⟩
    · refine Or.inl ⟨ha, ?_⟩
      rcases Bool.eq_false_or_eq_true (Forest.validName n) with hv | hv
      · by_cases hd : SubNamed db c n
        · exact ⟨_, createSub_dup s db c hv hd⟩
        · exact ⟨_, createSub_dead s db hv hd fun hc => ha ⟨hv, hd, hc⟩⟩
      · exact ⟨_, createSub_invalid s db c hv⟩
  | rename c n =>
    by_cases ha : Forest.validName n = true ∧ c ∈ ids db
    · exact Or.inr ⟨ha, _, _, setName_ok s h ha.1 ha.2, rfl, rfl⟩
    · refine Or.inl ⟨ha, ?_⟩
      rcases Bool.eq_false_or_eq_true (Forest.validName n) with hv | hv
      · exact ⟨_, setName_dead s db hv fun hc => ha ⟨hv, hc⟩⟩
      · exact ⟨_, setName_invalid s db c hv⟩
  | setParent c p =>
    by_cases ha : ReparentOk db c p
    · exact Or.inr ⟨ha, _, _, setParent_ok s h ha, rfl, rfl⟩
    · refine Or.inl ⟨ha, ?_⟩
      by_cases hself : p = some c
      · subst hself; exact ⟨_, setParent_self s db c⟩
      by_cases hc : c ∈ ids db
      · cases p with
        | none => exact absurd ⟨hc, fun q hq => by cases hq⟩ ha
        | some q =>
          have hqc : q ≠ c := fun e => hself (by rw [e])
          by_cases hq : q ∈ ids db
          · by_cases hcyc : (c, q) ∈ db.ch
            · exact ⟨_, setParent_cycle s h.idsNodup hqc hc hq hcyc⟩
            · exact absurd ⟨hc, fun q' hq' => by cases hq'; exact ⟨hq, hqc, hcyc⟩⟩ ha
          · exact ⟨_, setParent_dead_parent s h.idsNodup hqc hc hq⟩
      · exact ⟨_, setParent_dead s db hself hc⟩
  | _ => cases hop

theorem isRun (s : Schema) : Machine.IsRun (step s) (run s) := ⟨fun _ => rfl, fun _ _ _ => rfl⟩

end EngineModel.Api.CratesV1
