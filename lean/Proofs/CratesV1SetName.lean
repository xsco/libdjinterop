/-
crate::set_name on a state satisfying `Inv`: exact outcome and preservation.
-/
import Proofs.CratesV1Path

namespace EngineModel.Api.CratesV1
open EngineModel.Pure.Detect EngineModel.Spec

/-- Path of the proper parent of `c` ("" for a root). -/
def parentPrefix (db : Db) (c : Id) : Name :=
  match parentOf db c with
  | none => []
  | some p => rowPath db p

variable {db : Db}

theorem parentPrefix_eq (h : FInv db) {c p : Id} (hp : (c, p) ∈ db.cpl) :
    parentPrefix db c = if p = c then [] else rowPath db p := by
  unfold parentPrefix
  by_cases hpc : p = c
  · rw [parentOf_self h (hpc ▸ hp)]; simp [hpc]
  · rw [(parentOf_eq_some h).mpr ⟨hp, hpc⟩]; simp [hpc]

theorem pairs_filter_fst {l : List (Id × Id)} (h : (l.map (·.1)).Nodup) {c p : Id} (hm : (c, p) ∈ l) :
    l.filter (fun r => r.1 == c) = [(c, p)] :=
  ListAux.filter_key_eq_singleton h hm

/-- A crate has exactly one parent-list row. -/
theorem cpl_filter_at (h : FInv db) {c p : Id} (hp : (c, p) ∈ db.cpl) (g : Id × Id → Bool) :
    db.cpl.filter (fun r => r.1 == c && g r) = if g (c, p) = true then [(c, p)] else [] := by
  have hf : db.cpl.filter (fun r => r.1 == c && g r) = (db.cpl.filter (fun r => r.1 == c)).filter g := by
    rw [List.filter_filter]
    exact List.filter_congr fun r _ => Bool.and_comm _ _
  rw [hf, pairs_filter_fst h.cplNodup hp]
  cases hg : g (c, p) <;> simp [hg]

theorem firstNonEmptyOrThrow_nil : firstNonEmptyOrThrow [] = .ok [] := rfl
theorem firstNonEmptyOrThrow_single (x : Name) : firstNonEmptyOrThrow [x] = .ok x := rfl

/-- The `SELECT path FROM Crate c JOIN CrateParentList cpl …` of set_name. -/
theorem select_parent_path (h : FInv db) {c : Id} (hc : c ∈ ids db) :
    firstNonEmptyOrThrow ((db.cpl.filter (fun r => r.1 == c && r.1 != r.2)).flatMap fun r =>
      (db.crate.filter (·.id == r.2)).map (·.path)) = .ok (parentPrefix db c) := by
  obtain ⟨p, hp⟩ := h.live_has_row hc
  rw [parentPrefix_eq h hp]
  rw [cpl_filter_at h hp fun r => r.1 != r.2]
  by_cases hpc : p = c
  · subst hpc
    simp [firstNonEmptyOrThrow_nil]
  · have hne : ((c, p).1 != (c, p).2) = true := by
      simp only [bne_iff_ne, ne_eq]
      exact fun e => hpc e.symm
    simp only [hne, if_true, List.flatMap_cons, List.flatMap_nil, List.append_nil, hpc, if_false]
    obtain ⟨pr, hpr, hprid⟩ := exists_row (h.cplParentLive _ hp)
    simp only at hprid
    rw [← hprid, filter_of_mem h.idsNodup hpr, rowPath_of_mem h.idsNodup hpr]
    rfl

def setTitle (c : Id) (n : Name) (crate : List CrateRow) : List CrateRow :=
  crate.map fun r => if r.id == c then { r with title := n } else r

/-- The state with the new title, before any path is rewritten. -/
def dbTitle (db : Db) (c : Id) (n : Name) : Db := { db with crate := setTitle c n db.crate }

def afterSetName (db : Db) (c : Id) (n : Name) : Db :=
  { dbTitle db c n with
    crate := setPaths (subB (dbTitle db c n) c)
      (tgtPath (dbTitle db c n) c (parentPrefix db c ++ n ++ [semicolon])) (dbTitle db c n).crate }

theorem ids_setTitle (db : Db) (c : Id) (n : Name) : ids (dbTitle db c n) = ids db := by
  unfold ids dbTitle setTitle
  simp only [List.map_map]
  apply List.map_congr_left
  intro r _
  simp only [Function.comp_apply]
  split <;> rfl

theorem ids_afterSetName (db : Db) (c : Id) (n : Name) : ids (afterSetName db c n) = ids db :=
  (ids_of_keys (setPaths_keys _ _ _)).trans (ids_setTitle db c n)

theorem finv_setTitle (h : FInv db) (c : Id) (n : Name) : FInv (dbTitle db c n) :=
  h.congr (ids_setTitle db c n) rfl rfl

theorem setName_invalid (s : Schema) (db : Db) (c : Id) {n : Name} (hv : Forest.validName n = false) :
    setName s db c n = (db, .throw exInvalidName) := by
  unfold setName; rw [ensureValidName_throw hv]

theorem setName_dead (s : Schema) (db : Db) {c : Id} {n : Name} (hv : Forest.validName n = true) (hc : c ∉ ids db) :
    setName s db c n = (db, .throw exCrateDeleted) := by
  unfold setName
  rw [ensureValidName_ok hv]
  simp [transaction, requireValid_dead hc]

theorem setName_ok (s : Schema) (h : FInv db) {c : Id} {n : Name} (hv : Forest.validName n = true) (hc : c ∈ ids db) :
    setName s db c n = (afterSetName db c n, .ok .unit) := by
  -- set_name writes title and path of `c` in one UPDATE and then runs `update_path` on each child of `c`: that is the `succ` case of
  -- `updatePath_eq` after its first statement, on the tables with the new title (`dbT`, generalised so that no `rfl` unfolds it).
  unfold setName
  rw [ensureValidName_ok hv]
  simp only [transaction, requireValid_live h.idsNodup hc, Res.bind_ok, select_parent_path h hc]
  rw [updateCrateTitlePath_eq s h.idsNodup]
  have hT : FInv (dbTitle db c n) := finv_setTitle h c n
  have hcT : c ∈ ids (dbTitle db c n) := by rw [ids_setTitle]; exact hc
  unfold afterSetName
  generalize parentPrefix db c ++ n ++ [semicolon] = base
  have hdT1 : (dbTitle db c n).crate = setTitle c n db.crate := rfl
  have hdT2 : (dbTitle db c n).cpl = db.cpl := rfl
  have hd1 : ∀ X, ({ db with crate := X } : Db) = { dbTitle db c n with crate := X } := fun _ => rfl
  generalize dbTitle db c n = dbT at hT hcT hdT1 hdT2 hd1 ⊢
  generalize htgt : tgtPath dbT c base = tgt
  have htop : tgt c = base := by rw [← htgt]; exact tgtPath_top base hcT
  have hcrate1 : db.crate.map (fun r => if r.id == c then { r with title := n, path := base } else r)
      = setPaths (· == c) tgt dbT.crate := by
    rw [hdT1]
    unfold setPaths setTitle
    rw [List.map_map]
    apply List.map_congr_left
    intro r _
    by_cases hrc : r.id = c
    · simp [hrc, htop]
    · simp [hrc]
  rw [hcrate1, hd1]
  have hkids : crateChildren { dbT with crate := setPaths (· == c) tgt dbT.crate } c = crateChildren dbT c := rfl
  rw [hkids]
  have hsk : Skel { dbT with crate := setPaths (· == c) tgt dbT.crate } dbT :=
    (Skel.refl dbT).setPaths (· == c) tgt
  have hstep := tgtPath_hstep hT c base
  rw [htgt] at hstep
  have := updatePath_kids s tgt (x := c) (fuel := dbT.cpl.length + 1)
    (fun acc k hacc hk => updatePath_eq s hT c tgt hstep _ acc k (tgt c) hacc (hT.par_live hk).1
      (Or.inr (hT.ch_of_par hk)) (by rw [hT.depth_par hk]; omega)
      (fun rk hrk hid => (hstep c k (Or.inl rfl) hk rk hrk hid).symm))
    (crateChildren dbT c) (fun k hk => (mem_crateChildren dbT c k).mp hk) _ hsk
  rw [htop] at this
  rw [← hdT2, this]
  simp only [Res.bind_ok, Res.pure_eq]
  rw [setPaths_top_then_kids hT]

theorem finv_afterSetName (h : FInv db) (c : Id) (n : Name) : FInv (afterSetName db c n) :=
  (finv_setTitle h c n).congr (ids_of_keys (setPaths_keys _ _ _)) rfl rfl

theorem mem_setTitle {c : Id} {n : Name} {r : CrateRow} :
    r ∈ (dbTitle db c n).crate ↔ ∃ r0 ∈ db.crate, r = if r0.id == c then { r0 with title := n } else r0 := by
  show r ∈ (db.crate.map _) ↔ _
  rw [List.mem_map]
  exact ⟨fun ⟨r0, h0, e⟩ => ⟨r0, h0, e.symm⟩, fun ⟨r0, h0, e⟩ => ⟨r0, h0, e.symm⟩⟩

/-- set_name keeps the paths right: a crate outside the sub-tree of `c` has neither `c` nor a descendant of `c`
among its ancestors, so its global path is the old one; at `c` the statement computes the parent's path ++ the new name. -/
theorem pathsOk_setName (h : Inv db) {c : Id} {n : Name} (hc : c ∈ ids db) : PathsOk (afterSetName db c n) := by
  have hf := h.toFInv
  have hT : FInv (dbTitle db c n) := finv_setTitle hf c n
  have hidT : ∀ {y}, y ∈ ids db → y ∈ ids (dbTitle db c n) := fun hy => by rw [ids_setTitle]; exact hy
  have hfind : ∀ x, ¬ Sub db c x → (absForest (dbTitle db c n)).find x = (absForest db).find x := by
    intro x hx
    refine abs_find_eq hf.idsNodup hT.idsNodup (fun r hr hid => ⟨r, mem_setTitle.mpr ⟨r, hr, ?_⟩, hid, rfl⟩)
      (by rw [ids_setTitle]; exact id) rfl
    rw [if_neg]
    simpa [hid] using fun e : x = c => hx (Or.inl e)
  have hsame : ∀ y, y ∈ ids db → ¬ Sub db c y → pathOf (absForest (dbTitle db c n)) y = pathOf (absForest db) y :=
    fun y hy hs => pathOf_congr hf hT _ (fun x p => hf.not_sub_par) hfind hy (hidT hy) hs
  refine pathsOk_repath hT (hidT hc) ?_ ?_
  · obtain ⟨r0, hr0, hr0c⟩ := exists_row hc
    have hrT : ({ r0 with title := n } : CrateRow) ∈ (dbTitle db c n).crate :=
      mem_setTitle.mpr ⟨r0, hr0, by simp [hr0c]⟩
    have := pathOf_row hT hrT
    simp only [hr0c] at this
    rw [this]
    congr 2
    show parentPrefix db c = match parentOf db c with | none => [] | some p => pathOf (absForest (dbTitle db c n)) p
    unfold parentPrefix
    cases hp : parentOf db c with
    | none => rfl
    | some p =>
      have hpar := (parentOf_eq_some hf).mp hp
      obtain ⟨rp, hrp, hrpid⟩ := exists_row (hf.par_live hpar).2
      have hps : ¬ Sub db c p := fun hs => hs.elim (fun e => hpar.2 e) (hf.not_anc_self_par hpar)
      dsimp only
      rw [hsame p (hf.par_live hpar).2 hps, ← hrpid, rowPath_of_mem hf.idsNodup hrp, (path_eq_pathOf h) rp hrp]
  · intro r hr hs
    obtain ⟨r0, hr0, rfl⟩ := mem_setTitle.mp hr
    have hrc : ¬ r0.id = c := fun e => hs (Or.inl (by split <;> exact e))
    simp only [beq_iff_eq, hrc, if_false] at hs ⊢
    rw [(path_eq_pathOf h) r0 hr0, hsame r0.id (mem_ids_of_mem hr0) hs]

theorem inv_setName (h : Inv db) {c : Id} {n : Name} (hv : Forest.validName n = true) (hc : c ∈ ids db) :
    Inv (afterSetName db c n) := by
  refine Inv.of_pathsOk (finv_afterSetName h.toFInv c n) ?_ (pathsOk_setName h hc) h.ctlNodup ?_ h.trackNodup
  · intro r hr
    obtain ⟨r1, hr1, rfl⟩ := List.mem_map.mp hr
    obtain ⟨r0, hr0, rfl⟩ := mem_setTitle.mp hr1
    have := h.namesValid r0 hr0
    by_cases hrc : r0.id = c <;> simp only [hrc, beq_self_eq_true, beq_iff_eq, if_true, if_false] <;> split <;> assumption
  · intro r hr
    rw [ids_afterSetName]
    exact h.ctlLive r hr

end EngineModel.Api.CratesV1
