/-
The 1.x model regenerated from the C++ sources (`Gen/ImplV1Gen.lean`, written by
tools/tr_blobs_v1.py on every run) equals the hand-written mirror `Impl/V1.lean`,
function by function.  The C02/C03/C05 theorems about schema 1.x are stated on
`Impl.V1.*`; through these equalities they are theorems about the code as it is in
/repo — a change of performance_data_format.cpp that changes the translation
breaks the proofs below.  (`decodeTrack_eq` etc. here are "regenerated = hand"; the
lemmas of the same short names in Proofs/ImplV1.lean are "hand = Spec".)
-/
import EngineModel.Gen.ImplV1Gen
import EngineModel.Impl.V1
import Proofs.CursorCxxLemmas
import Proofs.CxxPrimsLemmas
import Proofs.CursorCxxV1Lemmas
import Proofs.ImplV2
import Proofs.ImplV2Gen
-- As in ImplV2Gen.lean: `remaining_bind_const` in the `simp only` lists serves the spelling `end - ptr` of the size test.
set_option linter.unusedSimpArgs false

namespace EngineModel.Gen.ImplV1
open Codec Cur

theorem ite_bnot {α} (b : Bool) (x y : α) : (if (!b) = true then x else y) = if b = true then y else x := by
  cases b <;> rfl

theorem decodeTrack_eq : decodeTrack = Impl.V1.decodeTrack := by
  funext bs
  unfold decodeTrack Impl.V1.decodeTrack
  simp only [ImplV2.prims, remaining_bind_const]
  refine fromBlob_sizeTest (· ≠ 28) _ _ _ (fun _ => by omega) bs fun _ => ?_
  -- the same reads and the same closing test: what differs is how the zero tests of the four fields are written
  simp only [F64.ne_zero_eq, ← F64.isZero_iff_eq_zero, Prim.s64_eq_zero, Prim.s32_eq_zero, ite_bnot, decide_not, decide_eq_true_eq, ne_eq, ite_not]

theorem decodeOvw_body1_eq : decodeOvw_body1 = Impl.V1.ovwEntry := by
  unfold decodeOvw_body1 Impl.V1.ovwEntry
  simp only [CxxPrims.decode_uint8_eq]

theorem decodeHires_body1_eq : decodeHires_body1 = Impl.V1.hiresEntry := by
  unfold decodeHires_body1 Impl.V1.hiresEntry
  simp only [CxxPrims.decode_uint8_eq]

/-- `overview_waveform_data::decode`.
Full statement: `decodeOvw = Impl.V1.decodeOvw` — false only for payloads of about 2^62 bytes and more, which no
machine can hold: `resize(num_entries_1)` throws `length_error` above `max_size() = (2^63 - 1) / sizeof(waveform_entry)`
(= / 6) of the entry vector, while the count guard is `num_entries_1 <= (end - ptr) / 3`; the hand model has no
`resize` limit.  The `int64_t` arithmetic `3 * (num_entries_1 + 1)` is checked in both models. -/
theorem decodeOvw_eq_partial (bs : Bytes) (hb : bs.length < 4611686018427387904) :
    decodeOvw bs = Impl.V1.decodeOvw bs := by
  unfold decodeOvw Impl.V1.decodeOvw Impl.V1.decodeWave
  have e3 : ((3 : Nat) : Int) = 3 := rfl
  simp only [ImplV2.prims, remaining_bind_const, decodeOvw_body1_eq, advance_bind, e3]
  refine fromBlob_sizeTest (· < 27) _ _ _ (fun _ => by omega) bs fun h27 =>
    waveHeader_run bs (by omega) _ _ fun n spp => ?_
  rw [remaining_bind]
  generalize hc : Cxx.u64OfInt (Prim.s64 n) = c
  exact waveGuard_run n 3 6 (· ≠ ·) c hc _ _ _ (by omega) (by simp; omega) (by simp; omega)
    fun hc _ _ => by simp only [hc, forEach_eq, decide_eq_true_eq]

/-- `high_res_waveform_data::decode`.
Full statement: `decodeHires = Impl.V1.decodeHires`; the hypothesis is `std::vector<std::byte>::max_size()` (every
payload the C++ can be handed): `resize` limit (`sizeof(waveform_entry) = 6`, count guard `/ 6`) and checked
`6 * (num_entries_1 + 1)`. -/
theorem decodeHires_eq_partial (bs : Bytes) (hb : bs.length < 9223372036854775808) :
    decodeHires bs = Impl.V1.decodeHires bs := by
  unfold decodeHires Impl.V1.decodeHires Impl.V1.decodeWave
  have e3 : ((6 : Nat) : Int) = 6 := rfl
  simp only [ImplV2.prims, remaining_bind_const, decodeHires_body1_eq, advance_bind, e3]
  refine fromBlob_sizeTest (· < 30) _ _ _ (fun _ => by omega) bs fun h30 =>
    waveHeader_run bs (by omega) _ _ fun n spp => ?_
  rw [remaining_bind]
  generalize hc : Cxx.u64OfInt (Prim.s64 n) = c
  exact waveGuard_run n 6 6 (· ≠ ·) c hc _ _ _ (by omega) (by simp; omega) (by simp; omega)
    fun hc _ _ => by simp only [hc, forEach_eq, decide_eq_true_eq]

/-- the per-cue body of `quick_cues_data::decode`: that of the 2.x format (the same statements), then the
`-1` sentinel of an empty slot -/
theorem decodeCues_body1_eq : decodeCues_body1 = Impl.V1.decodeCue := by
  unfold Impl.V1.decodeCue
  rw [← ImplV2.decodeCues_body1_eq]
  unfold decodeCues_body1 ImplV2.decodeCues_body1
  simp only [bind_assoc, pure_bind, ite_bind, throwC_bind]

/-- the per-loop body of `loops_data::decode`, likewise -/
theorem decodeLoops_body1_eq : decodeLoops_body1 = Impl.V1.decodeLoop := by
  unfold Impl.V1.decodeLoop
  rw [← ImplV2.decodeLoops_body1_eq]
  unfold decodeLoops_body1 ImplV2.decodeLoops_body1
  simp only [bind_assoc, pure_bind, ite_bind, throwC_bind]

/-- `loops_data::decode`.
Full statement (false of the code only for payloads of 2^61 bytes and more, which no machine can hold):
`decodeLoops = Impl.V1.decodeLoops`.  `result.loops.reserve(num_loops)` throws `length_error` above
`max_size() = (2^63 - 1) / sizeof(std::optional<loop>)` (= / 64); the count guard `num_loops <= (end - ptr) / 23`
excludes that only below 23 * 2^63 / 64 bytes.  The hand model has no `reserve`. -/
theorem decodeLoops_eq_partial (bs : Bytes) (hb : bs.length < 2305843009213693952) :
    decodeLoops bs = Impl.V1.decodeLoops bs := by
  unfold decodeLoops Impl.V1.decodeLoops
  simp only [ImplV2.prims, remaining_bind_const, decodeLoops_body1_eq]
  refine fromBlob_sizeTest (· < 8) _ _ _ (fun _ => by omega) bs fun h8 => ?_
  rw [bind_of_run (rd_u64le_run (by omega)), bind_of_run (rd_u64le_run (by omega)), remaining_bind,
    countGuard_run _ 23 64 _ _ _ (by simp; omega)]
  simp only [decide_eq_true_eq]

theorem flag_cond (n : Nat) (b : Bool) :
    ((decide ((n : Int) > 1) || decide ((n : Int) = 0) && b) = true) = (n > 1 ∨ n = 0 ∧ b = true) := by
  cases b <;> simp <;> omega

/-- `quick_cues_data::decode`.
Full statement (false of the code only for payloads of 2^60 bytes and more): `decodeCues = Impl.V1.decodeCues`;
see `decodeLoops_eq_partial` (`reserve(num_hot_cues)`, `sizeof(std::optional<hot_cue>) = 56`, guard `/ 13`). -/
theorem decodeCues_eq_partial (bs : Bytes) (hb : bs.length < 1152921504606846976) :
    decodeCues bs = Impl.V1.decodeCues bs := by
  unfold decodeCues Impl.V1.decodeCues
  simp only [ImplV2.prims, remaining_bind_const, decodeCues_body1_eq]
  refine fromBlob_sizeTest (· < 25) _ _ _ (fun _ => by omega) bs fun h25 => ?_
  rw [bind_of_run (rd_u64be_run (by omega)), bind_of_run (rd_u64be_run (by omega)), remaining_bind,
    countGuard_run _ 13 56 _ _ _ (by simp; omega)]
  simp only [flag_cond, decide_eq_true_eq]

section Enc
open Wr

theorem u64OfInt_zero : Prim.u64OfInt 0 = 0 := by decide

theorem encodeTrack_eq : encodeTrack = Impl.V1.encodeTrack := by
  funext v
  have hl : (u64be.enc (v.sampleRate.getD 0) ++ u64be.enc (v.sampleCount.getD 0) ++
      u64be.enc (v.loudness.getD 0) ++ u32be.enc (v.key.getD 0)).length = 28 := by
    simp [Impl.V2.u64be_enc_length]; rfl
  unfold encodeTrack Impl.V1.encodeTrack
  rw [Impl.V2.writeInto_exact hl]
  refine run_of_writesEnd_full (e := .runtime_error) ?_ hl (by omega)
  simp only [CxxPrims.encode_double_be_eq, CxxPrims.encode_int64_be_eq, CxxPrims.encode_int32_be_eq,
    u64OfInt_zero, F64.zero]
  refine WritesEnd.congr
    ((Writes.put _).bindEnd <| (Writes.put _).bindEnd <| (Writes.put _).bindEnd <| (Writes.put _).bindEnd <|
      WritesEnd.endCheck _) ?_
  cases v.key <;> simp [Prim.u32OfInt_s32] <;> rfl

end Enc

end EngineModel.Gen.ImplV1
