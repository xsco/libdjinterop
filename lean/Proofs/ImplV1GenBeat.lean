/-
The 1.x beat-data *encoder* regenerated from the C++ sources (`Gen.ImplV1.validateGrid`, `encodeGrid`,
`encodeBeat`; tools/tr_blobs_v1.py) equals the hand-written mirror `Impl.V1.encodeBeat`.

* `validate_beatgrid` (indexed loop from `i = 1` over `v[i]`, `v[i - 1]`, checked `int64_t` difference)
  accepts exactly the grids `Impl.V1.validGrid` accepts and otherwise throws `invalid_argument`;
* `encode_beatgrid` (indexed loop, `diff = v[i + 1].index - v[i].index` in checked `int`) writes the
  count and the wire markers `Impl.V1.toWireC` computes;
* `beat_data::encode` validates both grids before the buffer exists, so its size `33 + 24 * (n + m)`
  cannot wrap (`n, m ≤ 32768`) and no `int` difference overflows: the equality is unconditional.
-/
import EngineModel.Gen.ImplV1Gen
import EngineModel.Impl.V1
import Proofs.WrLemmas
import Proofs.CxxPrimsLemmas
import Proofs.CursorCxxV1Lemmas
import Proofs.ImplV2
import Proofs.CheckedArith
-- As in ImplV2Gen.lean.  Unused on the present text: `hb`, `ha` (the two reads of the grid) in the last `simp only` of
-- `validateGrid_body1_run`, where it has no read left.
set_option linter.unusedSimpArgs false

namespace EngineModel

namespace Gen.ImplV1
open Codec Wr

/-- the test of one loop iteration, on the two neighbouring markers -/
def stepOk (a b : Impl.V1.GMarker) : Bool :=
  decide (0 < Prim.s32 b.index - Prim.s32 a.index) && decide (Prim.s32 b.index - Prim.s32 a.index ≤ 2147483647) &&
    !F64.le b.off a.off

theorem validateGrid_body1_run (g : List Impl.V1.GMarker) (i : Nat) (a b : Impl.V1.GMarker)
    (hb : Cxx.vecGet g i = .ok b) (ha : Cxx.vecGet g (Cxx.U64.sub i 1) = .ok a) (size : Nat) (out : Bytes) :
    validateGrid_body1 g i size out = if stepOk a b then .ok ((), out) else .throw .invalid_argument := by
  have hA := Prim.s32_range a.index
  have hB := Prim.s32_range b.index
  have hD : -9223372036854775808 ≤ Prim.s32 b.index - Prim.s32 a.index ∧
      Prim.s32 b.index - Prim.s32 a.index ≤ 9223372036854775807 := by omega
  unfold validateGrid_body1 stepOk
  simp only [bind_run, hb, ha, lift_ok_run]
  rw [chkI64_run hD.1 hD.2]
  -- `simp only []` reduces the `match` on the pair the `rw` has put there
  simp only []
  generalize Prim.s32 b.index - Prim.s32 a.index = d
  by_cases h1 : d ≤ 0
  · have : ¬ (0 < d) := by omega
    simp [h1, this]
  · have h1' : 0 < d := by omega
    by_cases h2 : d > 2147483647
    · have : ¬ (d ≤ 2147483647) := by omega
      simp [h1, h2, this]
    · have h2' : d ≤ 2147483647 := by omega
      simp only [h1, h2, h1', h2', decide_false, decide_true, Bool.or_self, Bool.false_eq_true, if_false,
        Bool.and_self, Bool.true_and, bind_run, hb, ha, lift_ok_run]
      cases F64.le b.off a.off <;> simp

theorem go_cons (a b : Impl.V1.GMarker) (rest : List Impl.V1.GMarker) :
    Impl.V1.validGrid.go (a :: b :: rest) = (stepOk a b && Impl.V1.validGrid.go (b :: rest)) := by
  simp only [Impl.V1.validGrid.go, stepOk]

theorem validateGrid_loop (g : List Impl.V1.GMarker) (hg : g.length < 18446744073709551616) :
    ∀ (rest pre : List Impl.V1.GMarker) (a : Impl.V1.GMarker), g = pre ++ a :: rest → ∀ (size : Nat) (out : Bytes),
      Wr.forIdxFrom (validateGrid_body1 g) (pre.length + 1) rest.length size out =
        if Impl.V1.validGrid.go (a :: rest) then .ok ((), out) else .throw .invalid_argument := by
  intro rest
  induction rest with
  | nil => intro pre a _ size out; simp [Wr.forIdxFrom, Impl.V1.validGrid.go]
  | cons b rest ih =>
    intro pre a hpre size out
    have hlen : pre.length + 1 + 1 ≤ g.length := by rw [hpre]; simp; omega
    have hb : Cxx.vecGet g (pre.length + 1) = .ok b := by rw [hpre]; exact Cxx.vecGet_append_cons_succ _ _ _ _
    have ha : Cxx.vecGet g (Cxx.U64.sub (pre.length + 1) 1) = .ok a := by
      rw [Cxx.u64_sub_one _ (by omega), hpre]; exact Cxx.vecGet_append_cons _ _ _
    simp only [List.length_cons, Wr.forIdxFrom, bind_run]
    rw [validateGrid_body1_run g _ a b hb ha, go_cons]
    cases hs : stepOk a b
    · simp
    · have := ih (pre ++ [a]) b (by rw [hpre]; simp) size out
      simp only [List.length_append, List.length_cons, List.length_nil, Nat.zero_add] at this
      simp only [if_true, Bool.true_and, this]

/-- `validate_beatgrid`: returns without writing when the grid is valid, else throws `invalid_argument`. -/
theorem validateGrid_eq (g : List Impl.V1.GMarker) (size : Nat) (out : Bytes) :
    validateGrid g size out = if Impl.V1.validGrid g then .ok ((), out) else .throw .invalid_argument := by
  unfold validateGrid
  match g with
  | [] => simp [Wr.forIdxFrom, Impl.V1.validGrid]
  | [a] => simp [Impl.V1.validGrid]
  | a :: b :: rest =>
    by_cases hl : (a :: b :: rest).length > 32768
    · have q1 : 32768 < rest.length + 1 + 1 := by simpa using hl
      have q2 : ¬ (rest.length ≤ 32766) := by omega
      simp [Impl.V1.validGrid, q1, q2]
    · have h1 : ¬ ((a :: b :: rest).length = 1) := by simp
      have h2 : (a :: b :: rest).length ≤ 32768 := by omega
      have := validateGrid_loop (a :: b :: rest) (by omega) (b :: rest) [] a rfl size out
      simp only [List.length_nil, Nat.zero_add] at this
      simp only [h1, hl, decide_false, Bool.or_self, Bool.false_eq_true, if_false]
      have e : (a :: b :: rest).length - 1 = (b :: rest).length := by simp
      rw [e, this]
      have q : rest.length ≤ 32766 := by simp at h2; omega
      simp [Impl.V1.validGrid, q]

theorem u32OfInt_zero : Prim.u32OfInt 0 = 0 := by decide

/-- One iteration of `encode_beatgrid` at marker `a` writes its wire marker; `d` is the `int` difference to the
next marker's index (checked), 0 on the last. -/
theorem encodeGrid_body1_writes (g : List Impl.V1.GMarker) (hg : g.length < 18446744073709551616)
    (pre : List Impl.V1.GMarker) (a : Impl.V1.GMarker) (rest : List Impl.V1.GMarker) (hpre : g = pre ++ a :: rest)
    (d : Int) (hd : match rest with
      | [] => d = 0
      | b :: _ => Chk.sub32 (Prim.s32 b.index) (Prim.s32 a.index) = .ok d) :
    Writes (encodeGrid_body1 g pre.length)
      (V2.marker.enc ⟨a.off, Prim.u64OfInt (Prim.s32 a.index), Prim.u32OfInt d, 0⟩) := by
  have hlen : pre.length + rest.length + 1 = g.length := by rw [hpre]; simp; omega
  have ha : Cxx.vecGet g pre.length = .ok a := by rw [hpre]; exact Cxx.vecGet_append_cons _ _ _
  unfold encodeGrid_body1
  rw [Cxx.U64.sub_small _ _ (by omega) hg]
  -- the reads of `beatgrid[..]` and the checked difference do not write: what is left is four `put`s
  cases rest with
  | nil =>
    have : ¬ pre.length < g.length - 1 := by simp at hlen; omega
    simp only [this, decide_false, Bool.false_eq_true, if_false, hd, ha, lift_ok_bind, pure_bind,
      CxxPrims.encode_double_le_eq, CxxPrims.encode_int64_le_eq, CxxPrims.encode_int32_le_eq, u32OfInt_zero]
    refine Writes.congr ((Writes.put _).bind <| (Writes.put _).bind <| (Writes.put _).bind (Writes.put _)) ?_
    simp [V2.marker, map, pair]
  | cons b rest =>
    have : pre.length < g.length - 1 := by simp at hlen; omega
    have hb : Cxx.vecGet g (pre.length + 1) = .ok b := by rw [hpre]; exact Cxx.vecGet_append_cons_succ _ _ _ _
    obtain ⟨rfl, h1, h2⟩ := Chk.sub32_eq_ok hd
    simp only [this, decide_true, if_true, Cxx.u64_add_one _ (show pre.length + 1 < 18446744073709551616 by omega),
      hb, ha, lift_ok_bind, chkI32_eq_pure h1 h2, pure_bind,
      CxxPrims.encode_double_le_eq, CxxPrims.encode_int64_le_eq, CxxPrims.encode_int32_le_eq, u32OfInt_zero]
    refine Writes.congr ((Writes.put _).bind <| (Writes.put _).bind <| (Writes.put _).bind (Writes.put _)) ?_
    simp [V2.marker, map, pair]

theorem toWireC_cons_ok {a b : Impl.V1.GMarker} {rest : List Impl.V1.GMarker} {l : List V2.Marker}
    (h : Impl.V1.toWireC (a :: b :: rest) = .ok l) :
    ∃ d l', Chk.sub32 (Prim.s32 b.index) (Prim.s32 a.index) = .ok d ∧ Impl.V1.toWireC (b :: rest) = .ok l' ∧
      l = ⟨a.off, Prim.u64OfInt (Prim.s32 a.index), Prim.u32OfInt d, 0⟩ :: l' := by
  simp only [Impl.V1.toWireC] at h
  cases hd : Chk.sub32 (Prim.s32 b.index) (Prim.s32 a.index) with
  | throw e => rw [hd] at h; simp at h
  | ub u => rw [hd] at h; simp at h
  | ok d =>
    rw [hd] at h
    cases ht : Impl.V1.toWireC (b :: rest) with
    | throw e => rw [ht] at h; simp at h
    | ub u => rw [ht] at h; simp at h
    | ok l' =>
      rw [ht] at h
      simp only [Res.ok.injEq] at h
      exact ⟨d, l', rfl, rfl, h.symm⟩

theorem encodeGrid_loop (g : List Impl.V1.GMarker) (hg : g.length < 18446744073709551616) :
    ∀ (rest pre : List Impl.V1.GMarker) (l : List V2.Marker), g = pre ++ rest → Impl.V1.toWireC rest = .ok l →
      Writes (Wr.forIdxFrom (encodeGrid_body1 g) pre.length rest.length) (l.flatMap V2.marker.enc)
  | [], pre, l, _, hl => by
    simp only [Impl.V1.toWireC, Res.ok.injEq] at hl
    subst hl
    exact Writes.pure
  | [a], pre, l, hpre, hl => by
    simp only [Impl.V1.toWireC, Res.ok.injEq] at hl
    subst hl
    exact Writes.congr ((encodeGrid_body1_writes g hg pre a [] hpre 0 rfl).bind Writes.pure) (by simp [u32OfInt_zero])
  | a :: b :: rest, pre, l, hpre, hl => by
    obtain ⟨d, l', hd, ht, rfl⟩ := toWireC_cons_ok hl
    have ih := encodeGrid_loop g hg (b :: rest) (pre ++ [a]) l' (by rw [hpre]; simp) ht
    rw [show (pre ++ [a]).length = pre.length + 1 by simp] at ih
    exact (encodeGrid_body1_writes g hg pre a (b :: rest) hpre d hd).bind ih

theorem toWireC_length : ∀ (g : List Impl.V1.GMarker) (l : List V2.Marker), Impl.V1.toWireC g = .ok l →
    l.length = g.length
  | [], l, h => by simp only [Impl.V1.toWireC, Res.ok.injEq] at h; subst h; rfl
  | [a], l, h => by simp only [Impl.V1.toWireC, Res.ok.injEq] at h; subst h; rfl
  | a :: b :: rest, l, h => by
    obtain ⟨d, l', _, ht, rfl⟩ := toWireC_cons_ok h
    simp [toWireC_length (b :: rest) l' ht]

/-- `encode_beatgrid(beatgrid, ptr)`: the count and the wire markers, when no `int` difference of neighbouring
indices overflows (`toWireC g = ok l`; guaranteed by `validate_beatgrid`, `ArithZ.validGrid_toWireC`).
Full statement (for every `g`): an overflowing difference is `ub signed_overflow` in both models; it is not
stated as an equality of writers because the hand model computes all differences before the first write. -/
theorem encodeGrid_writes_partial (g : List Impl.V1.GMarker) (hg : g.length < 9223372036854775808)
    (l : List V2.Marker) (hl : Impl.V1.toWireC g = .ok l) :
    Writes (encodeGrid g) (V2.grid.enc l) := by
  have hlen := toWireC_length g l hl
  unfold encodeGrid
  simp only [CxxPrims.encode_int64_be_eq, count_bits]
  have := encodeGrid_loop g (by omega) g [] l rfl hl
  simp only [List.length_nil] at this
  refine Writes.congr ((Writes.put _).bind this) ?_
  simp [V2.grid, counted, encL_eq_flatMap, hlen]

theorem validGrid_length (g : List Impl.V1.GMarker) (h : Impl.V1.validGrid g = true) : g.length ≤ 32768 := by
  match g, h with
  | [], _ => simp
  | [a], h => simp [Impl.V1.validGrid] at h
  | a :: b :: rest, h =>
    simp only [Impl.V1.validGrid, Bool.and_eq_true, decide_eq_true_eq] at h
    exact h.1

theorem encodeBeat_eq : encodeBeat = Impl.V1.encodeBeat := by
  funext v
  unfold encodeBeat Impl.V1.encodeBeat
  cases h1 : Impl.V1.validGrid v.dflt
  · simp only [Wr.pre, bind_run, validateGrid_eq, h1, Bool.false_eq_true, if_false, Bool.not_false, Bool.true_or, if_true]
  · cases h2 : Impl.V1.validGrid v.adj
    · simp only [Wr.pre, bind_run, validateGrid_eq, h1, h2, if_true, Bool.false_eq_true, if_false, Bool.not_true,
        Bool.not_false, Bool.or_true, if_true]
    · have n1 := validGrid_length _ h1
      have n2 := validGrid_length _ h2
      have w1 := ArithZ.validGrid_toWireC _ h1
      have w2 := ArithZ.validGrid_toWireC _ h2
      have l1 := toWireC_length _ _ w1
      have l2 := toWireC_length _ _ w2
      rw [pre_ok (a := Cxx.U64.add 33 (Cxx.U64.mul 24 (Cxx.U64.add v.dflt.length v.adj.length)))
        _ (by simp only [bind_run, validateGrid_eq, h1, h2, if_true, pure_run])]
      simp only [w1, w2, Bool.not_true, Bool.or_self, Bool.false_eq_true, if_false]
      have hl : (V2.beat.enc ⟨v.sampleRate.getD 0, v.sampleCount.getD 0, 1, Impl.V1.toWire v.dflt,
          Impl.V1.toWire v.adj⟩).length = 33 + 24 * (v.dflt.length + v.adj.length) := by
        rw [Impl.V2.beat_enc_length]; simp only [l1, l2]
      rw [Impl.V2.writeInto_exact hl]
      simp (disch := omega) only [Cxx.U64.add_small, Cxx.U64.mul_small]
      refine run_of_writesEnd_full (e := .runtime_error) ?_ hl (by omega)
      simp only [CxxPrims.encode_double_be_eq, CxxPrims.encode_uint8_eq, F64.zero]
      refine WritesEnd.congr
        ((Writes.put _).bindEnd <| (Writes.put _).bindEnd <| (Writes.put _).bindEnd <|
          (encodeGrid_writes_partial _ (by omega) _ w1).bindEnd <|
          (encodeGrid_writes_partial _ (by omega) _ w2).bindEnd <| WritesEnd.endCheck _) ?_
      simp [V2.beat, map, pair, u8]

end Gen.ImplV1
end EngineModel
