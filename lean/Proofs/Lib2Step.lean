/-
Composite 2.x library: the shape every call of the alphabet has (`Shape`: an observer or a write not attempted, one
call of the crate package, one call of the track package, `database::remove_track`, Engine's insert into its prepare
list), established once by cases over the composite `step` — whose type does not distinguish observers from
mutators — and what follows from it for ONE call, whatever the call answers (that observers leave the whole state as it
was is C16Lib2): a call that does not return normally leaves every table as it was, the Track table moves as the track package's
(`tdb_step`), the crate view as the crate package's (`crates_step`), `LibCore` / `LibInv` are kept.
-/
import Proofs.Lib2Inv
import Proofs.Machine

namespace EngineModel.Lib.V2
open EngineModel EngineModel.Db.Chain EngineModel.TracksV2
open EngineModel.Db.V2 (memOp apiOp)
open EngineModel.Table (Schema2)

theorem withCrates_self (L : Lib2) : L.withCrates L.crates = L := rfl

theorem trackQuery_fst {α} (t : Nat) (q : Row → Res α) (f : α → Out) (L : Lib2) : (trackQuery t q f L).1 = L := by
  simp only [trackQuery, bind, M2.bind, M2.track, selectRow]
  cases L.tdb.find t with
  | none => rfl
  | some r => simp only []; cases q r.row <;> rfl

theorem step_crateTracks (ops : FOps) (s : Schema2) (L : Lib2) (c : Int) {l : List Int}
    (h : EngineModel.Db.V2.qTracks L.crates c = .ok l) : step ops s L (.crateTracks c) = (L, .ok (.ids l)) := by
  show (L, (EngineModel.Db.V2.qTracks L.crates c).bind fun a => Res.ok (Out.ids a)) = _
  rw [h]; rfl

/-- What the call `c` on `L` is, with what `crateOpOf` / `trackOpOf` say the packages see of it.  Every alternative
says what `step` computes — `step_eq`, or the state (`fst_eq`) and the answer (`snd_eq`) of the package's call, the
answer mapped into `Out` — and what the two functions answer (`crateOp_eq`, `trackOp_eq`); the others add the
side facts the corollaries below ask for, each under its name. -/
inductive Shape (ops : FOps) (s : Schema2) (L : Lib2) (c : Call) : Prop
  /-- an observer; or a write that was not attempted (a foreign entry for a playlist, a prepare-list row for a
  track, that does not exist) -/
  | idle (step_eq : (step ops s L c).1 = L) (crateOp_eq : crateOpOf ops s L c = none) (trackOp_eq : trackOpOf c = none)
  /-- a call of the crate / membership API, or an entry of another database being added -/
  | crate (op : COp) (f : EngineModel.Db.V2.Out → Out)
      (fst_eq : (step ops s L c).1 = (crateCall op L).1)
      (snd_eq : (step ops s L c).2 = (crateCall op L).2.bind fun o => .ok (f o))
      (crateOp_eq : crateOpOf ops s L c = some op) (trackOp_eq : trackOpOf c = none)
      (not_createTrack : op ≠ .createTrack) (not_removeTrack : ∀ t, op ≠ .removeTrack t)
      (mem : c.admissible = true → memOp op = true) (api : c.isApi = true → apiOp op = true)
      (not_observer : c.isObserver = false)
  /-- create_track / update / a setter -/
  | track (op : TOp) (f : Nat → Out)
      (fst_eq : (step ops s L c).1 = (trackCall ops s op L).1)
      (snd_eq : (step ops s L c).2 = (trackCall ops s op L).2.bind fun i => .ok (f i))
      (crateOp_eq : crateOpOf ops s L c = viewOf (isOk (step ops s L c).2) op) (trackOp_eq : trackOpOf c = some op)
      (not_remove : ∀ id, op ≠ .remove id) (not_observer : c.isObserver = false)
  | remove (t : Nat)
      (fst_eq : (step ops s L c).1 = (removeTrack s t L).1)
      (snd_eq : (step ops s L c).2 = (removeTrack s t L).2.bind fun _ => .ok .unit)
      (crateOp_eq : crateOpOf ops s L c = some (.removeTrack (t : Int))) (trackOp_eq : trackOpOf c = some (.remove t))
      (not_observer : c.isObserver = false)
  | plant (t : Nat)
      (step_eq : step ops s L c =
        ({ L with prep := L.prep ++ [⟨L.prepSeq + 1, some t⟩], prepSeq := L.prepSeq + 1 }, .ok .unit))
      (crateOp_eq : crateOpOf ops s L c = none) (trackOp_eq : trackOpOf c = none)
      (live : (L.tdb.find t).isSome = true) (not_observer : c.isObserver = false)

theorem step_shape (ops : FOps) (s : Schema2) (L : Lib2) (c : Call) : Shape ops s L c := by
  cases c
  case createTrack x =>
    exact .track (op := .create x) (f := fun i => .id i) (fst_eq := m2_bind_pure_fst ..) (snd_eq := m2_bind_pure_snd ..)
      (crateOp_eq := rfl) (trackOp_eq := rfl)
      (not_remove := by intro _ h; cases h) (not_observer := rfl)
  case trackUpdate t x =>
    exact .track (op := .update t x) (f := fun _ => .unit) (fst_eq := m2_bind_pure_fst ..) (snd_eq := m2_bind_pure_snd ..)
      (crateOp_eq := rfl) (trackOp_eq := rfl)
      (not_remove := by intro _ h; cases h) (not_observer := rfl)
  case trackSet t σ =>
    exact .track (op := .set t σ) (f := fun _ => .unit) (fst_eq := m2_bind_pure_fst ..) (snd_eq := m2_bind_pure_snd ..)
      (crateOp_eq := rfl) (trackOp_eq := rfl)
      (not_remove := by intro _ h; cases h) (not_observer := rfl)
  case removeTrack t =>
    exact .remove (t := t) (fst_eq := m2_bind_pure_fst ..) (snd_eq := m2_bind_pure_snd ..) (crateOp_eq := rfl)
      (trackOp_eq := rfl) (not_observer := rfl)
  case plantPrepare t =>
    -- the branch of `step` is put by `show`: `simp only [step]` would derive all its equations for this one use
    cases hl : (L.tdb.find t).isSome
    · exact .idle (step_eq := by show (if _ then _ else (L, _) : Lib2 × Res Out).1 = L; rw [hl]; rfl)
        (crateOp_eq := rfl) (trackOp_eq := rfl)
    · exact .plant (t := t) (step_eq := by show (if _ then _ else _ : Lib2 × Res Out) = _; rw [hl]; rfl)
        (crateOp_eq := rfl) (trackOp_eq := rfl) (live := hl) (not_observer := rfl)
  case foreignEntry c t u =>
    cases hv : EngineModel.Db.V2.qValid L.crates c
    · exact .idle (step_eq := by show (if _ then _ else (L, _) : Lib2 × Res Out).1 = L; rw [hv]; rfl)
        (crateOp_eq := by show (if _ then _ else none) = none; rw [hv]; rfl) (trackOp_eq := rfl)
    · have hs : step ops s L (.foreignEntry c t u) =
          (crateCall (.peAddBack c t u false) >>= fun _ => (pure Out.unit : M2 Out)) L := by
        show (if _ then _ else _ : Lib2 × Res Out) = _
        rw [hv]
        rfl
      -- `mem := id`: `Call.admissible (.foreignEntry c t u)` and `memOp (.peAddBack c t u false)` unfold to one term
      exact .crate (op := .peAddBack c t u false) (f := fun _ => .unit)
        (fst_eq := by rw [hs]; exact m2_bind_pure_fst ..) (snd_eq := by rw [hs]; exact m2_bind_pure_snd ..)
        (crateOp_eq := by show (if _ then _ else none) = _; rw [hv]; rfl) (trackOp_eq := rfl)
        (not_createTrack := by intro h; cases h) (not_removeTrack := by intro _ h; cases h)
        (mem := id) (api := by intro h; cases h) (not_observer := rfl)
  case trackGet t g => exact .idle (step_eq := trackQuery_fst ..) (crateOp_eq := rfl) (trackOp_eq := rfl)
  case trackSnapshot t =>
    exact .idle (crateOp_eq := rfl) (trackOp_eq := rfl) (step_eq := by
      show (match L.tdb.find t with | some _ => _ | none => _ : Lib2 × Res Out).1 = L
      cases L.tdb.find t <;> rfl)
  case createRootCrate | createRootCrateAfter | removeCrate | crateAddTrack | crateRemoveTrack | crateClearTracks
      | crateCreateSub | crateCreateSubAfter | crateSetName | crateSetParent =>
    exact .crate (fst_eq := m2_bind_pure_fst ..) (snd_eq := m2_bind_pure_snd ..) (crateOp_eq := rfl) (trackOp_eq := rfl)
      (not_createTrack := by intro h; cases h) (not_removeTrack := by intro _ h; cases h)
      (mem := fun _ => rfl) (api := fun _ => rfl) (not_observer := rfl)
  -- what is left are observers that answer from `L`; a constructor added to `Call` lands here too if the three `rfl`s hold
  all_goals exact .idle (step_eq := rfl) (crateOp_eq := rfl) (trackOp_eq := rfl)

/-- **A call that does not return normally leaves EVERY table of the library as it was** (statement-level
failure semantics of the package models + the transaction scope of `remove_track`). -/
theorem failed_unchanged (ops : FOps) (s : Schema2) {L : Lib2} (hI : Inv L.tdb) (c : Call)
    (h : ∀ v, (step ops s L c).2 ≠ .ok v) : (step ops s L c).1 = L := by
  match step_shape ops s L c with
  | .idle (step_eq := hr) .. => exact hr
  | .crate (op := op) (fst_eq := h1) (snd_eq := h2) .. =>
    rw [h2] at h; rw [h1]; exact crateCall_failed L op (notOk_of_bind_ok h)
  | .track (op := op) (fst_eq := h1) (snd_eq := h2) .. =>
    rw [h2] at h; rw [h1]; exact trackCall_failed hI ops op (notOk_of_bind_ok h)
  | .remove (t := t) (fst_eq := h1) (snd_eq := h2) .. =>
    rw [h2] at h; rw [h1]; exact removeTrack_failed s t L (notOk_of_bind_ok h)
  | .plant (step_eq := hr) .. => rw [hr] at h; exact absurd rfl (h _)

theorem tdb_step (ops : FOps) (s : Schema2) (L : Lib2) (c : Call) :
    (step ops s L c).1.tdb =
      match trackOpOf c with
      | some op => (L.tdb.step ops (toT s) op).1
      | none => L.tdb := by
  match step_shape ops s L c with
  | .idle (step_eq := hr) (trackOp_eq := ht) .. => rw [ht, hr]
  | .crate (fst_eq := hr) (trackOp_eq := ht) .. => rw [ht, hr]; rfl
  | .track (fst_eq := hr) (trackOp_eq := ht) .. => rw [ht, hr]; exact trackCall_tdb ..
  | .remove (fst_eq := hr) (trackOp_eq := ht) .. => rw [ht, hr]; exact removeTrack_tdb ..
  | .plant (step_eq := hr) (trackOp_eq := ht) .. => rw [ht, hr]

theorem crates_step (ops : FOps) (s : Schema2) {L : Lib2} (hI : Inv L.tdb) (c : Call) :
    (step ops s L c).1.crates = viewed L.crates (crateOpOf ops s L c) := by
  match step_shape ops s L c with
  | .idle (step_eq := hr) (crateOp_eq := hc) .. => rw [hc, hr]; rfl
  | .crate (op := op) (fst_eq := hr) (crateOp_eq := hc) (not_createTrack := h1) (not_removeTrack := h2) .. =>
    rw [hc, hr]; exact crateCall_crates L op h1 h2
  | .track (op := op) (fst_eq := hr) (snd_eq := hs) (crateOp_eq := hc) (not_remove := hop) .. =>
    rw [hc, hr, hs, isOk_bind_ok]; exact trackCall_crates hI ops op hop
  | .remove (t := t) (fst_eq := hr) (crateOp_eq := hc) .. => rw [hc, hr]; exact removeTrack_crates s t L
  | .plant (step_eq := hr) (crateOp_eq := hc) .. => rw [hc, hr]; rfl

/-- what the crate package sees of an admissible call is in the alphabet its history theorems range over (`memOp`),
of a public call in the public one (`apiOp`) -/
theorem crateOpOf_ops {ops : FOps} {s : Schema2} {L : Lib2} {c : Call} {op : COp} (h : crateOpOf ops s L c = some op) :
    (c.admissible = true → memOp op = true) ∧ (c.isApi = true → apiOp op = true) := by
  match step_shape ops s L c with
  | .idle (crateOp_eq := hc) .. => rw [hc] at h; cases h
  | .crate (crateOp_eq := hc) (mem := hm) (api := ha) .. => rw [hc] at h; cases h; exact ⟨hm, ha⟩
  | .track (crateOp_eq := hc) .. => rw [hc] at h; rw [viewOf_eq_some h]; exact ⟨fun _ => rfl, fun _ => rfl⟩
  | .remove (crateOp_eq := hc) .. => rw [hc] at h; cases h; exact ⟨fun _ => rfl, fun _ => rfl⟩
  | .plant (crateOp_eq := hc) .. => rw [hc] at h; cases h

theorem admissible_of_isApi {c : Call} (h : c.isApi = true) : c.admissible = true := by
  unfold Call.admissible
  split
  · cases h
  · rfl

/-- **`LibCore` is inductive over the public alphabet AND foreign entries**, whatever the call answers. -/
theorem libCore_step (ops : FOps) (s : Schema2) {L : Lib2} (h : LibCore s L) (c : Call) (ha : c.admissible = true) :
    LibCore s (step ops s L c).1 := by
  match step_shape ops s L c with
  | .idle (step_eq := hr) .. => exact hr.symm ▸ h
  | .crate (op := op) (fst_eq := hr) (not_createTrack := h1) (not_removeTrack := h2) (mem := hm) .. =>
    rw [hr]; exact libCore_crateCall h op h1 h2 (hm ha)
  | .track (op := op) (fst_eq := hr) (not_remove := hop) .. => rw [hr]; exact libCore_trackCall h ops op hop
  | .remove (t := t) (fst_eq := hr) .. => rw [hr]; exact libCore_removeTrack h t
  | .plant (step_eq := hr) (live := hl) .. =>
    rw [hr]
    exact { h with
      prep := fun r hr t' ht' => by
        rcases List.mem_append.mp hr with hr | hr
        · exact h.prep r hr t' ht'
        · cases List.mem_singleton.mp hr; cases ht'
          exact (find_isSome_iff L.tdb _).mp hl }

/-- **`LibInv` is inductive over the whole public alphabet**, whatever the call answers. -/
theorem libInv_step (ops : FOps) (s : Schema2) {L : Lib2} (h : LibInv s L) (c : Call) (ha : c.isApi = true) :
    LibInv s (step ops s L c).1 where
  toLibCore := libCore_step ops s h.toLibCore c (admissible_of_isApi ha)
  own := by
    obtain ⟨S, hS⟩ := h.cr
    rw [crates_step ops s h.tr c]
    cases hc : crateOpOf ops s L c with
    | none => exact h.own
    | some op => exact EngineModel.Db.V2.allOwn_step hS h.own op ((crateOpOf_ops hc).2 ha)

theorem isRun (ops : FOps) (s : Schema2) : Machine.IsRun (step ops s) (run ops s) := ⟨fun _ => rfl, fun _ _ _ => rfl⟩

theorem run_induction (ops : FOps) (s : Schema2) {P : Lib2 → Prop} {A : Call → Bool}
    (hstep : ∀ L c, P L → A c = true → P (step ops s L c).1) {L : Lib2} (h : P L) (hist : List Call)
    (ha : hist.all A = true) : P (run ops s L hist) :=
  (isRun ops s).inv_of hstep hist L h (List.all_eq_true.mp ha)

theorem libCore_run (ops : FOps) (s : Schema2) {L : Lib2} (h : LibCore s L) (hist : List Call)
    (ha : hist.all Call.admissible = true) : LibCore s (run ops s L hist) :=
  run_induction ops s (P := LibCore s) (fun _ c h => libCore_step ops s h c) h hist ha

theorem libInv_run (ops : FOps) (s : Schema2) {L : Lib2} (h : LibInv s L) (hist : List Call)
    (ha : hist.all Call.isApi = true) : LibInv s (run ops s L hist) :=
  run_induction ops s (P := LibInv s) (fun _ c h => libInv_step ops s h c) h hist ha

end EngineModel.Lib.V2
