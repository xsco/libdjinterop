/-
`WfRaw db = true ↔ Inv db`: the executable well-formedness predicate of C11 (what
the tie evaluates on the raw rows of the real database after every step) is exactly
the invariant that every operation of the schema-1.x model preserves and from which
the query agreements of C07 / C08 follow.  `Reading db` is what the fourteen checks say,
as propositions (`wfRaw_iff`); `Inv.reading` and `Reading.inv` relate it to the invariant,
and what else is said of a dump that passes (`fkViolations db = []`, no failing conjunct)
is read off it.
-/
import Proofs.CratesV1MemSim

namespace EngineModel.Api.CratesV1
open EngineModel.Pure.Detect EngineModel.Spec

variable {db : Db}

theorem nodupB_iff {α} [BEq α] [LawfulBEq α] (l : List α) : nodupB l = true ↔ l.Nodup := by
  induction l with
  | nil => simp [nodupB]
  | cons a l ih => simp [nodupB, ih]

/-- What the fourteen checks say, in their order. -/
structure Reading (db : Db) : Prop where
  idsNodup : (ids db).Nodup
  namesValid : ∀ r ∈ db.crate, Forest.validName r.title = true
  cplNodup : (db.cpl.map (·.1)).Nodup
  cplTotal : ∀ c ∈ ids db, c ∈ db.cpl.map (·.1)
  cplLive : ∀ r ∈ db.cpl, r.1 ∈ ids db ∧ r.2 ∈ ids db
  acyclic : ∀ c ∈ ids db, (absForest db).isAncestor c c = false
  chNodup : db.ch.Nodup
  chLive : ∀ r ∈ db.ch, r.1 ∈ ids db ∧ r.2 ∈ ids db
  closure : ∀ a ∈ ids db, ∀ c ∈ ids db, ((a, c) ∈ db.ch ↔ (absForest db).isAncestor a c = true)
  paths : ∀ r ∈ db.crate, r.path = pathOf (absForest db) r.id
  ctlNodup : db.ctl.Nodup
  ctlCrates : ∀ r ∈ db.ctl, r.1 ∈ ids db
  ctlTracks : ∀ r ∈ db.ctl, liveTrack db r.2
  trackNodup : (db.track.map (·.id)).Nodup

theorem beq_true_iff_iff {a b : Bool} : (a == b) = true ↔ (a = true ↔ b = true) := by
  cases a <;> cases b <;> decide

theorem wfRaw_iff (db : Db) : WfRaw db = true ↔ Reading db := by
  simp only [WfRaw, wfChecks, crate_map_id, List.all_cons, List.all_nil, Bool.and_true, Bool.and_eq_true, nodupB_iff, List.all_eq_true,
    beq_true_iff_iff, List.contains_iff_mem, Bool.not_eq_true', mem_liveIds]
  -- `beq_iff_eq` only now: on the closure check it would turn the `==` of two Bools into an equation of Bools
  simp only [beq_iff_eq]
  exact ⟨fun ⟨h1, h2, h3, h4, h5, h6, h7, h8, h9, h10, h11, h12, h13, h14⟩ =>
      ⟨h1, h2, h3, h4, h5, h6, h7, h8, h9, h10, h11, h12, h13, h14⟩,
    fun ⟨h1, h2, h3, h4, h5, h6, h7, h8, h9, h10, h11, h12, h13, h14⟩ =>
      ⟨h1, h2, h3, h4, h5, h6, h7, h8, h9, h10, h11, h12, h13, h14⟩⟩

theorem Inv.reading (h : Inv db) : Reading db :=
  have hf := h.toFInv
  { idsNodup := hf.idsNodup, namesValid := h.namesValid, cplNodup := hf.cplNodup
    cplTotal := fun c => (hf.cplTotal c).mpr
    cplLive := fun r hr => ⟨(hf.cplTotal r.1).mp (mem_map_fst hr), hf.cplParentLive r hr⟩
    acyclic := fun c _ => Bool.eq_false_iff.mpr fun hc => hf.chIrrefl c ((isAncestor_iff hf c c).mp hc)
    chNodup := hf.chNodup, chLive := hf.chLive
    closure := fun a _ c _ => (isAncestor_iff hf a c).symm
    paths := path_eq_pathOf h
    ctlNodup := h.ctlNodup, ctlCrates := fun r hr => (h.ctlLive r hr).1, ctlTracks := fun r hr => (h.ctlLive r hr).2
    trackNodup := h.trackNodup }

theorem wfRaw_of_inv (h : Inv db) : WfRaw db = true := (wfRaw_iff db).mpr h.reading

/-- `PRAGMA foreign_key_check` reports nothing iff no row of the three tables names a missing crate or track. -/
theorem fkViolations_eq_nil (db : Db) : fkViolations db = [] ↔
    (∀ r ∈ db.cpl, r.1 ∈ ids db ∧ r.2 ∈ ids db) ∧ (∀ r ∈ db.ch, r.1 ∈ ids db ∧ r.2 ∈ ids db) ∧
    ∀ r ∈ db.ctl, r.1 ∈ ids db ∧ r.2 ∈ db.track.map (·.id) := by
  simp only [fkViolations, crate_map_id, List.append_eq_nil_iff, List.map_eq_nil_iff, List.filter_eq_nil_iff, Bool.not_eq_true',
    Bool.not_eq_false, Bool.and_eq_true, List.contains_iff_mem, and_assoc]

theorem Reading.fk_clean (w : Reading db) : fkViolations db = [] :=
  (fkViolations_eq_nil db).mpr ⟨w.cplLive, w.chLive, fun r hr =>
    ⟨w.ctlCrates r hr, let ⟨_, ht, e, _⟩ := w.ctlTracks r hr; e ▸ List.mem_map_of_mem ht⟩⟩

theorem fk_clean (h : Inv db) : fkViolations db = [] := h.reading.fk_clean

/-- The conjuncts a driver prints as failing are none iff the conjunction is true. -/
theorem failing_eq_nil {cs : List (String × Bool)} : ((cs.filter fun c => !c.2).map (·.1)) = [] ↔ cs.all (·.2) = true := by
  simp only [List.map_eq_nil_iff, List.filter_eq_nil_iff, List.all_eq_true, Bool.not_eq_true', Bool.not_eq_false]

theorem wfFailures_of_inv (h : Inv db) : wfFailures db = [] := failing_eq_nil.mpr (wfRaw_of_inv h)

theorem Reading.inv (w : Reading db) : Inv db := by
  have hcplTotal : ∀ c, c ∈ db.cpl.map (·.1) ↔ c ∈ ids db := fun c =>
    ⟨fun hc => let ⟨r, hr, e⟩ := List.mem_map.mp hc; e ▸ (w.cplLive r hr).1, w.cplTotal c⟩
  have hparLive : ∀ {c p}, Par db c p → c ∈ ids db ∧ p ∈ ids db := fun hp => w.cplLive _ hp.1
  have hparOf : ∀ c p, (absForest db).parentOf c = some p ↔ Par db c p := fun c p => by
    rw [abs_parentOf_of w.idsNodup w.cplNodup (fun c => (hcplTotal c).mp), parentOf_eq_some_of_nodup w.cplNodup]
  have hF : FInv db := by
    refine ⟨w.idsNodup, w.cplNodup, hcplTotal, fun r hr => (w.cplLive r hr).2, w.chNodup, w.chLive, ?_, ?_⟩
    · -- chStep: the Spec's closure unfolds one step at the parent, and the table is that closure
      intro a c
      constructor
      · intro hm
        obtain ⟨ha, hc⟩ := w.chLive _ hm
        obtain ⟨p, hp, hor⟩ := Forest.Forest.isAncestor_unfold.mp ((w.closure a ha c hc).mp hm)
        have hpar := (hparOf c p).mp hp
        exact ⟨p, hpar, hor.imp Eq.symm (w.closure a ha p (hparLive hpar).2).mpr⟩
      · rintro ⟨p, hpar, hor⟩
        obtain ⟨hc, hp⟩ := hparLive hpar
        have ha : a ∈ ids db := hor.elim (fun e => e ▸ hp) fun hm => (w.chLive _ hm).1
        exact (w.closure a ha c hc).mpr
          (Forest.Forest.isAncestor_unfold.mpr ⟨p, (hparOf c p).mpr hpar, hor.imp Eq.symm (w.closure a ha p hp).mp⟩)
    · intro c hm
      have hc := (w.chLive _ hm).1
      have := (w.closure c hc c hc).mp hm
      rw [w.acyclic c hc] at this
      cases this
  exact ⟨hF, w.namesValid, pathStep_of_pathsOk hF w.paths, w.ctlNodup, fun r hr => ⟨w.ctlCrates r hr, w.ctlTracks r hr⟩,
    w.trackNodup⟩

theorem inv_of_wfRaw (hw : WfRaw db = true) : Inv db := ((wfRaw_iff db).mp hw).inv

theorem all_contains_iff {l ids : List Id} : (l.all fun c => ids.contains c) = true ↔ ∀ c ∈ l, c ∈ ids := by
  simp only [List.all_eq_true, List.contains_iff_mem]

theorem wfRaw_iff_inv (db : Db) : WfRaw db = true ↔ Inv db := ⟨inv_of_wfRaw, wfRaw_of_inv⟩

end EngineModel.Api.CratesV1
