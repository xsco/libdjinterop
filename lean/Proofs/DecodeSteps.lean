/-
C05 "decoders terminate promptly on arbitrary bytes": iteration bounds for the
count-prefixed loops of the blob decoders modelled in EngineModel/Impl/V2.lean
(schema 2.x) and EngineModel/Impl/V1.lean (schema 1.x).

Termination itself is structural (`Cur.forN body n` recurses on `n`), so the content is a bound
on `n`: a decoder reads a 64-bit count from the payload and then runs `forN body count`.  For
every such loop:
 * `*_shape`: the decoder of the Model equals
   `if <guards pass on bs> then <forN body (count bs) on bs.drop k, then the tail> else throw invalid_argument`,
   with the guards (`loopsEntered`, `cuesEntered`, `gridEntered`, `grid1Entered`,
   `waveEntered`) and the counts as explicit definitions;
 * `*Entered_bound`: `count * w ≤ remaining bytes`, `w` the minimum size of an entry (23 for a loop,
   13 for a quick cue, 24 for a marker, 3 / 6 for a waveform entry), from the quotient test
   `n > (end - ptr) / w` by `count_mul_le_of_guard`; the 1.x grid tests the product `24 * count`
   instead and moreover wants count ≤ 32768 (`grid1Entered_bound`);
 * `decode_steps_*`: the number of executions of the loop body (`forNIters`, which is the tick
   count of the instrumented loop `forNTicks`, whose result is that of `forN`) over the whole
   decoder is at most `bs.length / w`.  For the beat data both grids together are covered: the
   second grid is decoded on what the first one left (`decodeGrid_consumes`,
   `decodeGrid1_consumes`, `two_grids_steps`), and a 1.x grid reads at most 32768 markers
   whatever the length (`itersGridV1_le_abs`).  So an absurd embedded count is rejected by the
   guard before the loop, in constant time.

Decoders without a loop (2.x and 1.x `decodeTrack`, 2.x `decodeOvw`) have nothing to count; the
reads inside an iteration are counted in Proofs/DecodeReads.lean.  Not claimed: anything about
the cost of the C++ standard library calls (`vector::reserve`, `push_back`, `string::assign`) or
of zlib inflation; the statement is about the Model's loops.
-/
import Proofs.ImplV1Beat

namespace EngineModel
namespace Steps
open Codec Cur

/-- number of times `forN body n` runs `body` on input `bs` (the loop stops at the
first run that is not `ok`) -/
def forNIters {α} (body : Cur α) : Nat → Bytes → Nat
  | 0, _ => 0
  | n + 1, bs => match body bs with
    | .ok (_, r) => 1 + forNIters body n r
    | _ => 1

theorem forNIters_le {α} (body : Cur α) (n : Nat) (bs : Bytes) : forNIters body n bs ≤ n := by
  induction n generalizing bs with
  | zero => simp [forNIters]
  | succ n ih =>
    simp only [forNIters]
    split
    · rename_i a r h
      have := ih r
      omega
    · omega

def forNTicks {α} (body : Cur α) : Nat → Bytes → Res (List α × Bytes) × Nat
  | 0, bs => (.ok ([], bs), 0)
  | n + 1, bs => match body bs with
    | .ok (a, r) =>
      ((match (forNTicks body n r).1 with
        | .ok (l, r') => .ok (a :: l, r')
        | .throw e => .throw e
        | .ub u => .ub u), 1 + (forNTicks body n r).2)
    | .throw e => (.throw e, 1)
    | .ub u => (.ub u, 1)

theorem forNTicks_fst {α} (body : Cur α) (n : Nat) (bs : Bytes) :
    (forNTicks body n bs).1 = forN body n bs := by
  induction n generalizing bs with
  | zero => rfl
  | succ n ih =>
    simp only [forNTicks, forN, bind_run]
    cases h : body bs with
    | ok p =>
      obtain ⟨a, r⟩ := p
      simp only [ih r]
      cases h2 : forN body n r with
      | ok q => obtain ⟨l, r'⟩ := q; simp
      | throw e => simp
      | ub u => simp
    | throw e => simp
    | ub u => simp

theorem forNTicks_snd {α} (body : Cur α) (n : Nat) (bs : Bytes) :
    (forNTicks body n bs).2 = forNIters body n bs := by
  induction n generalizing bs with
  | zero => rfl
  | succ n ih =>
    simp only [forNTicks, forNIters]
    cases h : body bs with
    | ok p => obtain ⟨a, r⟩ := p; simp only [ih r]
    | throw e => rfl
    | ub u => rfl

theorem forN_ok_induction {α} {body : Cur α} {P : Nat → Bytes → List α → Bytes → Prop}
    (zero : ∀ bs, P 0 bs [] bs)
    (succ : ∀ n bs a r1 l r, body bs = .ok (a, r1) → forN body n r1 = .ok (l, r) → P n r1 l r →
      P (n + 1) bs (a :: l) r) :
    ∀ (n : Nat) (bs : Bytes) (l : List α) (r : Bytes), forN body n bs = .ok (l, r) → P n bs l r
  | 0, bs, l, r, h => by
    simp only [forN, pure_run, Res.ok.injEq, Prod.mk.injEq] at h
    obtain ⟨rfl, rfl⟩ := h
    exact zero bs
  | n + 1, bs, l, r, h => by
    simp only [forN, bind_run] at h
    split at h
    · rename_i a r1 hb
      split at h
      · rename_i l' r' hf
        simp only [pure_run, Res.ok.injEq, Prod.mk.injEq] at h
        obtain ⟨rfl, rfl⟩ := h
        exact succ n bs a r1 l' r' hb hf (forN_ok_induction zero succ n r1 l' r' hf)
      · cases h
      · cases h
    · cases h
    · cases h

theorem forNIters_of_ok {α} (body : Cur α) (n : Nat) (bs : Bytes) (l : List α) (r : Bytes)
    (h : forN body n bs = .ok (l, r)) : forNIters body n bs = n ∧ l.length = n := by
  refine forN_ok_induction (P := fun n bs l _ => forNIters body n bs = n ∧ l.length = n)
    (fun _ => ⟨rfl, rfl⟩) (fun n bs a r1 l r hb _ ih => ?_) n bs l r h
  simp only [forNIters, hb, List.length_cons]
  omega

theorem forN_consumes_exact {α} {body : Cur α} {size : α → Nat}
    (hb : ∀ bs a r, body bs = .ok (a, r) → r = bs.drop (size a) ∧ size a ≤ bs.length) :
    ∀ (n : Nat) (bs : Bytes) (l : List α) (r : Bytes), forN body n bs = .ok (l, r) →
      r = bs.drop (l.map size).sum ∧ (l.map size).sum ≤ bs.length ∧ l.length = n :=
  forN_ok_induction (P := fun n bs l r => r = bs.drop (l.map size).sum ∧ (l.map size).sum ≤ bs.length ∧ l.length = n)
    (fun bs => by simp) (fun n bs a r1 l r h1 _ ih => by
      obtain ⟨rfl, h1'⟩ := hb bs a r1 h1
      obtain ⟨h2, h3, h4⟩ := ih
      rw [List.length_drop] at h3
      rw [List.map_cons, List.sum_cons, List.length_cons, h4, h2, List.drop_drop]
      exact ⟨rfl, by omega, rfl⟩)

/-- A count that passed `n < 0 || n > rem / w`. -/
theorem count_le_of_guard (n : UInt64) (rem w : Nat)
    (hg : ¬ (Prim.s64 n < 0 ∨ ((rem : Int) / (w : Int)) < Prim.s64 n)) : n.toNat ≤ rem / w := by
  have h1 : ¬ ((rem : Int) / (w : Int)) < Prim.s64 n := fun h => hg (Or.inr h)
  rw [Prim.s64_of_nonneg n fun h => hg (Or.inl h), ← Int.natCast_ediv] at h1
  omega

theorem count_mul_le_of_guard (n : UInt64) (rem w : Nat)
    (hg : ¬ (Prim.s64 n < 0 ∨ ((rem : Int) / (w : Int)) < Prim.s64 n)) : n.toNat * w ≤ rem :=
  Nat.le_trans (Nat.mul_le_mul_right w (count_le_of_guard n rem w hg)) (Nat.div_mul_le_self rem w)

theorem guarded_iters_mul_le {α} (body : Cur α) {p : Prop} [Decidable p] {n w m : Nat} {r : Bytes}
    (h : p → n * w ≤ m) : (if p then forNIters body n r else 0) * w ≤ m := by
  split
  · rename_i hp
    exact Nat.le_trans (Nat.mul_le_mul_right w (forNIters_le body n r)) (h hp)
  · rw [Nat.zero_mul]
    exact Nat.zero_le m

theorem guarded_iters_le {α} (body : Cur α) {p : Prop} [Decidable p] {n w k : Nat} (hw : 0 < w) {bs r : Bytes}
    (h : p → n * w ≤ bs.length - k) : (if p then forNIters body n r else 0) ≤ bs.length / w :=
  (Nat.le_div_iff_mul_le hw).2 (Nat.le_trans (guarded_iters_mul_le body h) (Nat.sub_le _ k))

/-- The count word and its guard, with the word present:
`n = decode_int64(ptr); if (n < 0 || n > (end - ptr) / w) throw; k n`. -/
theorem count_guard_run {β} {c : Codec UInt64} {get : Bytes → UInt64}
    (hrd : ∀ {bs : Bytes}, 8 ≤ bs.length → rd c bs = .ok (get bs, bs.drop 8)) (w : Int) (k : UInt64 → Cur β)
    {bs : Bytes} (h8 : 8 ≤ bs.length) :
    (do let n ← rd c
        let rem ← remaining
        if Prim.s64 n < 0 ∨ (rem : Int) / w < Prim.s64 n then throwC .invalid_argument else k n) bs =
    if ¬ (Prim.s64 (get bs) < 0 ∨ ((bs.length - 8 : Nat) : Int) / w < Prim.s64 (get bs))
      then k (get bs) (bs.drop 8) else .throw .invalid_argument := by
  simp only [bind_run, hrd h8, remaining_run, List.length_drop, ite_not]
  split <;> rfl

/-- A list decoder of either generation: the test of the payload length (`m` ≥ the count word), the count word and its
guard, then `k` on the count, the value extracted by `g`.  Both tests together are the `…Entered` predicates below. -/
theorem count_guard_shape {β ρ} {c : Codec UInt64} {get : Bytes → UInt64}
    (hrd : ∀ {bs : Bytes}, 8 ≤ bs.length → rd c bs = .ok (get bs, bs.drop 8)) (w : Int) (k : UInt64 → Cur β)
    (g : β × Bytes → Res ρ) {m : Nat} (hm : 8 ≤ m) (bs : Bytes) :
    (if bs.length < m then .throw .invalid_argument else
      ((do let n ← rd c
           let rem ← remaining
           if Prim.s64 n < 0 ∨ (rem : Int) / w < Prim.s64 n then throwC .invalid_argument else k n) bs).bind g) =
    if m ≤ bs.length ∧ ¬ (Prim.s64 (get bs) < 0 ∨ ((bs.length - 8 : Nat) : Int) / w < Prim.s64 (get bs))
      then (k (get bs) (bs.drop 8)).bind g else .throw .invalid_argument := by
  by_cases h : m ≤ bs.length
  · rw [if_neg (Nat.not_lt.2 h), count_guard_run hrd w _ (Nat.le_trans hm h), apply_ite (Res.bind · g)]
    simp only [h, true_and]
    rfl
  · simp only [Nat.lt_of_not_le h, h, false_and, if_true, if_false]

def loopsCount (bs : Bytes) : Nat := (u64le.get bs).toNat

/-- The checks before the loop of `loops_blob::from_blob` / 1.x `loops_data::decode` pass. -/
def loopsEntered (bs : Bytes) : Prop :=
  8 ≤ bs.length ∧
    ¬ (Prim.s64 (u64le.get bs) < 0 ∨ ((bs.length - 8 : Nat) / 23 : Int) < Prim.s64 (u64le.get bs))

instance (bs : Bytes) : Decidable (loopsEntered bs) := by unfold loopsEntered; infer_instance

/- Properties/C05.lean writes this statement out and takes those of the nine other decoders' `*_shape` lemmas below
(not `decodeWave_shape`) over by `type_of%`: what they say here is what C05 says. -/
theorem decodeLoops_shape (bs : Bytes) : Impl.V2.decodeLoops bs =
    if loopsEntered bs then
      ((forN Impl.V2.decodeLoop (loopsCount bs) >>= fun ls => (do
          let extra ← rest
          pure (ls, extra) : Cur (V2.Loops × Bytes))) (bs.drop 8)).bind (fun p => .ok p.1)
    else .throw .invalid_argument := by
  unfold Impl.V2.decodeLoops loopsEntered loopsCount
  exact count_guard_shape rd_u64le_run 23 _ _ (Nat.le_refl 8) bs

theorem loopsEntered_bound {bs : Bytes} (h : loopsEntered bs) :
    loopsCount bs * 23 ≤ bs.length - 8 := count_mul_le_of_guard _ _ 23 h.2

def itersLoopsV2 (bs : Bytes) : Nat :=
  if loopsEntered bs then forNIters Impl.V2.decodeLoop (loopsCount bs) (bs.drop 8) else 0

theorem decode_steps_v2_loops (bs : Bytes) : itersLoopsV2 bs ≤ bs.length / 23 :=
  guarded_iters_le _ (by decide) loopsEntered_bound

theorem decodeLoops1_shape (bs : Bytes) : Impl.V1.decodeLoops bs =
    if loopsEntered bs then
      ((forN Impl.V1.decodeLoop (loopsCount bs) >>= fun ls => (do
          let rem ← remaining
          if rem ≠ 0 then throwC .invalid_argument else
          pure ls : Cur Impl.V1.Loops)) (bs.drop 8)).bind (fun p => .ok p.1)
    else .throw .invalid_argument := by
  unfold Impl.V1.decodeLoops loopsEntered loopsCount
  exact count_guard_shape rd_u64le_run 23 _ _ (Nat.le_refl 8) bs

def itersLoopsV1 (bs : Bytes) : Nat :=
  if loopsEntered bs then forNIters Impl.V1.decodeLoop (loopsCount bs) (bs.drop 8) else 0

theorem decode_steps_v1_loops (bs : Bytes) : itersLoopsV1 bs ≤ bs.length / 23 :=
  guarded_iters_le _ (by decide) loopsEntered_bound

def cuesCount (bs : Bytes) : Nat := (u64be.get bs).toNat

/-- The checks before the loop of `quick_cues_blob::from_blob` / 1.x `quick_cues_data::decode` pass. -/
def cuesEntered (bs : Bytes) : Prop :=
  25 ≤ bs.length ∧
    ¬ (Prim.s64 (u64be.get bs) < 0 ∨ ((bs.length - 8 : Nat) / 13 : Int) < Prim.s64 (u64be.get bs))

instance (bs : Bytes) : Decidable (cuesEntered bs) := by unfold cuesEntered; infer_instance

/-- What 2.x `quick_cues_blob::from_blob` does after the loop. -/
def cuesTailV2 (cs : List V2.Cue) : Cur (V2.Cues × Bytes) := do
  let adj ← rd u64be
  let flag ← rd u8
  let dflt ← rd u64be
  let extra ← rest
  pure (⟨cs, adj, flag != 0, dflt⟩, extra)

/-- What 1.x `quick_cues_data::decode` does after the loop. -/
def cuesTailV1 (cs : List (Option Impl.V1.HotCue)) : Cur Impl.V1.Cues := do
  let adj ← rd u64be
  let flag ← rd u8
  let dflt ← rd u64be
  if flag.toNat > 1 ∨ (flag.toNat = 0 ∧ F64.ne adj dflt) then throwC .invalid_argument else
  let rem ← remaining
  if rem ≠ 0 then throwC .invalid_argument else
  pure (⟨cs, adj, dflt⟩ : Impl.V1.Cues)

theorem decodeCues_shape (bs : Bytes) : Impl.V2.decodeCues bs =
    if cuesEntered bs then
      ((forN Impl.V2.decodeCue (cuesCount bs) >>= cuesTailV2) (bs.drop 8)).bind (fun p => .ok p.1)
    else .throw .invalid_argument := by
  unfold Impl.V2.decodeCues cuesEntered cuesCount
  exact count_guard_shape rd_u64be_run 13 _ _ (by decide : 8 ≤ 25) bs

theorem decodeCues1_shape (bs : Bytes) : Impl.V1.decodeCues bs =
    if cuesEntered bs then
      ((forN Impl.V1.decodeCue (cuesCount bs) >>= cuesTailV1) (bs.drop 8)).bind (fun p => .ok p.1)
    else .throw .invalid_argument := by
  unfold Impl.V1.decodeCues cuesEntered cuesCount
  exact count_guard_shape rd_u64be_run 13 _ _ (by decide : 8 ≤ 25) bs

theorem cuesEntered_bound {bs : Bytes} (h : cuesEntered bs) :
    cuesCount bs * 13 ≤ bs.length - 8 := count_mul_le_of_guard _ _ 13 h.2

def itersCuesV2 (bs : Bytes) : Nat :=
  if cuesEntered bs then forNIters Impl.V2.decodeCue (cuesCount bs) (bs.drop 8) else 0

def itersCuesV1 (bs : Bytes) : Nat :=
  if cuesEntered bs then forNIters Impl.V1.decodeCue (cuesCount bs) (bs.drop 8) else 0

theorem decode_steps_v2_cues (bs : Bytes) : itersCuesV2 bs ≤ bs.length / 13 :=
  guarded_iters_le _ (by decide) cuesEntered_bound

theorem decode_steps_v1_cues (bs : Bytes) : itersCuesV1 bs ≤ bs.length / 13 :=
  guarded_iters_le _ (by decide) cuesEntered_bound

def gridCount (bs : Bytes) : Nat := (u64be.get bs).toNat

theorem drop_of_append {bs e r : Bytes} (h : bs = e ++ r) : r = bs.drop e.length ∧ e.length ≤ bs.length := by
  subst h; simp

theorem rd_fixed_iter {α} {c : Codec α} {w : Nat} (hc : c.Fixed w) (bs : Bytes) :
    (∃ a, rd c bs = .ok (a, bs.drop w) ∧ w ≤ bs.length) ∨ rd c bs = .ub .oob_read := by
  by_cases h : w ≤ bs.length
  · obtain ⟨a, ha⟩ := hc.dec_some h
    exact .inl ⟨a, rd_of_dec ha, h⟩
  · exact .inr (rd_none (hc.dec_none (Nat.lt_of_not_le h)))

theorem rd_marker_consumes (bs : Bytes) (m : V2.Marker) (r : Bytes) (h : rd V2.marker bs = .ok (m, r)) :
    r = bs.drop 24 ∧ 24 ≤ bs.length := by
  rcases rd_fixed_iter V2.marker_fixed bs with ⟨m', h1, h2⟩ | h1 <;> rw [h1] at h <;> cases h
  exact ⟨rfl, h2⟩

theorem markers_consume {n : Nat} {bs : Bytes} (h8 : 8 ≤ bs.length) {l : List V2.Marker} {r : Bytes}
    (h : forN (rd V2.marker) n (bs.drop 8) = .ok (l, r)) :
    forNIters (rd V2.marker) n (bs.drop 8) * 24 + 8 + r.length ≤ bs.length := by
  obtain ⟨rfl, h2, h3⟩ := forN_consumes_exact (size := fun _ => 24) rd_marker_consumes _ _ _ _ h
  rw [List.map_const', List.sum_replicate_nat, h3, List.length_drop] at h2
  rw [(forNIters_of_ok _ _ _ _ _ h).1, List.map_const', List.sum_replicate_nat, h3, List.length_drop, List.length_drop]
  omega

/-- Two grids one after the other, the second on what the first left (`k` marker reads, none if
the first did not decode): together at most `length / 24` markers.  `it` counts the marker reads
of one grid. -/
theorem two_grids_steps (it : Bytes → Nat) (hle : ∀ bs, it bs * 24 ≤ bs.length - 8) (bs : Bytes)
    (h33 : ¬ bs.length < 33) (k : Nat)
    (hk : k = 0 ∨ ∃ r1, it (bs.drop 17) * 24 + 8 + r1.length ≤ (bs.drop 17).length ∧ k = it r1) :
    it (bs.drop 17) + k ≤ bs.length / 24 := by
  have h0 := hle (bs.drop 17)
  rw [List.length_drop] at h0 hk
  refine (Nat.le_div_iff_mul_le (by decide)).2 ?_
  rcases hk with rfl | ⟨r1, h2, rfl⟩
  · omega
  · have h3 := hle r1
    omega

/-- The checks before the loop of 2.x `decode_beatgrid` pass. -/
def gridEntered (bs : Bytes) : Prop :=
  8 ≤ bs.length ∧
    ¬ (Prim.s64 (u64be.get bs) < 0 ∨ ((bs.length - 8 : Nat) / 24 : Int) < Prim.s64 (u64be.get bs))

instance (bs : Bytes) : Decidable (gridEntered bs) := by unfold gridEntered; infer_instance

theorem decodeGrid_shape (bs : Bytes) : Impl.V2.decodeGrid bs =
    if gridEntered bs then forN (rd V2.marker) (gridCount bs) (bs.drop 8)
    else .throw .invalid_argument := by
  unfold Impl.V2.decodeGrid gridEntered gridCount
  simp only [bind_run, remaining_run]
  by_cases h8 : 8 ≤ bs.length
  · rw [if_neg (Nat.not_lt.2 h8), count_guard_run rd_u64be_run 24 _ h8]
    simp only [h8, true_and]
  · simp only [Nat.lt_of_not_le h8, h8, false_and, if_true, if_false, throwC_run]

/-- The fixed header of the beat data of both generations (sample rate, sample count, one byte),
with its 17 bytes present. -/
theorem beat_head_run {β} (k : UInt64 → UInt64 → UInt8 → Cur β) {bs : Bytes} (h : 17 ≤ bs.length) :
    (do let sr ← rd u64be
        let n ← rd u64be
        let f ← rd u8
        k sr n f) bs = k (u64be.get bs) (u64be.get (bs.drop 8)) (u8.get (bs.drop 16)) (bs.drop 17) := by
  have r2 := rd_u64be_run (bs := bs.drop 8) (by rw [List.length_drop]; omega)
  have r3 := rd_u8_run (bs := bs.drop 16) (by rw [List.length_drop]; omega)
  rw [List.drop_drop] at r2 r3
  simp only [bind_run, rd_u64be_run (bs := bs) (by omega), r2, r3]

/-- 2.x `beat_data_blob::from_blob`: the fixed header, then the two grids one after the other. -/
theorem decodeBeat_shape (bs : Bytes) : Impl.V2.decodeBeat bs =
    if bs.length < 33 then .throw .invalid_argument else
    match Impl.V2.decodeGrid (bs.drop 17) with
    | .ok (d, r1) =>
      match Impl.V2.decodeGrid r1 with
      | .ok (a, r2) => .ok (⟨u64be.get bs, u64be.get (bs.drop 8), u8.get (bs.drop 16), d, a⟩, r2)
      | .throw e => .throw e
      | .ub u => .ub u
    | .throw e => .throw e
    | .ub u => .ub u := by
  unfold Impl.V2.decodeBeat
  by_cases h : bs.length < 33
  · rw [if_pos h, if_pos h]
  · rw [if_neg h, if_neg h, beat_head_run _ (by omega)]
    simp only [bind_run]
    cases h1 : Impl.V2.decodeGrid (bs.drop 17) with
    | ok p =>
      simp only []
      cases h2 : Impl.V2.decodeGrid p.2 <;> rfl
    | throw e => rfl
    | ub u => rfl

theorem gridEntered_bound {bs : Bytes} (h : gridEntered bs) :
    gridCount bs * 24 ≤ bs.length - 8 := count_mul_le_of_guard _ _ 24 h.2

/-- loop-body executions of one 2.x `decode_beatgrid` call -/
def itersGridV2 (bs : Bytes) : Nat :=
  if gridEntered bs then forNIters (rd V2.marker) (gridCount bs) (bs.drop 8) else 0

theorem itersGridV2_le (bs : Bytes) : itersGridV2 bs * 24 ≤ bs.length - 8 :=
  guarded_iters_mul_le _ gridEntered_bound

theorem decodeGrid_consumes (bs : Bytes) (d : List V2.Marker) (r : Bytes)
    (h : Impl.V2.decodeGrid bs = .ok (d, r)) : itersGridV2 bs * 24 + 8 + r.length ≤ bs.length := by
  rw [decodeGrid_shape] at h
  unfold itersGridV2
  split at h
  · rename_i he
    rw [if_pos he]
    exact markers_consume he.1 h
  · cases h

def itersBeatV2 (bs : Bytes) : Nat :=
  if bs.length < 33 then 0 else
  itersGridV2 (bs.drop 17) +
    match Impl.V2.decodeGrid (bs.drop 17) with
    | .ok (_, r1) => itersGridV2 r1
    | _ => 0

theorem decode_steps_v2_beat (bs : Bytes) : itersBeatV2 bs ≤ bs.length / 24 := by
  unfold itersBeatV2
  split
  · exact Nat.zero_le _
  · refine two_grids_steps itersGridV2 itersGridV2_le bs ‹_› _ ?_
    split
    · exact .inr ⟨_, decodeGrid_consumes _ _ _ ‹_›, rfl⟩
    · exact .inl rfl

/-- The checks before the loop of 1.x `decode_beatgrid` pass (count in 2..32768, markers fit). -/
def grid1Entered (bs : Bytes) : Prop :=
  8 ≤ bs.length ∧ ¬ Prim.s64 (u64be.get bs) = 0 ∧ ¬ Prim.s64 (u64be.get bs) < 2 ∧
    ¬ Prim.s64 (u64be.get bs) > 32768 ∧
    ¬ ((bs.length - 8 : Nat) : Int) < 24 * Prim.s64 (u64be.get bs)

/-- The early return of 1.x `decode_beatgrid`: a zero count, no loop. -/
def grid1Empty (bs : Bytes) : Prop := 8 ≤ bs.length ∧ Prim.s64 (u64be.get bs) = 0

instance (bs : Bytes) : Decidable (grid1Entered bs) := by unfold grid1Entered; infer_instance
instance (bs : Bytes) : Decidable (grid1Empty bs) := by unfold grid1Empty; infer_instance

/-- The marker checks of 1.x `decode_beatgrid`, on the markers the loop has read. -/
def grid1Check (wire : List V2.Marker) : Cur (List Impl.V1.GMarker) :=
  fun bs => match Impl.V1.checkWire none wire with
    | .ok g => .ok (g, bs)
    | .throw e => .throw e
    | .ub u => .ub u

theorem decodeGrid1_shape (bs : Bytes) : Impl.V1.decodeGrid bs =
    if grid1Entered bs then (forN (rd V2.marker) (gridCount bs) >>= grid1Check) (bs.drop 8)
    else if grid1Empty bs then .ok ([], bs.drop 8)
    else .throw .invalid_argument := by
  rw [ArithZ.decodeGrid1_eq_Z]
  unfold ArithZ.decodeGrid1Z gridCount
  simp only [bind_run, remaining_run]
  by_cases h8 : 8 ≤ bs.length
  · rw [if_neg (Nat.not_lt.2 h8)]
    simp only [bind_run, rd_u64be_run h8]
    by_cases h0 : Prim.s64 (u64be.get bs) = 0
    · rw [if_pos h0, if_neg fun h : grid1Entered bs => h.2.1 h0, if_pos (show grid1Empty bs from ⟨h8, h0⟩)]
      rfl
    rw [if_neg h0, if_neg fun h : grid1Empty bs => h0 h.2]
    by_cases h2 : Prim.s64 (u64be.get bs) < 2
    · rw [if_pos h2, if_neg fun h : grid1Entered bs => h.2.2.1 h2]
      rfl
    rw [if_neg h2]
    by_cases hb : Prim.s64 (u64be.get bs) > 32768
    · rw [if_pos hb, if_neg fun h : grid1Entered bs => h.2.2.2.1 hb]
      rfl
    rw [if_neg hb]
    simp only [bind_run, remaining_run, List.length_drop]
    by_cases hr : ((bs.length - 8 : Nat) : Int) < 24 * Prim.s64 (u64be.get bs)
    · rw [if_pos hr, if_neg fun h : grid1Entered bs => h.2.2.2.2 hr]
      rfl
    · rw [if_neg hr, if_pos (show grid1Entered bs from ⟨h8, h0, h2, hb, hr⟩)]
      rfl
  · rw [if_pos (Nat.lt_of_not_le h8), if_neg fun h : grid1Entered bs => h8 h.1,
      if_neg fun h : grid1Empty bs => h8 h.1]
    rfl

/-- 1.x `beat_data::decode`: the fixed header, then the two grids inside `try … catch
(invalid_argument)`, then the zero-only trailer (`V1Proofs.beatFin`). -/
theorem decodeBeat1_shape (bs : Bytes) : Impl.V1.decodeBeat bs =
    if bs.length < 33 then .throw .invalid_argument else
    match Impl.V1.decodeGrid (bs.drop 17) with
    | .ub u => .ub u
    | .throw _ => V1Proofs.beatFin (u64be.get bs) (u64be.get (bs.drop 8)) [] [] (bs.drop 17)
    | .ok (d, r1) =>
      match Impl.V1.decodeGrid r1 with
      | .ub u => .ub u
      | .throw _ => V1Proofs.beatFin (u64be.get bs) (u64be.get (bs.drop 8)) [] [] r1
      | .ok (a, r2) => V1Proofs.beatFin (u64be.get bs) (u64be.get (bs.drop 8)) d a r2 := by
  unfold Impl.V1.decodeBeat
  by_cases h : bs.length < 33
  · rw [if_pos h, if_pos h]
  · rw [if_neg h, if_neg h, beat_head_run _ (by omega)]
    simp only [pure_run]
    cases h1 : Impl.V1.decodeGrid (bs.drop 17) with
    | ok p =>
      simp only []
      cases h2 : Impl.V1.decodeGrid p.2 <;> rfl
    | throw e => rfl
    | ub u => rfl

theorem grid1Entered_bound {bs : Bytes} (h : grid1Entered bs) :
    gridCount bs * 24 ≤ bs.length - 8 ∧ gridCount bs ≤ 32768 := by
  obtain ⟨h8, h0, h2, hb, hr⟩ := h
  have hs := Prim.s64_of_nonneg (u64be.get bs) (by omega)
  unfold gridCount
  omega

/-- loop-body executions of one 1.x `decode_beatgrid` call -/
def itersGridV1 (bs : Bytes) : Nat :=
  if grid1Entered bs then forNIters (rd V2.marker) (gridCount bs) (bs.drop 8) else 0

theorem itersGridV1_le (bs : Bytes) : itersGridV1 bs * 24 ≤ bs.length - 8 :=
  guarded_iters_mul_le _ fun h => (grid1Entered_bound h).1

theorem itersGridV1_le_abs (bs : Bytes) : itersGridV1 bs ≤ 32768 := by
  unfold itersGridV1
  split
  · exact Nat.le_trans (forNIters_le _ _ _) (grid1Entered_bound ‹_›).2
  · exact Nat.zero_le _

theorem decodeGrid1_consumes (bs : Bytes) (d : List Impl.V1.GMarker) (r : Bytes)
    (h : Impl.V1.decodeGrid bs = .ok (d, r)) : itersGridV1 bs * 24 + 8 + r.length ≤ bs.length := by
  rw [decodeGrid1_shape] at h
  unfold itersGridV1
  split at h
  · rename_i he
    rw [if_pos he]
    simp only [bind_run] at h
    split at h
    · rename_i wire r' hf
      -- the marker checks leave the cursor where the loop left it
      unfold grid1Check at h
      split at h <;> cases h
      exact markers_consume he.1 hf
    · cases h
    · cases h
  · rename_i he
    rw [if_neg he]
    split at h
    · rename_i hz
      cases h
      have h8 := hz.1
      rw [List.length_drop]
      omega
    · cases h

def itersBeatV1 (bs : Bytes) : Nat :=
  if bs.length < 33 then 0 else
  itersGridV1 (bs.drop 17) +
    match Impl.V1.decodeGrid (bs.drop 17) with
    | .ok (_, r1) => itersGridV1 r1
    | _ => 0

theorem decode_steps_v1_beat (bs : Bytes) : itersBeatV1 bs ≤ bs.length / 24 := by
  unfold itersBeatV1
  split
  · exact Nat.zero_le _
  · refine two_grids_steps itersGridV1 itersGridV1_le bs ‹_› _ ?_
    split
    · exact .inr ⟨_, decodeGrid1_consumes _ _ _ ‹_›, rfl⟩
    · exact .inl rfl

def waveCount (bs : Bytes) : Nat := (u64be.get bs).toNat

/-- The checks before the loop of the 1.x waveform decoders pass (`minLen` = 27 / 30,
`w` = 3 / 6 bytes per entry). -/
def waveEntered (minLen w : Nat) (bs : Bytes) : Prop :=
  minLen ≤ bs.length ∧ u64be.get bs = u64be.get (bs.drop 8) ∧
    ¬ (Prim.s64 (u64be.get bs) < 0 ∨ ((bs.length - 24 : Nat) / w : Int) < Prim.s64 (u64be.get bs) ∨
        ((bs.length - 24 : Nat) : Int) ≠ (w : Int) * (Prim.s64 (u64be.get bs) + 1))

instance (minLen w : Nat) (bs : Bytes) : Decidable (waveEntered minLen w bs) := by
  unfold waveEntered; infer_instance

/-- What the 1.x waveform decoders do after the loop (skip the maxima, require the end). -/
def waveTail (w : Nat) (spe : UInt64) (es : List Impl.V1.Entry) : Cur Impl.V1.Wave := do
  let _ ← takeN w
  let rem ← remaining
  if rem ≠ 0 then throwC .runtime_error else
  pure (⟨spe, es⟩ : Impl.V1.Wave)

/- `hw6` is the bound under which `ArithZ.decodeWave_eq_Z` keeps `w * (n + 1)` inside `int64_t`. -/
theorem decodeWave_shape (minLen w : Nat) (entry : Cur Impl.V1.Entry) (hm : 24 ≤ minLen) (hw : 0 < w) (hw6 : w ≤ 6)
    (bs : Bytes) (hlen : bs.length < maxCount) : Impl.V1.decodeWave minLen w entry bs =
    if waveEntered minLen w bs then
      ((forN entry (waveCount bs) >>= waveTail w (u64be.get (bs.drop 16))) (bs.drop 24)).bind
        (fun p => .ok p.1)
    else .throw .invalid_argument := by
  rw [ArithZ.decodeWave_eq_Z minLen w hm hw hw6 entry bs hlen]
  unfold ArithZ.decodeWaveZ waveCount
  by_cases hmin : bs.length < minLen
  · rw [if_pos hmin, if_neg fun h : waveEntered minLen w bs => Nat.not_le.2 hmin h.1]
  · rw [if_neg hmin, rd_u64be3_run _ (by omega)]
    by_cases hn : u64be.get bs = u64be.get (bs.drop 8)
    · rw [if_neg (not_not_intro hn)]
      simp only [bind_run, remaining_run, List.length_drop]
      by_cases hg : (Prim.s64 (u64be.get bs) < 0 ∨
          ((bs.length - 24 : Nat) / w : Int) < Prim.s64 (u64be.get bs) ∨
          ((bs.length - 24 : Nat) : Int) ≠ (w : Int) * (Prim.s64 (u64be.get bs) + 1))
      · rw [if_pos hg, if_neg fun h : waveEntered minLen w bs => h.2.2 hg]
        rfl
      · rw [if_neg hg, if_pos (show waveEntered minLen w bs from ⟨Nat.le_of_not_lt hmin, hn, hg⟩)]
        rfl
    · rw [if_pos hn, if_neg fun h : waveEntered minLen w bs => hn h.2.1]
      rfl

def ovwEntered (bs : Bytes) : Prop := waveEntered 27 3 bs
def hiresEntered (bs : Bytes) : Prop := waveEntered 30 6 bs

instance (bs : Bytes) : Decidable (ovwEntered bs) := by unfold ovwEntered; infer_instance
instance (bs : Bytes) : Decidable (hiresEntered bs) := by unfold hiresEntered; infer_instance

theorem decodeOvw1_shape (bs : Bytes) (hlen : bs.length < maxCount) : Impl.V1.decodeOvw bs =
    if ovwEntered bs then
      ((forN Impl.V1.ovwEntry (waveCount bs) >>= waveTail 3 (u64be.get (bs.drop 16)))
        (bs.drop 24)).bind (fun p => .ok p.1)
    else .throw .invalid_argument :=
  decodeWave_shape 27 3 Impl.V1.ovwEntry (by omega) (by omega) (by omega) bs hlen

theorem decodeHires1_shape (bs : Bytes) (hlen : bs.length < maxCount) : Impl.V1.decodeHires bs =
    if hiresEntered bs then
      ((forN Impl.V1.hiresEntry (waveCount bs) >>= waveTail 6 (u64be.get (bs.drop 16)))
        (bs.drop 24)).bind (fun p => .ok p.1)
    else .throw .invalid_argument :=
  decodeWave_shape 30 6 Impl.V1.hiresEntry (by omega) (by omega) (by omega) bs hlen

theorem waveEntered_bound {minLen w : Nat} {bs : Bytes} (h : waveEntered minLen w bs) :
    waveCount bs * w ≤ bs.length - 24 :=
  count_mul_le_of_guard _ _ w fun hg => h.2.2 (hg.imp_right .inl)

def itersOvwV1 (bs : Bytes) : Nat :=
  if ovwEntered bs then forNIters Impl.V1.ovwEntry (waveCount bs) (bs.drop 24) else 0

def itersHiresV1 (bs : Bytes) : Nat :=
  if hiresEntered bs then forNIters Impl.V1.hiresEntry (waveCount bs) (bs.drop 24) else 0

theorem decode_steps_v1_ovw (bs : Bytes) : itersOvwV1 bs ≤ bs.length / 3 :=
  guarded_iters_le _ (by decide) (waveEntered_bound (minLen := 27) (w := 3))

theorem decode_steps_v1_hires (bs : Bytes) : itersHiresV1 bs ≤ bs.length / 6 :=
  guarded_iters_le _ (by decide) (waveEntered_bound (minLen := 30) (w := 6))

end Steps
end EngineModel
