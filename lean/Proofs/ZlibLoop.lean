/-
Totality of the `zlib_uncompress` loops over any inflate oracle that honours
an explicit call contract (a structure parameter — not an axiom).
-/
import EngineModel.Impl.Zlib

namespace EngineModel.Impl.Zlib

/-- The part of zlib.h's contract for `inflate()` the loops rely on.
`pot s a` bounds the number of bytes the stream can still produce from state
`s` when `a` more input bytes are available; every call consumes at most the
window, produces at most `avail_out`, and pays for its output out of `pot`;
`b` further input bytes add at most `ratio * b` (deflate: at most 1032). -/
structure Contract {σ : Type} (o : Oracle σ) where
  pot : σ → Nat → Nat
  ratio : Nat
  pot_mono : ∀ s a b, pot s a ≤ pot s (a + b)
  pot_input : ∀ s a b, pot s (a + b) ≤ pot s a + ratio * b
  step_ok : ∀ s win n,
    (o.step s win n).2.1 ≤ win.length ∧
    (o.step s win n).2.2.1.length ≤ n ∧
    pot (o.step s win n).2.2.2 (win.length - (o.step s win n).2.1) + (o.step s win n).2.2.1.length
      ≤ pot s win.length

/-- Steps still needed from a loop position.  A call that produces output pays out of `pot`; opening a window of
`a ≥ 1` bytes raises `pot` by at most `ratio * a` (`pot_input`), paid by the position term, whose further `3 * a`
covers the step itself and the larger constant of the inner phase; leaving the inner loop (2 → 1) is a step down by
the constants alone (`measure_outer_inner`, `measure_step`). -/
def measure {σ} {o : Oracle σ} (c : Contract o) (endPos : Nat) (s : σ) (ptr : Nat) : Phase → Nat
  | .outer => c.pot s 0 + (c.ratio + 3) * (endPos - ptr) + 1
  | .inner win => c.pot s win.length + (c.ratio + 3) * (endPos - ptr) + 2

/-- What `zlib_uncompress` may do on an oracle that honours the contract: return, or throw `system_error`. -/
def Good (r : Res Bytes) : Prop := (∃ out, r = .ok out) ∨ r = .throw .system_error

/-- Opening a window of `n` bytes, in either direction: the new input may add `ratio * n` to what the stream can
produce (`hin`); the position term, `ratio + 3` per byte still ahead, pays for that and has `3 * n` to spare. -/
theorem window_pays {pot : Nat → Nat} {ratio : Nat} (hin : ∀ b, pot b ≤ pot 0 + ratio * b)
    {len ptr n : Nat} (h : ptr + n ≤ len) :
    pot n + (ratio + 3) * (len - (ptr + n)) + 3 * n ≤ pot 0 + (ratio + 3) * (len - ptr) := by
  have h2 : (ratio + 3) * (len - ptr) = (ratio + 3) * (len - (ptr + n)) + (ratio * n + 3 * n) := by
    rw [← Nat.add_mul, ← Nat.mul_add]; congr 1; omega
  have := hin n
  omega

theorem measure_outer_inner {σ} {o : Oracle σ} (c : Contract o) (endPos : Nat) (s : σ) (ptr avail : Nat)
    (win : Bytes) (hw : win.length ≤ avail) (ha : avail ≤ endPos - ptr) (h0 : avail ≠ 0) :
    measure c endPos s (ptr + avail) (.inner win) < measure c endPos s ptr .outer := by
  have h1 := window_pays (pot := c.pot s) (fun b => Nat.zero_add b ▸ c.pot_input s 0 b)
    (show ptr + avail ≤ endPos by omega)
  have h2 := c.pot_mono s win.length (avail - win.length)
  rw [Nat.add_sub_cancel' hw] at h2
  simp only [measure]
  omega

/-- An `inflate` call pays for its output out of `pot`: leaving the inner loop is always a step down, staying in
it is one when the call produced something. -/
theorem measure_step {σ} {o : Oracle σ} (c : Contract o) (endPos : Nat) (s : σ) (ptr : Nat) (win : Bytes) (n : Nat) :
    measure c endPos (o.step s win n).2.2.2 ptr .outer < measure c endPos s ptr (.inner win) ∧
    (0 < (o.step s win n).2.2.1.length →
      measure c endPos (o.step s win n).2.2.2 ptr (.inner (win.drop (o.step s win n).2.1)) <
        measure c endPos s ptr (.inner win)) := by
  obtain ⟨_, _, hpot⟩ := c.step_ok s win n
  have := c.pot_mono (o.step s win n).2.2.2 0 (win.length - (o.step s win n).2.1)
  rw [Nat.zero_add] at this
  simp only [measure, List.length_drop]
  omega

theorem avail_le (len ptr : Nat) : (if ptr + chunk < len then chunk else len - ptr) ≤ len - ptr := by
  split <;> omega

theorem avail_ne_zero (len ptr : Nat) (h : ptr < len) : (if ptr + chunk < len then chunk else len - ptr) ≠ 0 := by
  have : 0 < chunk := by decide
  split <;> omega

theorem window_length (buf : Bytes) {ptr n : Nat} (h : n ≤ buf.length - ptr) :
    ((buf.drop ptr).take n).length = n := by
  rw [List.length_take, List.length_drop]; exact Nat.min_eq_left h

/-- The head of the outer loop with the end pointer inside the vector: at the end of the input the loops leave with
`system_error`; before it they enter the inner loop with a window of `avail ≥ 1` bytes that ends at or before
`endPos`. -/
theorem loop_outer {σ} (o : Oracle σ) (buf : Bytes) {endPos ptr : Nat} (hend : endPos ≤ buf.length)
    (hp : ptr ≤ endPos) (fuel : Nat) (s : σ) (acc : Bytes) :
    (ptr = endPos ∧ loop o buf endPos (fuel + 1) s ptr .outer acc = .throw .system_error) ∨
    ∃ avail, avail ≠ 0 ∧ ptr + avail ≤ endPos ∧
      loop o buf endPos (fuel + 1) s ptr .outer acc =
        loop o buf endPos fuel s (ptr + avail) (.inner ((buf.drop ptr).take avail)) acc := by
  rw [loop]
  have havle := avail_le endPos ptr
  have havpos := avail_ne_zero endPos ptr
  generalize (if ptr + chunk < endPos then chunk else endPos - ptr) = avail at havle havpos ⊢
  rw [if_neg (by omega)]
  by_cases hlt : ptr < endPos
  · exact .inr ⟨avail, havpos hlt, by omega, by rw [if_neg (havpos hlt)]⟩
  · exact .inl ⟨by omega, by rw [if_pos (by omega)]⟩

theorem loop_total {σ} (o : Oracle σ) (c : Contract o) (buf : Bytes) (endPos : Nat)
    (hend : endPos ≤ buf.length) :
    ∀ (fuel : Nat) (s : σ) (ptr : Nat) (ph : Phase) (acc : Bytes),
      ptr ≤ endPos → measure c endPos s ptr ph ≤ fuel → Good (loop o buf endPos fuel s ptr ph acc) := by
  intro fuel
  induction fuel with
  | zero =>
    intro s ptr ph acc hp hm
    cases ph <;> simp [measure] at hm
  | succ fuel ih =>
    intro s ptr ph acc hp hm
    cases ph with
    | outer =>
      rcases loop_outer o buf hend hp fuel s acc with ⟨-, h⟩ | ⟨avail, h0, hle, h⟩ <;> rw [h]
      · exact Or.inr rfl
      · have := measure_outer_inner c endPos s ptr avail ((buf.drop ptr).take avail)
          (by rw [List.length_take]; exact Nat.min_le_left ..) (by omega) h0
        exact ih _ _ _ _ hle (by omega)
    | inner win =>
      rw [loop]
      obtain ⟨hout, hin⟩ := measure_step c endPos s ptr win chunk
      generalize o.step s win chunk = r at hout hin ⊢
      obtain ⟨ret, consumed, out, s'⟩ := r
      dsimp only at hout hin ⊢
      by_cases herr : ret = .needDict ∨ ret = .dataError ∨ ret = .memError
      · rw [if_pos herr]; exact Or.inr rfl
      · rw [if_neg herr]
        by_cases hfull : out.length = chunk
        · rw [if_pos hfull]
          exact ih _ _ _ _ hp (by have := hin (by rw [hfull]; decide); omega)
        · rw [if_neg hfull]
          by_cases hend' : ret = .streamEnd
          · rw [if_pos hend']; exact Or.inl ⟨_, rfl⟩
          · rw [if_neg hend']
            exact ih _ _ _ _ hp (by omega)

/-- `measure` at the start of the outer loop (`ptr = 4`, behind the length prefix): linear in the input length. -/
def fuelBound {σ} {o : Oracle σ} (c : Contract o) (s0 : σ) (n : Nat) : Nat :=
  c.pot s0 0 + (c.ratio + 3) * (n - 4) + 1

theorem prologue_none_length {buf : Bytes} (h : prologue buf = none) : 4 ≤ buf.length := by
  unfold prologue at h
  by_cases h1 : buf.length ≠ 0 ∧ buf.length < 4
  · simp only [ne_eq, h1, not_false_eq_true, and_self, ↓reduceIte, reduceCtorEq] at h
  · simp only [h1, if_false] at h
    match buf, h1, h with
    | [], _, h => simp only [apparentSize, ↓reduceIte, reduceCtorEq] at h
    | [_], h1, _ => simp at h1
    | [_, _], h1, _ => simp at h1
    | [_, _, _], h1, _ => simp at h1
    | _ :: _ :: _ :: _ :: _, _, _ => simp only [List.length_cons, Nat.le_add_left]

theorem prologue_good (buf : Bytes) (r : Res Bytes) (h : prologue buf = some r) :
    (∃ out, r = .ok out) ∨ r = .throw .length_or_alloc := by
  unfold prologue at h
  split at h
  · simp at h; exact Or.inr h.symm
  · split at h
    · simp at h; exact Or.inl ⟨[], h.symm⟩
    · split at h
      · simp at h; exact Or.inr h.symm
      · simp at h

/-- `endPos = buf.length` is the repaired end pointer, `compressed.data() + compressed.size()`. -/
theorem uncompress_total {σ} (o : Oracle σ) (c : Contract o) (s0 : σ) (buf : Bytes) (fuel : Nat)
    (hf : fuelBound c s0 buf.length ≤ fuel) :
    (∃ out, uncompress o s0 buf.length fuel buf = .ok out) ∨
    uncompress o s0 buf.length fuel buf = .throw .system_error ∨
    uncompress o s0 buf.length fuel buf = .throw .length_or_alloc := by
  unfold uncompress
  cases hp : prologue buf with
  | some r =>
    rcases prologue_good buf r hp with h | h
    · exact Or.inl h
    · exact Or.inr (Or.inr h)
  | none =>
    have h4 := prologue_none_length hp
    have := loop_total o c buf buf.length (Nat.le_refl _) fuel s0 4 .outer [] h4
      (by simpa [measure, fuelBound] using hf)
    rcases this with h | h
    · exact Or.inl h
    · exact Or.inr (Or.inl h)

/-- With the end pointer of the unrepaired code (`&compressed[4] + size`, four
bytes past the vector) the first region handed to `inflate()` is out of
bounds for every input of at most one chunk — whatever the oracle does. -/
theorem uncompress_old_end_bad_region {σ} (o : Oracle σ) (s0 : σ) (buf : Bytes) (fuel : Nat)
    (hp : prologue buf = none) (hsmall : buf.length ≤ chunk) :
    uncompress o s0 (buf.length + 4) (fuel + 1) buf = .ub .bad_zlib_region := by
  unfold uncompress
  rw [hp]
  have h4 := prologue_none_length hp
  simp only [loop]
  have : ¬ (4 + chunk < buf.length + 4) := by omega
  simp only [this, if_false]
  simp only [Nat.add_sub_cancel, Nat.lt_add_left_iff_pos, Nat.zero_lt_succ, ↓reduceIte]

/-- A pass-through stream: every call copies as much input as fits, and the
stream ends when a call finds the window empty. -/
def copyOracle : Oracle Unit where
  step _ win n :=
    if win.length = 0 then (.streamEnd, 0, [], ()) else
    (.ok, min win.length n, win.take (min win.length n), ())

def copyContract : Contract copyOracle where
  pot _ a := a
  ratio := 1
  pot_mono := by intros; omega
  pot_input := by intros; omega
  step_ok := by
    intro s win n
    unfold copyOracle
    by_cases h : win.length = 0
    · simp [h]
    · simp only [h, if_false, List.length_take]
      omega

end EngineModel.Impl.Zlib
