/-
C15, schema 2.x crates: a removed crate stays removed along EVERY later history
(`Playlist.id` is AUTOINCREMENT: an id at or below `sqlite_sequence` is never
issued again); guarded runs are the model's runs; every public call, mutation
or query, along API histories is defined; `stale_calls` says what each call through the
handle of an absent crate answers.
-/
import Proofs.NoUbCratesV2
import Proofs.CratesV2ForestRun
import Proofs.CratesV2WfRaw
import Proofs.CratesV2Members

namespace EngineModel.Api.GuardedV2
open EngineModel EngineModel.Db.Chain EngineModel.Db.V2 EngineModel.ListAux EngineModel.Spec

/-- `c` is not a live crate and can never be issued again. -/
structure Gone (d : Db) (c : Int) : Prop where
  inv : PlInv d
  absent : c ∉ ids d.pl
  le : c ≤ d.plSeq

/-- `never_returns`, with the invariant and the counter carried along. -/
theorem gone_run {d : Db} {c : Int} (h : Gone d c) (ops : List Op) : Gone (run d ops) c :=
  ⟨plInv_run h.inv ops, never_returns h.inv h.le h.absent ops, Int.le_trans h.le (plSeq_mono_run h.inv ops)⟩

theorem gone_after_remove {d : Db} (hI : PlInv d) {c : Int} (hc : plExists d c = true) :
    Gone (step d (.removeCrate c)).1 c :=
  ⟨plInv_step hI _, removeCrate_gone hI ((plExists_eq_live d c).symm.trans hc) (.inl rfl),
    Int.le_trans (hI.seq c (plExists_iff.mp hc)) (ids_step hI _).1⟩

/-- What every call through the handle of a crate that is not (or no longer) in the library does. -/
theorem stale_calls (d : Db) (c : Int) (hgone : c ∉ ids d.pl) :
    qValid d c = false ∧ qNameG d c = .throw (exn "crate_deleted") ∧ qParentG d c = .throw (exn "crate_deleted") ∧
    (∀ n, (stepG d (.rename c n)).2 = .throw (exn "crate_deleted")) ∧
    (∀ n, (stepG d (.createSub c n)).2 = .throw (exn "crate_deleted")) ∧
    (∀ n a, (stepG d (.createSubAfter c n a)).2 = .throw (exn "crate_deleted")) ∧
    (∀ t, (stepG d (.addTrack c t)).2 = .throw (exn "crate_deleted")) ∧
    (∀ p, ∃ e, (stepG d (.setParent c p)).2 = .throw e) ∧
    (stepG d (.removeCrate c)).2 = .throw .invalid_argument := by
  have hget : Db.Chain.get d.pl c = none := get_none_of_not_mem hgone
  have hex : plExists d c = false := Bool.eq_false_iff.mpr fun h => hgone (plExists_iff.mp h)
  refine ⟨hex, ?_, ?_, ?_, ?_, ?_, ?_, ?_, ?_⟩
  · rw [qNameG_eq]; simp only [qName, hget]
  · rw [qParentG_eq]; simp only [qParent, hget]
  · intro n; simp only [stepG_eq, step, hget]
  · intro n; simp only [stepG_eq, step, hex, Bool.not_false, if_true]
  · intro n a; simp only [stepG_eq, step, hex, Bool.not_false, if_true]
  · intro t; simp only [stepG_eq, step, hex, Bool.not_false, if_true]
  · intro p; simp only [stepG_eq, step, hget]; split <;> exact ⟨_, rfl⟩
  · simp only [stepG_eq, step, hex, Bool.not_false, if_true]

theorem not_valid_of_gone {d : Db} {c : Int} (h : Gone d c) : qValid d c = false :=
  (stale_calls d c h.absent).1

theorem runG_eq (d : Db) (ops : List Op) : runG d ops = run d ops :=
  Machine.IsRun.congr (step := stepG) ⟨fun _ => rfl, fun _ _ _ => rfl⟩ isRun stepG_eq ops d

theorem outcomesG_eq (d : Db) (ops : List Op) : outcomesG d ops = outcomes d ops :=
  Machine.IsOutcomes.congr (step := stepG) (step' := step) ⟨fun _ => rfl, fun _ _ _ => rfl⟩
    ⟨fun _ => rfl, fun _ _ _ => rfl⟩ stepG_eq ops d

/-- a call whose mutation, if it is one, is a public-API operation or the table-level addition of an entry
of ANOTHER database (`memOp`: what other software sharing the library does) -/
def memCall : Call → Bool
  | .mutate op => memOp op
  | .q _ => true

theorem callOutcomes_defined (cs : List Call) {S : Ord} {d : Db} (hI : Inv S d) (hapi : cs.all memCall = true) :
    ∀ r ∈ callOutcomes d cs, Defined r :=
  Machine.IsOutcomes.forall_of (step := callG) ⟨fun _ => rfl, fun _ _ _ => rfl⟩ (Inv := fun d => ∃ S, Inv S d)
    (A := fun c => memCall c = true)
    (fun d c ⟨_, h⟩ hc => by
      cases c with
      | mutate op =>
        exact ⟨⟨_, by simpa only [callG, stepG_eq] using inv_step h op hc⟩, .bind (stepG_defined d h.pl.wf op) fun _ _ => .ok _⟩
      | q q => exact ⟨⟨_, h⟩, queryG_defined d h.ch.rk h.ch.re h.pl.wf q⟩)
    cs d ⟨S, hI⟩ (List.all_eq_true.mp hapi)

end EngineModel.Api.GuardedV2
