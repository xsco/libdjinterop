/-
C17, the kernel-decided acceptance facts (`wf` and `verifyDb` on the regenerated catalogs, Properties/C17Facts.lean)
in a form the kernel evaluates with less work.  Names are `List Char`: to decide whether two of them are equal
takes the kernel a step of a structural recursion for every character of their common prefix, and the names of a
catalog share long prefixes (`index_<Table>_…`).  What `wf` and the validator's lookups do with names is to ask, for
the pairs of a list, whether two are the same.  Here every name is first turned into a number (`strCode`; once for
each distinct literal, since the kernel remembers what a closed term reduces to) and the pairs are compared as numbers.
The sorting of `toSet` and the comparisons of `walk` are left as they are.
-/
import Proofs.Validator

namespace EngineModel.Spec.Validator
open EngineModel.Spec.SchemaDump (Str)
open EngineModel.Spec.Catalog

/-- The characters of a name, each increased by one, as the digits of a number: no two names have the same. -/
def strCode : Str → Nat
  | [] => 0
  | c :: s => (c.toNat + 1) + 8589934592 * strCode s

theorem strCode_inj : ∀ a b : Str, strCode a = strCode b → a = b
  | [], [], _ => rfl
  | [], _ :: _, h => by simp only [strCode] at h; omega
  | _ :: _, [], h => by simp only [strCode] at h; omega
  | c :: s, d :: t, h => by
    have hc := c.val.toNat_lt
    have hd := d.val.toNat_lt
    simp only [strCode, Char.toNat] at h hc hd
    rw [Char.toNat_inj.1 (show c.toNat = d.toNat by simp only [Char.toNat]; omega),
      strCode_inj s t (by omega)]

theorem strCode_beq (a b : Str) : (strCode a == strCode b) = (a == b) := by
  rw [Bool.eq_iff_iff, beq_iff_eq, beq_iff_eq]
  exact ⟨strCode_inj a b, congrArg strCode⟩

theorem nodupB_map_strCode {α : Type} (f : α → Str) (l : List α) :
    nodupB (l.map fun x => strCode (f x)) = nodupB (l.map f) := by
  rw [Bool.eq_iff_iff, nodupB_iff, nodupB_iff]
  induction l with
  | nil => simp
  | cons a l ih =>
    simp only [List.map_cons, List.nodup_cons, List.mem_map, ih]
    exact and_congr_left' (not_congr (exists_congr fun x => and_congr_right' ⟨strCode_inj _ _, congrArg strCode⟩))

theorem nodupB_map_strCode_id (l : List Str) : nodupB (l.map strCode) = nodupB l := by
  simpa using nodupB_map_strCode id l

/-- `wf`, the names compared through their codes. -/
def wfC (db : Db) : Bool :=
  nodupB (db.tables.map fun t => strCode t.name) && nodupB (db.views.map strCode) &&
  db.tables.all (fun t => nodupB (t.cols.map fun c => strCode c.name)) &&
  nodupB ((allIdxs db).map fun i => strCode i.entry.name) &&
  (allIdxs db).all (fun i => nodupB (i.cols.map (·.seqno)))

theorem wfC_eq (db : Db) : wfC db = wf db := by
  simp only [wfC, wf, tableNames, nodupB_map_strCode, nodupB_map_strCode_id]

def findTableC (db : Db) (t : Str) : Option Table := db.tables.find? fun x => strCode x.name == strCode t

def indexInfoC (db : Db) (i : Str) : List IdxCol :=
  match (allIdxs db).find? fun ix => strCode ix.entry.name == strCode i with
  | some ix => ix.cols
  | none => []

theorem findTableC_eq (db : Db) (t : Str) : findTableC db t = findTable db t := by
  simp only [findTableC, findTable, strCode_beq]

theorem indexInfoC_eq (db : Db) (i : Str) : indexInfoC db i = indexInfo db i := by
  simp only [indexInfoC, indexInfo, strCode_beq]
  rfl

/-- `verifyDb`, its three lookups by name made through the codes. -/
def verifyDbC (E : DbExp) (db : Db) : Bool :=
  walk E.tablesNoMore E.tables (setNames (tableNames db)) &&
  walk E.viewsNoMore E.views (setNames db.views) &&
  E.perTable.all fun te =>
    walk te.colsNoMore te.cols (setCols (match findTableC db te.name with | some tb => tb.cols | none => [])) &&
    walk te.idxsNoMore te.idxs
      (setIdxs (match findTableC db te.name with | some tb => tb.idxs.map (·.entry) | none => [])) &&
    te.idxCols.all fun x => walk x.noMore x.cols (setIdxCols (indexInfoC db x.index))

theorem verifyDbC_eq (E : DbExp) (db : Db) : verifyDbC E db = verifyDb E db := by
  simp only [verifyDbC, findTableC_eq, indexInfoC_eq]
  rfl

end EngineModel.Spec.Validator
