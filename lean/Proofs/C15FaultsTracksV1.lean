/-
Lemmas for Properties/C15FaultsTracksV1.lean: a call executed as its statement program under
any fault plan ends on the prior tables or on `C15TracksV1.step`'s (C14's all-or-nothing), so `DbInv` survives every
history with failures.
-/
import EngineModel.Api.FaultsTracksV1
import Proofs.TracksV1Stmts
import Proofs.NoUbGuardsTracksV1
import Proofs.Machine

namespace EngineModel.Proofs.C15FaultsTracksV1
open EngineModel EngineModel.TracksV1 EngineModel.Api.C15TracksV1 EngineModel.Api.GuardedTracksV1
open EngineModel.Api.FaultsTracksV1 EngineModel.Spec.Txn EngineModel.Spec.Stmts
open Fl (FOps)
open EngineModel.Machine

theorem raised_restores (o : FOps) (d : Db) (op : TOp) (fault : Option Nat) (auto : Bool)
    (hr : (call fault auto (topStmts o op) d).raised = true) : (call fault auto (topStmts o op) d).conn = Conn.idle d :=
  (Proofs.Txn.shape_sound (topStmts o op) (topStmts_atomic o op) fault auto d).1 hr

theorem callF_some (o : FOps) (d : Db) (op : TOp) (p : Plan) :
    callF o d op (some p) = Proofs.Stmts.faulted (stepG o d (toOp op)) (call (some p.k) p.auto (topStmts o op) d) := by
  show (match (stepG o d (toOp op)).2 with | .ub _ => _ | _ => _) = _
  unfold Proofs.Stmts.faulted; cases (stepG o d (toOp op)).2 <;> rfl

theorem callF_cases (o : FOps) (hc : CeilInRange o) (d : Db) (op : TOp) (plan : Option Plan) :
    callF o d op plan = step o d (toOp op) ∨ callF o d op plan = (d, .throw .sqlite_error) := by
  rw [← stepG_eq o hc]
  cases plan with
  | none => exact .inl rfl
  | some p => exact callF_some o d op p ▸ Proofs.Stmts.faulted_atomic _ _ (topStmts_atomic o op) _ _ d

theorem callF_state (o : FOps) (hc : CeilInRange o) (d : Db) (op : TOp) (plan : Option Plan) :
    (callF o d op plan).1 = d ∨ (callF o d op plan).1 = (step o d (toOp op)).1 :=
  (callF_cases o hc d op plan).symm.imp (congrArg Prod.fst) (congrArg Prod.fst)

theorem callF_outcome (o : FOps) (hc : CeilInRange o) (d : Db) (op : TOp) (plan : Option Plan) :
    (callF o d op plan).2 = (step o d (toOp op)).2 ∨ (callF o d op plan).2 = .throw .sqlite_error :=
  (callF_cases o hc d op plan).imp (congrArg Prod.snd) (congrArg Prod.snd)

theorem callF_fault_inside (o : FOps) (d : Db) (op : TOp) (p : Plan) (hk : p.k < positions o op)
    (hu : ∀ u, (stepG o d (toOp op)).2 ≠ .ub u) : callF o d op (some p) = (d, .throw .sqlite_error) :=
  callF_some o d op p ▸ Proofs.Stmts.faulted_inside _ _ (topStmts_atomic o op) p.k p.auto d hk hu

theorem callF_failed_unchanged (o : FOps) (hc : CeilInRange o) (d : Db) (op : TOp) (plan : Option Plan)
    (hfail : ¬ ∃ v, (callF o d op plan).2 = .ok v) : (callF o d op plan).1 = d := by
  rcases callF_cases o hc d op plan with e | e
  · rw [e] at hfail ⊢
    exact (step_effect o d (toOp op)).failed_unchanged hfail
  · rw [e]

theorem callF_defined (o : FOps) (hc : CeilInRange o) {d : Db} (hd : DbInv d) (op : TOp) (plan : Option Plan) (u : Ub) :
    (callF o d op plan).2 ≠ .ub u :=
  (keeps_of_fails (P := fun r => ∀ u, r ≠ .ub u) (callF_cases o hc d op plan) hd (fun _ h => nomatch h)
    ⟨step_inv o d hd _, step_defined o hc d hd _⟩).2 u

theorem after_faults (o : FOps) (hc : CeilInRange o) (hist : List FCall) {d : Db} (hd : DbInv d) :
    DbInv (runF o d hist) ∧ ∀ r ∈ outcomesF o d hist, ∀ u, r ≠ .ub u :=
  after_failures (step := step o) (stepF := fun d c => callF o d c.1 c.2) (e := fun c => toOp c.1) (A := fun _ => True)
    (fun d c _ => callF_cases o hc d c.1 c.2) (fun _ h => nomatch h)
    (fun d op h _ => ⟨step_inv o d h op, step_defined o hc d h op⟩)
    ⟨fun _ => rfl, fun _ _ _ => rfl⟩ ⟨fun _ => rfl, fun _ _ _ => rfl⟩ hist d hd fun _ _ => trivial

theorem inv_runF (o : FOps) (hc : CeilInRange o) (hist : List FCall) {d : Db} (hd : DbInv d) : DbInv (runF o d hist) :=
  (after_faults o hc hist hd).1

theorem outcomesF_defined (o : FOps) (hc : CeilInRange o) (hist : List FCall) {d : Db} (hd : DbInv d) :
    ∀ r ∈ outcomesF o d hist, ∀ u, r ≠ .ub u :=
  (after_faults o hc hist hd).2

/-- **reachability**: the tables after any history with failures are the tables the fault-free C15 model reaches by a
sub-list of the history (the calls that took effect) -/
theorem runF_reachable (o : FOps) (hc : CeilInRange o) (hist : List FCall) (d : Db) :
    ∃ l : List Op, l.Sublist (hist.map fun c => toOp c.1) ∧ runF o d hist = run o d l :=
  IsRun.sublist (stepF := fun d c => callF o d c.1 c.2) (step := step o) ⟨fun _ => rfl, fun _ _ _ => rfl⟩
    ⟨fun _ => rfl, fun _ _ _ => rfl⟩ (fun c => toOp c.1) (fun d c => callF_state o hc d c.1 c.2) hist d

end EngineModel.Proofs.C15FaultsTracksV1
