/-
Schema 2.x PlaylistEntity: what survives in `cores` (id, list, (track, uuid)) across the deletions of the
crate API — ids are a key and no (list, database, track) triple occurs twice (`PairsOk`, the schema's
UNIQUE (listId, databaseUuid, trackId)); the row found by `WHERE listId = ? AND trackId = ? AND databaseUuid = ?`
read off `cores`; the loop of database::remove_track.
-/
import Proofs.CratesV2ForestRun

namespace EngineModel.Db.V2

open EngineModel.Db.Chain EngineModel.Spec EngineModel.ListAux

theorem contains_cons_ne {a l : Int} {L : List Int} (h : l ≠ a) : (a :: L).contains l = L.contains l := by
  have : (l == a) = false := by simpa using h
  rw [List.contains_cons, this, Bool.false_or]

/-- ids are a key, and no (list, (track, uuid)) occurs twice. -/
structure PairsOk (cs : List (Int × Int × Ent)) : Prop where
  ids_nodup : (cs.map (·.1)).Nodup
  pair_unique : ∀ c ∈ cs, ∀ c' ∈ cs, c.2.1 = c'.2.1 → c.2.2 = c'.2.2 → c = c'

theorem PairsOk.filter {cs : List (Int × Int × Ent)} (h : PairsOk cs) (q : Int × Int × Ent → Bool) : PairsOk (cs.filter q) :=
  ⟨List.Nodup.sublist (List.Sublist.map _ List.filter_sublist) h.ids_nodup,
   fun c hc c' hc' => h.pair_unique c (List.mem_filter.mp hc).1 c' (List.mem_filter.mp hc').1⟩

theorem pairsOk_nil : PairsOk ([] : List (Int × Int × Ent)) := ⟨by simp, by simp⟩

/-- The SELECT `WHERE listId = l AND trackId = t AND databaseUuid = u` over a table. -/
def lookup (pe : Table Ent) (l t u : Int) : Option (Row Ent) :=
  (pe.filter (fun r => r.key == l && r.val.track == t && r.val.uuid == u)).getLast?

theorem peFind_eq_lookup (d : Db) (l t u : Int) : peFind d l t u = lookup d.pe l t u := rfl

theorem rmTrackIn_eq (t : Int) (pe : Table Ent) (l : Int) :
    rmTrackIn t pe l = match lookup pe l t 0 with
      | some e => deleteKeyed fires pe l e.id
      | none => pe := rfl

theorem ent_eq {v : Ent} {t u : Int} : v = ⟨t, u⟩ ↔ v.track = t ∧ v.uuid = u := by
  cases v; simp

theorem lookup_core {pe : Table Ent} {l t u : Int} {e : Row Ent} (h : lookup pe l t u = some e) :
    core e ∈ cores pe ∧ e ∈ pe ∧ e.key = l ∧ e.val = ⟨t, u⟩ := by
  have hm := List.mem_of_getLast? h
  obtain ⟨h1, h2⟩ := List.mem_filter.mp hm
  simp only [Bool.and_eq_true, beq_iff_eq] at h2
  exact ⟨mem_cores.mpr ⟨e, h1, rfl⟩, h1, h2.1.1, ent_eq.mpr ⟨h2.1.2, h2.2⟩⟩

theorem lookup_none {pe : Table Ent} {l t u : Int} (h : lookup pe l t u = none) :
    ∀ c ∈ cores pe, ¬ (c.2.1 = l ∧ c.2.2 = ⟨t, u⟩) := by
  intro c hc hh
  obtain ⟨r, hr, rfl⟩ := mem_cores.mp hc
  have := List.getLast?_eq_none_iff.mp h
  rw [List.filter_eq_nil_iff] at this
  simp only [core] at hh
  obtain ⟨h1, h2⟩ := ent_eq.mp hh.2
  exact this r hr (by simp [hh.1, h1, h2])

theorem cores_delete_pair {pe : Table Ent} (hp : PairsOk (cores pe)) {l t u : Int} {e : Row Ent}
    (h : lookup pe l t u = some e) :
    cores (deleteKeyed fires pe l e.id) = (cores pe).filter (fun c => !(c.2.1 == l && c.2.2 == (⟨t, u⟩ : Ent))) := by
  obtain ⟨hce, _, hel, het⟩ := lookup_core h
  rw [cores_deleteKeyed]
  · apply List.filter_congr
    intro c hc
    -- ids are a key, and so is (list, payload): both single out the row found
    have hiff : c.1 = e.id ↔ (c.2.1 = l ∧ c.2.2 = ⟨t, u⟩) :=
      ⟨fun hid => by rw [eq_of_map_eq hp.ids_nodup hc hce hid]; exact ⟨hel, het⟩,
       fun hh => by rw [hp.pair_unique c hc (core e) hce (hh.1.trans hel.symm) (hh.2.trans het.symm)]; rfl⟩
    rw [Bool.eq_iff_iff]
    simp [hiff, Decidable.imp_iff_not_or]
  · intro r hr hid
    have : core r = core e := eq_of_map_eq hp.ids_nodup (mem_cores.mpr ⟨r, hr, rfl⟩) hce hid
    exact (congrArg (·.2.1) this).trans hel

theorem filter_pair_none {cs : List (Int × Int × Ent)} {l : Int} {v : Ent} (h : ∀ c ∈ cs, ¬ (c.2.1 = l ∧ c.2.2 = v)) :
    cs.filter (fun c => !(c.2.1 == l && c.2.2 == v)) = cs := by
  apply List.filter_eq_self.mpr
  intro c hc
  have := h c hc
  by_cases h1 : c.2.1 = l
  · have h2 : c.2.2 ≠ v := fun e' => this ⟨h1, e'⟩
    simp [h1, h2]
  · simp [h1]

/-- database::remove_track's loop over the lists `L`: the rows (l, (tv, own uuid)) with l among the visited lists go. -/
theorem cores_foldl_removeTrack (tv : Int) (L : List Int) (pe : Table Ent) (hp : PairsOk (cores pe)) :
    cores (L.foldl (rmTrackIn tv) pe) = (cores pe).filter (fun c => !(L.contains c.2.1 && c.2.2 == (⟨tv, 0⟩ : Ent))) := by
  induction L generalizing pe with
  | nil => simp only [List.foldl_nil, List.contains_nil, Bool.false_and, Bool.not_false]
           exact (List.filter_eq_self.mpr (fun _ _ => rfl)).symm
  | cons a L ih =>
    simp only [List.foldl_cons]
    have hstep : ∀ pe1 : Table Ent, cores pe1 = (cores pe).filter (fun c => !(c.2.1 == a && c.2.2 == (⟨tv, 0⟩ : Ent))) →
        cores (L.foldl (rmTrackIn tv) pe1) = (cores pe).filter (fun c => !((a :: L).contains c.2.1 && c.2.2 == (⟨tv, 0⟩ : Ent))) := by
      intro pe1 h1
      rw [ih pe1 (h1 ▸ hp.filter _), h1, List.filter_filter]
      apply List.filter_congr
      intro c _
      by_cases hca : c.2.1 = a
      · by_cases ht : c.2.2 = (⟨tv, 0⟩ : Ent) <;> simp [hca, ht]
      · have : (c.2.1 == a) = false := by simpa using hca
        rw [contains_cons_ne hca, this]
        simp
    rw [rmTrackIn_eq]
    cases hl : lookup pe a tv 0 with
    | none => exact hstep pe (filter_pair_none (lookup_none hl)).symm
    | some e => exact hstep _ (cores_delete_pair hp hl)

theorem pairsOk_append {pe : Table Ent} (hp : PairsOk (cores pe)) {n l t u : Int} (hfresh : n ∉ ids pe)
    (hnone : lookup pe l t u = none) : PairsOk (cores (appendBack pe n l ⟨t, u⟩)) := by
  rw [cores_appendBack]
  constructor
  · rw [List.map_append]
    refine List.nodup_append.mpr ⟨hp.ids_nodup, by simp, ?_⟩
    intro a ha b hb
    simp only [List.map_cons, List.map_nil, List.mem_singleton] at hb
    subst hb
    intro e; subst e
    rw [ids_eq_cores] at hfresh; exact hfresh ha
  · intro x hx y hy e1 e2
    simp only [List.mem_append, List.mem_singleton] at hx hy
    rcases hx with hx | rfl <;> rcases hy with hy | rfl
    · exact hp.pair_unique x hx y hy e1 e2
    · exact absurd ⟨e1, e2⟩ (lookup_none hnone x hx)
    · exact absurd ⟨e1.symm, e2.symm⟩ (lookup_none hnone y hy)
    · rfl

end EngineModel.Db.V2
