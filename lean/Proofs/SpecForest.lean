/-
The Spec of C07 (Spec/Forest.lean) *is* a forest: lemmas about the Spec alone,
shared by the schema-1.x and schema-2.x refinements.  `isAncestor` (a fuel-bounded
upward walk) is exactly the transitive closure of the parent relation — the fuel
`crates.length` always suffices (`isAncestor_iff`, `isAncestor_iff_transGen`).
Well-formedness (`Wf`) and its preservation are in Proofs/SpecForestWf.lean.
At the end, for both refinements of C08: what the two lookups of Spec/Members.lean list (`mem_tracksOf`, `mem_cratesOf`).
-/
import EngineModel.Spec.Forest
import EngineModel.Spec.Members
import Proofs.ListAux
import Mathlib.Logic.Relation

namespace EngineModel.Spec.Forest

open EngineModel.ListAux

-- Naming `step`, `Verdict.next` in a simp attribute makes Lean generate their equation lemmas (one per branch of the `match`) here.
-- Without the section nothing fails, but every later declaration that unfolds one of them by `simp [f]` generates them again.
section
attribute [local simp] step Verdict.next
end

namespace Forest

/-- `k`-th ancestor. -/
def up (f : Forest) : Nat → Id → Option Id
  | 0, x => some x
  | k + 1, x => (f.parentOf x).bind (up f k)

def parentRel (f : Forest) (x p : Id) : Prop := f.parentOf x = some p

theorem up_add (f : Forest) (i j : Nat) (x : Id) : up f (i + j) x = (up f i x).bind (up f j) := by
  induction i generalizing x with
  | zero => simp [up]
  | succ i ih =>
    have : i + 1 + j = (i + j) + 1 := by omega
    rw [this]
    simp only [up]
    cases f.parentOf x with
    | none => rfl
    | some p => simp [ih]

theorem up_succ_last (f : Forest) (k : Nat) (x : Id) : up f (k + 1) x = (up f k x).bind f.parentOf := by
  have := up_add f k 1 x
  rw [this]
  congr 1
  funext y
  simp [up]

theorem up_prefix {f : Forest} {k : Nat} {x a : Id} (h : up f k x = some a) {j : Nat} (hj : j ≤ k) :
    ∃ y, up f j x = some y := by
  have e : k = j + (k - j) := by omega
  rw [e, up_add] at h
  cases hu : up f j x with
  | none => simp [hu] at h
  | some y => exact ⟨y, rfl⟩

theorem live_of_parentOf {f : Forest} {x p : Id} (h : f.parentOf x = some p) : x ∈ f.ids := by
  unfold parentOf find at h
  cases hf : f.crates.find? (·.id == x) with
  | none => simp [hf] at h
  | some c =>
    have h1 := List.mem_of_find?_eq_some hf
    have h2 := List.find?_some hf
    simp only [ids, List.mem_map]
    exact ⟨c, h1, by simpa using h2⟩

theorem isAncestorFuel_iff (f : Forest) (a : Id) (n : Nat) (x : Id) :
    f.isAncestorFuel a n x = true ↔ ∃ k, 1 ≤ k ∧ k ≤ n ∧ up f k x = some a := by
  induction n generalizing x with
  | zero => simp [isAncestorFuel]; intro k h1 h2; omega
  | succ n ih =>
    simp only [isAncestorFuel]
    cases hp : f.parentOf x with
    | none =>
      simp only [Bool.false_eq_true, false_iff, not_exists, not_and]
      intro k h1 _ hk
      have : k = 1 + (k - 1) := by omega
      rw [this, up_add] at hk
      simp [up, hp] at hk
    | some p =>
      simp only [Bool.or_eq_true, beq_iff_eq, ih]
      constructor
      · rintro (rfl | ⟨k, h1, h2, h3⟩)
        · exact ⟨1, by omega, by omega, by simp [up, hp]⟩
        · refine ⟨k + 1, by omega, by omega, ?_⟩
          simp [up, hp, h3]
      · rintro ⟨k, h1, h2, h3⟩
        cases k with
        | zero => omega
        | succ k =>
          simp only [up, hp, Option.bind_some] at h3
          cases k with
          | zero => left; simpa [up] using h3
          | succ k => right; exact ⟨k + 1, by omega, by omega, h3⟩

/-- A shortest upward path visits pairwise different live crates, so it is no longer than the number of crates. -/
theorem up_short (f : Forest) {k : Nat} {x a : Id} (hk : 1 ≤ k) (h : up f k x = some a) :
    ∃ k', 1 ≤ k' ∧ k' ≤ f.crates.length ∧ up f k' x = some a := by
  induction k using Nat.strongRecOn with
  | _ k ih =>
    by_cases hle : k ≤ f.crates.length
    · exact ⟨k, hk, hle, h⟩
    · -- more than `crates.length` steps: two of the first k nodes coincide, cut the loop out
      let g : Nat → Int := fun j => (up f j x).getD 0
      have hg : ∀ j, j ≤ k → up f j x = some (g j) := by
        intro j hj
        obtain ⟨y, hy⟩ := up_prefix h hj
        simp [g, hy]
      by_cases hinj : ∀ i j, i < j → j < k → g i ≠ g j
      · exfalso
        have hnd := nodup_map_range hinj
        have hsub : ∀ y ∈ (List.range k).map g, y ∈ f.ids := by
          intro y hy
          obtain ⟨j, hj, rfl⟩ := List.mem_map.mp hy
          have hj' := List.mem_range.mp hj
          have h1 := hg j (by omega)
          have h2 := hg (j + 1) (by omega)
          rw [up_succ_last, h1] at h2
          exact live_of_parentOf h2
        have := length_le_of_nodup_subset hnd hsub
        simp [ids] at this
        omega
      · have : ∃ i j, i < j ∧ j < k ∧ g i = g j := by
          apply Classical.byContradiction
          intro hc
          apply hinj
          intro i j h1 h2 e
          exact hc ⟨i, j, h1, h2, e⟩
        obtain ⟨i, j, hij, hjk, e⟩ := this
        have hnew : up f (i + (k - j)) x = some a := by
          rw [up_add, hg i (by omega), e, ← hg j (by omega)]
          rw [← up_add]
          have : j + (k - j) = k := by omega
          rw [this]; exact h
        exact ih (i + (k - j)) (by omega) (by omega) hnew

theorem isAncestor_iff (f : Forest) (a x : Id) :
    f.isAncestor a x = true ↔ ∃ k, 1 ≤ k ∧ up f k x = some a := by
  unfold isAncestor
  rw [isAncestorFuel_iff]
  constructor
  · rintro ⟨k, h1, _, h3⟩; exact ⟨k, h1, h3⟩
  · rintro ⟨k, h1, h3⟩
    obtain ⟨k', a1, a2, a3⟩ := up_short f h1 h3
    exact ⟨k', a1, a2, a3⟩

theorem isAncestor_iff_transGen (f : Forest) (a x : Id) :
    f.isAncestor a x = true ↔ Relation.TransGen (parentRel f) x a := by
  rw [isAncestor_iff]
  constructor
  · rintro ⟨k, h1, h3⟩
    induction k generalizing x with
    | zero => omega
    | succ k ih =>
      simp only [up] at h3
      cases hp : f.parentOf x with
      | none => simp [hp] at h3
      | some p =>
        simp only [hp, Option.bind_some] at h3
        cases k with
        | zero =>
          simp only [up, Option.some.injEq] at h3
          subst h3
          exact Relation.TransGen.single hp
        | succ k =>
          exact Relation.TransGen.head hp (ih p (by omega) h3)
  · intro h
    induction h using Relation.TransGen.head_induction_on with
    | single h => exact ⟨1, by omega, by simp [up, show f.parentOf _ = some a from h]⟩
    | head h _ ih =>
      obtain ⟨k, h1, h3⟩ := ih
      exact ⟨k + 1, by omega, by simp [up, show f.parentOf _ = some _ from h, h3]⟩

theorem isAncestor_trans {f : Forest} {a b c : Id} (h1 : f.isAncestor a b = true) (h2 : f.isAncestor b c = true) :
    f.isAncestor a c = true := by
  rw [isAncestor_iff] at *
  obtain ⟨k1, a1, a2⟩ := h1
  obtain ⟨k2, b1, b2⟩ := h2
  exact ⟨k2 + k1, by omega, by rw [up_add, b2]; exact a2⟩

theorem isAncestor_of_parent {f : Forest} {x p : Id} (h : f.parentOf x = some p) : f.isAncestor p x = true := by
  rw [isAncestor_iff]; exact ⟨1, by omega, by simp [up, h]⟩

theorem isAncestor_step {f : Forest} {a x : Id} (h : f.isAncestor a x = true) :
    ∃ p, f.parentOf x = some p ∧ (p = a ∨ f.isAncestor a p = true) := by
  rw [isAncestor_iff] at h
  obtain ⟨k, h1, h3⟩ := h
  cases k with
  | zero => omega
  | succ k =>
    simp only [up] at h3
    cases hp : f.parentOf x with
    | none => simp [hp] at h3
    | some p =>
      simp only [hp, Option.bind_some] at h3
      refine ⟨p, rfl, ?_⟩
      cases k with
      | zero => left; simpa [up] using h3
      | succ k => right; rw [isAncestor_iff]; exact ⟨k + 1, by omega, h3⟩

theorem isAncestor_unfold {f : Forest} {a c : Id} :
    f.isAncestor a c = true ↔ ∃ p, f.parentOf c = some p ∧ (p = a ∨ f.isAncestor a p = true) :=
  ⟨isAncestor_step, fun ⟨_, hp, h⟩ =>
    h.elim (fun e => e ▸ isAncestor_of_parent hp) fun ha => isAncestor_trans ha (isAncestor_of_parent hp)⟩

end Forest

end EngineModel.Spec.Forest

namespace EngineModel.Spec.Members

theorem mem_tracksOf {s : State} {c : CrateId} {t : TrackId} : t ∈ tracksOf s c ↔ (c, t) ∈ s.pairs := ListAux.mem_snd_of_fst

theorem mem_cratesOf {s : State} {t : TrackId} {c : CrateId} : c ∈ cratesOf s t ↔ (c, t) ∈ s.pairs := ListAux.mem_fst_of_snd

end EngineModel.Spec.Members
