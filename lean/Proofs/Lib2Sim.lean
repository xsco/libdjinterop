/-
Composite 2.x library: the COMPOSITION theorems.  After any admissible history of the composite

  * the crate tables, seen with the ids of the real Track rows, are exactly the tables the crate package reaches
    on `crateHist` (the same calls as that package sees them: a `create_track` that went through is its
    `createTrack`, `remove_track` its `removeTrack`, a setter / update / observer nothing), and
  * the Track table is exactly the table the track package reaches on `trackHist`.

So every history theorem of the packages (C07V2 / C08V2 / C09 / C11V2 on `Db.V2.run`, C01V2 / C06V2 / C11V2Tracks on
`TDb.run`) holds of the corresponding part of the composite — with "live track" meaning a ROW of the Track table.
Last, of any library satisfying `LibCore`: what `crate.tracks()` lists, what a membership is, and that a removed
crate stays gone.
-/
import Proofs.Lib2Step
import Proofs.Lib2Exec
import Proofs.CratesV2MembersQueries
import Proofs.CratesV2ForestQueries

namespace EngineModel.Lib.V2
open EngineModel EngineModel.Db.Chain EngineModel.TracksV2
open EngineModel.Table (Schema2)

theorem empty_crates (s : Schema2) (uuid : Bytes) : (Lib2.empty s uuid).crates = EngineModel.Db.V2.Db.empty := rfl

theorem run_append (ops : FOps) (s : Schema2) (L : Lib2) (a b : List Call) :
    run ops s L (a ++ b) = run ops s (run ops s L a) b := by
  unfold run; rw [List.foldl_append]

theorem crateHist_append (ops : FOps) (s : Schema2) (L : Lib2) (a b : List Call) :
    crateHist ops s L (a ++ b) = crateHist ops s L a ++ crateHist ops s (run ops s L a) b := by
  induction a generalizing L with
  | nil => rfl
  | cons c cs ih =>
    simp only [List.cons_append, crateHist, List.append_assoc]
    rw [ih]; rfl

/-- An induction of its own: what the crate package sees of a call (`crateOpOf`) depends on the state the call
runs in, so `crateHist` is no `filterMap` of the history. -/
theorem crates_run (ops : FOps) (s : Schema2) {L : Lib2} (h : LibCore s L) (hist : List Call)
    (ha : hist.all Call.admissible = true) :
    (run ops s L hist).crates = EngineModel.Db.V2.run L.crates (crateHist ops s L hist) := by
  induction hist generalizing L with
  | nil => rfl
  | cons c cs ih =>
    simp only [List.all_cons, Bool.and_eq_true] at ha
    show (run ops s (step ops s L c).1 cs).crates = _
    rw [ih (libCore_step ops s h c ha.1) ha.2, crates_step ops s h.tr c, crateHist, EngineModel.Db.V2.run_append]
    cases crateOpOf ops s L c <;> rfl

theorem crateHist_ops (ops : FOps) (s : Schema2) (L : Lib2) (hist : List Call) (A : Call → Bool) (B : COp → Bool)
    (hAB : ∀ L c op, A c = true → crateOpOf ops s L c = some op → B op = true) (ha : hist.all A = true) :
    (crateHist ops s L hist).all B = true := by
  induction hist generalizing L with
  | nil => rfl
  | cons c cs ih =>
    simp only [List.all_cons, Bool.and_eq_true] at ha
    simp only [crateHist, List.all_append, Bool.and_eq_true]
    refine ⟨?_, ih _ ha.2⟩
    cases hc : crateOpOf ops s L c with
    | none => rfl
    | some op => simp [hAB L c op ha.1 hc]

theorem crateHist_memOp (ops : FOps) (s : Schema2) (L : Lib2) (hist : List Call) (ha : hist.all Call.admissible = true) :
    (crateHist ops s L hist).all EngineModel.Db.V2.memOp = true :=
  crateHist_ops ops s L hist _ _ (fun _ _ _ ha hc => (crateOpOf_ops hc).1 ha) ha

theorem crateHist_apiOp (ops : FOps) (s : Schema2) (L : Lib2) (hist : List Call) (ha : hist.all Call.isApi = true) :
    (crateHist ops s L hist).all EngineModel.Db.V2.apiOp = true :=
  crateHist_ops ops s L hist _ _ (fun _ _ _ ha hc => (crateOpOf_ops hc).2 ha) ha

/-- `trackHist` is a `filterMap`, but `.tdb` projects the state where `Machine`'s `abstracts_filterMap` embeds one, and
`projects` asks for an invariant and an alphabet, both trivial here: hence an induction of its own. -/
theorem tdb_run (ops : FOps) (s : Schema2) (L : Lib2) (hist : List Call) :
    (run ops s L hist).tdb = L.tdb.run ops (toT s) (trackHist hist) := by
  induction hist generalizing L with
  | nil => rfl
  | cons c cs ih =>
    show (run ops s (step ops s L c).1 cs).tdb = _
    rw [ih, tdb_step]
    simp only [trackHist, List.filterMap_cons]
    cases trackOpOf c <;> rfl

theorem tracks_exactly_live_members (ops : FOps) (s : Schema2) {L : Lib2} (h : LibCore s L) (c : Int) :
    ∃ l, step ops s L (.crateTracks c) = (L, .ok (.ids l)) ∧ l.Nodup ∧
      (∀ t, t ∈ l ↔ t ∈ Spec.Members.tracksOf (EngineModel.Db.V2.absM L.crates) c) ∧
      (∀ t ∈ l, ∃ row ∈ L.tdb.rows, (row.id : Int) = t ∧
        (step ops s L (.trackById t)).2 = .ok (.oid (some t)) ∧ (step ops s L (.trackIsValid row.id)).2 = .ok (.bool true)) := by
  obtain ⟨S, hS⟩ := h.cr
  obtain ⟨l, h1, h2, h3, h4⟩ := EngineModel.Db.V2.qTracks_spec hS.ch hS.mem c
  refine ⟨l, step_crateTracks ops s L c h1, h2, h3, fun t ht => ?_⟩
  obtain ⟨row, hrow, e⟩ := List.mem_map.mp (h4 t ht)
  refine ⟨row, hrow, e, ?_, ?_⟩
  · show Res.ok (Out.oid (if trackExists L t = true then some t else none)) = _
    rw [(trackExists_iff L t).mpr (h4 t ht)]; rfl
  · show Res.ok (Out.bool (L.tdb.find row.id).isSome) = _
    rw [(find_isSome_iff L.tdb row.id).mpr (List.mem_map_of_mem hrow)]

theorem membership_rows {s : Schema2} {L : Lib2} (h : LibCore s L) (c t : Int) :
    ((c, t) ∈ (EngineModel.Db.V2.absM L.crates).pairs ↔ ∃ e ∈ L.pe, e.key = c ∧ e.val.track = t ∧ e.val.uuid = 0) ∧
    ((c, t) ∈ (EngineModel.Db.V2.absM L.crates).pairs → (∃ p ∈ L.pl, p.id = c) ∧ ∃ row ∈ L.tdb.rows, (row.id : Int) = t) := by
  obtain ⟨S, hS⟩ := h.cr
  refine ⟨EngineModel.Db.V2.mem_pairs_iff, ?_⟩
  intro hp
  obtain ⟨e, he, rfl, rfl, h3⟩ := EngineModel.Db.V2.mem_pairs_iff.mp hp
  exact entry_refs hS he h3

theorem removed_crate_gone (ops : FOps) (s : Schema2) {L : Lib2} (h : LibCore s L) (later : List Call)
    (hl : later.all Call.admissible = true) (c x : Int) (hc : EngineModel.Db.V2.qValid L.crates c = true)
    (hx : x = c ∨ ∃ l, EngineModel.Db.V2.qDescendants L.crates c = .ok l ∧ x ∈ l) :
    EngineModel.Db.V2.qValid (run ops s (step ops s L (.removeCrate c)).1 later).crates x = false := by
  obtain ⟨S, hS⟩ := h.cr
  rw [crates_run ops s (libCore_step ops s h (.removeCrate c) rfl) later hl, crates_step ops s h.tr]
  exact EngineModel.Db.V2.removed_subtree_gone hS.pl c hc x hx _

end EngineModel.Lib.V2
