/-
The conversions regenerated from `convert_track.hpp`, `convert_hot_cues.hpp`, `convert_loops.hpp`,
`convert_beatgrid.hpp` (`Gen/ConvertV2Gen.lean`, written by tools/tr_convert_v2.py on every run) are, as functions, the
components of the hand model `TracksV2/Model.lean` that `writeSnap`, `readSnap` and the setter /
getter models (`TracksV2/Lens.lean`) are made of.  Every statement mentions names only (stable
lock hashes); every proof unfolds the regenerated body, so a change of the C++ that changes what is
computed breaks `lake build` here.  No Mathlib.
-/
import EngineModel.Gen.ConvertV2Gen
import Proofs.TracksV2Basic
import Proofs.MonadLaws

namespace EngineModel.Gen.ConvertV2
open EngineModel EngineModel.TracksV2 EngineModel.Prim

-- a proof broken by a change of the translation must fail quickly (the check reports it), not after minutes
set_option maxHeartbeats 40000
set_option linter.unusedSimpArgs false

theorem i64_zero : Cv.i64 0 = 0 := by decide
theorem u64_zero : Cv.u64 0 = 0 := by decide
theorem i32_zero : Cv.i32 0 = 0 := by decide

theorem I64_eq_zero (x : UInt64) : Cv.I64.eq x (Cv.i64 0) = decide (x = 0) := by
  unfold Cv.I64.eq
  rw [i64_zero]
  by_cases h : x = 0
  · subst h; decide
  · have : ¬ s64 x = s64 0 := fun e => h (s64_inj.mp e)
    simp [h, this]

theorem i64ToI32_eq (x : UInt64) : Cv.i64ToI32 x = trunc32 x := by
  unfold Cv.i64ToI32 trunc32 u32OfInt s64
  have hx := x.toNat_lt
  congr 1
  split <;> omega

theorem i32ToI64_eq (x : UInt32) : Cv.i32ToI64 x = sext32 x := rfl

/-- `(int64_t) std::clamp(v, 0, 100)` on bit patterns = the hand model's clamp on the value -/
theorem clamp_sext (v : UInt32) :
    Cv.i32ToI64 (Cv.I32.clamp v 0 (Cv.i32 100)) =
      u64OfInt (if s32 v < 0 then 0 else if 100 < s32 v then 100 else s32 v) := by
  unfold Cv.I32.clamp Cv.I32.lt
  rw [i32ToI64_eq]
  have h0 : s32 0 = 0 := by decide
  have h100 : s32 (Cv.i32 100) = 100 := by decide
  rw [h0, h100]
  by_cases h1 : s32 v < 0
  · simp only [h1, decide_true, if_true]; decide
  · by_cases h2 : 100 < s32 v
    · simp only [h1, h2, decide_true, decide_false, if_true, if_false, Bool.false_eq_true]; decide
    · simp only [h1, h2, decide_false, if_false, Bool.false_eq_true]; rfl

/-- `convert::write::rating` (any arrangement of the same clamp: a named local, the call inline) -/
theorem write_rating_eq (r : Option UInt32) : write_rating r = .ok (writeRating r) := by
  unfold write_rating writeRating
  simp only [i32_zero, clamp_sext, Res.pure_eq]

theorem read_rating_eq (r : UInt64) : read_rating r = .ok (readRating r) := by
  unfold read_rating readRating
  rw [I64_eq_zero, i64ToI32_eq]
  by_cases h : r = 0 <;> simp [h]

theorem write_duration_eq (d : Option UInt64) : write_duration d = .ok (writeDuration d) := by
  unfold write_duration writeDuration Cv.I64.div Cv.I64.chk
  rw [i64_zero]
  have h1000 : s64 (Cv.i64 1000) = 1000 := by decide
  rw [h1000]
  have hr := s64_range (d.getD 0)
  obtain ⟨_, _, _, _⟩ := tdiv_bounds _ 1000 (by omega) hr.1 hr.2
  rw [if_neg (by decide), if_neg (by omega)]

theorem I64_zero_eq (x : UInt64) : Cv.I64.eq (Cv.i64 0) x = decide (x = 0) := by
  rw [← I64_eq_zero]; unfold Cv.I64.eq; congr 1; exact propext ⟨Eq.symm, Eq.symm⟩

theorem mul1000_eq (len : UInt64) :
    Cv.I64.mul len (Cv.i64 1000) =
      if s64 len * 1000 < -9223372036854775808 ∨ 9223372036854775807 < s64 len * 1000 then .ub .signed_overflow
      else .ok (u64OfInt (s64 len * 1000)) := by
  unfold Cv.I64.mul Cv.I64.chk
  have h1000 : s64 (Cv.i64 1000) = 1000 := by decide
  rw [h1000]

/-- `convert::read::duration` (the product is checked: `ub signed_overflow`; the comparison may be written
either way round, the product may be a named local) -/
theorem read_duration_eq (len : UInt64) : read_duration len = readDuration len := by
  unfold read_duration readDuration
  simp only [I64_eq_zero, I64_zero_eq, mul1000_eq]
  by_cases h : len = 0
  · simp [h]
  · simp only [h, decide_false, Bool.false_eq_true, if_false]
    split <;> rfl

theorem write_key_eq (k : Option UInt32) : write_key k = .ok (writeKey k) := by
  cases k <;> rfl

theorem read_key_eq (k : Option UInt32) : read_key k = .ok k := rfl

theorem write_average_loudness_eq (v : Option F) : write_average_loudness v = .ok (writeAverageLoudness v) := by
  cases v <;> rfl

theorem read_average_loudness_eq (t : V2.Track) : read_average_loudness t = .ok (readAverageLoudness t) := by
  unfold read_average_loudness readAverageLoudness
  rw [show F64.ne t.lo 0 = !F64.isZero t.lo from F64.ne_zero_eq _]
  cases F64.isZero t.lo <;> rfl

theorem write_sample_rate_eq (v : Option F) : write_sample_rate v = .ok (writeSampleRate v) := by
  cases v <;> rfl

theorem read_sample_rate_eq (t : V2.Track) : read_sample_rate t = .ok (readSampleRate t) := by
  unfold read_sample_rate readSampleRate
  rw [show F64.ne t.sampleRate 0 = !F64.isZero t.sampleRate from F64.ne_zero_eq _]
  cases F64.isZero t.sampleRate <;> rfl

/-- `convert::write::sample_count`: the integer for `track_data`, the double for `beat_data` -/
theorem write_sample_count_eq (ops : FOps) (c : Option UInt64) :
    write_sample_count ops c = .ok (c.getD 0, ops.ofU64 (c.getD 0)) := by
  cases c <;> rfl

theorem read_sample_count_eq (t : V2.Track) : read_sample_count t = .ok (readSampleCount t) := by
  unfold read_sample_count readSampleCount
  rw [I64_eq_zero]
  by_cases h : t.samples = 0 <;> simp [h, Cv.i64ToU64]

theorem read_bpm_eq (ops : FOps) (a : Option F) (b : Option UInt64) : read_bpm ops a b = .ok (readBpm ops a b) := by
  cases a <;> rfl

/-! ### `convert::write::bpm`: the range guard of the source is exactly "the cast is defined" -/

/-- the magnitude `toI64` computes for a biased exponent in `1023 … 1086`: below `2^63` up to 1085, and the
significand times `2^11` at 1086 -/
theorem mag_bounds (e m : Nat) (hm : m < 4503599627370496) :
    (e ≤ 1085 → (if e ≥ 1075 then (m + 4503599627370496) * 2 ^ (e - 1075)
        else (m + 4503599627370496) / 2 ^ (1075 - e)) < 9223372036854775808) ∧
    (e = 1086 → (if e ≥ 1075 then (m + 4503599627370496) * 2 ^ (e - 1075)
        else (m + 4503599627370496) / 2 ^ (1075 - e)) = (m + 4503599627370496) * 2048) := by
  constructor
  · intro he
    split
    · have hp : 2 ^ (e - 1075) ≤ 2 ^ 10 := Nat.pow_le_pow_right (by decide) (by omega)
      have h1 := Nat.mul_le_mul_left (m + 4503599627370496) hp
      omega
    · have := Nat.div_le_self (m + 4503599627370496) (2 ^ (1075 - e))
      omega
  · rintro rfl
    rfl

/-- **`static_cast<int64_t>(double)` is defined exactly on `[-2^63, 2^63)`**, in terms of the order key
(NaN and the infinities lie outside: their keys are beyond those of `±2^63`). -/
theorem toI64_eq_none_iff (b : F) :
    toI64 b = none ↔ (F64.key b < -4890909195324358656 ∨ 4890909195324358656 ≤ F64.key b) := by
  have hx : b.toNat < 18446744073709551616 := b.toNat_lt
  have hm : F64.manOf b < 4503599627370496 := Nat.mod_lt _ (by decide)
  obtain ⟨hA, hB⟩ := mag_bounds (F64.expOf b) (F64.manOf b) hm
  unfold toI64 F64.key F64.signOf
  simp only
  generalize (if F64.expOf b ≥ 1075 then (F64.manOf b + 4503599627370496) * 2 ^ (F64.expOf b - 1075)
        else (F64.manOf b + 4503599627370496) / 2 ^ (1075 - F64.expOf b)) = mag at hA hB
  have he : F64.expOf b = b.toNat / 4503599627370496 % 2048 := rfl
  have hm' : F64.manOf b = b.toNat % 4503599627370496 := rfl
  generalize F64.expOf b = e at *
  generalize F64.manOf b = m at *
  generalize b.toNat = n at *
  have he2 : e < 2048 := by omega
  by_cases hs : 9223372036854775808 ≤ n
  · -- negative: the bits below the sign are `e * 2^52 + m`
    have hn : n = 9223372036854775808 + e * 4503599627370496 + m := by omega
    clear he hm'
    simp only [hs, decide_true, if_true]
    split
    · simp only [reduceCtorEq, true_iff, false_iff, not_or, Int.not_lt, Int.not_le]; omega
    · split
      · simp only [reduceCtorEq, true_iff, false_iff, not_or, Int.not_lt, Int.not_le]; omega
      · split
        · simp only [reduceCtorEq, true_iff, false_iff, not_or, Int.not_lt, Int.not_le]; omega
        · simp only [reduceCtorEq, true_iff, false_iff, not_or, Int.not_lt, Int.not_le]; omega
  · have hn : n = e * 4503599627370496 + m := by omega
    clear he hm'
    simp only [hs, decide_false, if_false, Bool.false_eq_true]
    split
    · simp only [reduceCtorEq, true_iff, false_iff, not_or, Int.not_lt, Int.not_le]; omega
    · split
      · simp only [reduceCtorEq, true_iff, false_iff, not_or, Int.not_lt, Int.not_le]; omega
      · split
        · simp only [reduceCtorEq, true_iff, false_iff, not_or, Int.not_lt, Int.not_le]; omega
        · simp only [reduceCtorEq, true_iff, false_iff, not_or, Int.not_lt, Int.not_le]; omega

theorem key_min : F64.key (0xc3e0000000000000 : F) = -4890909195324358656 := by decide
theorem key_two63 : F64.key (0x43e0000000000000 : F) = 4890909195324358656 := by decide

theorem toI64_none_of_guard (b : F)
    (h : (F64.le (0xc3e0000000000000 : F) b && F64.lt b (0x43e0000000000000 : F)) = false) : toI64 b = none := by
  by_cases hn : F64.isNaN b = true
  · -- a NaN has exponent 2047
    unfold F64.isNaN at hn
    simp only [Bool.and_eq_true, beq_iff_eq] at hn
    unfold toI64
    simp only
    rw [if_pos (by omega)]
  · rw [toI64_eq_none_iff]
    unfold F64.le F64.lt at h
    rw [key_min, key_two63] at h
    have hn' : F64.isNaN b = false := by cases hb : F64.isNaN b <;> simp_all
    have h1 : F64.isNaN (0xc3e0000000000000 : F) = false := by decide
    have h2 : F64.isNaN (0x43e0000000000000 : F) = false := by decide
    rw [hn', h1, h2] at h
    simp only [Bool.not_false, Bool.true_and, Bool.and_eq_false_iff, decide_eq_false_iff_not] at h
    omega

theorem toI64_some_of_guard (b : F)
    (h1 : F64.le (0xc3e0000000000000 : F) b = true) (h2 : F64.lt b (0x43e0000000000000 : F) = true) :
    ∃ t, toI64 b = some t := by
  cases ht : toI64 b with
  | some t => exact ⟨t, rfl⟩
  | none =>
    have := (toI64_eq_none_iff b).mp ht
    unfold F64.le at h1
    unfold F64.lt at h2
    rw [key_min] at h1
    rw [key_two63] at h2
    simp only [Bool.and_eq_true, decide_eq_true_eq] at h1 h2
    omega

/-- `convert::write::bpm`: `{bpm, in range ? (int64_t) *bpm : nullopt}` — the guard of the source makes
the conversion defined exactly where `toI64` is, so no `ub float_cast_range` and no lost value. -/
theorem write_bpm_eq (v : Option F) : write_bpm v = .ok (writeBpm v) := by
  cases v with
  | none => rfl
  | some b =>
    unfold write_bpm writeBpm
    simp only [Option.isSome_some, Cv.andAlso, if_true, Cv.deref, bind, Res.bind, pure, Option.bind_some]
    by_cases h1 : F64.le (0xc3e0000000000000 : F) b = true
    · by_cases h2 : F64.lt b (0x43e0000000000000 : F) = true
      · obtain ⟨t, ht⟩ := toI64_some_of_guard b h1 h2
        simp only [h1, h2, if_true, Cv.f64ToI64, ht, Option.map_some]
      · have hg := toI64_none_of_guard b (by simp [h2])
        simp only [h1, h2, if_true, Bool.false_eq_true, if_false, hg, Option.map_none]
    · have hg := toI64_none_of_guard b (by simp [h1])
      simp only [h1, Bool.false_eq_true, if_false, hg, Option.map_none]

/-- `convert::write::album_art_id` / `convert::read::album_art_id` (not used by track_impl.cpp) -/
theorem write_album_art_id_eq (a : Option UInt64) : write_album_art_id a = .ok (a.getD 1) := by
  cases a <;> rfl

theorem read_album_art_id_eq (a : UInt64) : read_album_art_id a = .ok (if a = 1 then none else some a) := by
  unfold read_album_art_id Cv.I64.eq
  have h1 : Cv.i64 1 = 1 := by decide
  rw [h1]
  by_cases h : a = 1
  · subst h; rfl
  · have : ¬ s64 a = s64 1 := fun e => h (s64_inj.mp e)
    simp [h, this]

theorem quick_cue_blob_empty_eq : quick_cue_blob_empty = .ok emptyCue := by decide
theorem loop_blob_empty_eq : loop_blob_empty = .ok emptyLoop := by decide

theorem write_main_cue_eq (v : Option F) : write_main_cue v = .ok (writeMainCue v) := by
  cases v <;> rfl

theorem read_main_cue_eq (v : F) : read_main_cue v = .ok (readMainCue v) := by
  unfold read_main_cue readMainCue
  rw [show F64.ne v 0 = !F64.isZero v from F64.ne_zero_eq _]
  cases F64.isZero v <;> rfl

theorem write_hot_cue_eq (c : Option HotCue) : write_hot_cue c = .ok (writeHotCue c) := by
  cases c with
  | none => unfold write_hot_cue; rw [quick_cue_blob_empty_eq]; rfl
  | some c => rfl

theorem read_hot_cue_eq (q : V2.Cue) : read_hot_cue q = .ok (readHotCue q) := by
  unfold read_hot_cue readHotCue
  have : QUICK_CUE_SAMPLE_OFFSET_EMPTY = negOne := rfl
  rw [this]
  cases F64.eq q.off negOne <;> rfl

theorem forPush_ok {α β} (f : α → Res β) (g : α → β) (hf : ∀ a, f a = .ok (g a)) (acc : List β) (xs : List α) :
    Cv.forPush f acc xs = .ok (acc ++ xs.map g) := by
  induction xs generalizing acc with
  | nil => simp [Cv.forPush]
  | cons x r ih =>
    unfold Cv.forPush
    rw [hf x]
    simp only [Res.bind]
    rw [ih]
    simp

theorem whilePushFuel_ok {α} (n : Nat) (e : α) (fuel : Nat) (v : List α) (h : n - v.length ≤ fuel) :
    Cv.whilePushFuel n (.ok e) fuel v = .ok (padTo n e v) := by
  induction fuel generalizing v with
  | zero =>
    unfold Cv.whilePushFuel padTo
    have : n - v.length = 0 := by omega
    rw [this]; simp
  | succ k ih =>
    unfold Cv.whilePushFuel
    by_cases hlt : v.length < n
    · rw [if_pos hlt]
      simp only [Res.bind]
      rw [ih (v ++ [e]) (by simp; omega)]
      unfold padTo
      have : n - v.length = (n - (v ++ [e]).length) + 1 := by simp; omega
      rw [this, List.replicate_succ]
      simp
    · rw [if_neg hlt]
      unfold padTo
      have : n - v.length = 0 := by omega
      rw [this]; simp

theorem whilePush_ok {α} (n : Nat) (e : α) (v : List α) : Cv.whilePush n (.ok e) v = .ok (padTo n e v) :=
  whilePushFuel_ok n e _ v (Nat.le_refl _)

/-- `convert::write::hot_cues`: more than eight ⇒ `hot_cues_overflow`, otherwise padded to eight -/
theorem write_hot_cues_eq (cs : List (Option HotCue)) : write_hot_cues cs = writeHotCues cs := by
  unfold write_hot_cues writeHotCues
  simp only [bind_pure, pure_bind, quick_cue_blob_empty_eq, decide_eq_true_eq]
  split
  · rfl
  · rw [forPush_ok _ writeHotCue write_hot_cue_eq]
    exact whilePush_ok ..

theorem read_hot_cues_eq (q : V2.Cues) : read_hot_cues q = .ok (readHotCues q) := by
  unfold read_hot_cues readHotCues
  simp only [bind_pure, pure_bind]
  rw [forPush_ok _ readHotCue read_hot_cue_eq]
  rfl

theorem write_loop_eq (l : Option LoopV) : write_loop l = .ok (writeLoop l) := by
  cases l with
  | none => unfold write_loop; rw [loop_blob_empty_eq]; rfl
  | some l => rfl

theorem read_loop_eq (l : V2.Loop) : read_loop l = .ok (readLoop l) := by
  unfold read_loop readLoop Cv.u8ToBool
  cases (l.isStart != 0 || l.isEnd != 0) <;> rfl

/-- `convert::write::loops`: more than eight ⇒ `loops_overflow`, otherwise padded to eight, no `extra_data` -/
theorem write_loops_eq (ls : List (Option LoopV)) :
    write_loops ls = (writeLoops ls).bind fun l => .ok ⟨l, []⟩ := by
  unfold write_loops writeLoops
  simp only [bind_pure, pure_bind, loop_blob_empty_eq, decide_eq_true_eq]
  split
  · rfl
  · rw [forPush_ok _ writeLoop write_loop_eq]
    simp only [bind, Res.bind, List.nil_append, whilePush_ok, Res.pure_eq]

theorem read_loops_eq (b : Cv.LoopsBlob) : read_loops b = .ok (readLoops b.loops) := by
  unfold read_loops readLoops
  simp only [bind_pure, pure_bind]
  rw [forPush_ok _ readLoop read_loop_eq]
  rfl

theorem read_beatgrid_marker_eq (m : V2.Marker) : read_beatgrid_marker m = .ok ⟨trunc32 m.beatNo, m.off⟩ := by
  unfold read_beatgrid_marker
  rw [i64ToI32_eq]; rfl

theorem read_beatgrid_markers_eq (g : List V2.Marker) : read_beatgrid_markers g = .ok (readGridMarkers g) := by
  unfold read_beatgrid_markers readGridMarkers
  simp only [bind_pure, pure_bind]
  rw [forPush_ok _ _ read_beatgrid_marker_eq]
  rfl

/-! `write::beatgrid_markers` walks the grid once and corrects the previous blob's `number_of_beats` through a
reference to `converted.back()`; the hand model `writeGridMarkers` looks one marker ahead.  The loop invariant:
after the prefix `pre`, `converted = writeGridMarkers pre`. -/

theorem wg_cons2 (a b : GMarker) (r : List GMarker) :
    writeGridMarkers (a :: b :: r) =
      ⟨a.off, sext32 a.index, u32OfInt (s32 b.index - s64 (sext32 a.index)), 0⟩ :: writeGridMarkers (b :: r) := by
  rw [writeGridMarkers]

theorem wg_snoc (pre : List GMarker) (p m : GMarker) :
    ∃ X, writeGridMarkers (pre ++ [p]) = X ++ [⟨p.off, sext32 p.index, 0, 0⟩] ∧
      writeGridMarkers (pre ++ [p, m]) =
        X ++ [⟨p.off, sext32 p.index, u32OfInt (s32 m.index - s64 (sext32 p.index)), 0⟩, ⟨m.off, sext32 m.index, 0, 0⟩] := by
  induction pre with
  | nil => exact ⟨[], by simp [writeGridMarkers], by simp [writeGridMarkers]⟩
  | cons a t ih =>
    obtain ⟨X, h1, h2⟩ := ih
    cases t with
    | nil =>
      refine ⟨⟨a.off, sext32 a.index, u32OfInt (s32 p.index - s64 (sext32 a.index)), 0⟩ :: X, ?_, ?_⟩
      · simp only [List.cons_append, List.nil_append] at h1 ⊢; rw [wg_cons2, h1]
      · simp only [List.cons_append, List.nil_append] at h2 ⊢; rw [wg_cons2, h2]
    | cons c t' =>
      refine ⟨⟨a.off, sext32 a.index, u32OfInt (s32 c.index - s64 (sext32 a.index)), 0⟩ :: X, ?_, ?_⟩
      · simp only [List.cons_append] at h1 ⊢; rw [wg_cons2, h1]
      · simp only [List.cons_append] at h2 ⊢; rw [wg_cons2, h2]

theorem s64_sext32 (x : UInt32) : s64 (sext32 x) = s32 x := by
  unfold sext32
  have hx := x.toNat_lt
  have := Prim.s32_range x
  exact s64_u64OfInt _ (by omega) (by omega)

/-- the invariant is kept by any loop body that does what the source's does on `writeGridMarkers pre` -/
theorem forFold_grid (f : List V2.Marker → GMarker → Res (List V2.Marker))
    (hf : ∀ pre m, f (writeGridMarkers pre) m = .ok (writeGridMarkers (pre ++ [m]))) (pre rest : List GMarker) :
    Cv.forFold f (writeGridMarkers pre) rest = .ok (writeGridMarkers (pre ++ rest)) := by
  induction rest generalizing pre with
  | nil => simp [Cv.forFold]
  | cons m r ih =>
    unfold Cv.forFold
    rw [hf pre m]
    simp only [Res.bind]
    rw [ih (pre ++ [m])]
    simp

/-- the distance written through the reference: `static_cast<int32_t>(iter->index - prev.beat_number)`, an
`int64_t` subtraction of two values of `int` range — never `ub signed_overflow` -/
theorem grid_distance (mi pi : UInt32) :
    Cv.I64.sub (sext32 mi) (sext32 pi) = .ok (u64OfInt (s32 mi - s32 pi)) ∧
      Cv.i64ToI32 (u64OfInt (s32 mi - s32 pi)) = u32OfInt (s32 mi - s64 (sext32 pi)) := by
  have h1 := s32_range mi
  have h2 := s32_range pi
  constructor
  · unfold Cv.I64.sub Cv.I64.chk
    rw [s64_sext32, s64_sext32, if_neg (by omega)]
  · unfold Cv.i64ToI32
    rw [s64_u64OfInt _ (by omega) (by omega), s64_sext32]

theorem write_beatgrid_markers_eq (g : List GMarker) : write_beatgrid_markers g = .ok (writeGridMarkers g) := by
  unfold write_beatgrid_markers
  simp only [bind, Res.pure_eq]
  have key : ∀ F : List V2.Marker → GMarker → Res (List V2.Marker),
      (∀ pre m, F (writeGridMarkers pre) m = .ok (writeGridMarkers (pre ++ [m]))) →
      Cv.forFold F [] g = .ok (writeGridMarkers g) := fun F hF => by
    have h := forFold_grid F hF [] g
    rwa [show writeGridMarkers [] = [] from by simp [writeGridMarkers], List.nil_append] at h
  rw [key _ ?_]
  · simp [Res.bind]
  · intro pre m
    rcases List.eq_nil_or_concat pre with hnil | ⟨pre0, p, hp⟩
    · subst hnil
      simp [writeGridMarkers, Res.bind, i32ToI64_eq, i32_zero]
    · rw [List.concat_eq_append] at hp
      subst hp
      obtain ⟨X, h1, h2⟩ := wg_snoc pre0 p m
      have hd := grid_distance m.index p.index
      have hne : ∀ l : V2.Marker, (X ++ [l]).isEmpty = false := fun l => by cases X <;> rfl
      rw [List.append_assoc, List.singleton_append, h2, h1]
      simp only [hne, Bool.not_false, if_true, Cv.back,
        List.getLast?_append, List.getLast?_singleton, Option.some_or, Res.bind, hd.1, hd.2, Cv.setBack,
        List.dropLast_concat, i32ToI64_eq, i32_zero, List.append_assoc, List.singleton_append, List.cons_append,
        List.nil_append]

/-- `convert::write::beatgrid`: the flag, and the same markers as default and adjusted grid -/
theorem write_beatgrid_eq (g : List GMarker) :
    write_beatgrid g = .ok ((if (writeGridMarkers g).isEmpty then 0 else 1), writeGridMarkers g, writeGridMarkers g) := by
  unfold write_beatgrid
  rw [write_beatgrid_markers_eq]
  simp only [bind, Res.bind, Res.pure_eq]
  cases (writeGridMarkers g).isEmpty <;> rfl

end EngineModel.Gen.ConvertV2
