/-
C11 (schema 1.x), the derived per-track columns: `Track.filename` is the file-name part of `Track.path` and the
MetaData text row of type 13 holds that name's extension.  The library's `rfind` / `substr` arithmetic
(`getFilename`, `getExtension`) against the independent Spec of `EngineModel/Spec/PathParts.lean`; what `writeSnap`
(`create_track` / `update`, the only statements besides `set_relative_path` that write `Track.path`) stores
(`writeSnap_derived_columns`); and that no other setter touches these cells (`cells`, `set_cells` of
`Proofs/TracksV1SetForm.lean`), from which `Properties/C11V1.lean` reads the statements over histories.
-/
import EngineModel.Api.TrackColsV1
import Proofs.TracksV1Write
import Proofs.TracksV1SetForm

namespace EngineModel.TracksV1
open EngineModel.Spec.PathParts
open Fl (FOps)

theorem aget_ext_metaBulk (s : Schema) (x : Snap) (mm ep ext : Option Bytes) (l : List (Int × Option Bytes)) :
    aget 13 (asetMany (metaBulk s x mm ep ext) l) = some ext := by
  cases hs : s.ge .s1_15_0 <;>
    simp [metaBulk, hs, asetMany, List.foldl, aget_aset_same, aget_aset_other]

/-- Every successful `create_track` / `update` leaves filename and extension in agreement with the path. -/
theorem writeSnap_derived_columns (o : FOps) (s : Schema) (x : Snap) (prior : Option TrackRows) (rows : TrackRows)
    (h : writeSnap o s x prior = .ok rows) :
    ∃ p, x.relativePath = some p ∧ rows.track.path = some p ∧ rows.track.filename = some (getFilename p) ∧
      aget 13 rows.mstr = some (getExtension (getFilename p)) := by
  obtain ⟨_, p, _, _, _, _, hp, _, _, _, rfl⟩ := writeSnap_ok_written h
  refine ⟨p, hp, rfl, rfl, ?_⟩
  unfold assemble
  simp only
  apply aget_ext_metaBulk

theorem rfind_go_none (c : UInt8) : ∀ (s : Bytes) (i : Nat) (acc : Option Nat), c ∉ s → rfind.go c s i acc = acc := by
  intro s
  induction s with
  | nil => intro i acc _; rfl
  | cons x t ih =>
    intro i acc h
    have hx : x ≠ c := fun e => h (by simp [e])
    have ht : c ∉ t := fun hm => h (List.mem_cons_of_mem _ hm)
    simp only [rfind.go, hx, if_false]
    exact ih _ _ ht

theorem rfind_go_last (c : UInt8) : ∀ (pre suf : Bytes) (i : Nat) (acc : Option Nat), c ∉ suf →
    rfind.go c (pre ++ c :: suf) i acc = some (i + pre.length) := by
  intro pre
  induction pre with
  | nil =>
    intro suf i acc h
    simp only [List.nil_append, rfind.go, if_true, List.length_nil, Nat.add_zero]
    exact rfind_go_none c suf _ _ h
  | cons x t ih =>
    intro suf i acc h
    simp only [List.cons_append, rfind.go, List.length_cons]
    rw [ih suf _ _ h]
    congr 1
    omega

theorem exists_last_split (c : UInt8) : ∀ (s : Bytes), c ∈ s → ∃ pre suf, s = pre ++ c :: suf ∧ c ∉ suf := by
  intro s
  induction s with
  | nil => intro h; cases h
  | cons x t ih =>
    intro h
    by_cases ht : c ∈ t
    · obtain ⟨pre, suf, e, hs⟩ := ih ht
      exact ⟨x :: pre, suf, by rw [e]; rfl, hs⟩
    · have hx : x = c := by
        rcases List.mem_cons.mp h with e | e
        · exact e.symm
        · exact absurd e ht
      exact ⟨[], t, by rw [hx]; rfl, ht⟩

theorem suffixWithout_none (c : UInt8) (s : Bytes) (h : c ∉ s) : suffixWithout c s = s := by
  unfold suffixWithout
  rw [← List.append_nil s.reverse, List.takeWhile_append_of_pos, List.takeWhile_nil, List.append_nil, List.reverse_reverse]
  intro x hx
  rw [List.mem_reverse] at hx
  simpa using (fun e : x = c => h (e ▸ hx))

theorem suffixWithout_split (c : UInt8) (pre suf : Bytes) (h : c ∉ suf) : suffixWithout c (pre ++ c :: suf) = suf := by
  unfold suffixWithout
  rw [List.reverse_append, List.reverse_cons, List.append_assoc, List.singleton_append, List.takeWhile_append_of_pos,
    List.takeWhile_cons_of_neg (by simp), List.append_nil, List.reverse_reverse]
  intro x hx
  rw [List.mem_reverse] at hx
  simpa using (fun e : x = c => h (e ▸ hx))

theorem not_mem_suffixWithout (c : UInt8) (s : Bytes) : c ∉ suffixWithout c s := by
  by_cases h : c ∈ s
  · obtain ⟨pre, suf, e, hs⟩ := exists_last_split c s h
    rw [e, suffixWithout_split c pre suf hs]; exact hs
  · rw [suffixWithout_none c s h]; exact h

/-- `rfind` then `substr(i + 1)` = the longest suffix without the byte (the whole string when it does not occur). -/
theorem cut_after_last (c : UInt8) (s : Bytes) :
    (match rfind c s with | some i => s.drop (i + 1) | none => s) = suffixWithout c s := by
  unfold rfind
  by_cases h : c ∈ s
  · obtain ⟨pre, suf, e, hs⟩ := exists_last_split c s h
    rw [e, rfind_go_last c pre suf 0 none hs, suffixWithout_split c pre suf hs]
    simp
  · rw [rfind_go_none c s 0 none h, suffixWithout_none c s h]

theorem getFilename_spec (p : Bytes) : getFilename p = fileNamePart p := cut_after_last 47 p

theorem rfind_isSome (c : UInt8) (s : Bytes) : (rfind c s).isSome = s.contains c := by
  unfold rfind
  by_cases h : c ∈ s
  · obtain ⟨pre, suf, e, hs⟩ := exists_last_split c s h
    rw [e, rfind_go_last c pre suf 0 none hs]
    simp
  · rw [rfind_go_none c s 0 none h]
    simp [h]

theorem getFilename_idem (p : Bytes) : getFilename (getFilename p) = getFilename p := by
  rw [getFilename_spec p, getFilename_spec]
  exact suffixWithout_none _ _ (not_mem_suffixWithout slash p)

theorem getExtension_spec (p : Bytes) : getExtension (getFilename p) = extensionPart (fileNamePart p) := by
  unfold getExtension extensionPart
  simp only [getFilename_idem]
  rw [← getFilename_spec p, show dot = 46 from rfl, ← cut_after_last 46 (getFilename p), ← rfind_isSome 46 (getFilename p)]
  cases rfind 46 (getFilename p) <;> rfl

end EngineModel.TracksV1

namespace EngineModel.Api.TrackColsV1
open EngineModel.TracksV1 EngineModel.Spec.PathParts
open Fl (FOps)

theorem rowDerivedOk_of_cells {r r' : TrackRows} (h : cells r' = cells r) : rowDerivedOk r' = rowDerivedOk r := by
  unfold cells at h
  simp only [Prod.mk.injEq] at h
  unfold rowDerivedOk
  rw [h.1, h.2.1, h.2.2.2]

theorem rowDerivedOk_writeSnap (o : FOps) (s : TracksV1.Schema) (x : Snap) (prior : Option TrackRows) (rows : TrackRows)
    (h : writeSnap o s x prior = .ok rows) : rowDerivedOk rows = true := by
  obtain ⟨p, _, h1, h2, h3⟩ := writeSnap_derived_columns o s x prior rows h
  unfold rowDerivedOk
  rw [h1]
  simp only [h2, h3]
  rw [getExtension_spec, getFilename_spec]
  simp

theorem rowDerivedOk_setPath (r : TrackRows) (p : Bytes) :
    rowDerivedOk { r with track := { r.track with path := some p, filename := some (getFilename p) },
                          mstr := aset 13 (getExtension (getFilename p)) r.mstr } = true := by
  unfold rowDerivedOk
  simp only [aget_aset_same]
  rw [getExtension_spec, getFilename_spec]
  simp

end EngineModel.Api.TrackColsV1
