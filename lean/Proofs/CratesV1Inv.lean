/-
The full invariant `Inv` of the schema-1.x crate tables; the lookups on a table
with unique ids; the exact outcome of the two creations and the preservation of
`Inv` by them (the other operations: SetName, SetParent, Remove, Members).
-/
import Proofs.CratesV1Struct

namespace EngineModel.Api.CratesV1
open EngineModel.Pure.Detect EngineModel.Spec

/-- `path` column of the row with id `p` ("" when there is none). -/
def rowPath (db : Db) (p : Id) : Name := ((db.crate.find? (·.id == p)).map (·.path)).getD []

def liveTrack (db : Db) (t : Id) : Prop := ∃ r ∈ db.track, r.id = t ∧ r.hasPath = true

structure Inv (db : Db) : Prop extends FInv db where
  namesValid : ∀ r ∈ db.crate, Forest.validName r.title = true
  pathStep : ∀ r ∈ db.crate, ∀ p, (r.id, p) ∈ db.cpl →
    r.path = (if p = r.id then [] else rowPath db p) ++ r.title ++ [semicolon]
  ctlNodup : db.ctl.Nodup
  ctlLive : ∀ r ∈ db.ctl, r.1 ∈ ids db ∧ liveTrack db r.2
  trackNodup : (db.track.map (·.id)).Nodup

theorem inv_empty : Inv Db.empty := by
  refine ⟨⟨?_, ?_, ?_, ?_, ?_, ?_, ?_, ?_⟩, ?_, ?_, ?_, ?_, ?_⟩ <;> simp [Db.empty, ids, Par]

section rows
variable {db : Db}

theorem filter_of_mem (h : (ids db).Nodup) {r : CrateRow} (hr : r ∈ db.crate) :
    db.crate.filter (·.id == r.id) = [r] :=
  ListAux.filter_key_eq_singleton h hr

theorem find_of_mem (h : (ids db).Nodup) {r : CrateRow} (hr : r ∈ db.crate) :
    db.crate.find? (·.id == r.id) = some r := by
  rw [← List.head?_filter, filter_of_mem h hr]; rfl

theorem filter_of_dead {c : Id} (hc : c ∉ ids db) : db.crate.filter (·.id == c) = [] := by
  rw [List.filter_eq_nil_iff]
  intro r hr he
  simp only [beq_iff_eq] at he
  exact hc (he ▸ mem_ids_of_mem hr)

theorem exists_row {c : Id} (hc : c ∈ ids db) : ∃ r ∈ db.crate, r.id = c := by
  unfold ids at hc
  rw [List.mem_map] at hc
  exact hc

theorem rowPath_of_mem (h : (ids db).Nodup) {r : CrateRow} (hr : r ∈ db.crate) : rowPath db r.id = r.path := by
  unfold rowPath; rw [find_of_mem h hr]; rfl

theorem crateIsValid_live (h : (ids db).Nodup) {c : Id} (hc : c ∈ ids db) : crateIsValid db c = .ok true := by
  obtain ⟨r, hr, rfl⟩ := exists_row hc
  unfold crateIsValid; rw [filter_of_mem h hr]; rfl

theorem crateIsValid_dead {c : Id} (hc : c ∉ ids db) : crateIsValid db c = .ok false := by
  unfold crateIsValid; rw [filter_of_dead hc]; rfl

theorem requireValid_live (h : (ids db).Nodup) {c : Id} (hc : c ∈ ids db) : requireValid db c = .ok () := by
  unfold requireValid; rw [crateIsValid_live h hc]; rfl

theorem requireValid_dead {c : Id} (hc : c ∉ ids db) : requireValid db c = .throw exCrateDeleted := by
  unfold requireValid; rw [crateIsValid_dead hc]; rfl

theorem crateName_of_mem (h : (ids db).Nodup) {r : CrateRow} (hr : r ∈ db.crate) : crateName db r.id = .ok r.title := by
  unfold crateName; rw [filter_of_mem h hr]; rfl

theorem crateName_dead {c : Id} (hc : c ∉ ids db) : crateName db c = .throw exCrateDeleted := by
  unfold crateName; rw [filter_of_dead hc]; rfl

theorem selectOwnPath_of_mem (h : (ids db).Nodup) {r : CrateRow} (hr : r ∈ db.crate) :
    selectOwnPath db r.id = .ok r.path := by
  unfold selectOwnPath; rw [filter_of_mem h hr]; rfl

theorem selectOwnPath_dead {c : Id} (hc : c ∉ ids db) : selectOwnPath db c = .throw exCrateDeleted := by
  unfold selectOwnPath; rw [filter_of_dead hc]; rfl

end rows

theorem sem_eq : Forest.semicolon = semicolon := rfl

theorem ensureValidName_ok {n : Name} (h : Forest.validName n = true) : ensureValidName n = .ok () := by
  unfold Forest.validName at h
  rw [sem_eq] at h
  unfold ensureValidName
  simp only [Bool.and_eq_true, Bool.not_eq_eq_eq_not, Bool.not_true] at h
  rw [if_neg (by simp [h.1]), if_neg (by simp only [h.2]; simp)]

theorem ensureValidName_throw {n : Name} (h : Forest.validName n = false) :
    ensureValidName n = .throw exInvalidName := by
  unfold Forest.validName at h
  rw [sem_eq] at h
  unfold ensureValidName
  by_cases h1 : n.isEmpty = true
  · rw [if_pos h1]
  · have h2 : n.contains semicolon = true := by
      simp only [Bool.not_eq_true] at h1
      rw [h1] at h
      simpa only [Bool.not_false, Bool.true_and, Bool.not_eq_eq_eq_not, Bool.not_false] using h
    rw [if_neg h1, if_pos h2]

theorem lastById_isSome (l : List Id) : (lastById l).isSome = !l.isEmpty := by
  unfold lastById
  have hp := List.mergeSort_perm l (fun a b => decide (a ≤ b))
  cases hl : l with
  | nil => simp [sortIds]
  | cons a t =>
    have hne : sortIds (a :: t) ≠ [] := by
      intro he
      have := hp.length_eq
      rw [hl] at this
      unfold sortIds at he
      rw [he] at this
      simp at this
    cases hs : sortIds (a :: t) with
    | nil => exact absurd hs hne
    | cons b u => simp [List.getLast?_isSome]

def RootNamed (db : Db) (n : Name) : Prop := ∃ r ∈ db.crate, r.title = n ∧ (r.id, r.id) ∈ db.cpl

def SubNamed (db : Db) (c : Id) (n : Name) : Prop := ∃ r ∈ db.crate, r.title = n ∧ Par db r.id c

theorem rootCrateByName_isSome (db : Db) (n : Name) : (rootCrateByName db n).isSome = true ↔ RootNamed db n := by
  unfold rootCrateByName RootNamed
  rw [lastById_isSome]
  simp only [Bool.not_eq_eq_eq_not, Bool.not_true]
  rw [List.isEmpty_eq_false_iff_exists_mem]
  simp only [List.mem_flatMap, List.mem_filter, List.mem_map, beq_iff_eq, Bool.and_eq_true]
  constructor
  · rintro ⟨x, cr, ⟨hcr, ht⟩, ⟨row, ⟨hrow, h1, h2⟩, _⟩⟩
    refine ⟨cr, hcr, ht, ?_⟩
    have : row = (cr.id, cr.id) := Prod.ext h1 (by rw [← h2, h1])
    rw [← this]; exact hrow
  · rintro ⟨cr, hcr, ht, hrow⟩
    exact ⟨cr.id, cr, ⟨hcr, ht⟩, ⟨(cr.id, cr.id), ⟨hrow, rfl, rfl⟩, rfl⟩⟩

theorem subCrateByName_isSome (db : Db) (c : Id) (n : Name) :
    (subCrateByName db c n).isSome = true ↔ SubNamed db c n := by
  unfold subCrateByName SubNamed Par
  rw [lastById_isSome]
  simp only [Bool.not_eq_eq_eq_not, Bool.not_true]
  rw [List.isEmpty_eq_false_iff_exists_mem]
  simp only [List.mem_flatMap, List.mem_filter, List.mem_map, beq_iff_eq, Bool.and_eq_true, bne_iff_ne, ne_eq]
  constructor
  · rintro ⟨x, cr, ⟨hcr, ht⟩, ⟨row, ⟨hrow, ⟨h1, h2⟩, h3⟩, _⟩⟩
    refine ⟨cr, hcr, ht, ?_, ?_⟩
    · have : row = (cr.id, c) := Prod.ext h1 h2
      rw [← this]; exact hrow
    · intro e; exact h3 (by rw [h1, h2, e])
  · rintro ⟨cr, hcr, ht, hrow, hne⟩
    exact ⟨cr.id, cr, ⟨hcr, ht⟩, ⟨(cr.id, c), ⟨hrow, ⟨rfl, rfl⟩, fun e => hne e.symm⟩, rfl⟩⟩

/-- State after a successful creation: a root crate (`q = none`) or a sub-crate of `q`. -/
def afterCreate (s : Schema) (db : Db) (q : Option Id) (n : Name) : Db :=
  { db with crate := db.crate ++ [⟨newCrateId s db, n, (match q with | some c => rowPath db c | none => []) ++ n ++ [semicolon]⟩],
            cpl := db.cpl ++ [(newCrateId s db, q.getD (newCrateId s db))],
            ch := match q with
              | some c => db.ch ++ hierarchyRowsFor db.ch (newCrateId s db) c
              | none => db.ch }

theorem ids_afterCreate (s : Schema) (db : Db) (q : Option Id) (n : Name) :
    ids (afterCreate s db q n) = ids db ++ [newCrateId s db] := by
  simp [ids, afterCreate]

theorem insertCrate_fresh (s : Schema) (db : Db) (r : CrateRow) (h : r.id ∉ ids db) :
    insertCrate s db r = .ok { db with crate := db.crate ++ [r] } := by
  unfold insertCrate
  have : db.crate.any (·.id == r.id) = false := by
    rw [List.any_eq_false]
    intro x hx he
    simp only [beq_iff_eq] at he
    exact h (he ▸ mem_ids_of_mem hx)
  rw [this]; rfl

theorem createRoot_invalid (s : Schema) (db : Db) {n : Name} (hv : Forest.validName n = false) :
    createRootCrate s db n = (db, .throw exInvalidName) := by
  unfold createRootCrate; rw [ensureValidName_throw hv]

theorem createRoot_dup (s : Schema) (db : Db) {n : Name} (hv : Forest.validName n = true) (hd : RootNamed db n) :
    createRootCrate s db n = (db, .throw exAlreadyExists) := by
  unfold createRootCrate
  rw [ensureValidName_ok hv]
  simp [transaction, (rootCrateByName_isSome db n).mpr hd]

theorem createRoot_ok (s : Schema) (db : Db) {n : Name} (hv : Forest.validName n = true) (hd : ¬ RootNamed db n) :
    createRootCrate s db n = (afterCreate s db none n, .ok (.id (newCrateId s db))) := by
  unfold createRootCrate
  rw [ensureValidName_ok hv]
  have h0 : (rootCrateByName db n).isSome = false := by
    rw [← Bool.not_eq_true, rootCrateByName_isSome]; exact hd
  simp only [transaction, h0, Bool.false_eq_true, if_false]
  rw [insertCrate_fresh s db _ (newCrateId_fresh s db)]
  rfl

theorem rowPath_append {db db' : Db} {l : List CrateRow} (hc : db'.crate = db.crate ++ l) {p : Id} (hp : p ∈ ids db) :
    rowPath db' p = rowPath db p := by
  obtain ⟨r, hr, rfl⟩ := exists_row hp
  unfold rowPath
  rw [hc, List.find?_append]
  cases hf : db.crate.find? (·.id == r.id) with
  | some x => rfl
  | none =>
    rw [List.find?_eq_none] at hf
    exact absurd (by simp) (hf r hr)

theorem liveTrack_congr {db db' : Db} (h : db'.track = db.track) (t : Id) : liveTrack db' t ↔ liveTrack db t := by
  unfold liveTrack; rw [h]

theorem createSub_invalid (s : Schema) (db : Db) (c : Id) {n : Name} (hv : Forest.validName n = false) :
    createSubCrate s db c n = (db, .throw exInvalidName) := by
  unfold createSubCrate; rw [ensureValidName_throw hv]

theorem createSub_dup (s : Schema) (db : Db) (c : Id) {n : Name} (hv : Forest.validName n = true)
    (hd : SubNamed db c n) : createSubCrate s db c n = (db, .throw exAlreadyExists) := by
  unfold createSubCrate
  rw [ensureValidName_ok hv]
  simp [transaction, (subCrateByName_isSome db c n).mpr hd]

theorem createSub_dead (s : Schema) (db : Db) {c : Id} {n : Name} (hv : Forest.validName n = true)
    (hd : ¬ SubNamed db c n) (hc : c ∉ ids db) : createSubCrate s db c n = (db, .throw exCrateDeleted) := by
  unfold createSubCrate
  rw [ensureValidName_ok hv]
  have h0 : (subCrateByName db c n).isSome = false := by
    rw [← Bool.not_eq_true, subCrateByName_isSome]; exact hd
  simp [transaction, h0, selectOwnPath_dead hc]

theorem createSub_ok (s : Schema) {db : Db} (h : (ids db).Nodup) {c : Id} {n : Name} (hv : Forest.validName n = true)
    (hd : ¬ SubNamed db c n) (hc : c ∈ ids db) :
    createSubCrate s db c n = (afterCreate s db (some c) n, .ok (.id (newCrateId s db))) := by
  unfold createSubCrate
  rw [ensureValidName_ok hv]
  have h0 : (subCrateByName db c n).isSome = false := by
    rw [← Bool.not_eq_true, subCrateByName_isSome]; exact hd
  obtain ⟨r, hr, rfl⟩ := exists_row hc
  simp only [transaction, h0, Bool.false_eq_true, if_false, selectOwnPath_of_mem h hr, Res.bind_ok]
  rw [insertCrate_fresh s db _ (newCrateId_fresh s db)]
  simp only [Res.bind_ok, Res.pure_eq, afterCreate, rowPath_of_mem h hr, Option.getD_some]

theorem inv_create (s : Schema) {db : Db} (h : Inv db) {q : Option Id} {n : Name} (hv : Forest.validName n = true)
    (hq : ∀ c, q = some c → c ∈ ids db) : Inv (afterCreate s db q n) := by
  have hf := newCrateId_fresh s db
  have hids := ids_afterCreate s db q n
  refine ⟨h.toFInv.add q hf hq hids rfl (by cases q <;> rfl), ?_, ?_, h.ctlNodup, ?_, h.trackNodup⟩
  · intro r hr
    simp only [afterCreate, List.mem_append, List.mem_singleton] at hr
    rcases hr with hr | rfl
    · exact h.namesValid r hr
    · exact hv
  · intro r hr p hp
    simp only [afterCreate, List.mem_append, List.mem_singleton] at hr hp
    rcases hr with hr | rfl
    · have hrl : r.id ∈ ids db := mem_ids_of_mem hr
      rcases hp with hp | hp
      · rw [h.pathStep r hr p hp]
        by_cases hpe : p = r.id
        · simp [hpe]
        · simp only [hpe, if_false]
          rw [rowPath_append (db := db) (db' := afterCreate s db q n) rfl (h.cplParentLive _ hp)]
      · exact absurd ((Prod.mk.inj hp).1 ▸ hrl) hf
    · rcases hp with hp | hp
      · exact absurd ((h.cplTotal _).mp (mem_map_fst hp)) hf
      · have hpq : p = q.getD (newCrateId s db) := (Prod.mk.inj hp).2
        cases q with
        | none => simp [hpq]
        | some c =>
          have hc := hq c rfl
          have hcn : c ≠ newCrateId s db := fun e => hf (e ▸ hc)
          have hpc : p = c := hpq
          rw [hpc]
          simp only [hcn, if_false]
          rw [rowPath_append (db := db) (db' := afterCreate s db (some c) n) rfl hc]
  · intro r hr
    rw [hids]
    have := h.ctlLive r hr
    exact ⟨List.mem_append_left _ this.1, (liveTrack_congr rfl _).mpr this.2⟩

end EngineModel.Api.CratesV1
