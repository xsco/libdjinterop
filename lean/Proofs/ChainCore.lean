/-
* `cores t`: the columns of a chain table that the chain logic never rewrites
  (id, key, payload), in row order.  Every chain operation is characterised on
  `cores` (what rows exist afterwards, in which order, with which key / payload)
  without any well-formedness hypothesis — the abstraction functions of C07 / C08
  (forest, membership) only look at `cores`.
* `R` for `DELETE FROM Playlist WHERE id = ?` under trigger_after_delete_List
  (`deleteCascade`): the row leaves the list of its key, the list keyed by the row
  itself is dropped; the loop of such DELETEs over a removed sub-tree (`R_foldl_deleteCascade`).
* frame lemmas: operations on one key leave the rows of every other key untouched.
-/
import Proofs.Chain

namespace EngineModel.Db.Chain

open EngineModel.Spec EngineModel.ListAux

variable {α : Type}

def core (r : Row α) : Int × Int × α := (r.id, r.key, r.val)
def cores (t : Table α) : List (Int × Int × α) := t.map core

theorem cores_map {f : Row α → Row α} {g : Int × Int × α → Int × Int × α} (hf : ∀ r, core (f r) = g (core r))
    (t : Table α) : cores (t.map f) = (cores t).map g := by
  simp only [cores, List.map_map]
  exact List.map_congr_left fun r _ => hf r

@[simp] theorem core_updRow (p : Row α → Bool) (e : Int → Int) (r : Row α) : core (updRow p e r) = core r := by
  unfold updRow core; split <;> rfl

@[simp] theorem cores_updNext (p : Row α → Bool) (e : Int → Int) (t : Table α) : cores (updNext p e t) = cores t :=
  (cores_map (g := id) (core_updRow p e) t).trans (List.map_id _)

theorem cores_append (t u : Table α) : cores (t ++ u) = cores t ++ cores u := by
  simp [cores]

theorem cores_filter (t : Table α) (p : Row α → Bool) (q : Int × Int × α → Bool) (h : ∀ r, p r = q (core r)) :
    cores (t.filter p) = (cores t).filter q := by
  unfold cores
  rw [List.filter_map]
  have : p = q ∘ core := by funext r; exact h r
  rw [this]

theorem ids_eq_cores (t : Table α) : ids t = (cores t).map (·.1) := by
  simp [ids, cores, core, Function.comp_def]

theorem mem_cores {t : Table α} {c : Int × Int × α} : c ∈ cores t ↔ ∃ r ∈ t, core r = c := by
  simp [cores]

theorem cores_insertBefore (t : Table α) (n k b : Int) (v : α) :
    cores (insertBefore t n k b v) = cores t ++ [(n, k, v)] := by
  unfold insertBefore
  simp only [cores_updNext, cores_append]
  rfl

theorem cores_appendBack (t : Table α) (n k : Int) (v : α) :
    cores (appendBack t n k v) = cores t ++ [(n, k, v)] := by
  unfold appendBack
  simp only [cores_updNext, cores_append]
  rfl

theorem cores_setVal (t : Table α) (i : Int) (v : α) :
    cores (setVal t i v) = (cores t).map (fun c => if c.1 == i then (c.1, c.2.1, v) else c) :=
  cores_map (fun r => by by_cases h : (r.id == i) = true <;> simp [core, h]) t

theorem cores_move (t : Table α) (i ok on nk tg : Int) (v : α) :
    cores (move t i ok on nk tg v) = (cores t).map (fun c => if c.1 == i then (i, nk, v) else c) := by
  unfold move
  rw [cores_map (g := fun c => if c.1 == i then (i, nk, v) else c), cores_updNext, cores_updNext, cores_updNext]
  intro r
  by_cases h : r.id = i <;> simp [core, h]

theorem deleteCascade_none {t : Table α} {i : Int} (h : get t i = none) : deleteCascade t i = t := by
  unfold deleteCascade; rw [h]

theorem cores_deleteCascade {t : Table α} {i : Int} {old : Row α} (h : get t i = some old) :
    cores (deleteCascade t i) = (cores t).filter (fun c => c.1 != i && c.2.1 != i) := by
  have hid : old.id = i := (get_some h).2
  unfold deleteCascade
  rw [h]
  simp only [hid]
  rw [cores_filter _ (fun r => r.key != i) (fun c => c.2.1 != i) (fun _ => rfl), cores_updNext,
    cores_filter _ (fun r => r.id != i) (fun c => c.1 != i) (fun _ => rfl), List.filter_filter]
  congr 1
  funext c
  exact Bool.and_comm _ _

/-- `DELETE … WHERE listId = k AND id = i` when ids with value `i` only occur under key `k`
(always the case when ids are a key and `i` was read from list `k`): the rows with id `i` go. -/
theorem cores_deleteKeyed {t : Table α} (fires : Row α → Bool) {k i : Int}
    (hk : ∀ r ∈ t, r.id = i → r.key = k) :
    cores (deleteKeyed fires t k i) = (cores t).filter (fun c => c.1 != i) := by
  unfold deleteKeyed
  cases hf : (rowsOf t k).find? (·.id == i) with
  | none =>
    simp only
    have : ∀ c ∈ cores t, (c.1 != i) = true := by
      intro c hc
      obtain ⟨r, hr, rfl⟩ := mem_cores.mp hc
      simp only [core, bne_iff_ne, ne_eq]
      intro e
      have := List.find?_eq_none.mp hf r (mem_rowsOf.mpr ⟨hr, hk r hr e⟩)
      simp [e] at this
    exact (List.filter_eq_self.mpr this).symm
  | some old =>
    simp only
    rw [cores_filter _ (fun r => r.id != i) (fun c => c.1 != i) (fun _ => rfl)]
    split
    · rw [cores_updNext]
    · rfl

theorem cores_foldl_deleteKeyed (fires : Row α → Bool) (k : Int) (L : List Int) (t : Table α)
    (hk : ∀ c ∈ cores t, c.1 ∈ L → c.2.1 = k) :
    cores (L.foldl (fun t i => deleteKeyed fires t k i) t) = (cores t).filter (fun c => !L.contains c.1) := by
  induction L generalizing t with
  | nil =>
    simp only [List.foldl_nil, List.contains_nil, Bool.not_false]
    exact (List.filter_eq_self.mpr (fun _ _ => rfl)).symm
  | cons a L ih =>
    simp only [List.foldl_cons]
    have h1 : cores (deleteKeyed fires t k a) = (cores t).filter (fun c => c.1 != a) := by
      apply cores_deleteKeyed
      intro r hr e
      exact hk (core r) (mem_cores.mpr ⟨r, hr, rfl⟩) (by simp [core, e])
    rw [ih, h1, List.filter_filter]
    · congr 1
      funext c
      by_cases h : c.1 = a
      · simp [h]
      · simp [h]
    · intro c hc hcL
      rw [h1] at hc
      exact hk c (List.mem_filter.mp hc).1 (List.mem_cons_of_mem _ hcL)

theorem mem_rowsOf_ids_iff {t : Table α} (hn : (ids t).Nodup) {r : Row α} (hr : r ∈ t) {k : Int} :
    r.id ∈ (rowsOf t k).map (·.id) ↔ r.key = k := by
  constructor
  · intro hm
    obtain ⟨r', hr', e⟩ := List.mem_map.mp hm
    obtain ⟨hr't, hr'k⟩ := mem_rowsOf.mp hr'
    rwa [eq_of_id_eq hn hr't hr e] at hr'k
  · exact fun hk => List.mem_map.mpr ⟨r, mem_rowsOf.mpr ⟨hr, hk⟩, rfl⟩

/-- `DELETE FROM PlaylistEntity WHERE listId = k`: exactly the rows of list `k` go. -/
theorem cores_clearKey (fires : Row α → Bool) {t : Table α} (hn : (ids t).Nodup) (k : Int) :
    cores (clearKey fires t k) = (cores t).filter (fun c => c.2.1 != k) := by
  unfold clearKey
  rw [cores_foldl_deleteKeyed]
  · apply List.filter_congr
    intro c hc
    obtain ⟨r, hr, rfl⟩ := mem_cores.mp hc
    have := mem_rowsOf_ids_iff hn hr (k := k)
    by_cases hkk : r.key = k <;> simp [core, hkk, this]
  · intro c hc hcL
    obtain ⟨r, hr, rfl⟩ := mem_cores.mp hc
    exact (mem_rowsOf_ids_iff hn hr).mp hcL

/-- Dropping every row of key `k` (the trigger's `DELETE … WHERE parentListId = OLD.id`). -/
theorem R_dropKey {A : Int → List Int} {t : Table α} (h : R A t) (k : Int) :
    R (setKey A k []) (t.filter (fun r => r.key != k)) := by
  have hm : ∀ {r : Row α}, r ∈ t.filter (fun r => r.key != k) ↔ r ∈ t ∧ r.key ≠ k := by
    intro r; simp [List.mem_filter]
  exact h.replace (nodup_ids_filter _ h.ids_nodup) (fun r hr => h.id_pos r (hm.mp hr).1) List.nodup_nil
    (fun r hr e => absurd e (hm.mp hr).2) (fun x hx => absurd hx (by simp))
    (fun r hr _ => ⟨r, (hm.mp hr).1, rfl, rfl, rfl⟩) (fun r hr e => ⟨r, hm.mpr ⟨hr, e⟩, rfl, rfl⟩)

theorem next_zero_or_mem {A : Int → List Int} {t : Table α} (h : R A t) {r : Row α} (hr : r ∈ t) :
    r.next = 0 ∨ r.next ∈ A r.key := by
  rw [h.next r hr]; exact succ_mem_or_zero _ _

/-- Under `R`, a row whose successor is `x ≠ 0` lives in the list that contains `x`:
the trigger's `UPDATE … WHERE nextListId = OLD.id` (no key test) only touches siblings. -/
theorem R.key_of_next {A : Int → List Int} {t : Table α} (h : R A t) {r old : Row α} (hr : r ∈ t) (hold : old ∈ t)
    (hn : r.next = old.id) : r.key = old.key := by
  have h1 := h.next r hr
  rw [hn] at h1
  rcases succ_mem_or_zero (A r.key) r.id with h0 | hm
  · rw [h0] at h1
    exact absurd h1 (Int.ne_of_gt (h.id_pos old hold))
  · rw [← h1] at hm
    exact h.key_unique hm (h.mem old hold)

theorem deleteCascade_eq {A : Int → List Int} {t : Table α} (h : R A t) {i : Int} {old : Row α}
    (hg : get t i = some old) :
    deleteCascade t i = (spliceOut t old.id old.key old.next).filter (fun r => r.key != old.id) := by
  obtain ⟨hold, hid⟩ := get_some hg
  unfold deleteCascade
  rw [hg]
  simp only
  congr 1
  unfold spliceOut updNext
  rw [List.filter_map]
  have : ((fun r : Row α => r.id != old.id) ∘ updRow (fun r => r.next == old.id && r.key == old.key) (fun _ => old.next))
      = (fun r : Row α => r.id != old.id) := by
    funext r; simp [Function.comp]
  rw [this, hid]
  apply List.map_congr_left
  intro r hr
  have hrt : r ∈ t := (List.mem_filter.mp hr).1
  unfold updRow
  by_cases hn : r.next = old.id
  · have := h.key_of_next hrt hold hn
    rw [hid] at hn
    simp [hn, this]
  · rw [hid] at hn
    simp [hn]

/-- `DELETE FROM Playlist WHERE id = i` (row present): `i` leaves the list of its key, the list keyed `i` is dropped. -/
theorem R_deleteCascade {A : Int → List Int} {t : Table α} (h : R A t) {i : Int} {old : Row α}
    (hg : get t i = some old) :
    R (setKey (setKey A old.key ((A old.key).erase i)) i []) (deleteCascade t i) := by
  obtain ⟨hold, hid⟩ := get_some hg
  rw [deleteCascade_eq h hg]
  have := R_dropKey (R_spliceOut h hold) old.id
  rw [hid] at this
  rw [hid]
  exact this

theorem R_congr {A A' : Int → List Int} {t : Table α} (h : R A t) (he : ∀ k, A' k = A k) : R A' t := by
  have : A' = A := funext he
  rw [this]; exact h

theorem mem_deleteCascade_core {t : Table α} {i : Int} {r : Row α} (hr : r ∈ deleteCascade t i) :
    ∃ r0 ∈ t, r0.id = r.id ∧ r0.key = r.key := by
  cases hg : get t i with
  | none => rw [deleteCascade_none hg] at hr; exact ⟨r, hr, rfl, rfl⟩
  | some old =>
    have : core r ∈ cores (deleteCascade t i) := mem_cores.mpr ⟨r, hr, rfl⟩
    rw [cores_deleteCascade hg] at this
    obtain ⟨r0, hr0, h⟩ := mem_cores.mp (List.mem_filter.mp this).1
    exact ⟨r0, hr0, congrArg (·.1) h, congrArg (·.2.1) h⟩

/-- `DELETE FROM Playlist WHERE id = ?` for each of `L ⊆ G`, the rows of `L` being children of members of `G`:
the listings of the keys outside `G` are untouched. -/
theorem R_foldl_deleteCascade (G : List Int) : ∀ (L : List Int) (u : Table α) (A : Int → List Int), R A u →
    (∀ a ∈ L, a ∈ G) → (∀ a ∈ L, ∀ r ∈ u, r.id = a → r.key ∈ G) →
    ∃ A', R A' (L.foldl deleteCascade u) ∧ ∀ k, k ∉ G → A' k = A k := by
  intro L
  induction L with
  | nil => intro u A h _ _; exact ⟨A, h, fun _ _ => rfl⟩
  | cons a L ih =>
    intro u A h hLG hkey
    simp only [List.foldl_cons]
    have hkey' : ∀ a' ∈ L, ∀ r ∈ deleteCascade u a, r.id = a' → r.key ∈ G := by
      intro a' ha' r hr e
      obtain ⟨r0, hr0, e1, e2⟩ := mem_deleteCascade_core hr
      rw [← e2]
      exact hkey a' (List.mem_cons_of_mem _ ha') r0 hr0 (e1.trans e)
    cases hg : get u a with
    | none =>
      rw [deleteCascade_none hg] at hkey' ⊢
      exact ih u A h (fun a' ha' => hLG a' (List.mem_cons_of_mem _ ha')) hkey'
    | some old =>
      obtain ⟨hold, hid⟩ := get_some hg
      obtain ⟨A', h1, h2⟩ := ih _ _ (R_deleteCascade h hg) (fun a' ha' => hLG a' (List.mem_cons_of_mem _ ha')) hkey'
      refine ⟨A', h1, ?_⟩
      intro k hk
      rw [h2 k hk]
      have hka : k ≠ a := fun e => hk (e ▸ hLG a (by simp))
      have hko : k ≠ old.key := fun e => hk (e ▸ hkey a (by simp) old hold hid)
      rw [setKey_other _ _ hka, setKey_other _ _ hko]

theorem rowsOf_updNext_other {t : Table α} {p : Row α → Bool} {e : Int → Int} {k k' : Int}
    (hp : ∀ r, p r = true → r.key = k) (hk : k' ≠ k) : rowsOf (updNext p e t) k' = rowsOf t k' := by
  have hf : ((fun r : Row α => r.key == k') ∘ updRow p e) = fun r => r.key == k' := funext fun r => by simp
  unfold rowsOf updNext
  rw [List.filter_map, hf]
  refine (List.map_congr_left fun r hr => ?_).trans (List.map_id _)
  have hrk : r.key = k' := by simpa using (List.mem_filter.mp hr).2
  exact updRow_neg (Bool.eq_false_iff.mpr fun hpr => hk (hrk.symm.trans (hp r hpr)))

theorem rowsOf_filter_other {u : Table α} {q : Row α → Bool} {k' : Int} (h : ∀ r ∈ u, r.key = k' → q r = true) :
    rowsOf (u.filter q) k' = rowsOf u k' := by
  unfold rowsOf
  rw [List.filter_filter]
  exact List.filter_congr fun r hr => by by_cases e : r.key = k' <;> simp [e, h r hr]

theorem rowsOf_deleteKeyed_other {t : Table α} (fires : Row α → Bool) (hn : (ids t).Nodup) {k i k' : Int}
    (hk : k' ≠ k) : rowsOf (deleteKeyed fires t k i) k' = rowsOf t k' := by
  unfold deleteKeyed
  cases hf : (rowsOf t k).find? (·.id == i) with
  | none => rfl
  | some old =>
    obtain ⟨hot, hok⟩ := mem_rowsOf.mp (List.mem_of_find?_eq_some hf)
    have h2 : old.id = i := by simpa using List.find?_some hf
    -- the deleted row is the only one with id `i`, and it is not of key `k'`
    have hne : ∀ r ∈ t, r.key = k' → (r.id != i) = true := by
      intro r hr hrk
      rw [bne_iff_ne]
      intro e
      rw [eq_of_id_eq hn hr hot (e.trans h2.symm), hok] at hrk; exact hk hrk.symm
    simp only
    split
    · rw [rowsOf_filter_other, rowsOf_updNext_other (k := k) (by intro r hr; simp at hr; rw [hr.2, hok]) hk]
      intro r hr hrk
      obtain ⟨r0, hr0, rfl⟩ := mem_updNext.mp hr
      rw [updRow_id]; exact hne r0 hr0 (by rwa [updRow_key] at hrk)
    · exact rowsOf_filter_other hne

theorem ids_nodup_deleteKeyed {t : Table α} (fires : Row α → Bool) (hn : (ids t).Nodup) (k i : Int) :
    (ids (deleteKeyed fires t k i)).Nodup := by
  unfold deleteKeyed
  cases (rowsOf t k).find? (·.id == i) with
  | none => exact hn
  | some old =>
    simp only
    apply nodup_ids_filter
    split
    · rw [ids_updNext]; exact hn
    · exact hn

end EngineModel.Db.Chain
