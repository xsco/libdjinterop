/-
C15, schema 2.x crates: `step` ends in `ub` only through the recursive view, so
never on a forest; the guarded step of Api/GuardedV2.lean is `step` on any state;
the ordered queries never end in `ub` on tables that represent lists (`R` of
Proofs/Chain.lean), where the walk the model bounds with fuel ends within that
fuel.
-/
import Proofs.Chain
import EngineModel.Api.GuardedV2
import EngineModel.Db.V2Wf
import Proofs.C15GuardValues
import Proofs.CratesV2ForestRun

namespace EngineModel.Api.GuardedV2
open EngineModel EngineModel.Db.Chain EngineModel.Db.V2 EngineModel.ListAux EngineModel.Gen EngineModel.Spec

variable {α : Type}

export _root_.EngineModel.Res (Defined Defined.ok Defined.throw Defined.bind)

/-- `Forest.Wf (absF d)` is the invariant of the 2.x crate model; the recursive view terminates there
(`descendantIds_ok`), and nothing else in `step` can fail to be defined (`Does.defined`). -/
theorem step_defined (d : Db) (hW : Forest.Forest.Wf (absF d)) (op : Op) : Defined (step d op).2 :=
  (step_does d op).defined hW

def outcomes (d : Db) : List Op → List (Res Out)
  | [] => []
  | op :: t => (step d op).2 :: outcomes (step d op).1 t

theorem outcomes_defined (l : List Op) : ∀ d, PlInv d → ∀ r ∈ outcomes d l, Defined r :=
  Machine.IsOutcomes.forall (step := step) ⟨fun _ => rfl, fun _ _ _ => rfl⟩
    (fun d op h => ⟨plInv_step h op, step_defined d h.wf op⟩) l

theorem walkFuelG_eq {A : Int → List Int} {t : Table α} (h : R A t) (k : Int) (fuel : Nat) :
    ∀ (pre suf : List Int) (acc : List (Row α)), A k = pre ++ suf → pre.length ≤ fuel →
      walkFuelG (rowsOf t k) fuel (suf.headD 0) acc = .ok (walkFuel (rowsOf t k) fuel (suf.headD 0) acc) := by
  induction fuel with
  | zero =>
    intro pre suf acc hA hlen
    rw [List.length_eq_zero_iff.mp (Nat.le_zero.mp hlen), List.nil_append] at hA
    simp only [walkFuelG, walkFuel, ← hA, h.lookupNext_head k]
  | succ f ih =>
    intro pre suf acc hA hlen
    rcases List.eq_nil_or_concat pre with rfl | ⟨pre', p, rfl⟩
    · rw [List.nil_append] at hA
      simp only [walkFuelG, walkFuel, ← hA, h.lookupNext_head k]
    · rw [List.concat_eq_append, List.append_assoc, List.singleton_append] at hA
      obtain ⟨rp, _, hrpid, hlook⟩ := h.lookupNext_some hA
      simp only [walkFuelG, walkFuel, hlook]
      simpa [hrpid] using ih pre' (p :: suf) (rp :: acc) hA (by simpa using hlen)

theorem walkBackG_eq {A : Int → List Int} {t : Table α} (h : R A t) (k : Int) :
    walkBackG t k = walkBack t k ∧ ∃ l, walkBack t k = .ok l := by
  obtain ⟨l, hl, _⟩ := walkBack_spec h k
  refine ⟨?_, l, hl⟩
  have hw : walkFuelG (rowsOf t k) _ 0 [] = .ok (walkFuel (rowsOf t k) _ 0 []) :=
    walkFuelG_eq h k (rowsOf t k).length (A k) [] [] (by simp) (h.length_le_rowsOf k)
  unfold walkBackG walkBack
  simp only [hw]
  cases lookupNext (rowsOf t k) 0 <;> rfl

theorem walkBack_defined {A : Int → List Int} {t : Table α} (h : R A t) (k : Int) : Defined (walkBack t k) := by
  obtain ⟨l, hl, _⟩ := walkBack_spec h k
  exact hl ▸ .ok l

theorem walkBackG_defined {A : Int → List Int} {t : Table α} (h : R A t) (k : Int) : Defined (walkBackG t k) :=
  (walkBackG_eq h k).1 ▸ walkBack_defined h k

theorem sortIdsG_eq (t : Table Bytes) (k : Int) : sortIdsG t k = walkBackG t k := by
  unfold sortIdsG walkBackG
  simp only [C15Guards.v2_pl_sort_ids_empty_eq]
  cases lookupNext (rowsOf t k) 0 <;> rfl

theorem getForListG_eq (t : Table Ent) (k : Int) : getForListG t k = walkBackG t k := by
  unfold getForListG walkBackG
  simp only [C15Guards.v2_pe_get_for_list_empty_eq]
  cases lookupNext (rowsOf t k) 0 <;> rfl

theorem withDeref_some {β : Type} (d : Db) (a : β) (k : β → Db × Res Out) : withDeref d (some a) k = k a := rfl

theorem peAddBackG_eq (d : Db) (l t u : Int) (f : Bool) : peAddBackG Guards.source d l t u f = peAddBack d l t u f := by
  unfold peAddBackG peAddBack Guards.source
  simp only [C15Guards.v2_pe_add_back_existing_eq]
  cases peFind d l t u with
  | none => rfl
  | some e => cases f <;> rfl

theorem rmTrackInG_ok (t : Int) (pe : Table Ent) (l : Int) :
    rmTrackInG Guards.source t (.ok pe) l = .ok (rmTrackIn t pe l) := by
  unfold rmTrackInG rmTrackIn Guards.source
  simp only [Res.bind, C15Guards.v2_db_remove_track_found_eq]
  cases (pe.filter (fun r => r.key == l && r.val.track == t && r.val.uuid == 0)).getLast? <;> rfl

theorem rmTrackInG_foldl (t : Int) (L : List Int) (pe : Table Ent) :
    L.foldl (rmTrackInG Guards.source t) (.ok pe) = .ok (L.foldl (rmTrackIn t) pe) := by
  induction L generalizing pe with
  | nil => rfl
  | cons l L ih => simp only [List.foldl_cons, rmTrackInG_ok, ih]

theorem setParentCheckG_none (d : Db) (c : Int) : setParentCheckG Guards.source d c none = .ok none := rfl

theorem setParentCheckG_some (d : Db) (c q : Int) :
    setParentCheckG Guards.source d c (some q) =
      if !plExists d q then .ok (some (exn "crate_deleted"))
      else (descendantIds d.pl c).bind fun ds =>
        if ds.contains q then .ok (some (exn "crate_invalid_parent")) else .ok none := by
  unfold setParentCheckG Guards.source
  simp only [C15Guards.v2_crate_set_parent_given_eq, Option.isSome_some, if_true, deref, Res.bind]

/-- The guarded step is the model's step, on any state: no dereference meets an empty optional — the
C++ guards, as regenerated from the source, suffice.  (The recursive view is the crate model's own
`descendantIds`, `ub nontermination` on a cyclic table, in both.)  Once the optional a guard tests is
known to be empty or not, both sides compute. -/
theorem stepG_eq (d : Db) (op : Op) : stepG d op = step d op := by
  cases op with
  | createRootAfter name after =>
    simp only [stepG, stepGW, step, Guards.source, C15Guards.v2_db_root_after_norow_eq]
    cases get d.pl after <;> rfl
  | createSubAfter p name after =>
    simp only [stepG, stepGW, step, Guards.source, C15Guards.v2_crate_sub_after_norow_eq]
    cases get d.pl after <;> rfl
  | rename c name =>
    simp only [stepG, stepGW, step, Guards.source, C15Guards.v2_crate_set_name_norow_eq]
    cases get d.pl c <;> rfl
  | setParent c p =>
    cases p with
    | none =>
      simp only [stepG, stepGW, step, Guards.source, C15Guards.v2_crate_set_parent_self_eq,
        C15Guards.v2_crate_set_parent_norow_eq, C15Guards.v2_crate_set_parent_given2_eq]
      cases get d.pl c <;> rfl
    | some q =>
      simp only [stepG, stepGW, step, setParentCheckG_some]
      simp only [Guards.source, C15Guards.v2_crate_set_parent_self_eq, C15Guards.v2_crate_set_parent_norow_eq,
        C15Guards.v2_crate_set_parent_given2_eq, Option.isSome_some, if_true, Bool.true_and, deref, Res.bind]
      rw [Option.some_beq_some]
      cases q == c with
      | true => rfl
      | false =>
        cases get d.pl c with
        | none => rfl
        | some r =>
          cases plExists d q with
          | false => rfl
          | true =>
            cases descendantIds d.pl c with
            | ok ds => dsimp only; cases ds.contains q <;> rfl
            | throw e => rfl
            | ub u => rfl
  | removeCrate c =>
    simp only [stepG, stepGW, step]
    cases descendantIds d.pl c <;> rfl
  | removeTrack t => simp only [stepG, stepGW, step, rmTrackInG_foldl]
  | addTrack c t => simp only [stepG, stepGW, step, peAddBackG_eq]
  | removeTrackFrom c t =>
    simp only [stepG, stepGW, step, Guards.source, C15Guards.v2_crate_remove_track_found_eq]
    cases peFind d c t 0 <;> rfl
  | peAddBack l t uu f => simp only [stepG, stepGW, step, peAddBackG_eq]
  | createRoot name | createSub p name | createTrack | clearTracks c | peRemove l e | peClear l => rfl

theorem stepG_defined (d : Db) (hW : Forest.Forest.Wf (absF d)) (op : Op) : Defined (stepG d op).2 := by
  rw [stepG_eq d op]; exact step_defined d hW op

theorem qNameG_eq (d : Db) (c : Int) : qNameG d c = qName d c := by
  unfold qNameG qName
  simp only [C15Guards.v2_crate_name_norow_eq]
  cases get d.pl c <;> rfl

theorem qParentG_eq (d : Db) (c : Int) : qParentG d c = qParent d c := by
  unfold qParentG qParent
  simp only [C15Guards.v2_crate_parent_norow_eq]
  cases get d.pl c with
  | none => rfl
  | some r => simp only [Option.isSome_some, Bool.not_true, Bool.false_eq_true, if_false, deref, Res.bind]

theorem qByParentNameG_eq (d : Db) (p : Int) (n : Bytes) : qByParentNameG d p n = .ok (qByParentName d p n) := by
  unfold qByParentNameG qByParentName
  simp only [C15Guards.v2_db_root_by_name_none_eq, C15Guards.v2_crate_sub_by_name_none_eq]
  cases findId d p n with
  | none => simp
  | some i => simp [deref, Res.bind]

theorem queryG_defined (d : Db) {A B : Int → List Int} (hpl : R A d.pl) (hpe : R B d.pe)
    (hW : Forest.Forest.Wf (absF d)) (q : Query) : Defined (queryG d q) := by
  cases q with
  | roots => exact .bind (sortIdsG_eq d.pl 0 ▸ walkBackG_defined hpl 0) fun _ _ => .ok _
  | children c => exact .bind (sortIdsG_eq d.pl c ▸ walkBackG_defined hpl c) fun _ _ => .ok _
  | tracks c => exact .bind (getForListG_eq d.pe c ▸ walkBackG_defined hpe c) fun _ _ => .ok _
  | entities l => exact .bind (getForListG_eq d.pe l ▸ walkBackG_defined hpe l) fun _ _ => .ok _
  | descendants c =>
    obtain ⟨l, hl, _⟩ := descendantIds_ok hW c
    exact .bind (hl ▸ .ok l) fun _ _ => .ok _
  | parent c =>
    refine .bind ?_ fun _ _ => .ok _
    rw [qParentG_eq]
    unfold qParent
    cases get d.pl c with
    | none => exact .throw _
    | some r => simp only; split <;> exact .ok _
  | name c =>
    refine .bind ?_ fun _ _ => .ok _
    rw [qNameG_eq]
    unfold qName
    cases get d.pl c with
    | none => exact .throw _
    | some r => exact .ok _
  | byParentName p n => exact .bind (qByParentNameG_eq d p n ▸ .ok _) fun _ _ => .ok _
  | _ => exact .ok _

theorem get_none_of_not_mem {t : Table α} {i : Int} (h : i ∉ ids t) : Db.Chain.get t i = none :=
  List.find?_eq_none.mpr fun r hr he => h (List.mem_map.mpr ⟨r, hr, by simpa using he⟩)

end EngineModel.Api.GuardedV2
