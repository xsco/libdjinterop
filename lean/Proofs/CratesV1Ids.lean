/-
How one operation changes the set of live crate ids (schema-1.x model, from a
state satisfying `Inv`): only a successful creation adds an id (a fresh one),
only `remove_crate` drops ids (exactly the sub-tree), everything else leaves
the ids — and their order in `Crate` — alone.  Also: failing calls change nothing.
-/
import Proofs.CratesV1Sim

namespace EngineModel.Api.CratesV1
open EngineModel.Pure.Detect EngineModel.Spec

variable {db : Db}

def isCreate : Op → Bool
  | .createRoot _ | .createSub _ _ => true
  | _ => false

/-- The three ways the id list can change (a creation that leaves it alone has thrown); `R`: as a relation between the
state before, the call and what `step` returns. -/
def IdsDeltaR (db : Db) (op : Op) (out : Db × Res Out) : Prop :=
  (ids out.1 = ids db ∧ (isCreate op = true → out.2.isOk = false)) ∨
  (∃ i, isCreate op = true ∧ out.2 = .ok (.id i) ∧ i ∉ ids db ∧ ids out.1 = ids db ++ [i]) ∨
  (∃ c, op = .removeCrate c ∧ ∀ y, y ∈ ids out.1 ↔ (y ∈ ids db ∧ ¬ Sub db c y))

theorem ids_step (s : Schema) (h : Inv db) (op : Op) : IdsDeltaR db op (step s db op) := by
  rcases step_cases s h op with ⟨_, e, he⟩ | ⟨_, d, o, he, hr⟩ <;> rw [he]
  · exact Or.inl ⟨rfl, fun _ => rfl⟩
  · cases op with
    | createRoot n =>
      obtain ⟨rfl, rfl⟩ := hr
      exact Or.inr (Or.inl ⟨_, rfl, rfl, newCrateId_fresh s db, ids_afterCreate s _ _ _⟩)
    | createSub c n =>
      obtain ⟨rfl, rfl⟩ := hr
      exact Or.inr (Or.inl ⟨_, rfl, rfl, newCrateId_fresh s db, ids_afterCreate s _ _ _⟩)
    | rename c n => rw [hr.1]; exact Or.inl ⟨ids_afterSetName db c n, nofun⟩
    | setParent c p => rw [hr.1]; exact Or.inl ⟨ids_afterSetParent db c p, nofun⟩
    | removeCrate c => rw [hr.1]; exact Or.inr (Or.inr ⟨c, rfl, mem_ids_afterRemove db c⟩)
    | addTrack c t | removeTrackFrom c t | clearTracks c => rw [hr.1]; exact Or.inl ⟨rfl, nofun⟩
    | createTrack => obtain ⟨id, seq, rfl, _⟩ := hr; exact Or.inl ⟨rfl, nofun⟩
    | removeTrack t => rw [hr.1]; exact Or.inl ⟨congrArg (List.map fun r : CrateRow => r.id) (removeTrack_spec s h t).2.1, nofun⟩

theorem step_throw_unchanged (s : Schema) (h : Inv db) (op : Op) (hr : (step s db op).2.isOk = false) :
    (step s db op).1 = db := by
  rcases step_cases s h op with ⟨_, e, he⟩ | ⟨_, d, o, he, _⟩
  · rw [he]
  · rw [he] at hr; cases hr

theorem step_rejected (s : Schema) (h : Inv db) {op : Op} (hn : ¬ Accepted db op) :
    (step s db op).2.isOk = false ∧ (step s db op).1 = db := by
  rcases step_cases s h op with ⟨_, e, he⟩ | ⟨ha, _⟩
  · rw [he]; exact ⟨rfl, rfl⟩
  · exact absurd ha hn

theorem isValid_iff (h : FInv db) (c : Id) : crateIsValid db c = .ok true ↔ c ∈ ids db := by
  rw [q_isValid h c, Res.ok.injEq, abs_live]

theorem isValid_false_iff (h : FInv db) (c : Id) : crateIsValid db c = .ok false ↔ c ∉ ids db := by
  rw [q_isValid h c, Res.ok.injEq, ← Bool.not_eq_true, abs_live]

theorem sub_iff_abs (h : FInv db) (c y : Id) : Sub db c y ↔ (y = c ∨ (absForest db).isAncestor c y = true) := by
  unfold Sub; rw [isAncestor_iff h]

end EngineModel.Api.CratesV1
