/-
Representation relation between abstract ordered lists (one duplicate-free list
of ids per key) and a chain table, and the per-operation simulation lemmas.
-/
import EngineModel.Db.Chain
import EngineModel.Spec.Ordered
import Proofs.ListAux

namespace EngineModel.Db.Chain

open EngineModel.Spec EngineModel.ListAux

variable {α : Type}

/-- Successor of `x` in `l` (0 when `x` is last or absent). -/
def succ : List Int → Int → Int
  | [], _ => 0
  | a :: l, x => if a = x then l.headD 0 else succ l x

def setKey (A : Int → List Int) (k : Int) (l : List Int) : Int → List Int :=
  fun k' => if k' = k then l else A k'

@[simp] theorem setKey_same (A : Int → List Int) (k : Int) (l : List Int) : setKey A k l k = l := by
  simp [setKey]

theorem setKey_other (A : Int → List Int) {k k' : Int} (l : List Int) (h : k' ≠ k) :
    setKey A k l k' = A k' := by
  simp [setKey, h]

/-- The table `t` represents the lists `A`: ids are a key of the table and
positive; each row sits in the list of its key with `next` = its successor there
(0 at the tail); every listed id has its row. -/
structure R (A : Int → List Int) (t : Table α) : Prop where
  ids_nodup : (ids t).Nodup
  id_pos : ∀ r ∈ t, 0 < r.id
  nodup : ∀ k, (A k).Nodup
  mem : ∀ r ∈ t, r.id ∈ A r.key
  next : ∀ r ∈ t, r.next = succ (A r.key) r.id
  cover : ∀ k x, x ∈ A k → ∃ r ∈ t, r.id = x ∧ r.key = k

theorem setKey_self (A : Int → List Int) (k : Int) : setKey A k (A k) = A := by
  funext k'; unfold setKey; split
  · rename_i e; rw [e]
  · rfl

theorem setKey_setKey (A : Int → List Int) (k : Int) (l l' : List Int) :
    setKey (setKey A k l) k l' = setKey A k l' := by
  funext k'; unfold setKey; split <;> rfl

theorem succ_not_mem {l : List Int} {x : Int} (h : x ∉ l) : succ l x = 0 := by
  induction l with
  | nil => rfl
  | cons a l ih =>
    simp only [List.mem_cons, not_or] at h
    simp [succ, Ne.symm h.1, ih h.2]

theorem succ_cons_zero_or_mem (a : Int) (l : List Int) (x : Int) :
    succ (a :: l) x = 0 ∨ succ (a :: l) x ∈ l := by
  induction l generalizing a with
  | nil => left; simp [succ]
  | cons b l ih =>
    rw [succ]; split
    · right; simp
    · exact (ih b).imp id (List.mem_cons_of_mem _)

theorem succ_mem_or_zero (l : List Int) (x : Int) : succ l x = 0 ∨ succ l x ∈ l := by
  cases l with
  | nil => left; rfl
  | cons a l => exact (succ_cons_zero_or_mem a l x).imp id (List.mem_cons_of_mem _)

theorem succ_ne_head {a : Int} {l : List Int} (hn : (a :: l).Nodup) (ha : a ≠ 0) (x : Int) :
    succ (a :: l) x ≠ a := by
  intro h
  rcases succ_cons_zero_or_mem a l x with h0 | hm
  · exact ha (h.symm.trans h0)
  · exact (List.nodup_cons.mp hn).1 (h ▸ hm)

theorem succ_ne_self {l : List Int} (hn : l.Nodup) (x : Int) (hx : x ≠ 0) : succ l x ≠ x := by
  induction l with
  | nil => exact Ne.symm hx
  | cons a l ih =>
    by_cases h : a = x
    · subst h; exact succ_ne_head hn hx a
    · rw [succ, if_neg h]; exact ih (List.nodup_cons.mp hn).2

theorem succ_inj {l : List Int} (hn : l.Nodup) (h0 : ∀ y ∈ l, y ≠ 0) {x y : Int}
    (hx : x ∈ l) (hy : y ∈ l) (h : succ l x = succ l y) : x = y := by
  induction l with
  | nil => simp at hx
  | cons a l ih =>
    have hn' := (List.nodup_cons.mp hn).2
    have h0' : ∀ y ∈ l, y ≠ 0 := fun y hy => h0 y (List.mem_cons_of_mem _ hy)
    -- the successor of the head is the head of the tail, which no member of the tail points at
    have key : ∀ z ∈ l, succ l z ≠ l.headD 0 := by
      intro z hz
      cases l with
      | nil => simp at hz
      | cons b l => exact succ_ne_head hn' (h0' b (by simp)) z
    simp only [succ] at h
    by_cases hax : a = x <;> by_cases hay : a = y
    · exact hax.symm.trans hay
    · rw [if_pos hax, if_neg hay] at h
      exact absurd h.symm (key y ((List.mem_cons.mp hy).resolve_left (Ne.symm hay)))
    · rw [if_neg hax, if_pos hay] at h
      exact absurd h (key x ((List.mem_cons.mp hx).resolve_left (Ne.symm hax)))
    · rw [if_neg hax, if_neg hay] at h
      exact ih hn' h0' ((List.mem_cons.mp hx).resolve_left (Ne.symm hax))
        ((List.mem_cons.mp hy).resolve_left (Ne.symm hay)) h

theorem succ_mid {l1 suf : List Int} {p : Int} (hn : (l1 ++ p :: suf).Nodup) :
    succ (l1 ++ p :: suf) p = suf.headD 0 := by
  induction l1 with
  | nil => simp [succ]
  | cons a l ih =>
    have hn' : a ∉ l ++ p :: suf ∧ (l ++ p :: suf).Nodup := List.nodup_cons.mp hn
    have : a ≠ p := by
      intro e; subst e; exact hn'.1 (by simp)
    simp only [List.cons_append, succ, if_neg this]
    exact ih hn'.2

theorem mem_insertBefore {b n : Int} {l : List Int} {y : Int} :
    y ∈ Ordered.insertBefore b n l ↔ y = n ∨ y ∈ l := by
  induction l with
  | nil => simp [Ordered.insertBefore]
  | cons a l ih =>
    simp only [Ordered.insertBefore]
    split
    · simp
    · simp only [List.mem_cons, ih]; exact or_left_comm

theorem nodup_insertBefore {b n : Int} {l : List Int} (hn : l.Nodup) (hnl : n ∉ l) :
    (Ordered.insertBefore b n l).Nodup := by
  induction l with
  | nil => simp [Ordered.insertBefore]
  | cons a l ih =>
    have hn' := List.nodup_cons.mp hn
    simp only [List.mem_cons, not_or] at hnl
    simp only [Ordered.insertBefore]
    split
    · exact List.nodup_cons.mpr ⟨by simpa using hnl, hn⟩
    · refine List.nodup_cons.mpr ⟨?_, ih hn'.2 hnl.2⟩
      rw [mem_insertBefore, not_or]
      exact ⟨Ne.symm hnl.1, hn'.1⟩

theorem insertBefore_headD {b n : Int} {l : List Int} (hb : b = 0 ∨ b ∈ l) :
    (Ordered.insertBefore b n l).headD 0 = if l.headD 0 = b then n else l.headD 0 := by
  cases l with
  | nil => simp [Ordered.insertBefore, hb.resolve_right (by simp)]
  | cons c l =>
    by_cases h : c = b <;> simp [Ordered.insertBefore, h]

theorem succ_insertBefore {b n : Int} {l : List Int} (hn : l.Nodup) (h0 : ∀ y ∈ l, y ≠ 0)
    (hnl : n ∉ l) (hb : b = 0 ∨ b ∈ l) {x : Int} (hx : x ∈ l) :
    succ (Ordered.insertBefore b n l) x = if succ l x = b then n else succ l x := by
  induction l with
  | nil => simp at hx
  | cons a l ih =>
    simp only [Ordered.insertBefore]
    by_cases hab : a = b
    · -- `n` goes in front of the head, which nothing points at
      have hnx : n ≠ x := fun e => hnl (e ▸ hx)
      rw [if_pos hab, succ, if_neg hnx, if_neg (hab ▸ succ_ne_head hn (h0 a (by simp)) x)]
    · have hb' : b = 0 ∨ b ∈ l := hb.imp id fun h => (List.mem_cons.mp h).resolve_left (Ne.symm hab)
      rw [if_neg hab]
      by_cases hax : a = x
      · simp only [succ, if_pos hax]
        exact insertBefore_headD hb'
      · simp only [succ, if_neg hax]
        exact ih (List.nodup_cons.mp hn).2 (fun y hy => h0 y (List.mem_cons_of_mem _ hy))
          (fun h => hnl (List.mem_cons_of_mem _ h)) hb' ((List.mem_cons.mp hx).resolve_left (Ne.symm hax))

theorem succ_insertBefore_new {b n : Int} {l : List Int} (hnl : n ∉ l) (hb : b = 0 ∨ b ∈ l) :
    succ (Ordered.insertBefore b n l) n = b := by
  induction l with
  | nil => simp [Ordered.insertBefore, succ, hb.resolve_right (by simp)]
  | cons a l ih =>
    simp only [List.mem_cons, not_or] at hnl
    simp only [Ordered.insertBefore]
    by_cases hab : a = b
    · rw [if_pos hab]; simp [succ, hab]
    · rw [if_neg hab, succ, if_neg (Ne.symm hnl.1)]
      exact ih hnl.2 (hb.imp id fun h => (List.mem_cons.mp h).resolve_left (Ne.symm hab))

theorem succ_erase {d : Int} {l : List Int} (hn : l.Nodup) (h0 : ∀ y ∈ l, y ≠ 0)
    {x : Int} (hx : x ∈ l) (hxd : x ≠ d) :
    succ (l.erase d) x = if succ l x = d then succ l d else succ l x := by
  induction l with
  | nil => simp at hx
  | cons a l ih =>
    have hn' := List.nodup_cons.mp hn
    have h0' : ∀ y ∈ l, y ≠ 0 := fun y hy => h0 y (List.mem_cons_of_mem _ hy)
    by_cases had : a = d
    · -- the head goes: nothing pointed at it
      subst had
      rw [List.erase_cons_head, if_neg (succ_ne_head hn (h0 a (by simp)) x), succ, if_neg (Ne.symm hxd)]
    · rw [List.erase_cons_tail (by simpa using had)]
      by_cases hax : a = x
      · -- the head stays and inherits the successor of its successor
        simp only [succ, if_pos hax, if_neg had]
        cases l with
        | nil => simp [succ]
        | cons c l =>
          by_cases hcd : c = d
          · simp [succ, hcd]
          · rw [List.erase_cons_tail (by simpa using hcd)]; simp [hcd]
      · simp only [succ, if_neg hax, if_neg had]
        exact ih hn'.2 h0' ((List.mem_cons.mp hx).resolve_left (Ne.symm hax))

theorem insertAfter_eq_insertBefore {a n : Int} {l : List Int} (hn : l.Nodup) (h0 : ∀ y ∈ l, y ≠ 0)
    (ha : a ∈ l) : Ordered.insertAfter a n l = Ordered.insertBefore (succ l a) n l := by
  induction l with
  | nil => simp at ha
  | cons c l ih =>
    have hn' := List.nodup_cons.mp hn
    have h0' : ∀ y ∈ l, y ≠ 0 := fun y hy => h0 y (List.mem_cons_of_mem _ hy)
    have hc : c ≠ succ (c :: l) a := Ne.symm (succ_ne_head hn (h0 c (by simp)) a)
    rw [Ordered.insertAfter, Ordered.insertBefore, if_neg hc]
    rw [succ] at hc ⊢
    by_cases hca : c = a
    · simp only [if_pos hca]
      cases l <;> simp [Ordered.insertBefore]
    · simp only [if_neg hca]
      rw [ih hn'.2 h0' ((List.mem_cons.mp ha).resolve_left (Ne.symm hca))]

theorem insertBefore_zero {n : Int} {l : List Int} (h0 : ∀ y ∈ l, y ≠ 0) :
    Ordered.insertBefore 0 n l = l ++ [n] := by
  induction l with
  | nil => rfl
  | cons a l ih =>
    rw [Ordered.insertBefore, if_neg (h0 a (by simp)), ih (fun y hy => h0 y (List.mem_cons_of_mem _ hy))]
    rfl

@[simp] theorem updRow_id (p : Row α → Bool) (e : Int → Int) (r : Row α) : (updRow p e r).id = r.id := by
  unfold updRow; split <;> rfl
@[simp] theorem updRow_key (p : Row α → Bool) (e : Int → Int) (r : Row α) : (updRow p e r).key = r.key := by
  unfold updRow; split <;> rfl
@[simp] theorem updRow_val (p : Row α → Bool) (e : Int → Int) (r : Row α) : (updRow p e r).val = r.val := by
  unfold updRow; split <;> rfl
theorem updRow_next (p : Row α → Bool) (e : Int → Int) (r : Row α) :
    (updRow p e r).next = if p r then e r.next else r.next := by
  unfold updRow; split <;> rfl
theorem updRow_neg {p : Row α → Bool} {e : Int → Int} {r : Row α} (h : p r = false) : updRow p e r = r := by
  unfold updRow; simp [h]

theorem mem_updNext {p : Row α → Bool} {e : Int → Int} {t : Table α} {r' : Row α} :
    r' ∈ updNext p e t ↔ ∃ r ∈ t, updRow p e r = r' := by
  simp [updNext]

theorem ids_map {f : Row α → Row α} (hf : ∀ r, (f r).id = r.id) (t : Table α) : ids (t.map f) = ids t := by
  simp only [ids, List.map_map]
  exact List.map_congr_left fun r _ => hf r

@[simp] theorem ids_updNext (p : Row α → Bool) (e : Int → Int) (t : Table α) : ids (updNext p e t) = ids t :=
  ids_map (updRow_id p e) t

theorem ids_setVal (t : Table α) (i : Int) (v : α) : ids (setVal t i v) = ids t :=
  ids_map (fun r => by split <;> rfl) t

theorem ids_move (t : Table α) (i ok on nk tg : Int) (v : α) : ids (move t i ok on nk tg v) = ids t := by
  simp only [move, ids_map (f := fun r => if r.id == i then { r with val := v, key := nk, next := tg } else r)
    (fun r => by split <;> rfl), ids_updNext]

theorem mem_ids {t : Table α} {i : Int} : i ∈ ids t ↔ ∃ r ∈ t, r.id = i := List.mem_map

theorem mem_rowsOf {t : Table α} {k : Int} {r : Row α} : r ∈ rowsOf t k ↔ r ∈ t ∧ r.key = k := by
  simp [rowsOf]

theorem nodup_ids_filter {t : Table α} (p : Row α → Bool) (h : (ids t).Nodup) : (ids (t.filter p)).Nodup :=
  List.Nodup.sublist (List.Sublist.map _ List.filter_sublist) h

theorem eq_of_id_eq {t : Table α} (hn : (ids t).Nodup) {r r' : Row α} (hr : r ∈ t) (hr' : r' ∈ t)
    (h : r.id = r'.id) : r = r' :=
  eq_of_map_eq hn hr hr' h

theorem get_some {t : Table α} {i : Int} {r : Row α} (h : get t i = some r) : r ∈ t ∧ r.id = i :=
  ⟨List.mem_of_find?_eq_some h, by simpa using List.find?_some h⟩

theorem get_of_mem {t : Table α} (hn : (ids t).Nodup) {r : Row α} (hr : r ∈ t) : get t r.id = some r :=
  find?_unique hr (by simp) fun r' hr' e => eq_of_id_eq hn hr' hr (by simpa using e)

theorem get_none {t : Table α} {i : Int} (h : get t i = none) : i ∉ ids t := by
  unfold get at h
  simp only [List.find?_eq_none, beq_iff_eq] at h
  exact fun hi => let ⟨r, hr, e⟩ := mem_ids.mp hi; h r hr e

theorem find_rowsOf {A : Int → List Int} {t : Table α} (h : R A t) {k i : Int} {old : Row α}
    (hf : (rowsOf t k).find? (·.id == i) = some old) : old ∈ t ∧ old.id = i ∧ old.key = k := by
  obtain ⟨ht, hk⟩ := mem_rowsOf.mp (List.mem_of_find?_eq_some hf)
  exact ⟨ht, by simpa using List.find?_some hf, hk⟩

variable {A : Int → List Int} {t : Table α}

namespace R

theorem pos (h : R A t) {k x : Int} (hx : x ∈ A k) : 0 < x := by
  obtain ⟨r, hr, rfl, _⟩ := h.cover k x hx
  exact h.id_pos r hr

theorem ne0 (h : R A t) (k : Int) : ∀ y ∈ A k, y ≠ 0 := fun _ hy => Int.ne_of_gt (h.pos hy)

theorem key_unique (h : R A t) {k k' x : Int} (hx : x ∈ A k) (hx' : x ∈ A k') : k = k' := by
  obtain ⟨r, hr, rfl, rfl⟩ := h.cover k _ hx
  obtain ⟨r', hr', e, rfl⟩ := h.cover k' _ hx'
  rw [eq_of_id_eq h.ids_nodup hr' hr e]

theorem next_nonneg (h : R A t) {r : Row α} (hr : r ∈ t) : 0 ≤ r.next := by
  rw [h.next r hr]
  rcases succ_mem_or_zero (A r.key) r.id with h0 | hm
  · rw [h0]; exact Int.le_refl 0
  · exact Int.le_of_lt (h.pos hm)

theorem not_mem_of_fresh (h : R A t) {n : Int} (hn : n ∉ ids t) (k : Int) : n ∉ A k := by
  intro hx
  obtain ⟨r, hr, e, _⟩ := h.cover k n hx
  exact hn (mem_ids.mpr ⟨r, hr, e⟩)

theorem nil_of_no_rows (h : R A t) {k : Int} (hk : ∀ r ∈ t, r.key ≠ k) : A k = [] := by
  cases hl : A k with
  | nil => rfl
  | cons x l =>
    obtain ⟨r, hr, _, e⟩ := h.cover k x (by rw [hl]; simp)
    exact absurd e (hk r hr)

theorem mem_iff (h : R A t) {k x : Int} : x ∈ A k ↔ ∃ r ∈ t, r.id = x ∧ r.key = k :=
  ⟨h.cover k x, fun ⟨r, hr, e1, e2⟩ => e1 ▸ e2 ▸ h.mem r hr⟩

theorem of_rowsOf (h : R A t) {k : Int} {r : Row α} (hr : r ∈ rowsOf t k) :
    r.id ∈ A k ∧ r.next = succ (A k) r.id := by
  obtain ⟨hr', rfl⟩ := mem_rowsOf.mp hr
  exact ⟨h.mem r hr', h.next r hr'⟩

theorem mem_rowsOf_ids (h : R A t) {k x : Int} (hx : x ∈ A k) : x ∈ (rowsOf t k).map (·.id) := by
  obtain ⟨r, hr, e1, e2⟩ := h.cover k x hx
  exact List.mem_map.mpr ⟨r, mem_rowsOf.mpr ⟨hr, e2⟩, e1⟩

theorem length_le_rowsOf (h : R A t) (k : Int) : (A k).length ≤ (rowsOf t k).length := by
  simpa using length_le_of_nodup_subset (h.nodup k) fun x => h.mem_rowsOf_ids

/-- `R` looks at a table only through the set of its `(id, key, next)` triples. -/
theorem congr {t' : Table α} (h : R A t) (hn : (ids t').Nodup)
    (h1 : ∀ r' ∈ t', ∃ r ∈ t, r.id = r'.id ∧ r.key = r'.key ∧ r.next = r'.next)
    (h2 : ∀ r ∈ t, ∃ r' ∈ t', r'.id = r.id ∧ r'.key = r.key) : R A t' where
  ids_nodup := hn
  id_pos r' hr' := by obtain ⟨r, hr, e, _⟩ := h1 r' hr'; exact e ▸ h.id_pos r hr
  nodup := h.nodup
  mem r' hr' := by obtain ⟨r, hr, e1, e2, _⟩ := h1 r' hr'; exact e1 ▸ e2 ▸ h.mem r hr
  next r' hr' := by obtain ⟨r, hr, e1, e2, e3⟩ := h1 r' hr'; exact e1 ▸ e2 ▸ e3 ▸ h.next r hr
  cover k x hx := by
    obtain ⟨r, hr, e1, e2⟩ := h.cover k x hx
    obtain ⟨r', hr', e3, e4⟩ := h2 r hr
    exact ⟨r', hr', e3.trans e1, e4.trans e2⟩

/-- The list of one key replaced by `l`: it suffices that the rows of `k` are linked along `l`
and that the rows of the other keys keep their `(id, key, next)`. -/
theorem replace {t' : Table α} (h : R A t) {k : Int} {l : List Int}
    (hn : (ids t').Nodup) (hp : ∀ r ∈ t', 0 < r.id) (hl : l.Nodup)
    (hk : ∀ r ∈ t', r.key = k → r.id ∈ l ∧ r.next = succ l r.id)
    (hc : ∀ x ∈ l, ∃ r ∈ t', r.id = x ∧ r.key = k)
    (ho : ∀ r ∈ t', r.key ≠ k → ∃ r0 ∈ t, r0.id = r.id ∧ r0.key = r.key ∧ r0.next = r.next)
    (hco : ∀ r0 ∈ t, r0.key ≠ k → ∃ r ∈ t', r.id = r0.id ∧ r.key = r0.key) :
    R (setKey A k l) t' where
  ids_nodup := hn
  id_pos := hp
  nodup k' := by
    by_cases e : k' = k
    · rw [e, setKey_same]; exact hl
    · rw [setKey_other _ _ e]; exact h.nodup k'
  mem r hr := by
    by_cases e : r.key = k
    · rw [e, setKey_same]; exact (hk r hr e).1
    · obtain ⟨r0, hr0, e1, e2, _⟩ := ho r hr e
      rw [setKey_other _ _ e, ← e1, ← e2]; exact h.mem r0 hr0
  next r hr := by
    by_cases e : r.key = k
    · rw [e, setKey_same]; exact (hk r hr e).2
    · obtain ⟨r0, hr0, e1, e2, e3⟩ := ho r hr e
      rw [setKey_other _ _ e, ← e1, ← e2, ← e3]; exact h.next r0 hr0
  cover k' x hx := by
    by_cases e : k' = k
    · rw [e, setKey_same] at hx; rw [e]; exact hc x hx
    · rw [setKey_other _ _ e] at hx
      obtain ⟨r0, hr0, e1, e2⟩ := h.cover k' x hx
      obtain ⟨r, hr, e3, e4⟩ := hco r0 hr0 (e2 ▸ e)
      exact ⟨r, hr, e3.trans e1, e4.trans e2⟩

end R

/-- On a table without negative links, marking the predecessor of `b` with `-(1 + b)` and
then pointing the marked row at `n` is one update; the inserted row is not touched. -/
theorem insertBefore_eq {t : Table α} (hnn : ∀ r ∈ t, 0 ≤ r.next) {b : Int} (hb : 0 ≤ b) (n k : Int) (v : α) :
    insertBefore t n k b v =
      updNext (fun r => r.next == b && r.key == k) (fun _ => n) t ++ [⟨n, k, b, v⟩] := by
  simp only [insertBefore, updNext, List.map_append, List.map_map, List.map_cons, List.map_nil]
  congr 1
  · apply List.map_congr_left
    intro r hr
    have := hnn r hr
    by_cases h : r.next = b ∧ r.key = k
    · simp [updRow, h.1, h.2]
    · have h2 : r.next ≠ -(1 + b) := by omega
      simp [updRow, h, h2]
  · have : b ≠ -(1 + b) := by omega
    rw [updRow_neg (by simp [this])]

theorem R_updNext_append (h : R A t) {n k b : Int} (v : α)
    (hpos : 0 < n) (hfresh : n ∉ ids t) (hb : b = 0 ∨ b ∈ A k) :
    R (setKey A k (Ordered.insertBefore b n (A k)))
      (updNext (fun r => r.next == b && r.key == k) (fun _ => n) t ++ [⟨n, k, b, v⟩]) := by
  have hnA : n ∉ A k := h.not_mem_of_fresh hfresh k
  have hmem : ∀ {r}, r ∈ updNext (fun r => r.next == b && r.key == k) (fun _ => n) t ++ [⟨n, k, b, v⟩] ↔
      (∃ r0 ∈ t, updRow (fun r => r.next == b && r.key == k) (fun _ => n) r0 = r) ∨ r = ⟨n, k, b, v⟩ := by
    intro r; rw [List.mem_append, mem_updNext, List.mem_singleton]
  refine h.replace ?_ ?_ (nodup_insertBefore (h.nodup k) hnA) ?_ ?_ ?_ ?_
  · rw [ids, List.map_append, ← ids, ids_updNext]
    exact List.nodup_append.mpr ⟨h.ids_nodup, by simp, fun a ha c hc e =>
      hfresh (by simp at hc; rw [← hc, ← e]; exact ha)⟩
  · intro r hr
    rcases hmem.mp hr with ⟨r0, hr0, rfl⟩ | rfl
    · rw [updRow_id]; exact h.id_pos r0 hr0
    · exact hpos
  · intro r hr hk
    rcases hmem.mp hr with ⟨r0, hr0, rfl⟩ | rfl
    · rw [updRow_key] at hk
      have hm : r0.id ∈ A k := hk ▸ h.mem r0 hr0
      have hnx : r0.next = succ (A k) r0.id := hk ▸ h.next r0 hr0
      rw [updRow_id, updRow_next, succ_insertBefore (h.nodup k) (h.ne0 k) hnA hb hm, ← hnx]
      exact ⟨mem_insertBefore.mpr (.inr hm), by simp [hk]⟩
    · exact ⟨mem_insertBefore.mpr (.inl rfl), (succ_insertBefore_new hnA hb).symm⟩
  · intro x hx
    rcases mem_insertBefore.mp hx with rfl | hx
    · exact ⟨_, hmem.mpr (.inr rfl), rfl, rfl⟩
    · obtain ⟨r, hr, e1, e2⟩ := h.cover k x hx
      exact ⟨_, hmem.mpr (.inl ⟨r, hr, rfl⟩), by rwa [updRow_id], by rwa [updRow_key]⟩
  · intro r hr hk
    rcases hmem.mp hr with ⟨r0, hr0, rfl⟩ | rfl
    · rw [updRow_key] at hk
      exact ⟨r0, hr0, (updRow_id _ _ _).symm, (updRow_key _ _ _).symm, by rw [updRow_neg (by simp [hk])]⟩
    · exact absurd rfl hk
  · intro r0 hr0 _
    exact ⟨_, hmem.mpr (.inl ⟨r0, hr0, rfl⟩), updRow_id _ _ _, updRow_key _ _ _⟩

theorem R_insertBefore (h : R A t) {n k b : Int} (v : α)
    (hpos : 0 < n) (hfresh : n ∉ ids t) (hb : b = 0 ∨ b ∈ A k) :
    R (setKey A k (Ordered.insertBefore b n (A k))) (insertBefore t n k b v) := by
  have hb0 : 0 ≤ b := hb.elim (fun e => by omega) fun hb => Int.le_of_lt (h.pos hb)
  rw [insertBefore_eq (fun r hr => h.next_nonneg hr) hb0]
  exact R_updNext_append h v hpos hfresh hb

/-- The `id <> newId` test of the UPDATE only spares the row just inserted. -/
theorem appendBack_eq {t : Table α} {n : Int} (hfresh : n ∉ ids t) (k : Int) (v : α) :
    appendBack t n k v = updNext (fun r => r.next == 0 && r.key == k) (fun _ => n) t ++ [⟨n, k, 0, v⟩] := by
  simp only [appendBack, updNext, List.map_append, List.map_cons, List.map_nil]
  congr 1
  · apply List.map_congr_left
    intro r hr
    have hne : r.id ≠ n := fun e => hfresh (mem_ids.mpr ⟨r, hr, e⟩)
    simp [updRow, hne, Bool.and_comm]
  · rw [updRow_neg (by simp)]

theorem R_appendBack (h : R A t) {n k : Int} (v : α)
    (hpos : 0 < n) (hfresh : n ∉ ids t) :
    R (setKey A k (A k ++ [n])) (appendBack t n k v) := by
  rw [appendBack_eq hfresh, ← insertBefore_zero (h.ne0 k)]
  exact R_updNext_append h v hpos hfresh (Or.inl rfl)

/-- Characterised form: the predecessor of `i` (in key `k`) inherits `nx`, the row `i` goes. -/
def spliceOut (t : Table α) (i k nx : Int) : Table α :=
  (updNext (fun r => r.next == i && r.key == k) (fun _ => nx) t).filter (fun r => r.id != i)

theorem mem_spliceOut {t : Table α} {i k nx : Int} {r' : Row α} :
    r' ∈ spliceOut t i k nx ↔ ∃ r ∈ t, r.id ≠ i ∧ updRow (fun r => r.next == i && r.key == k) (fun _ => nx) r = r' := by
  simp only [spliceOut, List.mem_filter, mem_updNext, bne_iff_ne, ne_eq]
  constructor
  · rintro ⟨⟨r, hr, rfl⟩, hne⟩
    exact ⟨r, hr, by simpa using hne, rfl⟩
  · rintro ⟨r, hr, hne, rfl⟩
    exact ⟨⟨r, hr, rfl⟩, by simpa using hne⟩

theorem R_spliceOut (h : R A t) {old : Row α} (hold : old ∈ t) :
    R (setKey A old.key ((A old.key).erase old.id)) (spliceOut t old.id old.key old.next) := by
  have hnd := h.nodup old.key
  refine h.replace (nodup_ids_filter _ (by rw [ids_updNext]; exact h.ids_nodup)) ?_ (hnd.erase _) ?_ ?_ ?_ ?_
  · intro r hr
    obtain ⟨r0, hr0, _, rfl⟩ := mem_spliceOut.mp hr
    rw [updRow_id]; exact h.id_pos r0 hr0
  · intro r hr hk
    obtain ⟨r0, hr0, hne, rfl⟩ := mem_spliceOut.mp hr
    rw [updRow_key] at hk
    have hm : r0.id ∈ A old.key := hk ▸ h.mem r0 hr0
    have hnx : r0.next = succ (A old.key) r0.id := hk ▸ h.next r0 hr0
    rw [updRow_id, updRow_next, succ_erase hnd (h.ne0 _) hm hne, ← hnx, ← h.next old hold]
    exact ⟨(List.mem_erase_of_ne hne).mpr hm, by simp [hk]⟩
  · intro x hx
    obtain ⟨hxi, hx⟩ := hnd.mem_erase_iff.mp hx
    obtain ⟨r, hr, e1, e2⟩ := h.cover _ x hx
    exact ⟨_, mem_spliceOut.mpr ⟨r, hr, e1 ▸ hxi, rfl⟩, by rwa [updRow_id], by rwa [updRow_key]⟩
  · intro r hr hk
    obtain ⟨r0, hr0, _, rfl⟩ := mem_spliceOut.mp hr
    rw [updRow_key] at hk
    exact ⟨r0, hr0, (updRow_id _ _ _).symm, (updRow_key _ _ _).symm, by rw [updRow_neg (by simp [hk])]⟩
  · intro r0 hr0 hk
    have hne : r0.id ≠ old.id := fun e => hk (by rw [eq_of_id_eq h.ids_nodup hr0 hold e])
    exact ⟨_, mem_spliceOut.mpr ⟨r0, hr0, hne, rfl⟩, updRow_id _ _ _, updRow_key _ _ _⟩

/-- `DELETE FROM PlaylistEntity WHERE listId = k AND id = i` (trigger firing): `i` leaves the list of `k`. -/
theorem R_deleteKeyed (h : R A t) (fires : Row α → Bool)
    (hfires : ∀ r ∈ t, fires r = true) (k i : Int) :
    R (setKey A k ((A k).erase i)) (deleteKeyed fires t k i) := by
  unfold deleteKeyed
  cases hf : (rowsOf t k).find? (·.id == i) with
  | none =>
    -- no such row in this list: nothing happens, and `i` is not listed under `k`
    have hni : i ∉ A k := by
      intro hx
      obtain ⟨r, hr, e1, e2⟩ := h.cover k i hx
      have := List.find?_eq_none.mp hf r (mem_rowsOf.mpr ⟨hr, e2⟩)
      simp [e1] at this
    rw [List.erase_of_not_mem hni, setKey_self]; exact h
  | some old =>
    obtain ⟨ht, rfl, rfl⟩ := find_rowsOf h hf
    simp only [hfires old ht, if_true]
    exact R_spliceOut h ht

theorem deleteKeyed_fires {t : Table α} (fires : Row α → Bool) (hv : ∀ r r' : Row α, r.val = r'.val → fires r = fires r')
    (hfires : ∀ r ∈ t, fires r = true) (k i : Int) : ∀ r ∈ deleteKeyed fires t k i, fires r = true := by
  unfold deleteKeyed
  cases (rowsOf t k).find? (·.id == i) with
  | none => exact hfires
  | some old =>
    intro r hr
    have hr' := (List.mem_filter.mp hr).1
    split at hr'
    · obtain ⟨r0, hr0, rfl⟩ := mem_updNext.mp hr'
      rw [hv _ r0 (updRow_val _ _ _)]; exact hfires r0 hr0
    · exact hfires r hr'

theorem foldl_erase_nil {l : List Int} (hn : l.Nodup) (L : List Int) (hs : ∀ x ∈ l, x ∈ L) :
    L.foldl (fun l i => l.erase i) l = [] := by
  induction L generalizing l with
  | nil => exact List.eq_nil_iff_forall_not_mem.mpr fun x hx => by simpa using hs x hx
  | cons a L ih =>
    refine ih (hn.erase _) fun x hx => ?_
    obtain ⟨hxa, hx⟩ := hn.mem_erase_iff.mp hx
    exact (List.mem_cons.mp (hs x hx)).resolve_left hxa

/-- `DELETE FROM PlaylistEntity WHERE listId = k`: the list of `k` becomes empty, all others stay. -/
theorem R_clearKey (h : R A t) (fires : Row α → Bool)
    (hv : ∀ r r' : Row α, r.val = r'.val → fires r = fires r')
    (hfires : ∀ r ∈ t, fires r = true) (k : Int) :
    R (setKey A k []) (clearKey fires t k) := by
  have key : ∀ (L : List Int) (A : Int → List Int) (t : Table α), R A t → (∀ r ∈ t, fires r = true) →
      R (setKey A k (L.foldl (fun l i => l.erase i) (A k))) (L.foldl (fun t i => deleteKeyed fires t k i) t) := by
    intro L
    induction L with
    | nil => intro A t h _; rw [List.foldl_nil, setKey_self]; exact h
    | cons a L ih =>
      intro A t h hf
      have := ih _ _ (R_deleteKeyed h fires hf k a) (deleteKeyed_fires fires hv hf k a)
      rwa [setKey_same, setKey_setKey] at this
  have := key ((rowsOf t k).map (·.id)) A t h hfires
  rwa [foldl_erase_nil (h.nodup k) _ fun x => h.mem_rowsOf_ids] at this

/-! ### the four-statement splice of playlist_table::update (move to another key) -/

/-- Row by row: the subject, parked at a negative link by the first statement, is missed by the
two re-linking statements and takes its new place in the last; every other row sees only the two
re-linking statements. -/
theorem move_eq {t : Table α} {i : Int} (ok on nk : Int) {tg : Int} (v : α) (hi : 0 < i) (ht : 0 ≤ tg)
    (hnn : ∀ r ∈ t, 0 ≤ r.next) :
    move t i ok on nk tg v = t.map fun r =>
      if r.id = i then ⟨i, nk, tg, v⟩
      else updRow (fun r => r.next == tg && r.key == nk) (fun _ => i)
        (updRow (fun r => r.next == i && r.key == ok) (fun _ => on) r) := by
  simp only [move, updNext, List.map_map]
  apply List.map_congr_left
  intro r hr
  have := hnn r hr
  by_cases h : r.id = i
  · have h1 : -(1 + r.next) ≠ i := by omega
    have h2 : -(1 + r.next) ≠ tg := by omega
    simp [updRow, h, h1, h2]
  · rw [Function.comp, Function.comp, Function.comp, updRow_neg (p := fun r => r.id == i) (by simpa using h), if_neg h]
    simp [h]

/-- Up to the order of rows, `move` splices the subject out and inserts it at its new place. -/
theorem mem_move {t : Table α} {i : Int} (ok on nk : Int) {tg : Int} (v : α) (hi : 0 < i) (ht : 0 ≤ tg)
    (hnn : ∀ r ∈ t, 0 ≤ r.next) {old : Row α} (hold : old ∈ t) (hid : old.id = i) {r' : Row α} :
    r' ∈ move t i ok on nk tg v ↔
      r' ∈ updNext (fun r => r.next == tg && r.key == nk) (fun _ => i) (spliceOut t i ok on) ++ [⟨i, nk, tg, v⟩] := by
  simp only [move_eq ok on nk v hi ht hnn, List.mem_map, List.mem_append, List.mem_singleton, mem_updNext, mem_spliceOut]
  constructor
  · rintro ⟨r, hr, rfl⟩
    by_cases h : r.id = i
    · right; rw [if_pos h]
    · left; rw [if_neg h]; exact ⟨_, ⟨r, hr, h, rfl⟩, rfl⟩
  · rintro (⟨_, ⟨r, hr, h, rfl⟩, rfl⟩ | rfl)
    · exact ⟨r, hr, by rw [if_neg h]⟩
    · exact ⟨old, hold, by rw [if_pos hid]⟩

theorem R_move (h : R A t) {old : Row α} (hold : old ∈ t)
    {nk target : Int} (hk : nk ≠ old.key) (hb : target = 0 ∨ target ∈ A nk) (v : α) :
    R (setKey (setKey A old.key ((A old.key).erase old.id)) nk (Ordered.insertBefore target old.id (A nk)))
      (move t old.id old.key old.next nk target v) := by
  have ht0 : 0 ≤ target := hb.elim (fun e => by omega) fun hb => Int.le_of_lt (h.pos hb)
  -- on the lists: erase from the old key, then insert under the new one
  have h2 := R_updNext_append (R_spliceOut h hold) (n := old.id) (k := nk) (b := target) v (h.id_pos old hold)
    (fun hi => by
      obtain ⟨r', hr', e⟩ := mem_ids.mp hi
      obtain ⟨r, _, hne, rfl⟩ := mem_spliceOut.mp hr'
      exact hne (by rwa [updRow_id] at e))
    (by rwa [setKey_other _ _ hk])
  rw [setKey_other _ _ hk] at h2
  have hm := fun r' => mem_move old.key old.next nk (r' := r') v (h.id_pos old hold) ht0
    (fun r hr => h.next_nonneg hr) hold rfl
  refine h2.congr ?_ (fun r' hr' => ⟨r', (hm r').mp hr', rfl, rfl, rfl⟩) (fun r hr => ⟨r, (hm r).mpr hr, rfl, rfl⟩)
  rw [ids_move]; exact h.ids_nodup

theorem R_setVal (h : R A t) (i : Int) (v : α) : R A (setVal t i v) := by
  have hf : ∀ r : Row α, (if r.id == i then { r with val := v } else r).id = r.id ∧
      (if r.id == i then { r with val := v } else r).key = r.key ∧
      (if r.id == i then { r with val := v } else r).next = r.next := by
    intro r; split <;> exact ⟨rfl, rfl, rfl⟩
  refine h.congr ?_ ?_ ?_
  · rw [ids_setVal]; exact h.ids_nodup
  · intro r' hr'
    obtain ⟨r, hr, rfl⟩ := List.mem_map.mp hr'
    exact ⟨r, hr, (hf r).1.symm, (hf r).2.1.symm, (hf r).2.2.symm⟩
  · intro r hr
    exact ⟨_, List.mem_map.mpr ⟨r, hr, rfl⟩, (hf r).1, (hf r).2.1⟩

/-! ### the backwards walk (`sort_ids`, `get_for_list`) -/

theorem lookupNext_unique {rows : Table α} {c : Int} {r : Row α} (hr : r ∈ rows) (hc : r.next = c)
    (hu : ∀ r' ∈ rows, r'.next = c → r' = r) : lookupNext rows c = some r :=
  find?_unique (List.mem_reverse.mpr hr) (by simpa using hc)
    fun r' hr' hp => hu r' (List.mem_reverse.mp hr') (by simpa using hp)

theorem lookupNext_none {rows : Table α} {c : Int} (h : ∀ r ∈ rows, r.next ≠ c) : lookupNext rows c = none :=
  List.find?_eq_none.mpr fun r hr => by simpa using h r (List.mem_reverse.mp hr)

theorem R.lookupNext_some (h : R A t) {k p : Int} {pre suf : List Int}
    (hA : A k = pre ++ p :: suf) :
    ∃ rp ∈ rowsOf t k, rp.id = p ∧ lookupNext (rowsOf t k) (suf.headD 0) = some rp := by
  obtain ⟨rp, hrpt, hrpid, hrpk⟩ := h.cover k p (by rw [hA]; simp)
  have hrp := mem_rowsOf.mpr ⟨hrpt, hrpk⟩
  have hnext : rp.next = suf.headD 0 := by
    rw [(h.of_rowsOf hrp).2, hrpid, hA]; exact succ_mid (hA ▸ h.nodup k)
  refine ⟨rp, hrp, hrpid, lookupNext_unique hrp hnext fun r' hr' hn' => ?_⟩
  -- `succ` is injective, and ids are a key of the table
  refine eq_of_id_eq h.ids_nodup (mem_rowsOf.mp hr').1 hrpt
    (succ_inj (h.nodup k) (h.ne0 k) (h.of_rowsOf hr').1 (h.of_rowsOf hrp).1 ?_)
  rw [← (h.of_rowsOf hr').2, ← (h.of_rowsOf hrp).2, hn', hnext]

theorem R.lookupNext_head (h : R A t) (k : Int) :
    lookupNext (rowsOf t k) ((A k).headD 0) = none := by
  refine lookupNext_none fun r hr => ?_
  obtain ⟨hm, hn⟩ := h.of_rowsOf hr
  rw [hn]
  cases hl : A k with
  | nil => rw [hl] at hm; simp at hm
  | cons a l => exact succ_ne_head (hl ▸ h.nodup k) (h.ne0 k a (by rw [hl]; simp)) r.id

/-- With `suf` already collected in `acc` and enough fuel for the rest, the walk returns the rows of `A k` in order. -/
theorem walkFuel_spec (h : R A t) (k : Int) (fuel : Nat) :
    ∀ (pre suf : List Int) (acc : List (Row α)),
      A k = pre ++ suf → acc.map (·.id) = suf → (∀ r ∈ acc, r ∈ rowsOf t k) → pre.length ≤ fuel →
      (walkFuel (rowsOf t k) fuel (suf.headD 0) acc).map (·.id) = A k ∧
      ∀ r ∈ walkFuel (rowsOf t k) fuel (suf.headD 0) acc, r ∈ rowsOf t k := by
  induction fuel with
  | zero =>
    intro pre suf acc hA hacc hm hlen
    rw [List.length_eq_zero_iff.mp (Nat.le_zero.mp hlen), List.nil_append] at hA
    exact ⟨hacc.trans hA.symm, hm⟩
  | succ f ih =>
    intro pre suf acc hA hacc hm hlen
    rcases List.eq_nil_or_concat pre with rfl | ⟨pre', p, rfl⟩
    · rw [List.nil_append] at hA
      simp only [walkFuel, ← hA, h.lookupNext_head k]
      exact ⟨hacc.trans hA.symm, hm⟩
    · have hA' : A k = pre' ++ p :: suf := by rw [hA]; simp
      obtain ⟨rp, hrp, hid, hlook⟩ := h.lookupNext_some hA'
      simp only [walkFuel, hlook]
      have := ih pre' (p :: suf) (rp :: acc) hA' (by simp [hid, hacc])
        (fun r hr => (List.mem_cons.mp hr).elim (fun e => e ▸ hrp) (hm r)) (by simp at hlen; omega)
      simpa [hid] using this

/-- C09 core: on a table that represents `A`, the backwards walk returns exactly
the rows of `A k`, each once, in order (and does not hit the missing-tail UB). -/
theorem walkBack_spec (h : R A t) (k : Int) :
    ∃ l, walkBack t k = .ok l ∧ l.map (·.id) = A k ∧ ∀ r ∈ l, r ∈ t ∧ r.key = k := by
  unfold walkBack
  by_cases hemp : (rowsOf t k).isEmpty = true
  · have : A k = [] := h.nil_of_no_rows fun r hr hk => by
      have := mem_rowsOf.mpr ⟨hr, hk⟩
      rw [List.isEmpty_iff.mp hemp] at this; simp at this
    simp only [hemp, if_true]
    exact ⟨[], rfl, by simp [this], by simp⟩
  · simp only [hemp, Bool.false_eq_true, if_false]
    -- the selection is not empty, so `A k` has a last element, whose row is the tail
    obtain ⟨r0, hr0⟩ : ∃ r0, r0 ∈ rowsOf t k := by
      cases hrows : rowsOf t k with
      | nil => simp [hrows] at hemp
      | cons a l => exact ⟨a, by simp⟩
    rcases List.eq_nil_or_concat (A k) with e | ⟨pre, p, e⟩
    · exact absurd (h.of_rowsOf hr0).1 (by simp [e])
    · obtain ⟨rp, _, _, hlook⟩ := h.lookupNext_some (suf := []) (by simpa using e)
      have hw := walkFuel_spec h k (rowsOf t k).length (A k) [] [] (by simp) rfl (by simp) (h.length_le_rowsOf k)
      rw [List.headD_nil] at hlook hw
      simp only [hlook]
      exact ⟨_, rfl, hw.1, fun r hr => mem_rowsOf.mp (hw.2 r hr)⟩

theorem walkIds_eq (h : R A t) (k : Int) : walkIds t k = .ok (A k) := by
  obtain ⟨l, hl, hm, _⟩ := walkBack_spec h k
  simp [walkIds, hl, Res.bind, hm]

theorem walkIds_covers (h : R A t) (k : Int) :
    ∃ l, walkIds t k = .ok l ∧ l.Nodup ∧ ∀ x, x ∈ l ↔ ∃ r ∈ t, r.id = x ∧ r.key = k :=
  ⟨A k, walkIds_eq h k, h.nodup k, fun _ => h.mem_iff⟩

end EngineModel.Db.Chain
