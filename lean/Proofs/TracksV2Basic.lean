/-
Facts about the 2.x track model that both the conversion proofs and the
statement-level table proofs rest on: truncating division inside `int64_t`, what
an accepted `tablePut` / `writeStore` has checked and stored (`tablePut_eq_ok`,
`writeStore_eq_ok`), and `util::get_filename` (the part after the last '/').
-/
import EngineModel.TracksV2.Model

namespace EngineModel
namespace TracksV2

theorem tdiv_cases (a : Int) (b : Int) :
    Int.tdiv a b = if 0 ≤ a then a / b else -((-a) / b) := by
  split
  · exact Int.tdiv_eq_ediv_of_nonneg ‹_›
  · have h : a = -(-a) := by omega
    rw [h, Int.neg_tdiv, Int.tdiv_eq_ediv_of_nonneg (by omega)]
    simp

theorem tdiv_bounds (a : Int) (k : Int) (hk : 0 < k) (h1 : -9223372036854775808 ≤ a) (h2 : a < 9223372036854775808) :
    -9223372036854775808 ≤ Int.tdiv a k * k ∧ Int.tdiv a k * k < 9223372036854775808 ∧
    -9223372036854775808 ≤ Int.tdiv a k ∧ Int.tdiv a k < 9223372036854775808 := by
  rw [tdiv_cases a k]
  split
  · have h3 := Int.ediv_mul_le a (Int.ne_of_gt hk)
    have h4 : 0 ≤ a / k := Int.ediv_nonneg ‹_› (Int.le_of_lt hk)
    have h5 := Int.mul_nonneg h4 (Int.le_of_lt hk)
    have h6 := Int.ediv_le_self k ‹0 ≤ a›
    omega
  · have h3 := Int.ediv_mul_le (-a) (Int.ne_of_gt hk)
    have h4 : 0 ≤ (-a) / k := Int.ediv_nonneg (by omega) (Int.le_of_lt hk)
    have h5 := Int.mul_nonneg h4 (Int.le_of_lt hk)
    have h6 := Int.ediv_le_self k (show 0 ≤ -a by omega)
    rw [Int.neg_mul]
    omega

theorem tdiv_mul_of_dvd (a k : Int) (h : a % k = 0) : Int.tdiv a k * k = a := by
  rw [tdiv_cases a k]
  split
  · have := Int.ediv_mul_cancel (Int.dvd_of_emod_eq_zero h)
    omega
  · have h2 : (-a) % k = 0 := by
      have : k ∣ a := Int.dvd_of_emod_eq_zero h
      exact Int.emod_eq_zero_of_dvd (Int.dvd_neg.mpr this)
    have := Int.ediv_mul_cancel (Int.dvd_of_emod_eq_zero h2)
    rw [Int.neg_mul]; omega

theorem tablePut_eq_ok {s : Schema} {r r' : Row} :
    tablePut s r = .ok r' ↔ cuesEncodable r.cues.1 = true ∧ loopsEncodable r.loops.1 = true ∧
      r' = { r with
        timeLastPlayed := r.timeLastPlayed.map storeTime
        dateCreated := storeTime r.dateCreated
        bpmAnalyzed := storeReal r.bpmAnalyzed
        activeOnLoadLoops := if s.hasActiveOnLoadLoops then r.activeOnLoadLoops else none } := by
  unfold tablePut putCues putLoops
  constructor
  · intro h
    split at h
    · split at h
      · exact ⟨‹_›, ‹_›, (Res.ok.inj h).symm⟩
      · cases h
    · cases h
  · rintro ⟨h1, h2, rfl⟩
    rw [if_pos h1, if_pos h2]
    rfl

/-- What `snapshot_to_row` and the table layer have put into the row `r` they accept for the snapshot `x`: the
path columns, the two slot lists (which passed `to_blob()`'s test), the default album art. -/
structure RowOfSnap (x : Snap) (r : Row) : Prop where
  path : x.relativePath = some r.path
  filename : r.filename = getFilename r.path
  fileType : getFileExtension r.filename = some r.fileType
  cues : writeHotCues x.hotCues = .ok r.cues.1.cues
  loops : writeLoops x.loops = .ok r.loops.1
  art : r.albumArtId = 1
  cuesEnc : cuesEncodable r.cues.1 = true
  loopsEnc : loopsEncodable r.loops.1 = true

theorem writeStore_eq_ok {ops : FOps} {s : Schema} {x : Snap} {r : Row} (h : writeStore ops s x = .ok r) :
    RowOfSnap x r := by
  obtain ⟨r0, h0, h1⟩ := Res.bind_eq_ok.mp h
  obtain ⟨hc, hl, rfl⟩ := tablePut_eq_ok.mp h1
  unfold writeSnap at h0
  split at h0
  · cases h0
  · rename_i path hp
    simp only [] at h0
    split at h0
    · cases h0
    · rename_i ft he
      obtain ⟨_, _, h0⟩ := Res.bind_eq_ok.mp h0
      obtain ⟨cs, hcs, h0⟩ := Res.bind_eq_ok.mp h0
      obtain ⟨ls, hls, h0⟩ := Res.bind_eq_ok.mp h0
      cases h0
      exact ⟨hp, rfl, he, hcs, hls, rfl, hc, hl⟩

theorem afterLast_none_iff (c : UInt8) (l : Bytes) : afterLast c l = none ↔ c ∉ l := by
  induction l with
  | nil => simp [afterLast]
  | cons x r ih =>
    simp only [afterLast, List.mem_cons, not_or]
    cases h : afterLast c r with
    | some s =>
      have : ¬ c ∉ r := fun hh => by rw [ih.mpr hh] at h; cases h
      simp [this]
    | none =>
      have hr := ih.mp h
      by_cases hx : x = c
      · simp [hx]
      · simp [hx, hr]; exact fun hh => hx hh.symm

theorem getFilename_no_slash (p : Bytes) : (47 : UInt8) ∉ getFilename p := by
  induction p with
  | nil => simp [getFilename, afterLast]
  | cons x r ih =>
    unfold getFilename at ih ⊢
    simp only [afterLast]
    cases h : afterLast 47 r with
    | some s => simpa [h] using ih
    | none =>
      have hr := (afterLast_none_iff 47 r).mp h
      by_cases hx : x = 47
      · simp [hx, hr]
      · simp [hx, hr]; exact fun hh => hx hh.symm

theorem getFilename_idem (p : Bytes) : getFilename (getFilename p) = getFilename p := by
  have h := (afterLast_none_iff 47 _).mpr (getFilename_no_slash p)
  generalize getFilename p = q at h
  unfold getFilename
  rw [h]; rfl

end TracksV2
end EngineModel
