/-
The structural invariant of the schema-1.x crate tables (`FInv`) and what
follows from it: the parent list is a well-founded forest, the flattened
hierarchy is its strict transitive closure (stated locally as a fixpoint +
irreflexivity, which pins it down uniquely), and the Spec's fuel-bounded
ancestor walk agrees with the hierarchy table.
-/
import Proofs.CratesV1Sql
import EngineModel.Api.CratesV1Wf
import Proofs.SpecForest
import Mathlib.Data.List.Perm.Basic

namespace EngineModel.Api.CratesV1
open EngineModel.Pure.Detect EngineModel.Spec

def ids (db : Db) : List Id := db.crate.map (·.id)

theorem crate_map_id (db : Db) : db.crate.map (·.id) = ids db := rfl

theorem mem_ids_of_mem {db : Db} {r : CrateRow} (hr : r ∈ db.crate) : r.id ∈ ids db := List.mem_map_of_mem hr

/-- `p` is the proper parent of `c` (a root is its own parent in the table). -/
def Par (db : Db) (c p : Id) : Prop := (c, p) ∈ db.cpl ∧ p ≠ c

structure FInv (db : Db) : Prop where
  idsNodup : (ids db).Nodup
  cplNodup : (db.cpl.map (·.1)).Nodup
  cplTotal : ∀ c, c ∈ db.cpl.map (·.1) ↔ c ∈ ids db
  cplParentLive : ∀ r ∈ db.cpl, r.2 ∈ ids db
  chNodup : db.ch.Nodup
  chLive : ∀ r ∈ db.ch, r.1 ∈ ids db ∧ r.2 ∈ ids db
  chStep : ∀ a c, (a, c) ∈ db.ch ↔ ∃ p, Par db c p ∧ (a = p ∨ (a, p) ∈ db.ch)
  chIrrefl : ∀ c, (c, c) ∉ db.ch

theorem FInv.congr {db db' : Db} (h : FInv db) (h1 : ids db' = ids db) (h2 : db'.cpl = db.cpl) (h3 : db'.ch = db.ch) :
    FInv db' := by
  constructor
  case idsNodup => rw [h1]; exact h.idsNodup
  case cplNodup => rw [h2]; exact h.cplNodup
  case cplTotal => rw [h1, h2]; exact h.cplTotal
  case cplParentLive => rw [h1, h2]; exact h.cplParentLive
  case chNodup => rw [h3]; exact h.chNodup
  case chLive => rw [h1, h3]; exact h.chLive
  case chStep => intro a c; unfold Par; rw [h2, h3]; exact h.chStep a c
  case chIrrefl => rw [h3]; exact h.chIrrefl

namespace FInv
variable {db : Db}

theorem cpl_unique (h : FInv db) {c p p' : Id} (h1 : (c, p) ∈ db.cpl) (h2 : (c, p') ∈ db.cpl) : p = p' := by
  have := List.inj_on_of_nodup_map h.cplNodup h1 h2 rfl
  exact (Prod.mk.inj this).2

theorem par_unique (h : FInv db) {c p p' : Id} (h1 : Par db c p) (h2 : Par db c p') : p = p' :=
  h.cpl_unique h1.1 h2.1

theorem par_live (h : FInv db) {c p : Id} (hp : Par db c p) : c ∈ ids db ∧ p ∈ ids db :=
  ⟨(h.cplTotal c).mp (mem_map_fst hp.1), h.cplParentLive _ hp.1⟩

theorem live_has_row (h : FInv db) {c : Id} (hc : c ∈ ids db) : ∃ p, (c, p) ∈ db.cpl := by
  have := (h.cplTotal c).mpr hc
  rw [List.mem_map] at this
  obtain ⟨⟨a, b⟩, hab, rfl⟩ := this
  exact ⟨b, hab⟩

def _root_.EngineModel.Api.CratesV1.anc (db : Db) (c : Id) : List Id := (db.ch.filter (·.2 == c)).map (·.1)

def _root_.EngineModel.Api.CratesV1.depth (db : Db) (c : Id) : Nat := (anc db c).length

theorem mem_anc {a c : Id} : a ∈ anc db c ↔ (a, c) ∈ db.ch := ListAux.mem_fst_of_snd

theorem anc_nodup (h : FInv db) (c : Id) : (anc db c).Nodup := nodup_fst_of_snd h.chNodup c

theorem ch_of_par (h : FInv db) {c p : Id} (hp : Par db c p) : (p, c) ∈ db.ch :=
  (h.chStep p c).mpr ⟨p, hp, Or.inl rfl⟩

theorem ch_up (h : FInv db) {a c p : Id} (hp : Par db c p) : (a, c) ∈ db.ch ↔ a = p ∨ (a, p) ∈ db.ch := by
  rw [h.chStep a c]
  constructor
  · rintro ⟨p', hp', hor⟩
    rw [h.par_unique hp hp']; exact hor
  · intro hor; exact ⟨p, hp, hor⟩

theorem depth_par (h : FInv db) {c p : Id} (hp : Par db c p) : depth db c = depth db p + 1 := by
  unfold depth
  have hperm : (anc db c).Perm (p :: anc db p) := by
    rw [List.perm_ext_iff_of_nodup (h.anc_nodup c)]
    · intro a
      rw [List.mem_cons, mem_anc, mem_anc, h.ch_up hp]
    · rw [List.nodup_cons]
      exact ⟨fun hm => h.chIrrefl p (mem_anc.mp hm), h.anc_nodup p⟩
  rw [hperm.length_eq, List.length_cons]

/-- Induction along the parent relation (well-founded because the hierarchy table is finite and irreflexive). -/
theorem par_induction (h : FInv db) {P : Id → Prop} (step : ∀ c, (∀ p, Par db c p → P p) → P c) : ∀ c, P c := by
  have : ∀ n c, depth db c = n → P c := by
    intro n
    induction n using Nat.strongRecOn with
    | _ n ih =>
      intro c hc
      apply step
      intro p hp
      exact ih (depth db p) (by rw [← hc, h.depth_par hp]; omega) p rfl
  intro c
  exact this _ c rfl

theorem ch_trans (h : FInv db) : ∀ c a b, (a, b) ∈ db.ch → (b, c) ∈ db.ch → (a, c) ∈ db.ch := by
  apply h.par_induction (P := fun c => ∀ a b, (a, b) ∈ db.ch → (b, c) ∈ db.ch → (a, c) ∈ db.ch)
  intro c ih a b hab hbc
  obtain ⟨p, hp, hor⟩ := (h.chStep b c).mp hbc
  rw [h.ch_up hp]
  rcases hor with rfl | hbp
  · exact Or.inr hab
  · exact Or.inr (ih p hp a b hab hbp)

theorem ch_down (h : FInv db) (x : Id) : ∀ y, (x, y) ∈ db.ch ↔ ∃ k, Par db k x ∧ (y = k ∨ (k, y) ∈ db.ch) := by
  apply h.par_induction (P := fun y => (x, y) ∈ db.ch ↔ ∃ k, Par db k x ∧ (y = k ∨ (k, y) ∈ db.ch))
  intro y ih
  constructor
  · intro hxy
    obtain ⟨p, hp, hor⟩ := (h.chStep x y).mp hxy
    rcases hor with rfl | hxp
    · exact ⟨y, hp, Or.inl rfl⟩
    · obtain ⟨k, hk, hor⟩ := (ih p hp).mp hxp
      refine ⟨k, hk, Or.inr ?_⟩
      rw [h.ch_up hp]
      rcases hor with rfl | hkp
      · exact Or.inl rfl
      · exact Or.inr hkp
  · rintro ⟨k, hk, hor⟩
    have hxk := h.ch_of_par hk
    rcases hor with rfl | hky
    · exact hxk
    · exact h.ch_trans y x k hxk hky

theorem not_anc_self_par (h : FInv db) {c p : Id} (hp : Par db c p) : (c, p) ∉ db.ch := by
  intro hm
  exact h.chIrrefl c (h.ch_trans c c p hm (h.ch_of_par hp))

theorem depth_lt (h : FInv db) {c : Id} (hc : c ∈ ids db) : depth db c < db.crate.length := by
  have hnd : (c :: anc db c).Nodup := by
    rw [List.nodup_cons]
    exact ⟨fun hm => h.chIrrefl c (mem_anc.mp hm), h.anc_nodup c⟩
  have hsub : (c :: anc db c) ⊆ ids db := by
    intro x hx
    rw [List.mem_cons] at hx
    rcases hx with rfl | hx
    · exact hc
    · exact (h.chLive _ (mem_anc.mp hx)).1
  have := (List.subperm_of_subset hnd hsub).length_le
  simp only [List.length_cons, ids, List.length_map] at this
  unfold depth
  omega

end FInv

theorem parentOf_eq_some_of_nodup (h : (db.cpl.map (·.1)).Nodup) {c p : Id} : parentOf db c = some p ↔ Par db c p := by
  unfold parentOf Par
  constructor
  · intro hp
    split at hp
    · rename_i r hf
      have hm := List.mem_of_find?_eq_some hf
      have hr1 : r.1 = c := by simpa using List.find?_some hf
      split at hp
      · cases hp
      · rename_i hne
        cases hp
        refine ⟨by rw [← hr1]; exact hm, by simpa using hne⟩
    · cases hp
  · rintro ⟨hm, hne⟩
    have : ∃ r, db.cpl.find? (·.1 == c) = some r := by
      cases hf : db.cpl.find? (·.1 == c) with
      | some r => exact ⟨r, rfl⟩
      | none =>
        rw [List.find?_eq_none] at hf
        exact absurd (by simp) (hf _ hm)
    obtain ⟨r, hf⟩ := this
    have hrm := List.mem_of_find?_eq_some hf
    have hr1 : r.1 = c := by simpa using List.find?_some hf
    have : r = (c, p) := List.inj_on_of_nodup_map h hrm hm hr1
    rw [hf, this]
    simp [hne]

theorem parentOf_eq_some (h : FInv db) {c p : Id} : parentOf db c = some p ↔ Par db c p :=
  parentOf_eq_some_of_nodup h.cplNodup

theorem parentOf_eq_none (h : FInv db) {c : Id} : parentOf db c = none ↔ ∀ p, ¬ Par db c p := by
  constructor
  · intro hn p hp
    rw [(parentOf_eq_some h).mpr hp] at hn
    cases hn
  · intro hn
    cases hp : parentOf db c with
    | none => rfl
    | some p => exact absurd ((parentOf_eq_some h).mp hp) (hn p)

theorem abs_crates (db : Db) : (absForest db).crates = db.crate.map fun r => ⟨r.id, r.title, parentOf db r.id⟩ := rfl

theorem forest_ext {f g : Forest.Forest} (h : f.crates = g.crates) : f = g := by
  cases f; cases g; simp_all

theorem abs_ids (db : Db) : (absForest db).ids = ids db := by
  simp [Forest.Forest.ids, absForest, ids, List.map_map, Function.comp_def]

theorem abs_live (db : Db) (c : Id) : (absForest db).live c = true ↔ c ∈ ids db := by
  simp [Forest.Forest.live, abs_ids]

theorem abs_find_of_mem (hnd : (ids db).Nodup) {r : CrateRow} (hr : r ∈ db.crate) :
    (absForest db).find r.id = some ⟨r.id, r.title, parentOf db r.id⟩ := by
  unfold Forest.Forest.find
  rw [abs_crates, List.find?_map]
  have : db.crate.find? ((fun x : Forest.Crate => x.id == r.id) ∘ fun r => ⟨r.id, r.title, parentOf db r.id⟩) = some r := by
    rw [List.find?_eq_some_iff_append]
    obtain ⟨l1, l2, hsplit⟩ := List.append_of_mem hr
    refine ⟨by simp, l1, l2, hsplit, ?_⟩
    intro x hx
    simp only [Function.comp_apply, Bool.not_eq_eq_eq_not, Bool.not_true, beq_eq_false_iff_ne, ne_eq]
    intro hxe
    unfold ids at hnd
    rw [hsplit, List.map_append, List.map_cons, List.nodup_append] at hnd
    exact hnd.2.2 x.id (List.mem_map_of_mem hx) r.id (by simp) hxe
  rw [this]
  rfl

theorem abs_find_none {c : Id} (hc : c ∉ ids db) : (absForest db).find c = none := by
  unfold Forest.Forest.find
  rw [List.find?_eq_none]
  intro x hx
  rw [abs_crates, List.mem_map] at hx
  obtain ⟨r, hr, rfl⟩ := hx
  simp only [beq_iff_eq]
  intro he
  exact hc (by rw [← he]; exact List.mem_map_of_mem hr)

theorem abs_parentOf_of (h1 : (ids db).Nodup) (h2 : (db.cpl.map (·.1)).Nodup) (h3 : ∀ c ∈ db.cpl.map (·.1), c ∈ ids db)
    (c : Id) : (absForest db).parentOf c = parentOf db c := by
  unfold Forest.Forest.parentOf
  by_cases hc : c ∈ ids db
  · obtain ⟨r, hr, rfl⟩ := List.mem_map.mp hc
    rw [abs_find_of_mem h1 hr]; rfl
  · rw [abs_find_none hc]
    cases hp : parentOf db c with
    | none => rfl
    | some p => exact absurd (h3 c (mem_map_fst ((parentOf_eq_some_of_nodup h2).mp hp).1)) hc

theorem abs_parentOf (h : FInv db) (c : Id) : (absForest db).parentOf c = parentOf db c :=
  abs_parentOf_of h.idsNodup h.cplNodup (fun c => (h.cplTotal c).mp) c

theorem abs_length (db : Db) : (absForest db).crates.length = db.crate.length := by
  simp [abs_crates]

/-- The Spec's ancestor walk on the abstract forest reads the hierarchy table: both unfold at the parent. -/
theorem isAncestor_iff (h : FInv db) (a c : Id) : (absForest db).isAncestor a c = true ↔ (a, c) ∈ db.ch := by
  revert c
  apply h.par_induction (P := fun c => (absForest db).isAncestor a c = true ↔ (a, c) ∈ db.ch)
  intro c ih
  rw [Forest.Forest.isAncestor_unfold, h.chStep a c]
  constructor
  · rintro ⟨p, hp, hor⟩
    rw [abs_parentOf h] at hp
    have hpar := (parentOf_eq_some h).mp hp
    exact ⟨p, hpar, hor.imp Eq.symm (ih p hpar).mp⟩
  · rintro ⟨p, hpar, hor⟩
    exact ⟨p, by rw [abs_parentOf h]; exact (parentOf_eq_some h).mpr hpar, hor.imp Eq.symm (ih p hpar).mpr⟩

theorem parentOf_self (h : FInv db) {c : Id} (hm : (c, c) ∈ db.cpl) : parentOf db c = none :=
  (parentOf_eq_none h).mpr fun _ hp' => hp'.2 (h.cpl_unique hp'.1 hm)

theorem root_row_iff (h : FInv db) {r : CrateRow} (hr : r ∈ db.crate) :
    parentOf db r.id = none ↔ (r.id, r.id) ∈ db.cpl := by
  obtain ⟨p, hp⟩ := h.live_has_row (mem_ids_of_mem hr)
  refine ⟨fun hn => ?_, parentOf_self h⟩
  by_cases hpe : p = r.id
  · rw [hpe] at hp; exact hp
  · exact absurd ⟨hp, hpe⟩ ((parentOf_eq_none h).mp hn p)

end EngineModel.Api.CratesV1
