/-
C01 1.x: the per-field representability lemmas behind `v1_C01_representable` (stated with
premises `P v → normalised v = v` whose `P` the property file names `Repr…`).
-/
import EngineModel.TracksV1.Spec
import Proofs.TracksV1Spec

namespace EngineModel.TracksV1.Spec

open Impl.V1 (GMarker HotCue LoopV Entry)

theorem dropZero_of_repr (v : Option Bits) (h : v ≠ some F64.zero ∧ v ≠ some F64.negZero) : dropZero v = v := by
  cases v with
  | none => rfl
  | some a =>
    unfold dropZero
    have h1 : a ≠ F64.zero := fun e => h.1 (by rw [e])
    have h2 : a ≠ F64.negZero := fun e => h.2 (by rw [e])
    simp [h1, h2]

theorem bpm_of_repr (v : Option Bits) (h : v ≠ some F64.negZero) :
    (v.map fun b => if b = F64.negZero then F64.zero else b) = v := by
  cases v with
  | none => rfl
  | some a =>
    have : a ≠ F64.negZero := fun e => h (by rw [e])
    simp [this]

theorem duration_of_repr (d : Option UInt64) (h : ∀ ms, d = some ms → Prim.s64 ms % 1000 = 0) :
    d.map (wholeUnits 1000) = d := by
  cases d with
  | none => rfl
  | some ms => simp [wholeUnits_of_mod 1000 ms (h ms rfl)]

theorem time_of_repr (d : Option UInt64) (h : ∀ ns, d = some ns → Prim.s64 ns % 1000000000 = 0) :
    d.map (wholeUnits 1000000000) = d := by
  cases d with
  | none => rfl
  | some ns => simp [wholeUnits_of_mod 1000000000 ns (h ns rfl)]

theorem rating_of_repr (r : Option UInt32) (h : ∀ v, r = some v → 0 ≤ Prim.s32 v ∧ Prim.s32 v ≤ 100) :
    r.map clamp100 = r := by
  cases r with
  | none => rfl
  | some v =>
    obtain ⟨h0, h1⟩ := h v rfl
    have a : ¬ Prim.s32 v < 0 := by omega
    have b : ¬ Prim.s32 v > 100 := by omega
    simp [clamp100, a, b]

theorem count_of_repr (c : Option UInt64) (h : c ≠ some 0) : (c.bind fun n => if n = 0 then none else some n) = c := by
  cases c with
  | none => rfl
  | some n =>
    have : n ≠ 0 := fun e => h (by rw [e])
    simp [this]

theorem cues_of_repr (l : List (Option HotCue)) (h : l.length = 8 ∧ ∀ q, some q ∈ l → q.off ≠ F64.negOne) :
    pad8 (l.map normCue) = l := by
  have hm : l.map normCue = l := by
    apply ListAux.map_eq_self_iff.mpr
    intro q hq
    cases q with
    | none => rfl
    | some c => simp [normCue, h.2 c hq]
  rw [hm, pad8_of_length8 l h.1]

theorem loops_of_repr (l : List (Option LoopV)) (h : l.length = 8 ∧ ∀ q, some q ∈ l → q.start ≠ F64.negOne) :
    pad8 (l.map normLoop) = l := by
  have hm : l.map normLoop = l := by
    apply ListAux.map_eq_self_iff.mpr
    intro q hq
    cases q with
    | none => rfl
    | some c => simp [normLoop, h.2 c hq]
  rw [hm, pad8_of_length8 l h.1]

end EngineModel.TracksV1.Spec
