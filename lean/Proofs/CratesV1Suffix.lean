/-
* The bullet "children(c) is exactly the set of crates whose parent is c, descendants(c) is the transitive
  closure of children" stated directly on the Model's queries.
* "A removed crate is never again returned" in its honest form for schema 1.x: an invalid id stays
  invalid along every continuation in which no creation reports that very id.
* `memRel_abs`: a state satisfying the invariant represents its own `absMembers`, so the history theorems hold
  from ANY such state (e.g. a loaded library whose raw rows pass `WfRaw`), not only from the empty library.
-/
import Proofs.CratesV1WfConv

namespace EngineModel.Api.CratesV1
open EngineModel.Pure.Detect EngineModel.Spec

variable {db : Db}

def ParentIs (db : Db) (x p : Id) : Prop := crateParent db x = .ok (some p)

theorem parentIs_iff (h : FInv db) (x p : Id) : ParentIs db x p ↔ Par db x p := by
  unfold ParentIs
  rw [q_parent h, abs_parentOf h, ← parentOf_eq_some h]
  constructor
  · intro e; injection e
  · intro e; rw [e]

theorem children_iff_parent (h : FInv db) (c k : Id) : k ∈ crateChildren db c ↔ ParentIs db k c := by
  rw [mem_crateChildren, parentIs_iff h]

theorem descendants_iff_transGen (h : FInv db) (c y : Id) :
    y ∈ crateDescendants db c ↔ Relation.TransGen (ParentIs db) y c := by
  rw [mem_crateDescendants, ← isAncestor_iff h, Forest.Forest.isAncestor_iff_transGen]
  have : Forest.Forest.parentRel (absForest db) = ParentIs db := by
    funext x p
    unfold Forest.Forest.parentRel
    rw [abs_parentOf h, parentOf_eq_some h, parentIs_iff h]
  rw [this]

theorem roots_iff_no_parent (h : FInv db) (x : Id) :
    x ∈ dbRootCrates db ↔ (crateIsValid db x = .ok true ∧ crateParent db x = .ok none) := by
  rw [mem_dbRootCrates, isValid_iff h, q_parent h, abs_parentOf h]
  constructor
  · intro hm
    have hl : x ∈ ids db := (h.cplTotal x).mp (mem_map_fst hm)
    obtain ⟨r, hr, rfl⟩ := exists_row hl
    exact ⟨hl, by rw [(root_row_iff h hr).mpr hm]⟩
  · rintro ⟨hl, hp⟩
    obtain ⟨r, hr, rfl⟩ := exists_row hl
    have : parentOf db r.id = none := by injection hp
    exact (root_row_iff h hr).mp this

theorem dead_step (s : Schema) (h : Inv db) {op : Op} {y : Id} (hy : y ∉ ids db)
    (hop : ¬ ((step s db op).2 = .ok (.id y) ∧ forestOp op ≠ none)) : y ∉ ids (step s db op).1 := by
  rcases ids_step s h op with ⟨h0, _⟩ | ⟨k, hcr, hk, _, hids⟩ | ⟨c, _, hmem⟩
  · have h0' : ids (step s db op).1 = ids db := h0
    rw [h0']; exact hy
  · have hids' : ids (step s db op).1 = ids db ++ [k] := hids
    rw [hids', List.mem_append, List.mem_singleton]
    rintro (hm | rfl)
    · exact hy hm
    · apply hop
      refine ⟨hk, ?_⟩
      cases op <;> simp [isCreate] at hcr <;> simp [forestOp]
  · rw [hmem]
    exact fun hm => hy hm.1

theorem dead_suffix (s : Schema) (y : Id) : ∀ (ops : List Op) {db : Db}, Inv db → y ∉ ids db →
    reissues s db ops y = false → y ∉ ids (run s db ops) := by
  intro ops
  induction ops with
  | nil => intro db _ hy _; exact hy
  | cons op ops ih =>
    intro db h hy hr
    unfold reissues at hr
    rw [Bool.or_eq_false_iff, decide_eq_false_iff_not] at hr
    rw [run_cons]
    exact ih (step_ok s h op).1 (dead_step s h hy hr.1) hr.2

theorem dead_suffix_prefix (s : Schema) (y : Id) (ops ops' : List Op) {db : Db} (h : Inv db) (hy : y ∉ ids db)
    (hr : reissues s db (ops ++ ops') y = false) : y ∉ ids (run s db ops) := by
  apply dead_suffix s y ops h hy
  induction ops generalizing db with
  | nil => rfl
  | cons op ops ih =>
    simp only [List.cons_append] at hr
    unfold reissues at hr ⊢
    rw [Bool.or_eq_false_iff] at hr ⊢
    exact ⟨hr.1, ih (step_ok s h op).1 (dead_step s h hy (by simpa using hr.1)) hr.2⟩

theorem memRel_abs (h : Inv db) : MemRel (absMembers db) db := by
  refine ⟨fun _ => Iff.rfl, fun t => mem_liveIds db t, fun _ => Iff.rfl, h.ctlNodup, ?_, h.idsNodup⟩
  exact h.trackNodup.sublist (List.Sublist.map _ List.filter_sublist)

end EngineModel.Api.CratesV1
