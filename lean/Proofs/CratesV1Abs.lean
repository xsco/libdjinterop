/-
The abstraction function `absForest` commutes with every crate operation of the
schema-1.x model: after a successful create / rename / re-parent the abstract
forest is exactly the forest the Spec prescribes.  (remove: `abs_afterRemove`.)
Also: the Model's duplicate-name tests are the Spec's `nameTaken`.
-/
import Proofs.CratesV1Cases

namespace EngineModel.Api.CratesV1
open EngineModel.Pure.Detect EngineModel.Spec

variable {db : Db}

theorem parentOf_congr {db db' : Db} (h : db'.cpl = db.cpl) (y : Id) : parentOf db' y = parentOf db y := by
  unfold parentOf; rw [h]

theorem abs_of_crates_eq {db db' : Db} (h1 : db'.crate = db.crate) (h2 : db'.cpl = db.cpl) : absForest db' = absForest db := by
  apply forest_ext
  rw [abs_crates, abs_crates, h1]
  exact List.map_congr_left fun r _ => by rw [parentOf_congr h2]

theorem parentOf_append_old {db db' : Db} {l : List (Id × Id)} (h : db'.cpl = db.cpl ++ l) {y : Id}
    (hy : y ∈ db.cpl.map (·.1)) : parentOf db' y = parentOf db y := by
  unfold parentOf
  rw [h, List.find?_append]
  cases hf : db.cpl.find? (·.1 == y) with
  | some r => rfl
  | none =>
    rw [List.find?_eq_none] at hf
    rw [List.mem_map] at hy
    obtain ⟨r, hr, rfl⟩ := hy
    exact absurd (by simp) (hf r hr)

theorem parentOf_append_new {db db' : Db} {y q : Id} (h : db'.cpl = db.cpl ++ [(y, q)])
    (hy : y ∉ db.cpl.map (·.1)) : parentOf db' y = if q = y then none else some q := by
  unfold parentOf
  rw [h, List.find?_append]
  have : db.cpl.find? (·.1 == y) = none := by
    rw [List.find?_eq_none]
    intro r hr he
    simp only [beq_iff_eq] at he
    exact hy (he ▸ mem_map_fst hr)
  rw [this]
  by_cases hq : q = y <;> simp [hq]

theorem abs_afterCreate (s : Schema) (h : FInv db) {q : Option Id} (hq : ∀ c, q = some c → c ∈ ids db) (n : Name) :
    absForest (afterCreate s db q n) = ⟨(absForest db).crates ++ [⟨newCrateId s db, n, q⟩]⟩ := by
  have hf := newCrateId_fresh s db
  apply forest_ext
  show (db.crate ++ [_]).map
      (fun r : CrateRow => (⟨r.id, r.title, parentOf (afterCreate s db q n) r.id⟩ : Forest.Crate)) = (absForest db).crates ++ [_]
  rw [List.map_append, abs_crates, List.map_cons, List.map_nil]
  congr 1
  · apply List.map_congr_left
    intro r hr
    have : r.id ∈ db.cpl.map (·.1) := (h.cplTotal r.id).mpr (mem_ids_of_mem hr)
    rw [parentOf_append_old (db := db) (db' := afterCreate s db q n) rfl this]
  · have hn : newCrateId s db ∉ db.cpl.map (·.1) := fun hm => hf ((h.cplTotal _).mp hm)
    rw [parentOf_append_new (db := db) (db' := afterCreate s db q n) rfl hn]
    cases q with
    | none => simp
    | some c => have hcn : c ≠ newCrateId s db := fun e => hf (e ▸ hq c rfl); simp [hcn]

theorem abs_afterSetName (db : Db) (c : Id) (n : Name) :
    absForest (afterSetName db c n) = Forest.setNameOf (absForest db) c n := by
  refine (abs_setPaths (dbTitle db c n) _ _).trans (forest_ext ?_)
  show (setTitle c n db.crate).map _ = (absForest db).crates.map _
  rw [abs_crates, List.map_map]
  unfold setTitle
  rw [List.map_map]
  apply List.map_congr_left
  intro r _
  have hp : ∀ y, parentOf (dbTitle db c n) y = parentOf db y := fun _ => rfl
  by_cases hrc : r.id = c <;> simp [hrc, hp]

theorem abs_afterSetParent (db : Db) (c : Id) (parent : Option Id) (hq : parent ≠ some c) :
    absForest (afterSetParent db c parent) = Forest.setParentOf (absForest db) c parent := by
  refine (abs_setPaths (dbReparent db c parent) _ _).trans (forest_ext ?_)
  show db.crate.map _ = (absForest db).crates.map _
  rw [abs_crates, List.map_map]
  apply List.map_congr_left
  intro r _
  simp only [Function.comp_apply]
  rw [parentOf_dbReparent db c parent hq]
  by_cases hrc : r.id = c <;> simp [hrc]

theorem nameTaken_root_iff (h : FInv db) (n : Name) : (absForest db).nameTaken none n = true ↔ RootNamed db n := by
  unfold Forest.Forest.nameTaken RootNamed
  rw [abs_crates, List.any_map, List.any_eq_true]
  constructor
  · rintro ⟨r, hr, hx⟩
    simp only [Function.comp_apply, Bool.and_eq_true, beq_iff_eq] at hx
    exact ⟨r, hr, hx.1.2, (root_row_iff h hr).mp hx.1.1⟩
  · rintro ⟨r, hr, ht, hm⟩
    refine ⟨r, hr, ?_⟩
    simp only [Function.comp_apply, Bool.and_eq_true, beq_iff_eq]
    exact ⟨⟨(root_row_iff h hr).mpr hm, ht⟩, by simp⟩

theorem nameTaken_sub_iff (h : FInv db) (c : Id) (n : Name) :
    (absForest db).nameTaken (some c) n = true ↔ SubNamed db c n := by
  unfold Forest.Forest.nameTaken SubNamed
  rw [abs_crates, List.any_map, List.any_eq_true]
  constructor
  · rintro ⟨r, hr, hx⟩
    simp only [Function.comp_apply, Bool.and_eq_true, beq_iff_eq] at hx
    exact ⟨r, hr, hx.1.2, (parentOf_eq_some h).mp hx.1.1⟩
  · rintro ⟨r, hr, ht, hm⟩
    refine ⟨r, hr, ?_⟩
    simp only [Function.comp_apply, Bool.and_eq_true, beq_iff_eq]
    exact ⟨⟨(parentOf_eq_some h).mpr hm, ht⟩, by simp⟩

theorem abs_live_false (db : Db) {c : Id} (hc : c ∉ ids db) : (absForest db).live c = false := by
  rw [← Bool.not_eq_true, abs_live]; exact hc

theorem abs_live_true (db : Db) {c : Id} (hc : c ∈ ids db) : (absForest db).live c = true :=
  (abs_live db c).mpr hc

end EngineModel.Api.CratesV1
