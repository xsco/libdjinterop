/-
`playlist_table::get` is defined on every state reachable through well-typed
operations (property C18).

The only member of `playlist_row` whose read can fail is `last_edit_time`
(`parse_ft` of the stored text converts seconds to nanoseconds: signed
overflow).  `leTyped`: every stored `lastEditTime` is a text whose whole seconds
fit a time point.  It is kept by every operation whose row argument is
well-typed (`wtRowP`, which for the last-edit time includes that its floor is
representable — the complement is the recorded finding
playlist-last-edit-floor-overflow), because no trigger and no other statement
writes that column.
-/
import Proofs.TableListsWf
namespace EngineModel
namespace Table

def leTyped (t : Rows PCol) : Prop := ∀ r ∈ t, colTyped .timeText (r .lastEditTime) = true

theorem lastEdit_stable : TriggerStable (fun r => colTyped .timeText (r .lastEditTime) = true) :=
  ⟨fun r v h => (setCol_other r v (by decide) : setCol r .nextListId v .lastEditTime = _).symm ▸ h,
   fun r v h => (setCol_other r v (by decide) : setCol r .isPersisted v .lastEditTime = _).symm ▸ h⟩

theorem written_lastEdit {need : List PField} (hneed : PField.last_edit_time ∈ need)
    {ps : List (WB PCol PField)} {r : Row PField} {l : List (PCol × Val)}
    (hps : alignedW pSpec need [] ps = true) (he : evalParams r ps = .ok l) (hr : wtRowP r) (base : Raw PCol) :
    colTyped .timeText (assign base l .lastEditTime) = true := by
  obtain ⟨x, hx, hc⟩ := assign_evalParams hps he base hneed
  rw [show assign base l PCol.lastEditTime = x from hc]
  exact wconv_colTyped (ty := .timeText) (hr .last_edit_time) hx

def wtLOp : LOp → Prop
  | .pAdd r => wtRowP r
  | .pUpdate r => wtRowP r
  | _ => True

theorem lastEdit_lStep {st : LStmts} (ha : alignedL st = true) {d : LDb} (hwf : leTyped d.pl) {op : LOp} (hop : wtLOp op) :
    leTyped (lStep st d op).pl := by
  obtain ⟨hins, hfull, hsimple, _⟩ := alignedL_playlist ha
  cases op with
  | pAdd r =>
    exact pAdd_all lastEdit_stable hwf fun _ he => written_lastEdit (PField.mem_writable.mpr (by decide)) hins he hop _
  | pUpdate r =>
    refine pUpdate_all lastEdit_stable hwf fun ps he old _ => ?_
    rcases he with he | he
    · exact written_lastEdit (by decide) hsimple he hop old
    · exact written_lastEdit (PField.mem_writable.mpr (by decide)) hfull he hop old
  | pRemove i => exact pRemove_all lastEdit_stable hwf i
  | eAddBack r f => show leTyped (eAddBack st d r f).1.pl; rw [(eAddBack_pl d r f).1]; exact hwf
  | eRemove l e => show leTyped (eRemove st d l e).1.pl; rw [(eRemove_pl d l e).1]; exact hwf
  | eClear l => exact hwf

theorem lastEdit_lRun {st : LStmts} (ha : alignedL st = true) {d : LDb} (hwf : leTyped d.pl) (ops : List LOp)
    (hops : ∀ op ∈ ops, wtLOp op) : leTyped (lRun st d ops).pl :=
  (lRun_isRun st).inv_of (Inv := fun d => leTyped d.pl) (fun _ _ h hop => lastEdit_lStep ha h hop) ops d hwf hops

/-- **`playlist_table::get` is defined** on a table whose stored last-edit times
are typed: `nullopt` for an id with no row, a row otherwise. -/
theorem playlist_get_defined {st : LStmts} (ha : alignedL st = true) {d : LDb} (hwf : leTyped d.pl) (i : Int) :
    pGet st d i = .ok none ∨ ∃ g, pGet st d i = .ok (some g) := by
  obtain ⟨_, _, _, hpsel, _⟩ := alignedL_playlist ha
  unfold pGet
  cases hf : findRow .id d.pl i with
  | none => left; rfl
  | some raw =>
    right
    -- of the members only the last-edit time has a read that can fail
    obtain ⟨g, hg⟩ := readRow_defined hpsel (raw := raw) fun f => by
      cases f <;> first
        | exact ⟨_, rfl⟩
        | exact view_typed _ fun _ => hwf raw (findRow_some hf).1
    exact ⟨g, by simp only [hg]⟩

end Table
end EngineModel
