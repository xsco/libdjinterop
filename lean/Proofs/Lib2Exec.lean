/-
Composite 2.x library: the checks of the executable `libInv` (what the driver evaluates on the REAL dump) in
logical form, clause by clause — `track_table::exists`, "all entries own", the ChangeLog check, the AlbumArt /
prepare-list check — from which `libInv s L = true ↔ LibInv s L` (`C11Lib2_exec_iff`) is read off.
-/
import Proofs.Lib2Step

namespace EngineModel.Lib.V2
open EngineModel EngineModel.Db.Chain EngineModel.TracksV2
open EngineModel.Table (Schema2)

theorem trackExists_iff (L : Lib2) (i : Int) : trackExists L i = true ↔ i ∈ L.crates.tracks := by
  by_cases h : 0 ≤ i
  · obtain ⟨n, rfl⟩ := Int.eq_ofNat_of_zero_le h
    rw [trackExists_cast, ← contains_cast, List.contains_iff_mem]
  · simp only [trackExists, nat?, h, if_false]
    refine ⟨nofun, fun hh => ?_⟩
    obtain ⟨x, _, e⟩ := List.mem_map.mp (show i ∈ L.tdb.rows.map (fun t => (t.id : Int)) from hh)
    omega

theorem plAny_iff (L : Lib2) (k : Int) : (L.pl.any fun p => p.id == k) = true ↔ k ∈ ids L.pl := by
  simp [ids, List.any_eq_true]

theorem allOwn_iff (L : Lib2) : allOwn L = true ↔ EngineModel.Db.V2.AllOwn L.crates := by
  unfold allOwn EngineModel.Db.V2.AllOwn
  rw [List.all_eq_true]
  constructor
  · intro h c hc
    obtain ⟨r, hr, rfl⟩ := mem_cores.mp hc
    simpa [core] using h r hr
  · intro h e he
    have := h (core e) (mem_cores.mpr ⟨e, he, rfl⟩)
    simpa [core] using this

/-- "NULL or a live track", as `logOk` and `artOk` test it on a `trackId` column -/
theorem live_iff (L : Lib2) (o : Option Nat) :
    (match o with | none => true | some t => L.trackLive t) = true ↔ ∀ t, o = some t → t ∈ L.tdb.rows.map (·.id) := by
  cases o with
  | none => exact ⟨fun _ _ h => (nomatch h), fun _ => rfl⟩
  | some t =>
    exact ⟨fun h _ e => Option.some.inj e ▸ (find_isSome_iff L.tdb t).mp h, fun h => (find_isSome_iff L.tdb t).mpr (h t rfl)⟩

theorem logOk_iff (s : Schema2) (L : Lib2) : logOk s L = true ↔
    (hasChangeLog s = false → L.log = []) ∧ ((L.log.map (·.id)).Nodup ∧ ∀ r ∈ L.log, 1 ≤ r.id ∧ r.id ≤ L.logSeq) ∧
    ∀ r ∈ L.log, ∀ t, r.track = some t → t ∈ L.tdb.rows.map (·.id) := by
  unfold logOk
  simp only [Bool.and_eq_true, Bool.or_eq_true, List.all_eq_true, decide_eq_true_eq, List.isEmpty_iff, and_assoc]
  refine and_congr ?_ (and_congr (distinctBy_iff _ _)
    (and_congr Iff.rfl (forall₂_congr fun r _ => live_iff L r.track)))
  cases hasChangeLog s <;> simp

theorem artOk_iff (L : Lib2) : artOk L = true ↔
    (1 ∈ L.art ∧ ∀ t ∈ L.tdb.rows, t.row.albumArtId.toNat ∈ L.art) ∧
    ∀ r ∈ L.prep, ∀ t, r.track = some t → t ∈ L.tdb.rows.map (·.id) := by
  unfold artOk
  simp only [Bool.and_eq_true, List.all_eq_true, List.contains_iff_mem]
  exact and_congr Iff.rfl (forall₂_congr fun r _ => live_iff L r.track)

end EngineModel.Lib.V2
