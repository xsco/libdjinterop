/-
`zlib_compress` regenerated from the C++ (`Gen/ZlibGen.lean`, tools/tr_zlib.py) against the hand model
`Impl.Zlib.compress` (`Impl/ZlibCompress.lean`).

`compress_eq_partial` (same output bytes AND same call log) holds for every deflate oracle that never claims more
input than its window or more output than `avail_out` (`DSized` — the first two conjuncts of `DContract.step_ok`), for
EVERY fuel, the same number on both sides (one unit per outer-loop head and per `deflate` call), and for the empty
payload too: both sides `ub oob_index`.  Without `DSized` it is false (comment at the end of the file).

The proof is a simulation (`csim`) between the nested regenerated loops and the flat hand state machine
`cloop`, from per-body lemmas (`cbody1_eq`, `cbody2_eq`) that unfold the regenerated bodies: a change of the
C++ that changes the translation breaks them.
-/
import Proofs.ZlibGenEq
import Proofs.ZlibCompressLoop
-- As in ZlibGenEq.lean: the proofs face regenerated text.
set_option linter.unusedVariables false
set_option linter.unusedSimpArgs false

namespace EngineModel.Gen.Zlib
open EngineModel EngineModel.Impl EngineModel.Impl.Zlib EngineModel.Impl.ZlibCxx

/-- the deflate oracle never claims more input than it was given nor more output than `avail_out` -/
def DSized {σ} (o : DOracle σ) : Prop :=
  ∀ s win n f, (o.step s win n f).2.1 ≤ win.length ∧ (o.step s win n f).2.2.1.length ≤ n

theorem DSized.of_contract {σ} {o : DOracle σ} (c : DContract o) : DSized o :=
  fun s win n f => ⟨(c.step_ok s win n f).1, (c.step_ok s win n f).2.1⟩

theorem toU32_chunk : toU32 16384 = 16384 := by unfold toU32; omega

theorem flushOfInt_finish (x : Int) : flushOfInt x = .finish ↔ x = 4 := by
  unfold flushOfInt; split <;> simp [*]

/-- what the regenerated state has in common with a position of the hand model's loop: `compressed` is the length
prefix `pre` followed by the hand model's accumulator (the call log is read off the state itself).  Fields of `v`
(Gen/ZlibGen.lean): `p0` uncompressed, `p1` compressed, `l0` ptr, `l1` end, `l2` chunk_size, `l4` flush, `l6` strm,
`l7` out. -/
structure CGInv {σ} (buf pre : Bytes) (v : CompressVars σ) (s : σ) (ptr : Nat) (acc : Bytes) : Prop where
  h0 : v.p0 = buf
  h1 : v.p1 = pre ++ acc
  hp : v.l0 = ptr
  he : v.l1 = buf.length
  hc : v.l2 = 16384
  ho : v.l7.length = 16384
  hs : v.l6.st = some s
  hle : ptr ≤ buf.length

/-- when the outer loop ends the hand model has returned what follows the prefix in `compressed`, and the call log -/
def CRel {σ} (pre : Bytes) : Out (CompressVars σ) Bytes → Res (Bytes × List DCall) → Prop :=
  Agrees fun v y => ∃ acc, y = .ok (acc, v.l6.log.reverse) ∧ v.p1 = pre ++ acc

/-- one `deflate` call of the inner loop, given what the oracle answered -/
theorem cbody2_eq {σ} (o : DOracle σ) (s0 : σ) (buf pre acc : Bytes) (v : CompressVars σ) (s : σ)
    (ptr : Nat) (fuel : Nat) (hi : CGInv buf pre v s ptr acc) (hw : v.l6.next_in + v.l6.avail_in = ptr)
    (ret : Ret) (consumed : Nat) (produced : Bytes) (s' : σ)
    (hr : o.step s ((buf.drop v.l6.next_in).take v.l6.avail_in) 16384 (flushOfInt v.l4)
      = (ret, consumed, produced, s'))
    (hcons : consumed ≤ v.l6.avail_in) (hprod : produced.length ≤ 16384) :
    compress_body2 o s0 v fuel =
      .ok (.norm,
        { v with p1 := v.p1 ++ produced, l5 := produced.length,
                 l7 := produced ++ v.l7.drop produced.length,
                 l6 := { next_in := v.l6.next_in + consumed, avail_in := v.l6.avail_in - consumed,
                         next_out := produced.length, avail_out := 16384 - produced.length, st := some s',
                         log := (⟨flushOfInt v.l4, v.l6.avail_in, consumed, produced, ret⟩ : DCall) :: v.l6.log } },
        fuel) := by
  obtain ⟨h0, -, hp, he, hc, ho, hs, hle⟩ := hi
  obtain ⟨p0, p1, l0, l1, l2, l3, l4, l5, ⟨ni, ai, no, ao, st, log⟩, l7⟩ := v
  simp only at h0 hp he hc ho hs hw hr hcons ⊢
  subst h0 hp hc hs
  have hreg1 : ¬ (p0.length < ni + ai) := by omega
  have hreg2 : ¬ (l7.length < 16384) := by omega
  have hsz2 : ¬ (ai < consumed ∨ 16384 < produced.length) := by omega
  have hins : ¬ ((produced ++ List.drop produced.length l7).length < produced.length ∨ produced.length < 0) := by
    simp only [List.length_append]; omega
  unfold compress_body2
  simp only [ZlibCxx.deflate, toU32_chunk, hreg1, hreg2, hr, hsz2, if_false, Res.bind,
    List.take_zero, List.nil_append, Nat.zero_add, u32sub_chunk produced.length hprod,
    ZlibCxx.insertRange, hins, List.drop_zero, Nat.sub_zero, List.take_left']

theorem cbody2_ok {σ} (o : DOracle σ) (s0 : σ) (buf pre acc : Bytes) (v : CompressVars σ) (s : σ)
    (ptr : Nat) (fuel : Nat) (hi : CGInv buf pre v s ptr acc) (hw : v.l6.next_in + v.l6.avail_in = ptr)
    (ret : Ret) (consumed : Nat) (produced : Bytes) (s' : σ)
    (hr : o.step s ((buf.drop v.l6.next_in).take v.l6.avail_in) 16384 (flushOfInt v.l4)
      = (ret, consumed, produced, s'))
    (hcons : consumed ≤ v.l6.avail_in) (hprod : produced.length ≤ 16384) :
    ∃ v', compress_body2 o s0 v fuel = .ok (.norm, v', fuel) ∧ CGInv buf pre v' s' ptr (acc ++ produced) ∧
      v'.l4 = v.l4 ∧ v'.l6.next_in = v.l6.next_in + consumed ∧ v'.l6.avail_in = v.l6.avail_in - consumed ∧
      v'.l6.avail_out = 16384 - produced.length ∧
      v'.l6.log = (⟨flushOfInt v.l4, v.l6.avail_in, consumed, produced, ret⟩ : DCall) :: v.l6.log := by
  refine ⟨_, cbody2_eq o s0 buf pre acc v s ptr fuel hi hw ret consumed produced s' hr hcons hprod,
    ⟨hi.h0, ?_, hi.hp, hi.he, hi.hc, ?_, rfl, hi.hle⟩, rfl, rfl, rfl, rfl, rfl⟩
  · show v.p1 ++ produced = _
    rw [hi.h1, List.append_assoc]
  · have := hi.ho
    simp only [List.length_append, List.length_drop]; omega

/-- the head of the outer loop up to the inner loop: `avail`, `fl` are the window size and the flush value
the C++ picks -/
theorem cbody1_eq {σ} (o : DOracle σ) (s0 : σ) (buf pre acc : Bytes) (v : CompressVars σ) (s : σ)
    (ptr : Nat) (fuel : Nat) (hi : CGInv buf pre v s ptr acc) (avail : Nat) (fl : Int)
    (h : (if ptr + chunk < buf.length then (chunk, (0 : Int)) else (buf.length - ptr, 4)) = (avail, fl)) :
    compress_body1 o s0 v fuel =
      andThen (doWhile (compress_body2 o s0) compress_cond2 fuel
        { v with l0 := ptr + avail, l4 := fl, l6 := { v.l6 with next_in := ptr, avail_in := avail } } fuel)
        fun v fuel => .ok (.norm, v, fuel) := by
  have htn : Int.toNat ((ptr : Int) + 16384) = ptr + 16384 := Int.toNat_natCast (ptr + 16384)
  have hle := hi.hle
  simp only [compress_body1, hi.hp, hi.he, hi.hc, hi.h0, htn, decide_eq_true_eq]
  rw [show chunk = 16384 from rfl] at h
  by_cases hmore : ptr + 16384 < buf.length
  · obtain ⟨rfl, rfl⟩ := Prod.mk.inj ((if_pos hmore).symm.trans h)
    have hadv : ¬ buf.length < ptr + 16384 := Nat.lt_asymm hmore
    simp only [hmore, if_true, toU32_chunk, ptrAdvance, hadv, if_false, Res.bind]
  · obtain ⟨rfl, rfl⟩ := Prod.mk.inj ((if_neg hmore).symm.trans h)
    have hav : toU32 ((buf.length : Int) - (ptr : Int)) = buf.length - ptr :=
      toU32_sub _ _ hle (by clear htn h hi; omega)
    have hadv : ¬ buf.length < ptr + (buf.length - ptr) := by
      rw [Nat.add_sub_cancel' hle]; exact Nat.lt_irrefl _
    simp only [hmore, if_false, hav, ptrAdvance, hadv, Res.bind]

/-- The simulation for `zlib_compress`, of the shape of `sim` (ZlibGenEq.lean: `g`, `gi` are the `gas` of the two
`doWhile`; outer loop from its head / rest of one outer iteration from the middle of the inner loop; proved together
because each phase of `cloop` continues in the other).  The log the hand model carries is `v.l6.log`. -/
theorem csim {σ} (o : DOracle σ) (hsz : DSized o) (s0 : σ) (buf pre : Bytes) : ∀ fuel : Nat,
    (∀ g v s ptr acc, fuel ≤ g → CGInv buf pre v s ptr acc →
      CRel pre (doWhile (compress_body1 o s0) compress_cond1 g v fuel)
        (cloop o buf fuel s ptr .outer acc v.l6.log)) ∧
    (∀ gi g v s ptr acc, fuel ≤ gi → fuel ≤ g → CGInv buf pre v s ptr acc → v.l6.next_in + v.l6.avail_in = ptr →
      CRel pre (step compress_cond1 (doWhile (compress_body1 o s0) compress_cond1 g)
            (andThen (doWhile (compress_body2 o s0) compress_cond2 gi v fuel) fun v fuel => .ok (.norm, v, fuel)))
        (cloop o buf fuel s ptr (.inner ((buf.drop v.l6.next_in).take v.l6.avail_in) (flushOfInt v.l4))
          acc v.l6.log)) := by
  intro fuel
  induction fuel with
  | zero =>
    refine ⟨?_, ?_⟩
    · intro g v s ptr acc _ _
      rw [doWhile_zero]; rfl
    · intro gi g v s ptr acc _ _ _ _
      rw [doWhile_zero]; rfl
  | succ fuel ih =>
    obtain ⟨ih1, ih2⟩ := ih
    refine ⟨?_, ?_⟩
    · intro g v s ptr acc hg hi
      obtain ⟨g, rfl⟩ := Nat.exists_eq_add_one_of_ne_zero (Nat.ne_of_gt (Nat.lt_of_lt_of_le fuel.succ_pos hg))
      have hle := hi.hle
      simp only [doWhile, cloop, decide_eq_true_eq]
      by_cases hmore : ptr + chunk < buf.length
      · rw [cbody1_eq o s0 buf pre acc v s ptr fuel hi chunk 0 (if_pos hmore)]
        simp only [hmore, if_true]
        exact ih2 fuel g _ s (ptr + chunk) acc (Nat.le_refl _) (Nat.le_of_succ_le_succ hg)
          ⟨hi.h0, hi.h1, rfl, hi.he, hi.hc, hi.ho, hi.hs, Nat.le_of_lt hmore⟩ rfl
      · rw [cbody1_eq o s0 buf pre acc v s ptr fuel hi (buf.length - ptr) 4 (if_neg hmore)]
        simp only [hmore, if_false]
        exact ih2 fuel g _ s (ptr + (buf.length - ptr)) acc (Nat.le_refl _) (Nat.le_of_succ_le_succ hg)
          ⟨hi.h0, hi.h1, rfl, hi.he, hi.hc, hi.ho, hi.hs, by omega⟩ rfl
    · intro gi g v s ptr acc hgi hg hi hw
      obtain ⟨gi, rfl⟩ := Nat.exists_eq_add_one_of_ne_zero (Nat.ne_of_gt (Nat.lt_of_lt_of_le fuel.succ_pos hgi))
      have hwl := window_length buf (Nat.le_sub_of_add_le' (hw ▸ hi.hle))
      have hsz' := hsz s ((buf.drop v.l6.next_in).take v.l6.avail_in) 16384 (flushOfInt v.l4)
      rw [hwl] at hsz'
      rcases hr : o.step s ((buf.drop v.l6.next_in).take v.l6.avail_in) 16384 (flushOfInt v.l4)
        with ⟨ret, consumed, produced, s'⟩
      rw [hr] at hsz'
      obtain ⟨hcons, hprod⟩ := hsz'
      simp only at hcons hprod
      have hr' : o.step s ((buf.drop v.l6.next_in).take v.l6.avail_in) chunk (flushOfInt v.l4)
          = (ret, consumed, produced, s') := hr
      simp only [doWhile]
      rw [cloop, hr']
      simp only
      rw [hwl]
      obtain ⟨v', hb, hi', hl4, hni, hai, hao, hlog⟩ :=
        cbody2_ok o s0 buf pre acc v s ptr fuel hi hw ret consumed produced s' hr hcons hprod
      rw [hb]
      by_cases hfull : produced.length = chunk
      · have hc2 : compress_cond2 v' = true := decide_eq_true (by rw [hao, hfull]; exact Nat.sub_self _)
        simp only [step, hc2, if_true, hfull]
        have := ih2 gi g v' s' ptr _ (Nat.le_of_succ_le_succ hgi) (Nat.le_of_succ_le hg) hi'
          (by rw [hni, hai]; exact window_advance hw hcons)
        rw [hni, hai, ← take_drop_window, hl4, hlog] at this
        exact this
      · have hc2 : compress_cond2 v' = false :=
          decide_eq_false (by rw [hao]; exact Nat.sub_ne_zero_of_lt (Nat.lt_of_le_of_ne hprod hfull))
        simp only [step, hc2, andThen, hfull, if_false, Bool.false_eq_true]
        by_cases hfin : flushOfInt v.l4 = .finish
        · have h44 : v'.l4 = 4 := by rw [hl4]; exact (flushOfInt_finish _).mp hfin
          have hc1 : compress_cond1 v' = false := by
            simp only [compress_cond1, h44, ne_eq, not_true_eq_false, decide_false]
          simp only [hc1, hfin, if_true, if_false, Bool.false_eq_true, CRel, Agrees, hlog]
          exact ⟨_, rfl, hi'.h1⟩
        · have hne4 : v'.l4 ≠ 4 := by rw [hl4]; exact fun h => hfin ((flushOfInt_finish _).mpr h)
          have hc1 : compress_cond1 v' = true := by
            simp only [compress_cond1, decide_eq_true_eq]; exact hne4
          simp only [hc1, hfin, if_true, if_false]
          have := ih1 g v' s' ptr _ (Nat.le_of_succ_le hg) hi'
          rw [hlog] at this
          exact this

theorem resize4_length (c0 : Bytes) : (resize c0 4).length = 4 := by
  unfold resize
  simp only [List.length_append, List.length_take, List.length_replicate]; omega

theorem encode_prefix (n : Nat) (c0 : Bytes) :
    encodeI32BEAt (i32OfNat n) (resize c0 4) 0 = .ok (lenPrefix n) := by
  have hl := resize4_length c0
  have hd : (resize c0 4).drop 4 = [] := List.drop_eq_nil_iff.mpr (by omega)
  unfold encodeI32BEAt
  have hlt : ¬ ((resize c0 4).length < 0 + 4) := by omega
  simp only [hlt, if_false, List.take_zero, List.nil_append, Nat.zero_add, hd, List.append_nil, i32OfNat,
    Prim.u32OfInt_s32, lenPrefix]

/-- The empty payload: `&uncompressed[0]` on an empty vector, behind the prefix and before any call of the
oracle. -/
theorem compress_nil {σ} (o : DOracle σ) (s0 : σ) (fuel : Nat) (c0 : Bytes) :
    compress o s0 fuel [] c0 = .ub .oob_index := by
  unfold compress compress_fn compress_init
  have htl : tooLong 4 = false := by decide
  simp only [htl, Bool.false_eq_true, if_false, encode_prefix, Res.bind, List.length_nil, Nat.le_refl, if_true,
    result]

/-- **`zlib_compress` regenerated from the C++ = the hand model**: same bytes, same call log, same fuel.  (C03
registers this statement under this name: tools/props/_implgen.py.) -/
theorem compress_eq_partial {σ} (o : DOracle σ) (hsz : DSized o) (s0 : σ) (fuel : Nat) (buf c0 : Bytes) :
    compress o s0 fuel buf c0 = Impl.Zlib.compress o s0 fuel buf := by
  by_cases h0 : buf.length = 0
  · obtain rfl := List.eq_nil_of_length_eq_zero h0
    exact compress_nil o s0 fuel c0
  · unfold compress compress_fn compress_init Impl.Zlib.compress
    have htl : tooLong 4 = false := by decide
    have hpos : ¬ (buf.length ≤ 0) := by omega
    simp only [htl, Bool.false_eq_true, if_false, encode_prefix, Res.bind]
    simp only [h0, hpos, if_false, ZlibCxx.deflateInit, ne_eq, not_true_eq_false, decide_false,
      Bool.false_eq_true]
    have hrel := (csim o hsz s0 buf (lenPrefix buf.length) fuel).1 fuel
      ⟨buf, lenPrefix buf.length, 0, 0 + buf.length, 16384, 0, 0, 0, ⟨0, 0, 0, 0, some s0, []⟩,
        List.replicate 16384 0⟩ s0 0 [] (Nat.le_refl _)
      ⟨rfl, (List.append_nil _).symm, rfl, Nat.zero_add _, rfl, List.length_replicate, rfl, Nat.zero_le _⟩
    refine Agrees.result hrel _ _ _ (fun _ h => ?_) (fun _ h => ?_) fun v f hp => ?_
    · rw [h]
    · rw [h]
    · obtain ⟨acc, h, hp1⟩ := hp
      simp only [ZlibCxx.deflateEnd, result, Res.bind, hp1, h]

/- The statement without `DSized` is false: for an oracle that answers `avail_out + 1` bytes (e.g.
`step _ _ n _ := (.streamEnd, 0, List.replicate (n + 1) 7, ())`, payload `[0]`) the regenerated function is
`ub oob_write` (the answer does not fit the local array) while the hand model returns the length prefix and the
16385 bytes. -/

end EngineModel.Gen.Zlib
