/-
The invariant of the extended schema-1.x state (`Lib/V1Refs.lean`): `LibInv` of the library + every row of
PlaylistTrackList / HistorylistTrackList / PreparelistTrackList / CopiedTrack names a track that exists — kept by
every public call and by the environment step `plantRefs`; from it the executable raw check and
`PRAGMA foreign_key_check` cleanliness on the raw dump WITH the `OT` section filled in.
-/
import EngineModel.Lib.V1Refs
import Proofs.Lib1Raw
import Proofs.Lib1Proj
import Proofs.Lib1Members

namespace EngineModel.Lib.V1
open EngineModel.Api
open EngineModel.Api.CratesV1 (liveTrack trackAutoinc)
open EngineModel.TracksV1 (dbCreate)
open EngineModel.TracksV1.Fl (FOps)

structure LibInvR (s : VSchema) (R : Lib1R) : Prop where
  lib : LibInv s R.lib
  /-- no dependent row of a missing track, in any of the four tables -/
  refsLive : ∀ x ∈ R.refs, liveTrack R.lib.cr x.2

theorem libInvR_empty (s : VSchema) (um up dir : Bytes) : LibInvR s (Lib1R.empty s um up dir) :=
  ⟨libInv_empty s um up dir, by intro x hx; cases hx⟩

theorem live_step_mono (o : FOps) {s : VSchema} {L : Lib1} (h : LibInv s L) (c : Call) (hc : ∀ t, c ≠ .removeTrack t)
    (x : Id) (hx : liveTrack L.cr x) : liveTrack (step o s L c).1.cr x := by
  cases step_eff o s L c with
  | idle e _ _ =>
    rw [e]; exact hx
  | crate op _ hop e _ =>
    rw [e]
    exact (CratesV1.liveTrack_congr (crateOp_track (toDetect s) h.crates.toFInv op hop).1 x).mpr hx
  | create sn id seq rows _ _ _ _ e =>
    rw [e]; exact (liveTrack_append ..).mpr (.inl hx)
  | remove t =>
    exact absurd rfl (hc t)
  | write t r r' _ _ _ e =>
    rw [e]; exact hx

theorem mem_dropRefs {keeps : RefTable → Bool} {refs : List (RefTable × Id)} {t : Id} {x : RefTable × Id} :
    x ∈ dropRefs keeps refs t ↔ x ∈ refs ∧ (keeps x.1 = true ∨ x.2 ≠ t) := by
  unfold dropRefs
  rw [List.mem_filter]
  simp

theorem stepRWith_api (keeps : RefTable → Bool) (o : FOps) (s : VSchema) (R : Lib1R) (c : Call)
    (hc : ∀ t, c ≠ .removeTrack t) :
    stepRWith keeps o s R (.api c) = ({ R with lib := (step o s R.lib c).1 }, (step o s R.lib c).2) := by
  unfold stepRWith
  split
  · next h => cases h
  · next t h => cases h; exact absurd rfl (hc t)
  · next h => cases h; rfl

theorem stepR_api_both (o : FOps) (s : VSchema) (R : Lib1R) (c : Call) :
    (stepR o s R (.api c)).1.lib = (step o s R.lib c).1 ∧ (stepR o s R (.api c)).2 = (step o s R.lib c).2 := by
  by_cases hc : ∃ t, c = .removeTrack t
  · obtain ⟨t, rfl⟩ := hc; exact ⟨rfl, rfl⟩
  · rw [stepR, stepRWith_api _ o s R c fun t ht => hc ⟨t, ht⟩]; exact ⟨rfl, rfl⟩

theorem stepR_api (o : FOps) (s : VSchema) (R : Lib1R) (c : Call) : (stepR o s R (.api c)).1.lib = (step o s R.lib c).1 :=
  (stepR_api_both o s R c).1

theorem stepR_api_res (o : FOps) (s : VSchema) (R : Lib1R) (c : Call) : (stepR o s R (.api c)).2 = (step o s R.lib c).2 :=
  (stepR_api_both o s R c).2

theorem stepR_remove_refs (o : FOps) (s : VSchema) (R : Lib1R) (t : Id) :
    (stepR o s R (.api (.removeTrack t))).1.refs = dropRefs (fun _ => false) R.refs t := rfl

theorem plantRefs_lib (R : Lib1R) (t : Id) : (plantRefs R t).1.lib = R.lib := by
  unfold plantRefs
  split <;> rfl

theorem mem_plantRefs {s : VSchema} {R : Lib1R} (h : LibInv s R.lib) (t : Id) (x : RefTable × Id)
    (hx : x ∈ (plantRefs R t).1.refs) : x ∈ R.refs ∨ (x.2 = t ∧ liveTrack R.lib.cr t) := by
  unfold plantRefs at hx
  split at hx
  · rename_i hl
    rcases List.mem_append.mp hx with m | m
    · exact .inl m
    · obtain ⟨k, _, rfl⟩ := List.mem_map.mp m
      refine .inr ⟨rfl, ?_⟩
      by_contra hn
      have := (trackIsValid_live h.crates.trackNodup t).2 hn
      unfold trackLive at hl
      rw [this] at hl
      cases hl
  · exact .inl hx
  · exact .inl hx
  · exact .inl hx

/-- **Every step — public call or Engine writing its rows — keeps the extended invariant.** -/
theorem libInvR_step (o : FOps) {s : VSchema} {R : Lib1R} (h : LibInvR s R) (c : CallR) : LibInvR s (stepR o s R c).1 := by
  cases c with
  | plantRefs t =>
    show LibInvR s (plantRefs R t).1
    refine ⟨by rw [plantRefs_lib]; exact h.lib, ?_⟩
    intro x hx
    rw [plantRefs_lib]
    rcases mem_plantRefs h.lib t x hx with m | ⟨e, hl⟩
    · exact h.refsLive x m
    · rw [e]; exact hl
  | api c =>
    refine ⟨by rw [stepR_api]; exact libInv_step o h.lib c, ?_⟩
    intro x hx
    rw [stepR_api]
    by_cases hc : ∃ t, c = .removeTrack t
    · obtain ⟨t, rfl⟩ := hc
      obtain ⟨hm, hk⟩ := mem_dropRefs.mp (stepR_remove_refs o s R t ▸ hx)
      show liveTrack (CratesV1.removeTrack (toDetect s) R.lib.cr t).1 x.2
      rw [(CratesV1.removeTrack_spec (toDetect s) h.lib.crates t).2.2.2.2.2.2]
      exact ⟨h.refsLive x hm, hk.resolve_left nofun⟩
    · have hc' : ∀ t, c ≠ .removeTrack t := fun t ht => hc ⟨t, ht⟩
      rw [stepR, stepRWith_api _ o s R c hc'] at hx
      exact live_step_mono o h.lib c hc' x.2 (h.refsLive x hx)

theorem runR_cons (o : FOps) (s : VSchema) (R : Lib1R) (c : CallR) (cs : List CallR) :
    runR o s R (c :: cs) = runR o s (stepR o s R c).1 cs := rfl

theorem libInvR_run (o : FOps) {s : VSchema} (cs : List CallR) {R : Lib1R} (h : LibInvR s R) : LibInvR s (runR o s R cs) :=
  Machine.IsRun.inv (step := stepR o s) (run := runR o s) ⟨fun _ => rfl, fun _ _ _ => rfl⟩ (Inv := LibInvR s)
    (fun _ c h => libInvR_step o h c) cs R h

/-- The library part of an extended history is the plain composite history of its public calls: every theorem about
`Lib.V1.run` applies to the library under Engine's writes. -/
theorem runR_lib (o : FOps) (s : VSchema) : ∀ (cs : List CallR) (R : Lib1R), (runR o s R cs).lib = run o s R.lib (apiCalls cs) := by
  intro cs
  induction cs with
  | nil => intro R; rfl
  | cons c cs ih =>
    intro R
    rw [runR_cons, ih]
    cases c with
    | api c => rw [stepR_api]; rfl
    | plantRefs t => show run o s (plantRefs R t).1.lib _ = _; rw [plantRefs_lib]; rfl

theorem mem_refCodes {s : VSchema} {refs : List (RefTable × Id)} {y : Int × Id} (hy : y ∈ refCodes s refs) :
    ∃ x ∈ refs, x.2 = y.2 := by
  unfold refCodes at hy
  rcases List.mem_append.mp hy with m | m
  · obtain ⟨x, hx, rfl⟩ := List.mem_map.mp m
    exact ⟨x, hx, rfl⟩
  · split at m
    · obtain ⟨x, hx, rfl⟩ := List.mem_map.mp m
      exact ⟨x, (List.mem_filter.mp hx).1, rfl⟩
    · cases m

theorem refs_live_raw {s : VSchema} {R : Lib1R} (h : LibInvR s R) {z : String × Id} (hz : z ∈ (rawR s R).otherTrackRefs) :
    liveTrack R.lib.cr z.2 := by
  obtain ⟨y, hy, rfl⟩ := List.mem_map.mp hz
  obtain ⟨x, hx, e⟩ := mem_refCodes hy
  show liveTrack R.lib.cr y.2
  rw [← e]; exact h.refsLive x hx

/-- **`PRAGMA foreign_key_check` over every declared key, the four tables (and ListTrackList behind the views)
included, reports nothing.** -/
theorem fkAllR_clean {s : VSchema} {R : Lib1R} (h : LibInvR s R) : fkViolationsAll (rawR s R) = [] := by
  obtain ⟨h1, h2, h3, h4, _⟩ := (fkViolationsAll_eq_nil _).mp (fkAll_clean h.lib)
  refine (fkViolationsAll_eq_nil _).mpr ⟨h1, h2, h3, h4, fun z hz => ?_⟩
  obtain ⟨r, hr, hre, _⟩ := refs_live_raw h hz
  exact List.mem_map.mpr ⟨r, hr, hre⟩

theorem libInvRawR_of_libInvR {s : VSchema} {R : Lib1R} (h : LibInvR s R) : libInvRaw s (rawR s R) = true := by
  obtain ⟨c1, _, c3, c4, c5, c6, c7, c8, c9, _, c11, c12⟩ := (libInvRaw_iff s _).mp (libInvRaw_of_libInv h.lib)
  exact (libInvRaw_iff s _).mpr ⟨c1, fkAllR_clean h, c3, c4, c5, c6, c7, c8, c9,
    fun z hz => (mem_liveIds_raw R.lib _).mpr (refs_live_raw h hz), c11, c12⟩

end EngineModel.Lib.V1
