/-
Schema 2.x crates: the invariants over histories from the empty library, and the ordered listings of the Model
against the Spec lists (with the payload of every entry).
-/
import Proofs.CratesV2Change
import Proofs.CratesV2WfRaw

namespace EngineModel.Db.V2

open EngineModel.Db.Chain EngineModel.Spec EngineModel.ListAux

theorem absF_empty : absF Db.empty = Forest.empty := rfl
theorem absM_empty : absM Db.empty = Members.empty := rfl

/-- Histories with positive track ids at table level: the Spec run never objects, its forest is the abstraction
of the Playlist table and its lists are represented by the two tables. -/
theorem chInv_hist (ops : List Op) (hok : ops.all okOp = true) :
    ∃ S, specRunO Db.empty Forest.empty Ord.empty ops = some (absF (run Db.empty ops), S) ∧ ChInv S (run Db.empty ops) :=
  chInv_run chInv_empty plInv_empty ops hok

theorem inv_hist (ops : List Op) (hm : ops.all memOp = true) :
    ∃ S, specRunO Db.empty Forest.empty Ord.empty ops = some (absF (run Db.empty ops), S) ∧ Inv S (run Db.empty ops) ∧
      specRunM Db.empty Forest.empty Members.empty ops = some (absF (run Db.empty ops), absM (run Db.empty ops)) :=
  inv_run inv_empty ops hm

theorem inv_allOwn_hist (ops : List Op) (ha : ops.all apiOp = true) :
    ∃ S, Inv S (run Db.empty ops) ∧ AllOwn (run Db.empty ops) :=
  inv_allOwn_run inv_empty allOwn_empty ops ha

theorem eq_of_map_fst_eq {L1 L2 : List (Int × Ent)} (hn : (L2.map (·.1)).Nodup) (hm : L1.map (·.1) = L2.map (·.1))
    (hsub : ∀ p ∈ L1, p ∈ L2) : L1 = L2 := by
  induction L1 generalizing L2 with
  | nil => exact (List.map_eq_nil_iff.mp hm.symm).symm
  | cons a l1 ih =>
    obtain ⟨b, l2, rfl, hb, hm'⟩ := List.map_eq_cons_iff.mp hm.symm
    obtain ⟨hb2, hn'⟩ := List.nodup_cons.mp hn
    obtain rfl : a = b := eq_of_map_eq hn (hsub a (by simp)) (by simp) hb.symm
    rw [ih hn' hm'.symm fun p hp => (List.mem_cons.mp (hsub p (List.mem_cons_of_mem _ hp))).resolve_left
      fun e => hb2 (hm' ▸ e ▸ List.mem_map.mpr ⟨p, hp, rfl⟩)]

/-- get_for_list returns exactly the Spec's entries of the list, in order, each with its payload. -/
theorem walk_entries {S : Ord} {d : Db} (h : ChInv S d) (l : Int) :
    ∃ rows, walkBack d.pe l = .ok rows ∧ rows.map (fun r => (r.id, r.val)) = S.ents l := by
  obtain ⟨rows, hw, hm, hr⟩ := walkBack_spec h.re l
  refine ⟨rows, hw, ?_⟩
  apply eq_of_map_fst_eq (h.re.nodup l)
  · rw [List.map_map]; exact hm
  · intro p hp
    obtain ⟨r, hrm, rfl⟩ := List.mem_map.mp hp
    have := h.pay (core r) (mem_cores.mpr ⟨r, (hr r hrm).1, rfl⟩)
    simp only [core] at this
    rw [(hr r hrm).2] at this
    exact this

theorem qEntities_eq {S : Ord} {d : Db} (h : ChInv S d) (l : Int) :
    qEntities d l = .ok ((S.ents l).map fun p => (p.1, p.2.track, p.2.uuid)) := by
  obtain ⟨rows, hw, he⟩ := walk_entries h l
  simp only [qEntities, hw, Res.bind, ← he, List.map_map]
  rfl

theorem qTrackIds_eq {S : Ord} {d : Db} (h : ChInv S d) (l : Int) :
    qTrackIds d l = .ok ((S.ents l).map (·.2.track)) := by
  obtain ⟨rows, hw, he⟩ := walk_entries h l
  simp only [qTrackIds, hw, Res.bind, ← he, List.map_map]
  rfl

theorem qTracks_eq {S : Ord} {d : Db} (h : ChInv S d) (l : Int) :
    qTracks d l = .ok (((S.ents l).filter (·.2.uuid == 0)).map (·.2.track)) := by
  obtain ⟨rows, hw, he⟩ := walk_entries h l
  simp only [qTracks, hw, Res.bind, ← he, List.filter_map, List.map_map]
  rfl

theorem appended_iff {x : Int} {old new : List Int} (h : (Ordered.Change.appended x).holds old new = true) :
    new = old ++ [x] ∧ x ∉ old := by
  simp only [Ordered.Change.holds, Bool.and_eq_true, Bool.not_eq_true', beq_iff_eq] at h
  exact ⟨h.2, by simpa using h.1⟩

end EngineModel.Db.V2
