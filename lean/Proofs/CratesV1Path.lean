/-
Path strings: the recursive `update_path` of the C++ (model `updatePath`)
rewrites exactly the sub-tree it is started on, and every row it touches gets
the path of its parent extended by its own name.  `walkPath` is the reference
"names from the root (or from a stop node) joined with ';'", shown independent
of its fuel once the fuel exceeds the depth.  `tgtPath` gives the target paths of
a sub-tree rewrite; after the sub-tree of `c` has been rewritten to them every row
again carries the path `pathOf` computes on the abstract forest (`PathsOk`, `pathsOk_repath`),
which is "path of the parent ++ own name ++ ';'" read globally (`path_eq_pathOf`, `pathStep_of_pathsOk`).
-/
import Proofs.CratesV1Inv

namespace EngineModel.Api.CratesV1
open EngineModel.Pure.Detect EngineModel.Spec

def walkPath (title : Id → Option Name) (parent : Id → Option Id) (stop : Option Id) (base : Name) :
    Nat → Id → Name
  | 0, _ => []
  | n + 1, y =>
    if some y = stop then base else
    match title y with
    | none => []
    | some t =>
      (match parent y with
       | none => []
       | some p => walkPath title parent stop base n p) ++ t ++ [semicolon]

theorem walkPath_fuel {title : Id → Option Name} {parent : Id → Option Id} {stop : Option Id} {base : Name}
    (d : Id → Nat) (hd : ∀ y p, parent y = some p → d p < d y) :
    ∀ n m y, d y < n → d y < m → walkPath title parent stop base n y = walkPath title parent stop base m y := by
  intro n
  induction n with
  | zero => intro m y h; omega
  | succ n ih =>
    intro m y hn hm
    cases m with
    | zero => omega
    | succ m =>
      unfold walkPath
      split
      · rfl
      · cases title y with
        | none => rfl
        | some t =>
          cases hp : parent y with
          | none => rfl
          | some p =>
            have := hd y p hp
            simp only
            rw [ih m p (by omega) (by omega)]

theorem pathFuel_eq_walk (f : Forest.Forest) : ∀ n c, pathFuel f n c = walkPath f.nameOf f.parentOf none [] n c := by
  intro n
  induction n with
  | zero => intro c; rfl
  | succ n ih =>
    intro c
    unfold pathFuel walkPath
    simp only [reduceCtorEq, if_false]
    unfold Forest.Forest.nameOf Forest.Forest.parentOf
    cases f.find c with
    | none => rfl
    | some r =>
      simp only [Option.map_some, Option.bind_some]
      cases r.parent with
      | none => rfl
      | some p => simp only; rw [ih p]; rfl

def setPaths (P : Id → Bool) (tgt : Id → Name) (crate : List CrateRow) : List CrateRow :=
  crate.map fun r => if P r.id then { r with path := tgt r.id } else r

def keyOf (r : CrateRow) : Id × Name := (r.id, r.title)

theorem setPaths_setPaths (P Q : Id → Bool) (tgt : Id → Name) (l : List CrateRow) :
    setPaths P tgt (setPaths Q tgt l) = setPaths (fun y => Q y || P y) tgt l := by
  unfold setPaths
  rw [List.map_map]
  apply List.map_congr_left
  intro r _
  by_cases hq : Q r.id <;> by_cases hp : P r.id <;> simp [hq, hp]

theorem setPaths_congr {P Q : Id → Bool} {tgt : Id → Name} {l : List CrateRow} (h : ∀ r ∈ l, P r.id = Q r.id) :
    setPaths P tgt l = setPaths Q tgt l := by
  unfold setPaths
  apply List.map_congr_left
  intro r hr
  rw [h r hr]

theorem map_setPaths {β} (P : Id → Bool) (tgt : Id → Name) (l : List CrateRow) (F : Id → Name → β) :
    (setPaths P tgt l).map (fun r => F r.id r.title) = l.map (fun r => F r.id r.title) := by
  unfold setPaths
  rw [List.map_map]
  apply List.map_congr_left
  intro r _
  simp only [Function.comp_apply]
  split <;> rfl

theorem setPaths_keys (P : Id → Bool) (tgt : Id → Name) (l : List CrateRow) :
    (setPaths P tgt l).map keyOf = l.map keyOf :=
  map_setPaths P tgt l fun i t => (i, t)

theorem abs_setPaths (db : Db) (P : Id → Bool) (tgt : Id → Name) :
    absForest { db with crate := setPaths P tgt db.crate } = absForest db :=
  forest_ext (map_setPaths P tgt db.crate fun i t => (⟨i, t, parentOf db i⟩ : Forest.Crate))

theorem ids_of_keys {db db' : Db} (h : db'.crate.map keyOf = db.crate.map keyOf) : ids db' = ids db := by
  have : ∀ l : List CrateRow, l.map (·.id) = (l.map keyOf).map (·.1) := by
    intro l; rw [List.map_map]; rfl
  unfold ids
  rw [this, this, h]

def Skel (db db0 : Db) : Prop := db.crate.map keyOf = db0.crate.map keyOf ∧ db.cpl = db0.cpl ∧ db.ch = db0.ch

theorem Skel.refl (db : Db) : Skel db db := ⟨rfl, rfl, rfl⟩

theorem Skel.ids {db db0 : Db} (h : Skel db db0) : ids db = ids db0 := ids_of_keys h.1

theorem Skel.row {db db0 : Db} (h : Skel db db0) {r : CrateRow} (hr : r ∈ db.crate) :
    ∃ r0 ∈ db0.crate, r0.id = r.id ∧ r0.title = r.title := by
  have : keyOf r ∈ db0.crate.map keyOf := by rw [← h.1]; exact List.mem_map_of_mem hr
  rw [List.mem_map] at this
  obtain ⟨r0, hr0, he⟩ := this
  exact ⟨r0, hr0, (Prod.mk.inj he).1, (Prod.mk.inj he).2⟩

theorem Skel.setPaths {db db0 : Db} (h : Skel db db0) (P : Id → Bool) (tgt : Id → Name) :
    Skel { db with crate := setPaths P tgt db.crate } db0 :=
  ⟨by simp only [setPaths_keys]; exact h.1, h.2.1, h.2.2⟩

def subB (db : Db) (x y : Id) : Bool := y == x || db.ch.contains (x, y)

theorem subB_iff (db : Db) (x y : Id) : subB db x y = true ↔ Sub db x y := by
  unfold subB Sub
  simp

theorem mem_crateChildren (db : Db) (x k : Id) : k ∈ crateChildren db x ↔ Par db k x := by
  unfold crateChildren Par
  simp only [List.mem_map, List.mem_filter, Bool.and_eq_true, beq_iff_eq, bne_iff_ne, ne_eq]
  constructor
  · rintro ⟨r, ⟨hr, h2, hne⟩, rfl⟩
    refine ⟨?_, fun e => hne (by rw [h2, e])⟩
    have : r = (r.1, x) := Prod.ext rfl h2
    rw [← this]; exact hr
  · rintro ⟨hm, hne⟩
    exact ⟨(k, x), ⟨hm, rfl, fun e => hne e.symm⟩, rfl⟩

theorem FInv.cpl_length {db : Db} (h : FInv db) : db.cpl.length = db.crate.length := by
  have hperm : (db.cpl.map (·.1)).Perm (ids db) := by
    rw [List.perm_ext_iff_of_nodup h.cplNodup h.idsNodup]
    exact h.cplTotal
  have := hperm.length_eq
  simpa [ids] using this

theorem updateCratePath_setPaths (s : Schema) {db : Db} (h : (ids db).Nodup) (x : Id) (tgt : Id → Name) :
    updateCratePath s db.crate x (tgt x) = setPaths (· == x) tgt db.crate := by
  rw [updateCratePath_eq s h]
  unfold setPaths
  apply List.map_congr_left
  intro r _
  by_cases hx : r.id = x <;> simp [hx]

theorem setPaths_top_then_kids {db0 : Db} (h : FInv db0) (x : Id) (tgt : Id → Name) (l : List CrateRow) :
    setPaths (fun y => (crateChildren db0 x).any (fun k => subB db0 k y)) tgt (setPaths (· == x) tgt l)
      = setPaths (subB db0 x) tgt l := by
  rw [setPaths_setPaths]
  apply setPaths_congr
  intro r' _
  rw [Bool.eq_iff_iff, subB_iff]
  simp only [Bool.or_eq_true, beq_iff_eq, List.any_eq_true, subB_iff, mem_crateChildren]
  unfold Sub
  rw [h.ch_down x r'.id]

/-- The loop `for (crate cr : children()) update_path(db, cr, path)`, given that each call rewrites the sub-tree
it is started on. -/
theorem updatePath_kids (s : Schema) {db0 : Db} (tgt : Id → Name) {x : Id} {fuel : Nat}
    (hrec : ∀ acc k, Skel acc db0 → Par db0 k x →
      updatePath s fuel acc k (tgt x) = .ok { acc with crate := setPaths (subB db0 k) tgt acc.crate }) :
    ∀ (ks : List Id), (∀ k ∈ ks, Par db0 k x) → ∀ acc, Skel acc db0 →
      ks.foldlM (fun acc k => updatePath s fuel acc k (tgt x)) acc
        = .ok { acc with crate := setPaths (fun y => ks.any (fun k => subB db0 k y)) tgt acc.crate } := by
  intro ks
  induction ks with
  | nil =>
    intro _ acc _
    have : setPaths (fun _ => false) tgt acc.crate = acc.crate := by unfold setPaths; simp
    simp only [List.foldlM_nil, List.any_nil, this]; rfl
  | cons k ks ihk =>
    intro hks acc hacc
    rw [List.foldlM_cons, hrec acc k hacc (hks k (by simp))]
    simp only [Res.bind_ok]
    rw [ihk (fun k' hk' => hks k' (by simp [hk'])) _ (hacc.setPaths _ _)]
    simp only [setPaths_setPaths, List.any_cons]

theorem updatePath_eq (s : Schema) {db0 : Db} (h : FInv db0) (top : Id) (tgt : Id → Name)
    (hstep : ∀ x k, Sub db0 top x → Par db0 k x → ∀ rk ∈ db0.crate, rk.id = k →
      tgt k = tgt x ++ rk.title ++ [semicolon]) :
    ∀ fuel db x pp, Skel db db0 → x ∈ ids db0 → Sub db0 top x → db0.cpl.length + 1 ≤ fuel + depth db0 x →
      (∀ rx ∈ db0.crate, rx.id = x → pp ++ rx.title ++ [semicolon] = tgt x) →
      updatePath s fuel db x pp = .ok { db with crate := setPaths (subB db0 x) tgt db.crate } := by
  intro fuel
  induction fuel with
  | zero =>
    -- the fuel never runs out: a level down costs one unit and adds one to the depth, which stays below the number of crates
    intro db x pp _ hx _ hfuel _
    have := h.depth_lt hx
    rw [h.cpl_length] at hfuel
    omega
  | succ fuel ih =>
    intro db x pp hsk hx hsub hfuel hpp
    have hnd : (ids db).Nodup := by rw [hsk.ids]; exact h.idsNodup
    obtain ⟨r, hr, hrx⟩ := exists_row (hsk.ids ▸ hx)
    obtain ⟨r0, hr0, hr0id, hr0t⟩ := hsk.row hr
    have hpath : pp ++ r.title ++ [semicolon] = tgt x := by
      rw [← hr0t]; exact hpp r0 hr0 (hr0id.trans hrx)
    unfold updatePath
    rw [← hrx, crateName_of_mem hnd hr, hrx]
    simp only [Res.bind_ok]
    rw [hpath, updateCratePath_setPaths s hnd]
    -- the children are read from the unchanged parent list
    have hkids : crateChildren { db with crate := setPaths (· == x) tgt db.crate } x = crateChildren db0 x := by
      unfold crateChildren; simp only [hsk.2.1]
    rw [hkids, updatePath_kids s tgt
      (fun acc k hacc hk => ih acc k (tgt x) hacc (h.par_live hk).1 (h.sub_child hsub hk)
        (by rw [h.depth_par hk]; omega) (fun rk hrk hrkid => (hstep x k hsub hk rk hrk hrkid).symm))
      (crateChildren db0 x) (fun k hk => (mem_crateChildren db0 x k).mp hk) _ (hsk.setPaths _ _)]
    simp only [setPaths_top_then_kids h]

def rowTitle (db : Db) (y : Id) : Option Name := (db.crate.find? (·.id == y)).map (·.title)

/-- Names from `top` (whose full path is `base`) down to `y`. -/
def tgtPath (db0 : Db) (top : Id) (base : Name) (y : Id) : Name :=
  walkPath (rowTitle db0) (parentOf db0) (some top) base db0.crate.length y

variable {db0 : Db}

theorem rowTitle_of_mem (h : (ids db0).Nodup) {r : CrateRow} (hr : r ∈ db0.crate) : rowTitle db0 r.id = some r.title := by
  unfold rowTitle; rw [find_of_mem h hr]; rfl

theorem tgtPath_top {top : Id} (base : Name) (hc : top ∈ ids db0) : tgtPath db0 top base top = base := by
  unfold tgtPath
  obtain ⟨r, hr, _⟩ := exists_row hc
  obtain ⟨n, hn⟩ : ∃ n, db0.crate.length = n + 1 :=
    ⟨db0.crate.length - 1, by have := List.length_pos_of_mem hr; omega⟩
  rw [hn]
  unfold walkPath
  simp

theorem tgtPath_step (h : FInv db0) (top : Id) (base : Name) {k x : Id} (hk : Par db0 k x) (hkt : k ≠ top)
    {rk : CrateRow} (hrk : rk ∈ db0.crate) (hid : rk.id = k) :
    tgtPath db0 top base k = tgtPath db0 top base x ++ rk.title ++ [semicolon] := by
  unfold tgtPath
  have hkl := (h.par_live hk).1
  have hxl := (h.par_live hk).2
  have hdk := h.depth_lt hkl
  have hdp := h.depth_par hk
  obtain ⟨n, hn⟩ : ∃ n, db0.crate.length = n + 1 := ⟨db0.crate.length - 1, by omega⟩
  have hmeasure : ∀ y p, parentOf db0 y = some p → depth db0 p < depth db0 y := by
    intro y p hp
    have := h.depth_par ((parentOf_eq_some h).mp hp)
    omega
  rw [hn]
  conv => lhs; unfold walkPath
  have hne : ¬ (some k = some top) := fun e => hkt (Option.some.inj e)
  rw [if_neg hne, ← hid, rowTitle_of_mem h.idsNodup hrk, hid, (parentOf_eq_some h).mpr hk]
  simp only
  rw [walkPath_fuel (depth db0) hmeasure n (n + 1) x (by omega) (by omega)]

theorem tgtPath_hstep (h : FInv db0) (top : Id) (base : Name) :
    ∀ x k, Sub db0 top x → Par db0 k x → ∀ rk ∈ db0.crate, rk.id = k →
      tgtPath db0 top base k = tgtPath db0 top base x ++ rk.title ++ [semicolon] := by
  intro x k hsub hk rk hrk hid
  -- a child of a member of the sub-tree is strictly below `top`
  have hkt : k ≠ top := by
    rintro rfl
    rcases hsub with rfl | hm
    · exact hk.2 rfl
    · exact h.chIrrefl k (h.ch_trans k k x hm (h.ch_of_par hk))
  exact tgtPath_step h top base hk hkt hrk hid

theorem pathFuel_fuel {f : Forest.Forest} (d : Id → Nat) (hd : ∀ y p, f.parentOf y = some p → d p < d y) (n m : Nat) (y : Id)
    (hn : d y < n) (hm : d y < m) : pathFuel f n y = pathFuel f m y := by
  rw [pathFuel_eq_walk, pathFuel_eq_walk]
  exact walkPath_fuel d hd n m y hn hm

theorem pathFuel_congr {f g : Forest.Forest} (S : Id → Prop) (hS : ∀ x p, S x → f.parentOf x = some p → S p)
    (hfind : ∀ x, S x → g.find x = f.find x) : ∀ n y, S y → pathFuel g n y = pathFuel f n y := by
  intro n
  induction n with
  | zero => intro y _; rfl
  | succ n ih =>
    intro y hy
    unfold pathFuel
    rw [hfind y hy]
    cases hf : f.find y with
    | none => rfl
    | some r =>
      dsimp only
      cases hp : r.parent with
      | none => rfl
      | some p =>
        have hpo : f.parentOf y = some p := by simp [Forest.Forest.parentOf, hf, hp]
        dsimp only
        rw [ih p (hS y p hy hpo)]

variable {db : Db}

theorem depth_parentOf (h : FInv db) : ∀ y p, (absForest db).parentOf y = some p → depth db p < depth db y := by
  intro y p hp
  rw [abs_parentOf h] at hp
  have := h.depth_par ((parentOf_eq_some h).mp hp)
  omega

theorem pathOf_eq_fuel (h : FInv db) {y : Id} (hy : y ∈ ids db) {n : Nat} (hn : depth db y < n) :
    pathOf (absForest db) y = pathFuel (absForest db) n y := by
  unfold pathOf
  rw [abs_length]
  exact pathFuel_fuel (depth db) (depth_parentOf h) _ _ y (h.depth_lt hy) hn

theorem pathOf_row (h : FInv db) {r : CrateRow} (hr : r ∈ db.crate) :
    pathOf (absForest db) r.id =
      (match parentOf db r.id with
       | none => []
       | some p => pathOf (absForest db) p) ++ r.title ++ [semicolon] := by
  rw [pathOf_eq_fuel h (mem_ids_of_mem hr) (Nat.lt_succ_self _)]
  unfold pathFuel
  rw [abs_find_of_mem h.idsNodup hr]
  dsimp only
  cases hp : parentOf db r.id with
  | none => rfl
  | some p =>
    have hpar := (parentOf_eq_some h).mp hp
    dsimp only
    rw [pathOf_eq_fuel h (h.par_live hpar).2 (n := depth db r.id) (by rw [h.depth_par hpar]; omega)]

/-- The global form of the path clause of `Inv`. -/
def PathsOk (db : Db) : Prop := ∀ r ∈ db.crate, r.path = pathOf (absForest db) r.id

theorem pathOf_congr {db' : Db} (h : FInv db) (h' : FInv db') (S : Id → Prop)
    (hS : ∀ x p, S x → Par db x p → S p) (hfind : ∀ x, S x → (absForest db').find x = (absForest db).find x)
    {y : Id} (hy : y ∈ ids db) (hy' : y ∈ ids db') (hSy : S y) :
    pathOf (absForest db') y = pathOf (absForest db) y := by
  rw [pathOf_eq_fuel h hy (n := max (depth db y) (depth db' y) + 1) (by omega),
    pathOf_eq_fuel h' hy' (n := max (depth db y) (depth db' y) + 1) (by omega)]
  refine pathFuel_congr S (fun x p hx hp => hS x p hx ?_) hfind _ y hSy
  rw [abs_parentOf h] at hp
  exact (parentOf_eq_some h).mp hp

/-- The right side has the shape of the path clause of `Inv` (`Inv.pathStep`). -/
theorem pathOf_step (h : FInv db) {r : CrateRow} (hr : r ∈ db.crate) {p : Id} (hpm : (r.id, p) ∈ db.cpl)
    (hrec : Par db r.id p → ∀ rp ∈ db.crate, rp.id = p → rp.path = pathOf (absForest db) p) :
    pathOf (absForest db) r.id = (if p = r.id then [] else rowPath db p) ++ r.title ++ [semicolon] := by
  rw [pathOf_row h hr]
  by_cases hpe : p = r.id
  · rw [parentOf_self h (hpe ▸ hpm)]; simp [hpe]
  · have hpar : Par db r.id p := ⟨hpm, hpe⟩
    obtain ⟨rp, hrp, hrpid⟩ := exists_row (h.par_live hpar).2
    rw [(parentOf_eq_some h).mpr hpar]
    simp only [hpe, if_false]
    rw [← hrpid, rowPath_of_mem h.idsNodup hrp, hrec hpar rp hrp hrpid, hrpid]

theorem pathStep_of_pathsOk (h : FInv db) (hp : PathsOk db) : ∀ r ∈ db.crate, ∀ p, (r.id, p) ∈ db.cpl →
    r.path = (if p = r.id then [] else rowPath db p) ++ r.title ++ [semicolon] := by
  intro r hr p hpm
  rw [hp r hr, pathOf_step h hr hpm fun _ rp hrp e => e ▸ hp rp hrp]

theorem path_eq_pathOf (h : Inv db) : PathsOk db := by
  have hf := h.toFInv
  intro r
  suffices hs : ∀ y, ∀ r ∈ db.crate, r.id = y → r.path = pathOf (absForest db) y from fun hr => hs r.id r hr rfl
  apply hf.par_induction (P := fun y => ∀ r ∈ db.crate, r.id = y → r.path = pathOf (absForest db) y)
  intro y ih r hr hid
  subst hid
  obtain ⟨p, hpm⟩ := hf.live_has_row (mem_ids_of_mem hr)
  rw [h.pathStep r hr p hpm, pathOf_step hf hr hpm fun hpar => ih p hpar]

theorem tgtPath_eq_pathOf (h : FInv db) {c : Id} (hc : c ∈ ids db) {base : Name} (hb : base = pathOf (absForest db) c) :
    ∀ y, Sub db c y → tgtPath db c base y = pathOf (absForest db) y := by
  apply h.par_induction (P := fun y => Sub db c y → tgtPath db c base y = pathOf (absForest db) y)
  intro y ih hs
  by_cases hyc : y = c
  · rw [hyc, tgtPath_top base hc, hb]
  · have hcy : (c, y) ∈ db.ch := hs.resolve_left hyc
    obtain ⟨p, hp, _⟩ := (h.chStep c y).mp hcy
    obtain ⟨r, hr, hrid⟩ := exists_row (h.par_live hp).1
    rw [tgtPath_step h c base hp hyc hr hrid, ih p hp (h.sub_par hs hyc hp), ← hrid, pathOf_row h hr, hrid,
      (parentOf_eq_some h).mpr hp]

theorem pathsOk_repath (h : FInv db) {c : Id} (hc : c ∈ ids db) {base : Name} (hb : base = pathOf (absForest db) c)
    (hout : ∀ r ∈ db.crate, ¬ Sub db c r.id → r.path = pathOf (absForest db) r.id) :
    PathsOk { db with crate := setPaths (subB db c) (tgtPath db c base) db.crate } := by
  intro r' hr'
  rw [abs_setPaths]
  obtain ⟨r, hr, rfl⟩ := List.mem_map.mp hr'
  by_cases hs : Sub db c r.id
  · rw [if_pos ((subB_iff _ _ _).mpr hs)]
    exact tgtPath_eq_pathOf h hc hb r.id hs
  · rw [if_neg (fun hb => hs ((subB_iff _ _ _).mp hb))]
    exact hout r hr hs

theorem Inv.of_pathsOk (hF : FInv db) (hn : ∀ r ∈ db.crate, Forest.validName r.title = true) (hp : PathsOk db)
    (h1 : db.ctl.Nodup) (h2 : ∀ r ∈ db.ctl, r.1 ∈ ids db ∧ liveTrack db r.2) (h3 : (db.track.map (·.id)).Nodup) : Inv db :=
  ⟨hF, hn, pathStep_of_pathsOk hF hp, h1, h2, h3⟩

theorem abs_find_eq {db' : Db} (h : (ids db).Nodup) (h' : (ids db').Nodup) {x : Id}
    (hrow : ∀ r ∈ db.crate, r.id = x → ∃ r' ∈ db'.crate, r'.id = x ∧ r'.title = r.title)
    (hdead : x ∉ ids db → x ∉ ids db') (hpar : parentOf db' x = parentOf db x) :
    (absForest db').find x = (absForest db).find x := by
  by_cases hx : x ∈ ids db
  · obtain ⟨r, hr, rfl⟩ := exists_row hx
    obtain ⟨r', hr', hid, ht⟩ := hrow r hr rfl
    rw [abs_find_of_mem h hr, ← hid, abs_find_of_mem h' hr', hid, ht, hpar]
  · rw [abs_find_none hx, abs_find_none (hdead hx)]

end EngineModel.Api.CratesV1
