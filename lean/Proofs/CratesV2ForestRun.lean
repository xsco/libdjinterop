/-
Schema 2.x crates refine Spec.Forest, history level: the invariant `PlInv`
(well-formed forest, ids within the AUTOINCREMENT counter) holds after every
history, the Spec judge never objects, and whatever the Spec rejects the Model
rejects without effect.
-/
import Proofs.CratesV2Forest
import Proofs.Machine

namespace EngineModel.Db.V2

open EngineModel.Db.Chain EngineModel.Spec EngineModel.Spec.Forest EngineModel.ListAux

structure PlInv (d : Db) : Prop where
  wf : Forest.Wf (absF d)
  seq : ∀ i ∈ ids d.pl, i ≤ d.plSeq
  seq0 : 0 ≤ d.plSeq

theorem plInv_empty : PlInv Db.empty := by
  refine ⟨?_, by simp [Db.empty, ids], by simp [Db.empty]⟩
  exact Forest.wf_empty

theorem forestOp_isCreate {op : Op} {fop : Forest.Op} (h : forestOp op = some fop) : fop.isCreate = isCreate op := by
  cases op <;> simp [forestOp] at h <;> subst h <;> rfl

theorem fresh_next {d : Db} (hI : PlInv d) : d.plSeq + 1 ∉ (absF d).ids ∧ 0 < d.plSeq + 1 := by
  refine ⟨?_, by have := hI.seq0; omega⟩
  rw [absF_ids]
  intro h
  have := hI.seq _ h
  omega

/-- The two ways the weakened verdict is met: the Spec accepts and the call returned; the Spec does not accept (or
`after` is no sibling-to-be, where nothing is prescribed) and the call threw. -/
theorem verdictF_next_ok {f f' : Forest.Forest} {op : Op} {fop : Forest.Op} {n : Int}
    (h : Forest.step f fop n = .accept f') : (verdictF f op fop n).next f true = some f' := by
  unfold verdictF
  rw [h]
  split <;> rfl

theorem verdictF_next_throw {f : Forest.Forest} {op : Op} {fop : Forest.Op} {n : Int}
    (h : (∀ f', Forest.step f fop n ≠ .accept f') ∨ afterOk f op = false) : (verdictF f op fop n).next f false = some f := by
  unfold verdictF
  rcases h with h | h
  · cases hs : Forest.step f fop n with
    | accept f' => exact absurd hs (h _)
    | _ => split <;> rfl
  · rw [h]
    cases Forest.step f fop n <;> rfl

theorem judgeF_of_fstep {d : Db} (hI : PlInv d) {op : Op} (h : FStep d op) :
    judgeF (absF d) op (step d op).2 = some (absF (step d op).1) := by
  unfold judgeF
  cases h with
  | throws e h hv =>
    rw [h]
    cases hf : forestOp op with
    | none => rfl
    | some fop => exact verdictF_next_throw ((hv fop hf).imp_left fun h => h _)
  | okF out fop h2 hf hacc hnew hseq =>
    rw [h2, hf]
    have hcheck : (isCreate op && !(Forest.freshId (absF d) (newIdOf (.ok out)) && decide (0 < newIdOf (.ok out)))) = false := by
      cases hc : isCreate op with
      | false => rfl
      | true =>
        rw [hnew hc]
        obtain ⟨h1, h2⟩ := fresh_next hI
        simp [newIdOf, Forest.freshId, Forest.live_false_iff.mpr h1, h2]
    simp only [outcome, Bool.true_and, hcheck, Bool.false_eq_true, if_false]
    exact verdictF_next_ok hacc
  | okN out h2 hf hpl hseq => rw [h2, hf, absF_congr hpl]

/-- A step adds at most the next AUTOINCREMENT id (and then the counter stands at it); the counter never goes back. -/
theorem FStep.ids {d : Db} {op : Op} (h : FStep d op) :
    d.plSeq ≤ (step d op).1.plSeq ∧
      ∀ x ∈ ids (step d op).1.pl, x ∈ ids d.pl ∨ (x = d.plSeq + 1 ∧ (step d op).1.plSeq = d.plSeq + 1) := by
  cases h with
  | throws e h _ => rw [h]; exact ⟨Int.le_refl _, fun x hx => .inl hx⟩
  | okF out fop h2 hf hacc hnew hseq =>
    refine ⟨by rw [hseq]; split <;> omega, fun x hx => ?_⟩
    rw [← absF_ids] at hx
    rcases Forest.step_accept_ids fop _ hacc x hx with h1 | ⟨h1, h2⟩
    · exact .inl (absF_ids d ▸ h1)
    · rw [forestOp_isCreate hf] at h1
      rw [hseq, h1, h2, hnew h1]
      exact .inr ⟨rfl, rfl⟩
  | okN out h2 hf hpl hseq => rw [hpl, hseq]; exact ⟨Int.le_refl _, fun x hx => .inl hx⟩

theorem plInv_of_fstep {d : Db} (hI : PlInv d) {op : Op} (h : FStep d op) : PlInv (step d op).1 := by
  obtain ⟨hle, hids⟩ := h.ids
  refine ⟨?_, fun i hi => ?_, by have := hI.seq0; omega⟩
  · cases h with
    | throws e h hv => rw [h]; exact hI.wf
    | okF out fop h2 hf hacc hnew hseq =>
      refine Forest.step_accept_wf hI.wf fop _ (fun hc => ?_) hacc
      rw [forestOp_isCreate hf] at hc
      rw [hnew hc]
      exact fresh_next hI
    | okN out h2 hf hpl hseq => rw [absF_congr hpl]; exact hI.wf
  · rcases hids i hi with h1 | ⟨h1, h2⟩
    · have := hI.seq i h1; omega
    · omega

theorem plInv_step {d : Db} (hI : PlInv d) (op : Op) : PlInv (step d op).1 :=
  plInv_of_fstep hI (fstep hI.wf op)

theorem isRun : Machine.IsRun step run := ⟨fun _ => rfl, fun _ _ _ => rfl⟩

theorem run_inv {P : Db → Prop} (hP : ∀ d op, P d → P (step d op).1) {d : Db} (h : P d) (ops : List Op) :
    P (run d ops) :=
  isRun.inv hP ops d h

theorem plInv_run {d : Db} (hI : PlInv d) (ops : List Op) : PlInv (run d ops) :=
  run_inv (P := PlInv) (fun _ op h => plInv_step h op) hI ops

/-- The Spec judge, driven by the Model's answers, never objects, and tracks exactly the abstraction of the Model state. -/
theorem specRunF_eq {d : Db} (hI : PlInv d) (ops : List Op) : specRunF d (absF d) ops = some (absF (run d ops)) := by
  induction ops generalizing d with
  | nil => rfl
  | cons op ops ih =>
    simp only [specRunF, run]
    rw [judgeF_of_fstep hI (fstep hI.wf op)]
    exact ih (plInv_step hI op)

/-- Whatever the Spec rejects, the Model rejects, leaving the whole state unchanged. -/
theorem rejected_without_effect {d : Db} (hI : PlInv d) {op : Op} {fop : Forest.Op} (hf : forestOp op = some fop)
    (hrej : ∀ n f', Forest.step (absF d) fop n ≠ .accept f') : ∃ e, step d op = (d, .throw e) := by
  cases fstep hI.wf op with
  | throws e h _ => exact ⟨e, h⟩
  | okF out fop' h2 hf' hacc _ _ =>
    rw [hf] at hf'
    simp only [Option.some.injEq] at hf'
    subst hf'
    exact absurd hacc (hrej _ _)
  | okN out h2 hf' _ _ => rw [hf] at hf'; simp at hf'

theorem ids_step {d : Db} (hI : PlInv d) (op : Op) :
    d.plSeq ≤ (step d op).1.plSeq ∧ ∀ x ∈ ids (step d op).1.pl, x ∈ ids d.pl ∨ x = d.plSeq + 1 :=
  ⟨(fstep hI.wf op).ids.1, fun x hx => ((fstep hI.wf op).ids.2 x hx).imp_right (·.1)⟩

/-- An id that has been handed out and is no longer in the table never comes back. -/
theorem never_returns {d : Db} (hI : PlInv d) {i : Int} (hle : i ≤ d.plSeq) (hni : i ∉ ids d.pl) (ops : List Op) :
    i ∉ ids (run d ops).pl := by
  refine (run_inv (P := fun d => PlInv d ∧ i ≤ d.plSeq ∧ i ∉ ids d.pl) ?_ ⟨hI, hle, hni⟩ ops).2.2
  intro d op ⟨hI, hle, hni⟩
  obtain ⟨h1, h2⟩ := ids_step hI op
  exact ⟨plInv_step hI op, by omega, fun hx => (h2 i hx).elim hni (by omega)⟩

theorem absF_removeCrate {d : Db} (hI : PlInv d) {c : Int} (hl : (absF d).live c = true) :
    absF (step d (.removeCrate c)).1 = Forest.removeSubtree (absF d) c := by
  have hacc : ∀ i, Forest.step (absF d) (.remove c) i = .accept (Forest.removeSubtree (absF d) c) := fun i =>
    Forest.step_accept_iff.mpr ⟨by simp [Forest.accepts, Forest.pre, Forest.clash, hl], by simp [Forest.target, hl]⟩
  cases fstep hI.wf (.removeCrate c) with
  | throws e hs hv =>
    rcases hv (.remove c) rfl with h | h
    · exact absurd (hacc 0) (h 0 _)
    · simp [afterOk] at h
  | okF out fop h2 hf hacc' _ _ =>
    cases hf
    rw [hacc] at hacc'
    injection hacc' with e
    exact e.symm
  | okN _ _ hf _ _ => simp [forestOp] at hf

theorem removeCrate_gone {d : Db} (hI : PlInv d) {c : Int} (hl : (absF d).live c = true) {x : Int}
    (hx : x = c ∨ x ∈ descSet d c) : x ∉ ids (step d (.removeCrate c)).1.pl := by
  rw [← absF_ids, absF_removeCrate hI hl, Forest.mem_ids]
  rintro ⟨y, hy, rfl⟩
  obtain ⟨_, h2, h3⟩ := Forest.mem_removeSubtree.mp hy
  rcases hx with e | hx
  · exact h2 e
  · rw [(mem_descSet.mp hx).2] at h3; cases h3

theorem plSeq_mono_run {d : Db} (hI : PlInv d) (ops : List Op) : d.plSeq ≤ (run d ops).plSeq := by
  refine (run_inv (P := fun d' => PlInv d' ∧ d.plSeq ≤ d'.plSeq) ?_ ⟨hI, Int.le_refl _⟩ ops).2
  intro d' op ⟨hI', hle⟩
  exact ⟨plInv_step hI' op, Int.le_trans hle (ids_step hI' op).1⟩

theorem run_append (d : Db) (a b : List Op) : run d (a ++ b) = run (run d a) b :=
  isRun.append a b d

end EngineModel.Db.V2
