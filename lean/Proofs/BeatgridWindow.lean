/-
`trim = window`: the trimming done by `normalize_beatgrid` (two `find_if` /
`erase` pairs with iterator arithmetic) keeps exactly the Spec's window — for
every arithmetic whose comparisons satisfy `OrdLaws` (four implications that
hold of IEEE-754 `<`/`<=` even with NaN, and of any linear order).
-/
import Proofs.BeatgridNum

namespace EngineModel.Pure.Beatgrid
open EngineModel

variable {α : Type}

/-- The order facts used.  Each is an implication between *true* comparisons, so NaN (for which
every comparison is false) cannot violate any of them. -/
structure OrdLaws (num : Num α) : Prop where
  lt_asymm : ∀ a b, num.lt a b = true → num.lt b a = false
  lt_trans : ∀ a b c, num.lt a b = true → num.lt b c = true → num.lt a c = true
  lt_of_lt_of_le : ∀ a b c, num.lt a b = true → num.le b c = true → num.lt a c = true
  le_of_le_of_lt : ∀ a b c, num.le a b = true → num.lt b c = true → num.le a c = true

def SortedBy (num : Num α) (g : List (Marker α)) : Prop :=
  g.Pairwise (fun a b => a.index < b.index ∧ num.lt a.off b.off = true)

section
variable {num : Num α}

theorem OrdLaws.lt_irrefl (L : OrdLaws num) (a : α) : num.lt a a = false := by
  cases h : num.lt a a
  · rfl
  · have := L.lt_asymm a a h
    rw [h] at this
    cases this

theorem all_pos_of_head (L : OrdLaws num) {y : Marker α} {t : List (Marker α)}
    (hs : SortedBy num (y :: t)) (hy : num.lt (num.ofInt 0) y.off = true) :
    ∀ x ∈ y :: t, num.lt (num.ofInt 0) x.off = true := by
  intro x hx
  rcases List.mem_cons.mp hx with rfl | hx
  · exact hy
  · exact L.lt_trans _ _ _ hy ((List.pairwise_cons.mp hs).1 x hx).2

theorem tail_pos (L : OrdLaws num) {B : List (Marker α)} (hs : SortedBy num B)
    (hpos : ∀ x y r, B = x :: y :: r →
      num.lt (num.ofInt 0) x.off = true ∨ num.lt (num.ofInt 0) y.off = true) :
    ∀ x ∈ B.tail, num.lt (num.ofInt 0) x.off = true := by
  rcases B with _ | ⟨x, _ | ⟨y, r⟩⟩
  · nofun
  · nofun
  · have hxy := ((List.pairwise_cons.mp hs).1 y (List.mem_cons_self ..)).2
    exact all_pos_of_head L (List.pairwise_cons.mp hs).2
      ((hpos x y r rfl).elim (fun hx => L.lt_trans _ _ _ hx hxy) id)

/-- Core of the characterisation: a decomposition `g = A ++ B ++ C` with the facts the two
`find_if`s establish (`trim_spec`) makes `B` the window. -/
theorem window_of_facts (L : OrdLaws num) {A B C : List (Marker α)} {n : Int}
    (hs : SortedBy num (A ++ B ++ C))
    (hn : num.lt (num.ofInt 0) (num.ofInt n) = true)
    (hbefore : ∀ x ∈ (A ++ B).dropLast, num.le (num.ofInt n) x.off = false)
    (hend : C = [] ∨ ∃ l, (A ++ B).getLast? = some l ∧ num.le (num.ofInt n) l.off = true)
    (hfront : A = [] ∨ ∃ h, B.head? = some h ∧ num.lt (num.ofInt 0) h.off = false)
    (hpos : ∀ x y r, B = x :: y :: r →
      num.lt (num.ofInt 0) x.off = true ∨ num.lt (num.ofInt 0) y.off = true) :
    window num (A ++ B ++ C) n = B := by
  have hs' := hs
  unfold SortedBy at hs'
  rw [List.pairwise_append] at hs'
  obtain ⟨hsAB, hsC, hABC⟩ := hs'
  have hsAB' := hsAB
  rw [List.pairwise_append] at hsAB'
  obtain ⟨hsA, hsB, hAB⟩ := hsAB'
  have hpos' := tail_pos L hsB hpos
  have hCpos : ∀ x ∈ C, num.lt (num.ofInt 0) x.off = true := by
    intro x hx
    rcases hend with rfl | ⟨l, hl, hle⟩
    · cases hx
    · exact L.lt_trans _ _ _ (L.lt_of_lt_of_le _ _ _ hn hle)
        (hABC l (List.mem_of_getLast? hl) x hx).2
  have hB : ∀ m ∈ B, inWindow num (A ++ B ++ C) n m = true := by
    intro m hm
    unfold inWindow
    rw [Bool.and_eq_true, List.all_eq_true, List.all_eq_true]
    constructor
    · intro x hx
      rw [List.append_assoc] at hx
      rcases List.mem_append.mp hx with hxA | hxBC
      · rw [L.lt_asymm _ _ (hAB x hxA m hm).2]; rfl
      · rcases List.mem_append.mp hxBC with hxB | hxC
        · cases B with
          | nil => cases hm
          | cons h t =>
            rcases List.mem_cons.mp hxB with rfl | hxt
            · rcases List.mem_cons.mp hm with rfl | hmt
              · rw [L.lt_irrefl]; rfl
              · rw [L.lt_asymm _ _ ((List.pairwise_cons.mp hsB).1 m hmt).2]; rfl
            · rw [hpos' x hxt]; exact Bool.or_true _
        · rw [hCpos x hxC]; exact Bool.or_true _
    · intro x hx
      rcases List.mem_append.mp hx with hxAB | hxC
      · obtain ⟨d, z, hdz, hxd⟩ := mem_dropLast_or_last hxAB
        rcases hxd with hxd | rfl
        · rw [hbefore x (by rw [hdz, List.dropLast_concat]; exact hxd)]; exact Bool.or_true _
        · -- `x` is the last marker of `A ++ B`; `m` is not after it
          have hmAB : m ∈ A ++ B := List.mem_append_right _ hm
          rw [hdz] at hmAB hsAB
          rcases List.mem_append.mp hmAB with hmd | hmz
          · have := ((List.pairwise_append.mp hsAB).2.2 m hmd x (List.mem_singleton_self _)).2
            rw [L.lt_asymm _ _ this]; rfl
          · cases List.mem_singleton.mp hmz
            rw [L.lt_irrefl]; rfl
      · have := (hABC m (List.mem_append_right _ hm) x hxC).2
        rw [L.lt_asymm _ _ this]; rfl
  have hA : ∀ m ∈ A, ¬ inWindow num (A ++ B ++ C) n m = true := by
    intro m hm
    rcases hfront with rfl | ⟨h, hh, hh0⟩
    · cases hm
    · obtain ⟨t, rfl⟩ := List.head?_eq_some_iff.mp hh
      unfold inWindow
      rw [Bool.and_eq_true]
      intro hand
      -- the head `h` of `B` is a later marker still at or before sample 0
      have hf : ((A ++ h :: t ++ C).all
          (fun x => !num.lt m.off x.off || num.lt (num.ofInt 0) x.off)) = false := by
        rw [List.all_eq_false]
        refine ⟨h, List.mem_append_left _ (List.mem_append_right _ (List.mem_cons_self ..)), ?_⟩
        rw [(hAB m hm h (List.mem_cons_self ..)).2, hh0]
        exact Bool.false_ne_true
      rw [hf] at hand
      cases hand.1
  have hC : ∀ m ∈ C, ¬ inWindow num (A ++ B ++ C) n m = true := by
    intro m hm
    rcases hend with rfl | ⟨l, hl', hle⟩
    · cases hm
    · have hl : l ∈ A ++ B := List.mem_of_getLast? hl'
      unfold inWindow
      rw [Bool.and_eq_true]
      intro hand
      -- the last marker `l` of `A ++ B` is an earlier marker already at or beyond the end
      have hf : ((A ++ B ++ C).all
          (fun x => !num.lt x.off m.off || !num.le (num.ofInt n) x.off)) = false := by
        rw [List.all_eq_false]
        refine ⟨l, List.mem_append_left _ hl, ?_⟩
        rw [(hABC l hl m hm).2, hle]
        exact Bool.false_ne_true
      rw [hf] at hand
      cases hand.2
  unfold window
  rw [List.filter_append, List.filter_append, List.filter_eq_nil_iff.mpr hA,
    List.filter_eq_nil_iff.mpr hC, List.filter_eq_self.mpr hB, List.nil_append, List.append_nil]

theorem trim_eq_window (L : OrdLaws num) {g : List (Marker α)} {n : Int}
    (hs : SortedBy num g) (hn : num.lt (num.ofInt 0) (num.ofInt n) = true) :
    trim num g n = window num g n := by
  obtain ⟨A, C, hg, hbefore, hend, hfront, hpos⟩ := trim_spec num g n
  generalize trim num g n = B at hg hbefore hend hfront hpos
  subst hg
  exact (window_of_facts L hs hn hbefore hend hfront hpos).symm

end

end EngineModel.Pure.Beatgrid
