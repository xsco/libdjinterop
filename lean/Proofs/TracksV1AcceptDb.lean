/-
C06 1.x, acceptance side, the database level: `accepts d id f v` decides whether `dbSet` returns normally
(`accepts_iff`), and `DbClean` is kept by every setter call (`AllRows.dbSet` at `Clean`).  No call is undefined
(`dbSet_defined`), so the history that propagates `ub` is the history that skips failures (`dbRunStrict_eq`); and the
abstraction to the Spec state (`absDb`) commutes with a run (`dbRun_abs`).
-/
import Proofs.TracksV1AcceptSet

namespace EngineModel.TracksV1

open Impl.V1 (GMarker HotCue LoopV Entry Wave Beat Cues Loops)
open Fl (FOps)


theorem dbClean_inv (d : Db) (h : DbClean d) : DbInv d := by
  intro id r hr
  have := h id r hr
  unfold Clean at this
  rw [Bool.and_eq_true] at this
  exact this.1

theorem accepts_iff (o : FOps) (d : Db) (hc : DbClean d) (hl : FloatLaw o) (id : Int) (f : Field) (v : f.ty) :
    accepts d id f v = true ↔ ∃ d', dbSet o d id f v = .ok d' := by
  unfold accepts
  cases hr : d.rows id with
  | none =>
    simp only [Bool.false_eq_true, false_iff]
    intro ⟨d', h⟩
    obtain ⟨e, he⟩ := dbSet_absent o d id f v hr
    rw [he] at h; cases h
  | some r =>
    simp only
    have hcr := (clean_iff r).mp (hc id r hr)
    have hrow := acceptsRow_iff o r hcr hl f v
    rw [dbSet_some o d id f v r hr, Bool.and_eq_true]
    cases hcf : pathConflict d id f v with
    | true => simp
    | false =>
      simp only [Bool.not_false, and_true, Bool.false_eq_true, if_false]
      rw [hrow]
      constructor
      · intro ⟨r', hs⟩; rw [hs]; exact ⟨_, rfl⟩
      · intro ⟨d', h⟩
        cases hs : set o r f v with
        | ok r' => exact ⟨r', rfl⟩
        | throw e => rw [hs] at h; cases h
        | ub u => rw [hs] at h; cases h

theorem set_clean (o : FOps) (r r' : TrackRows) (f : Field) (v : f.ty) (hc : Clean r = true)
    (h : set o r f v = .ok r') : Clean r' = true :=
  (clean_iff _).mpr (set_cleanP o r r' f v ((clean_iff r).mp hc) h)

theorem dbSet_clean (o : FOps) (d d' : Db) (id : Int) (f : Field) (v : f.ty) (hc : DbClean d)
    (h : dbSet o d id f v = .ok d') : DbClean d' :=
  AllRows.dbSet (fun r r' => set_clean o r r' f v) hc h

theorem dbRunStrict_eq (o : FOps) (hc : CeilInRange o) (h : List SetOp) (d : Db) :
    dbRunStrict o d h = .ok (dbRun o d h) := by
  induction h generalizing d with
  | nil => rfl
  | cons op t ih =>
    unfold dbRunStrict dbRun dbStep
    cases hs : dbSet o d op.id op.f op.v with
    | ok d' => simp only [ih d']; rfl
    | throw e => simp only [ih d]; rfl
    | ub u => exact absurd hs (dbSet_defined o hc d op.id op.f op.v u)

theorem dbRun_append (o : FOps) (h1 h2 : List SetOp) (d : Db) :
    dbRun o d (h1 ++ h2) = ((dbRun o (dbRun o d h1).1 h2).1, (dbRun o d h1).2 ++ (dbRun o (dbRun o d h1).1 h2).2) := by
  induction h1 generalizing d with
  | nil => rfl
  | cons op t ih =>
    simp only [List.cons_append, dbRun]
    rw [ih]

theorem dbRun_clean (o : FOps) (h : List SetOp) (d : Db) (hc : DbClean d) : DbClean (dbRun o d h).1 :=
  AllRows.dbRun (set_clean o) h hc

/-- What the Spec sees of one track: its snapshot and whether it has a PerformanceData row. -/
def absTrack (o : FOps) (s : Schema) (r : TrackRows) : Spec.TrackSt := ⟨snapOf o s r, r.perf.isSome⟩

def absDb (o : FOps) (d : Db) : Spec.Lib := ⟨d.schema, d.tracks.map fun e => (e.1, absTrack o d.schema e.2)⟩

theorem absDb_find (o : FOps) (d : Db) (id : Int) :
    (absDb o d).find id = (d.rows id).map (absTrack o d.schema) :=
  aget_map _ _ _

theorem pathHeld_abs (o : FOps) (d : Db) (id : Int) (p : Bytes) : Spec.pathHeld (absDb o d) id p = pathTaken d id p := by
  unfold Spec.pathHeld pathTaken absDb
  simp only [List.any_map]
  rfl

theorem pathClash_abs (o : FOps) (d : Db) (id : Int) (f : Field) (v : f.ty) :
    Spec.pathClash (absDb o d) id f v = pathConflict d id f v := by
  cases f <;> first | rfl | exact pathHeld_abs o d id v

theorem callAccepted_abs (o : FOps) (d : Db) (op : SetOp) :
    Spec.callAccepted (absDb o d) op = accepts d op.id op.f op.v := by
  unfold Spec.callAccepted accepts
  rw [absDb_find]
  cases d.rows op.id with
  | none => rfl
  | some r =>
    simp only [Option.map_some, acceptsRow, absTrack, pathClash_abs]

theorem dbSet_abs (o : FOps) (d d' : Db) (op : SetOp) (hinv : DbInv d) (hfin : Spec.finiteArg op.f op.v = true)
    (h : dbSet o d op.id op.f op.v = .ok d') (hacc : Spec.callAccepted (absDb o d) op = true) :
    absDb o d' = Spec.stepCall (absDb o d) op := by
  obtain ⟨r, r', hr, hs, hd'⟩ := dbSet_ok o d d' op.id op.f op.v h
  subst hd'
  unfold Spec.stepCall
  rw [if_pos hacc, absDb_find, hr]
  simp only [Option.map_some]
  obtain ⟨w, hw, hsnap, _⟩ := set_refines o d.schema r r' op.f op.v ((inv_iff r).mp (hinv _ _ hr)) hfin hs
  unfold absDb
  simp only [map_aset]
  congr 2
  unfold absTrack
  simp only [Spec.applyOk, hw, hsnap, set_perf_isSome o r r' op.f op.v hs]

/-- **The Spec decides the history**: which calls return normally and what the library then holds. -/
theorem dbRun_abs (o : FOps) (hl : FloatLaw o) (h : List SetOp) (d : Db) (hc : DbClean d)
    (hfin : ∀ op ∈ h, Spec.finiteArg op.f op.v = true) :
    absDb o (dbRun o d h).1 = (Spec.runCalls (absDb o d) h).1 ∧
    (dbRun o d h).2 = (Spec.runCalls (absDb o d) h).2 := by
  induction h generalizing d with
  | nil => exact ⟨rfl, rfl⟩
  | cons op t ih =>
    have hfin' : ∀ op' ∈ t, Spec.finiteArg op'.f op'.v = true := fun op' h' => hfin op' (List.mem_cons_of_mem _ h')
    simp only [dbRun, Spec.runCalls]
    have hca := callAccepted_abs o d op
    cases hacc : accepts d op.id op.f op.v with
    | true =>
      obtain ⟨d', hd'⟩ := (accepts_iff o d hc hl op.id op.f op.v).mp hacc
      have hstep : dbStep o d op = (d', true) := by unfold dbStep; rw [hd']
      rw [hacc] at hca
      have habs := dbSet_abs o d d' op (dbClean_inv d hc) (hfin op (List.mem_cons_self ..)) hd' hca
      rw [hstep, hca, ← habs]
      obtain ⟨i1, i2⟩ := ih d' (dbSet_clean o d d' op.id op.f op.v hc hd') hfin'
      exact ⟨i1, by rw [i2]⟩
    | false =>
      have hstep : dbStep o d op = (d, false) := by
        unfold dbStep
        cases hs : dbSet o d op.id op.f op.v with
        | ok d' => rw [(accepts_iff o d hc hl op.id op.f op.v).mpr ⟨d', hs⟩] at hacc; cases hacc
        | throw e => rfl
        | ub u => rfl
      rw [hacc] at hca
      have hsc : Spec.stepCall (absDb o d) op = absDb o d := by
        unfold Spec.stepCall; rw [hca]; rfl
      rw [hstep, hca, hsc]
      obtain ⟨i1, i2⟩ := ih d hc hfin'
      exact ⟨i1, by rw [i2]⟩

end EngineModel.TracksV1
