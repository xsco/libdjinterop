/-
`track_table`: the per-column getter on `TDb.Wf` states (where `get` is defined),
absence of `ub` for every operation, and the queries `exists` / `all_ids` /
`find_id_by_path` (property C18).
-/
import Proofs.TableTrackWf
namespace EngineModel
namespace Table

theorem track_getc_wf {s : Schema2} {st : TStmts} (ha : alignedT s st = true) {d : TDb} (hwf : d.Wf) {i : Int}
    {raw : Raw TCol} (hfind : findRow .id d.rows i = some raw) {f : TField} (hf : f ≠ .id) :
    ∃ g, tGet st d i = .ok (some g) ∧
      (if f.present s then ∃ v, tGetc s st d f i = .ok v ∧ fromAcc f v = g f
       else tGetc s st d f i = .throw (.dj "unsupported_operation")) := by
  obtain ⟨g, hg⟩ := track_get_of_find ha hwf hfind
  exact ⟨g, hg, track_getc ha hfind hg hf⟩

theorem tInsert_no_ub (d : TDb) (l : List (TCol × Val)) (u : Ub) : (tInsert d l).2 ≠ .ub u := by
  unfold tInsert
  simp only
  split
  · simp
  · split <;> simp

theorem tAdd_no_ub (st : TStmts) (d : TDb) (r : Row TField) (u : Ub) : (tAdd st d r).2 ≠ .ub u := by
  unfold tAdd
  split
  · simp
  · cases he : evalParams r st.ins with
    | ok l => exact tInsert_no_ub d l u
    | throw e => simp
    | ub u' => exact absurd he (evalParams_no_ub u')

theorem tUpdate_no_ub (s : Schema2) (st : TStmts) (d : TDb) (r : Row TField) (u : Ub) :
    (tUpdate s st d r).2 ≠ .ub u := by
  rcases tUpdate_cases s st d r with ⟨_, e, he⟩ | ⟨i, l, _, _, _, h⟩
  · rw [he]; nofun
  · rw [h]
    cases hx : (tUpdateWhereId s d i l).2 with
    | ok n => nofun
    | throw e => nofun
    | ub u' => exact absurd hx tUpdateWhereId_no_ub

theorem tSetc_no_ub (s : Schema2) (st : TStmts) (d : TDb) (f : TField) (i : Int) (v : FVal) (u : Ub) :
    (tSetc s st d f i v).2 ≠ .ub u := by
  rcases tSetc_cases s st d f i v with ⟨e, h⟩ | ⟨_, _, _, _, _, _, _, _, h⟩ <;> rw [h] <;> nofun

theorem tRemove_no_ub (st : TStmts) (d : TDb) (i : Int) (u : Ub) : (tRemove st d i).2 ≠ .ub u := by
  unfold tRemove
  cases findRow .id d.rows i with
  | none => simp only; split <;> simp
  | some _ => simp

theorem tGet_no_ub {s : Schema2} {st : TStmts} (ha : alignedT s st = true) {d : TDb} (hwf : d.Wf) (i : Int) (u : Ub) :
    tGet st d i ≠ .ub u := by
  rcases track_get_defined ha hwf i with ⟨_, h⟩ | ⟨_, _, _, h⟩ <;> rw [h] <;> simp

theorem tGetc_no_ub {s : Schema2} {st : TStmts} (ha : alignedT s st = true) {d : TDb} (hwf : d.Wf)
    (f : TField) (i : Int) (u : Ub) : tGetc s st d f i ≠ .ub u := by
  by_cases hf : f = .id
  · -- there is no accessor pair for the id
    subst hf
    obtain ⟨_, _, _, hgetters, _⟩ := alignedT_iff.mp ha
    simp only [alignedAcc, Bool.and_eq_true, decide_eq_true_eq] at hgetters
    have : findAcc st.getters .id = none := by
      unfold findAcc
      rw [List.find?_eq_none]
      intro a hmem hc
      have : a.field ∈ st.getters.map (·.field) := List.mem_map_of_mem hmem
      rw [hgetters.1] at this
      have hne := (List.mem_filter.mp this).2
      simp only [decide_eq_true_eq] at hne
      exact hne (by simpa using hc)
    unfold tGetc; rw [this]; simp
  cases hfind : findRow .id d.rows i with
  | none =>
    obtain ⟨e, he⟩ := (track_missing_row ha hfind).1 f hf
    rw [he]; simp
  | some raw =>
    obtain ⟨g, _, hc⟩ := track_getc_wf ha hwf hfind hf
    split at hc
    · obtain ⟨v, hv, _⟩ := hc; rw [hv]; simp
    · rw [hc]; simp

theorem tExists_iff_ids (d : TDb) (i : Int) : tExists d i = true ↔ i ∈ tIds d := by
  unfold tExists tIds findRow rowIds
  rw [List.find?_isSome]
  simp only [List.mem_map, beq_iff_eq]

theorem tExists_iff_get {s : Schema2} {st : TStmts} (ha : alignedT s st = true) {d : TDb} (hwf : d.Wf) (i : Int) :
    tExists d i = true ↔ ∃ g, tGet st d i = .ok (some g) := by
  unfold tExists
  rcases track_get_defined ha hwf i with ⟨hf, hg⟩ | ⟨raw, g, hf, hg⟩
  · rw [hf, hg]; simp
  · rw [hf, hg]; simp

theorem tIds_add {s : Schema2} {st : TStmts} (ha : alignedT s st = true) {d d' : TDb} {r : Row TField} {i : Int}
    (h : tAdd st d r = (d', .ok i)) : tIds d' = tIds d ++ [i] := by
  obtain ⟨l, _, rfl, hid, rfl⟩ := tAdd_row (alignedT_iff.mp ha).1 h
  simp only [tIds, rowIds, List.map_append, List.map_cons, List.map_nil, hid]

theorem tIds_remove (st : TStmts) (d : TDb) (i : Int) :
    tIds (tRemove st d i).1 = (tIds d).filter (fun j => !(j == i)) := by
  unfold tRemove
  cases hf : findRow .id d.rows i with
  | none =>
    have hnot : i ∉ tIds d := by
      intro hmem
      have := (tExists_iff_ids d i).mpr hmem
      unfold tExists at this; rw [hf] at this; cases this
    have : (tIds d).filter (fun j => !(j == i)) = tIds d := by
      rw [List.filter_eq_self]
      intro j hj
      have : j ≠ i := fun hji => hnot (hji ▸ hj)
      simpa using this
    rw [this]
    simp only
    split <;> rfl
  | some _ =>
    simp only [tIds, rowIds, delRow, List.filter_map]
    rfl

theorem rowIds_updRow (t : Rows TCol) (i : Int) (new : Raw TCol) (hnew : rowId .id new = i) :
    rowIds .id (updRow .id t i (fun _ => new)) = rowIds .id t := by
  unfold rowIds updRow
  rw [List.map_map]
  apply List.map_congr_left
  intro r _
  simp only [Function.comp]
  split
  · rename_i hri
    rw [hnew]; exact (by simpa using hri : rowId .id r = i).symm
  · rfl

theorem tIds_updateWhereId (s : Schema2) (d : TDb) (i : Int) {l : List (TCol × Val)}
    (hidcol : TCol.id ∉ l.map (·.1)) : tIds (tUpdateWhereId s d i l).1 = tIds d := by
  -- the two exits that return `d` close by `rw`; on the third the replaced row keeps its id
  rcases tUpdateWhereId_cases s d i l with ⟨_, h⟩ | ⟨old, hold, h | h⟩ <;> rw [h]
  refine rowIds_updRow d.rows i _ ?_
  exact (rowId_afterUpdate s d hidcol old).trans (findRow_some hold).2

theorem tIds_update {s : Schema2} {st : TStmts} (ha : alignedT s st = true) (d : TDb) (r : Row TField) :
    tIds (tUpdate s st d r).1 = tIds d := by
  -- the exit that returns `d` closes by `rw`
  rcases tUpdate_cases s st d r with ⟨h, _⟩ | ⟨i, l, _, _, he, h⟩ <;> rw [h]
  exact tIds_updateWhereId s d i (id_not_written (alignedT_iff.mp ha).2.1 he)

theorem tIds_setc {s : Schema2} {st : TStmts} (ha : alignedT s st = true) (d : TDb) {f : TField} (hf : f ≠ .id)
    (i : Int) (v : FVal) : tIds (tSetc s st d f i v).1 = tIds d := by
  rcases tSetc_aligned ha hf d i v with ⟨e, he⟩ | ⟨x, _, _, _, _, hidcol, hu, _⟩
  · rw [he]
  · have := tIds_updateWhereId s d i hidcol
    rwa [hu] at this

theorem path_added {s : Schema2} {ps : List (WB TCol TField)} {r : Row TField} {l : List (TCol × Val)}
    (hins : alignedW tSpec (TField.writable s) [] ps = true) (he : evalParams r ps = .ok l)
    (uuid : Val) (base : Raw TCol) {p : Bytes} (hp : r .path = .str p) :
    applyFix uuid (assign base l) .path = .text p := by
  have hw : TField.path ∈ TField.writable s := TField.mem_writable.mpr ⟨by decide, rfl⟩
  obtain ⟨x, hx, hc⟩ := assign_evalParams hins he base hw
  rw [applyFix_other _ _ (by decide) (by decide)]
  rw [show assign base l TCol.path = x from hc]
  rw [hp] at hx
  simp only [tSpec_tyOf, TField.ty, FTy.wconv, wconv, Res.ok.injEq] at hx
  exact hx.symm

/-- **find_id_by_path after add**: the path just written finds the id just assigned. -/
theorem tFind_add {s : Schema2} {st : TStmts} (ha : alignedT s st = true) {d d' : TDb} {r : Row TField} {i : Int}
    (h : tAdd st d r = (d', .ok i)) {p : Bytes} (hp : r .path = .str p) : tFindByPath d' p = some i := by
  obtain ⟨hins, _⟩ := alignedT_iff.mp ha
  obtain ⟨l, he, rfl, hid, rfl⟩ := tAdd_row hins h
  unfold tFindByPath
  -- the appended row passes the path filter (`path_added`), so it is the last match
  simp only [List.filter_append, List.filter_cons, List.filter_nil, path_added hins he d.uuid _ hp, beq_self_eq_true,
    if_true, List.getLast?_append, List.getLast?_singleton, Option.some_or, Option.map_some, hid]

/-- **find_id_by_path is sound and complete**: it answers an id exactly when some
row holds that path, and the id it answers is the id of such a row. -/
theorem tFind_spec (d : TDb) (p : Bytes) :
    (tFindByPath d p = none ↔ ∀ raw ∈ d.rows, raw .path ≠ .text p) ∧
    (∀ i, tFindByPath d p = some i → ∃ raw ∈ d.rows, rowId .id raw = i ∧ raw .path = .text p) := by
  unfold tFindByPath
  constructor
  · rw [Option.map_eq_none_iff, List.getLast?_eq_none_iff, List.filter_eq_nil_iff]
    constructor
    · intro h raw hr hc; exact h raw hr (by simp [hc])
    · intro h raw hr hc; exact h raw hr (by simpa using hc)
  · intro i hi
    rw [Option.map_eq_some_iff] at hi
    obtain ⟨raw, hl, hid⟩ := hi
    have hm := List.mem_of_getLast? hl
    rw [List.mem_filter] at hm
    exact ⟨raw, hm.1, hid, by simpa using hm.2⟩

end Table
end EngineModel
