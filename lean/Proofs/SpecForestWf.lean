/-
The Spec of C07 (Spec/Forest.lean) keeps a well-formed forest: `Wf` (ids are a
key and positive, every parent is a live crate, the parent relation is ranked —
hence acyclic —, names are valid and unique among siblings) holds of the empty
forest and of the target of every `accept` verdict.  Nothing here mentions an
implementation.  The schema-2.x refinement (Proofs/CratesV2Bridge.lean) uses it; the 1.x
refinement proves its well-formedness clauses from its table invariant `FInv` instead
(Properties/C07V1 `C07_forest_wellformed`).
-/
import Proofs.SpecForest
import Proofs.SpecForestStep

-- The Spec's namespace is `Spec.Forest`, its structure `Forest`: a lemma about the structure is `Forest.Forest.x`, which the linter flags.
set_option linter.dupNamespace false

namespace EngineModel.Spec.Forest

open EngineModel.ListAux

namespace Forest

theorem mem_ids {f : Forest} {x : Id} : x ∈ f.ids ↔ ∃ c ∈ f.crates, c.id = x := by
  simp [ids]

theorem live_iff {f : Forest} {x : Id} : f.live x = true ↔ x ∈ f.ids := by
  simp [live]

theorem live_false_iff {f : Forest} {x : Id} : f.live x = false ↔ x ∉ f.ids := by
  rw [← live_iff]; cases f.live x <;> simp

theorem find_some {f : Forest} {x : Id} {c : Crate} (h : f.find x = some c) : c ∈ f.crates ∧ c.id = x := by
  unfold find at h
  exact ⟨List.mem_of_find?_eq_some h, by simpa using List.find?_some h⟩

theorem find_none {f : Forest} {x : Id} : f.find x = none ↔ x ∉ f.ids := by
  unfold find
  rw [List.find?_eq_none, mem_ids]
  simp only [beq_iff_eq, not_exists, not_and]

theorem find_of_mem {f : Forest} (hn : f.ids.Nodup) {c : Crate} (hc : c ∈ f.crates) : f.find c.id = some c := by
  unfold find
  apply find?_unique hc (by simp)
  intro c' hc' hp
  exact eq_of_map_eq hn hc' hc (by simpa using hp)

theorem parentOf_of_mem {f : Forest} (hn : f.ids.Nodup) {c : Crate} (hc : c ∈ f.crates) : f.parentOf c.id = c.parent := by
  simp [parentOf, find_of_mem hn hc]

theorem nameOf_of_mem {f : Forest} (hn : f.ids.Nodup) {c : Crate} (hc : c ∈ f.crates) : f.nameOf c.id = some c.name := by
  simp [nameOf, find_of_mem hn hc]

theorem parentOf_some {f : Forest} {x p : Id} (h : f.parentOf x = some p) : ∃ c ∈ f.crates, c.id = x ∧ c.parent = some p := by
  unfold parentOf at h
  cases hf : f.find x with
  | none => simp [hf] at h
  | some c =>
    obtain ⟨h1, h2⟩ := find_some hf
    exact ⟨c, h1, h2, by simpa [hf] using h⟩

theorem nameTaken_false {f : Forest} {p : Option Id} {n : Name} {e : Option Id} (h : f.nameTaken p n e = false) :
    ∀ x ∈ f.crates, x.parent = p → x.name = n → some x.id = e := by
  intro x hx h1 h2
  unfold nameTaken at h
  have := List.any_eq_false.mp h x hx
  simpa [h1, h2] using this

theorem nameTaken_true {f : Forest} {p : Option Id} {n : Name} {e : Option Id} (h : f.nameTaken p n e = true) :
    ∃ x ∈ f.crates, x.parent = p ∧ x.name = n ∧ some x.id ≠ e := by
  unfold nameTaken at h
  obtain ⟨x, hx, hp⟩ := List.any_eq_true.mp h
  simp only [Bool.and_eq_true, beq_iff_eq, bne_iff_ne, ne_eq] at hp
  exact ⟨x, hx, hp.1.1, hp.1.2, hp.2⟩

structure Wf (f : Forest) : Prop where
  ids_nodup : f.ids.Nodup
  id_pos : ∀ c ∈ f.crates, 0 < c.id
  parent_live : ∀ c ∈ f.crates, ∀ p, c.parent = some p → p ∈ f.ids
  ranked : ∃ depth : Id → Nat, ∀ c ∈ f.crates, ∀ p, c.parent = some p → depth p < depth c.id
  names_valid : ∀ c ∈ f.crates, validName c.name = true
  names_unique : ∀ c ∈ f.crates, ∀ c' ∈ f.crates, c.parent = c'.parent → c.name = c'.name → c = c'

theorem wf_empty : Wf Forest.empty := by
  constructor <;> simp [Forest.empty, ids]

theorem up_rank {f : Forest} {depth : Id → Nat}
    (hd : ∀ c ∈ f.crates, ∀ p, c.parent = some p → depth p < depth c.id) :
    ∀ (k : Nat) (x a : Id), up f k x = some a → depth a + k ≤ depth x := by
  intro k
  induction k with
  | zero =>
    intro x a h
    simp only [up, Option.some.injEq] at h
    subst h
    omega
  | succ k ih =>
    intro x a h
    simp only [up] at h
    cases hp : f.parentOf x with
    | none => simp [hp] at h
    | some p =>
      simp only [hp, Option.bind_some] at h
      obtain ⟨c, hc, e1, e2⟩ := parentOf_some hp
      have h1 := hd c hc p e2
      have h2 := ih p a h
      rw [e1] at h1
      omega

theorem Wf.acyclic {f : Forest} (h : Wf f) (x : Id) : f.isAncestor x x = false := by
  obtain ⟨depth, hd⟩ := h.ranked
  cases hx : f.isAncestor x x with
  | false => rfl
  | true =>
    obtain ⟨k, h1, h2⟩ := (isAncestor_iff f x x).mp hx
    have := up_rank hd k x x h2
    omega

theorem Wf.not_ancestor_sym {f : Forest} (h : Wf f) {a b : Id} (h1 : f.isAncestor a b = true) : f.isAncestor b a = false := by
  cases h2 : f.isAncestor b a with
  | false => rfl
  | true =>
    have := isAncestor_trans h1 h2
    rw [h.acyclic] at this
    exact absurd this (by simp)

theorem Wf.ancestor_live {f : Forest} (h : Wf f) {a x : Id} (ha : f.isAncestor a x = true) : a ∈ f.ids := by
  obtain ⟨k, h1, h2⟩ := (isAncestor_iff f a x).mp ha
  cases k with
  | zero => omega
  | succ k =>
    rw [up_succ_last] at h2
    cases hu : up f k x with
    | none => simp [hu] at h2
    | some y =>
      simp only [hu, Option.bind_some] at h2
      obtain ⟨c, hc, _, e2⟩ := parentOf_some h2
      exact h.parent_live c hc a e2

theorem descendant_live {f : Forest} {a x : Id} (ha : f.isAncestor a x = true) : x ∈ f.ids := by
  obtain ⟨p, hp, _⟩ := isAncestor_step ha
  exact live_of_parentOf hp

end Forest

open Forest

/-- In a well-formed forest an upward path is no longer than the table: a shorter path to the same crate
(`up_short`) would leave a cycle. -/
theorem up_le_length {f : Forest} (hW : Wf f) {j : Nat} {x a : Id} (h : up f j x = some a) : j ≤ f.crates.length := by
  refine Nat.le_of_not_lt fun hlt => ?_
  obtain ⟨k, hk1, hk2, hk⟩ := up_short f (Nat.lt_of_le_of_lt (Nat.zero_le _) hlt) h
  have hkj : k < j := Nat.lt_of_le_of_lt hk2 hlt
  have hadd := up_add f k (j - k) x
  rw [Nat.add_sub_cancel' (Nat.le_of_lt hkj), h, hk] at hadd
  have hanc := (isAncestor_iff f a a).mpr ⟨j - k, Nat.sub_pos_of_lt hkj, hadd.symm⟩
  rw [hW.acyclic] at hanc
  cases hanc

theorem byParentName_unique {f : Forest} (h : Wf f) (p : Option Id) (n : Name) :
    ∀ x ∈ f.byParentName p n, ∀ y ∈ f.byParentName p n, x = y := by
  intro x hx y hy
  simp only [byParentName, List.mem_map, List.mem_filter, Bool.and_eq_true, beq_iff_eq] at hx hy
  obtain ⟨a, ⟨ha, ha1, ha2⟩, rfl⟩ := hx
  obtain ⟨b, ⟨hb, hb1, hb2⟩, rfl⟩ := hy
  rw [h.names_unique a ha b hb (ha1.trans hb1.symm) (ha2.trans hb2.symm)]

theorem wf_append {f : Forest} (h : Wf f) {n : Id} {nm : Name} {p : Option Id} (hfresh : n ∉ f.ids) (hpos : 0 < n)
    (hp : ∀ q, p = some q → q ∈ f.ids) (hv : validName nm = true) (hnt : f.nameTaken p nm = false) :
    Wf ⟨f.crates ++ [⟨n, nm, p⟩]⟩ := by
  obtain ⟨depth, hd⟩ := h.ranked
  have hids : (Forest.mk (f.crates ++ [⟨n, nm, p⟩])).ids = f.ids ++ [n] := by simp [ids]
  constructor
  case ids_nodup =>
    rw [hids]
    refine List.nodup_append.mpr ⟨h.ids_nodup, by simp, ?_⟩
    intro a ha b hb
    simp only [List.mem_singleton] at hb
    subst hb
    intro e
    subst e
    exact hfresh ha
  case id_pos =>
    intro c hc
    simp only [List.mem_append, List.mem_singleton] at hc
    rcases hc with hc | rfl
    · exact h.id_pos c hc
    · exact hpos
  case parent_live =>
    intro c hc q hq
    rw [hids]
    simp only [List.mem_append, List.mem_singleton] at hc ⊢
    rcases hc with hc | rfl
    · left; exact h.parent_live c hc q hq
    · left; exact hp q hq
  case ranked =>
    -- rank of the new crate: one more than its parent's
    refine ⟨fun x => if x = n then (match p with | some q => depth q + 1 | none => 0) else depth x, ?_⟩
    intro c hc q hq
    simp only [List.mem_append, List.mem_singleton] at hc
    rcases hc with hc | rfl
    · have hqn : q ≠ n := fun e => hfresh (e ▸ h.parent_live c hc q hq)
      have hcn : c.id ≠ n := fun e => hfresh (e ▸ mem_ids.mpr ⟨c, hc, rfl⟩)
      simp only [if_neg hqn, if_neg hcn]
      exact hd c hc q hq
    · simp only at hq
      subst hq
      have hqn : q ≠ n := fun e => hfresh (e ▸ hp q rfl)
      simp [hqn]
  case names_valid =>
    intro c hc
    simp only [List.mem_append, List.mem_singleton] at hc
    rcases hc with hc | rfl
    · exact h.names_valid c hc
    · exact hv
  case names_unique =>
    intro c hc c' hc' e1 e2
    simp only [List.mem_append, List.mem_singleton] at hc hc'
    rcases hc with hc | rfl <;> rcases hc' with hc' | rfl
    · exact h.names_unique c hc c' hc' e1 e2
    · have := nameTaken_false hnt c hc e1 e2
      simp at this
    · have := nameTaken_false hnt c' hc' e1.symm e2.symm
      simp at this
    · rfl

theorem update_same {l : List Crate} {c : Id} {g : Crate → Crate} (h : ∀ x ∈ l, x.id = c → g x = x) :
    l.map (fun y => if y.id == c then g y else y) = l := by
  refine map_eq_self_iff.mpr fun x hx => ?_
  split
  · next hc => exact h x hx (beq_iff_eq.mp hc)
  · rfl

theorem mem_update {l : List Crate} {c : Id} {g : Crate → Crate} {x : Crate} :
    x ∈ l.map (fun y => if y.id == c then g y else y) ↔ ∃ y ∈ l, x = if y.id == c then g y else y :=
  List.mem_map.trans (exists_congr fun _ => and_congr_right fun _ => eq_comm)

theorem names_unique_update {f : Forest} (h : Wf f) (c : Id) (g : Crate → Crate) {p : Option Id} {n : Name}
    (hg : ∀ y ∈ f.crates, y.id = c → (g y).parent = p ∧ (g y).name = n) (hnt : f.nameTaken p n (some c) = false) :
    ∀ x ∈ f.crates.map (fun y => if y.id == c then g y else y), ∀ x' ∈ f.crates.map (fun y => if y.id == c then g y else y),
      x.parent = x'.parent → x.name = x'.name → x = x' := by
  intro x hx x' hx' e1 e2
  obtain ⟨y, hy, rfl⟩ := mem_update.mp hx
  obtain ⟨y', hy', rfl⟩ := mem_update.mp hx'
  by_cases hc : y.id = c <;> by_cases hc' : y'.id = c
  · rw [eq_of_map_eq h.ids_nodup hy hy' (hc.trans hc'.symm)]
  · -- y is the rewritten crate, y' another one with its parent and name
    simp only [beq_iff_eq, hc, hc', if_true, if_false] at e1 e2
    obtain ⟨gp, gn⟩ := hg y hy hc
    exact absurd (Option.some.inj (nameTaken_false hnt y' hy' (e1.symm.trans gp) (e2.symm.trans gn))) hc'
  · simp only [beq_iff_eq, hc, hc', if_true, if_false] at e1 e2
    obtain ⟨gp, gn⟩ := hg y' hy' hc'
    exact absurd (Option.some.inj (nameTaken_false hnt y hy (e1.trans gp) (e2.trans gn))) hc
  · simp only [beq_iff_eq, hc, hc', if_false] at e1 e2 ⊢
    exact h.names_unique y hy y' hy' e1 e2

theorem setNameOf_same {f : Forest} {c : Id} {n : Name} (h : ∀ x ∈ f.crates, x.id = c → x.name = n) :
    setNameOf f c n = f :=
  congrArg Forest.mk (update_same fun x hx hc => by rw [← h x hx hc])

theorem mem_setNameOf {f : Forest} {c : Id} {n : Name} {x : Crate} :
    x ∈ (setNameOf f c n).crates ↔ ∃ y ∈ f.crates, x = if y.id == c then { y with name := n } else y :=
  mem_update

theorem wf_rename {f : Forest} (h : Wf f) {c : Id} {n : Name} (hv : validName n = true)
    (hnt : f.nameTaken (f.parentOf c) n (some c) = false) : Wf (setNameOf f c n) := by
  obtain ⟨depth, hd⟩ := h.ranked
  have hid : ∀ y : Crate, (if y.id == c then { y with name := n } else y).id = y.id :=
    update_keeps Crate.id c fun _ => rfl
  have hpar : ∀ y : Crate, (if y.id == c then { y with name := n } else y).parent = y.parent :=
    update_keeps Crate.parent c fun _ => rfl
  constructor
  case ids_nodup => rw [ids_setNameOf]; exact h.ids_nodup
  case id_pos =>
    intro x hx
    obtain ⟨y, hy, rfl⟩ := mem_setNameOf.mp hx
    rw [hid]
    exact h.id_pos y hy
  case parent_live =>
    intro x hx p hp
    obtain ⟨y, hy, rfl⟩ := mem_setNameOf.mp hx
    rw [ids_setNameOf]
    rw [hpar] at hp
    exact h.parent_live y hy p hp
  case ranked =>
    refine ⟨depth, ?_⟩
    intro x hx p hp
    obtain ⟨y, hy, rfl⟩ := mem_setNameOf.mp hx
    rw [hid]
    rw [hpar] at hp
    exact hd y hy p hp
  case names_valid =>
    intro x hx
    obtain ⟨y, hy, rfl⟩ := mem_setNameOf.mp hx
    by_cases hc : (y.id == c) = true
    · simp [hc, hv]
    · simp [hc, h.names_valid y hy]
  case names_unique =>
    -- the renamed crate keeps its parent, `f.parentOf c`
    refine names_unique_update h c (fun y => { y with name := n }) (fun y hy hc => ⟨?_, rfl⟩) hnt
    rw [← hc]
    exact (parentOf_of_mem h.ids_nodup hy).symm

theorem setParentOf_same {f : Forest} {c : Id} {p : Option Id} (h : ∀ x ∈ f.crates, x.id = c → x.parent = p) :
    setParentOf f c p = f :=
  congrArg Forest.mk (update_same fun x hx hc => by rw [← h x hx hc])

theorem mem_setParentOf {f : Forest} {c : Id} {p : Option Id} {x : Crate} :
    x ∈ (setParentOf f c p).crates ↔ ∃ y ∈ f.crates, x = if y.id == c then { y with parent := p } else y :=
  mem_update

theorem wf_setParent {f : Forest} (h : Wf f) {c : Id} {p : Option Id} {n : Name} (hn : f.nameOf c = some n)
    (hp : ∀ q, p = some q → q ∈ f.ids ∧ q ≠ c ∧ f.isAncestor c q = false)
    (hnt : f.nameTaken p n (some c) = false) : Wf (setParentOf f c p) := by
  obtain ⟨depth, hd⟩ := h.ranked
  have hid : ∀ y : Crate, (if y.id == c then { y with parent := p } else y).id = y.id :=
    update_keeps Crate.id c fun _ => rfl
  have hname : ∀ y : Crate, (if y.id == c then { y with parent := p } else y).name = y.name :=
    update_keeps Crate.name c fun _ => rfl
  constructor
  case ids_nodup => rw [ids_setParentOf]; exact h.ids_nodup
  case id_pos =>
    intro x hx
    obtain ⟨y, hy, rfl⟩ := mem_setParentOf.mp hx
    rw [hid]
    exact h.id_pos y hy
  case parent_live =>
    intro x hx q hq
    obtain ⟨y, hy, rfl⟩ := mem_setParentOf.mp hx
    rw [ids_setParentOf]
    by_cases hc : (y.id == c) = true
    · simp only [hc, if_true] at hq; exact (hp q hq).1
    · simp only [hc] at hq; exact h.parent_live y hy q hq
  case ranked =>
    -- the ranks in the subtree of `c` are raised by `depth q0 + 1`; a crate other than `c` is in the subtree iff its parent is
    cases p with
    | none =>
      refine ⟨depth, ?_⟩
      intro x hx q hq
      obtain ⟨y, hy, rfl⟩ := mem_setParentOf.mp hx
      by_cases hc : (y.id == c) = true
      · simp [hc] at hq
      · simp only [hc] at hq ⊢; exact hd y hy q hq
    | some q0 =>
      obtain ⟨hq0live, hq0c, hq0anc⟩ := hp q0 rfl
      refine ⟨fun y => if y = c ∨ f.isAncestor c y = true then depth y + depth q0 + 1 else depth y, ?_⟩
      intro x hx q hq
      obtain ⟨y, hy, rfl⟩ := mem_setParentOf.mp hx
      rw [hid]
      by_cases hc : y.id = c
      · have hc' : (y.id == c) = true := by simpa using hc
        simp only [hc', if_true, Option.some.injEq] at hq
        subst hq
        have h1 : y.id = c ∨ f.isAncestor c y.id = true := Or.inl hc
        have h2 : ¬ (q0 = c ∨ f.isAncestor c q0 = true) := by
          intro hh; rcases hh with e | e
          · exact hq0c e
          · rw [hq0anc] at e; exact absurd e (by simp)
        simp only [if_pos h1, if_neg h2]
        omega
      · have hc' : ¬ (y.id == c) = true := by simpa using hc
        simp only [hc'] at hq
        have hpo : f.parentOf y.id = some q := by rw [parentOf_of_mem h.ids_nodup hy]; exact hq
        have hlt := hd y hy q hq
        by_cases hs : y.id = c ∨ f.isAncestor c y.id = true
        · have hanc : f.isAncestor c y.id = true := by
            rcases hs with e | e
            · exact absurd e hc
            · exact e
          obtain ⟨p', hp', hor⟩ := isAncestor_step hanc
          rw [hpo] at hp'
          simp only [Option.some.injEq] at hp'
          subst hp'
          have hsq : q = c ∨ f.isAncestor c q = true := hor
          simp only [if_pos hs, if_pos hsq]
          omega
        · have hsq : ¬ (q = c ∨ f.isAncestor c q = true) := by
            intro hh
            apply hs
            right
            rcases hh with e | e
            · rw [← e]; exact isAncestor_of_parent hpo
            · exact isAncestor_trans e (isAncestor_of_parent hpo)
          simp only [if_neg hs, if_neg hsq]
          exact hlt
  case names_valid =>
    intro x hx
    obtain ⟨y, hy, rfl⟩ := mem_setParentOf.mp hx
    rw [hname]; exact h.names_valid y hy
  case names_unique =>
    -- the moved crate keeps its name, `n`
    refine names_unique_update h c (fun y => { y with parent := p }) (fun y hy hc => ⟨rfl, ?_⟩) hnt
    have := nameOf_of_mem h.ids_nodup hy
    rw [hc, hn] at this
    exact (Option.some.inj this).symm

theorem mem_removeSubtree {f : Forest} {c : Id} {x : Crate} :
    x ∈ (removeSubtree f c).crates ↔ x ∈ f.crates ∧ x.id ≠ c ∧ f.isAncestor c x.id = false := by
  simp [removeSubtree, List.mem_filter]

theorem wf_remove {f : Forest} (h : Wf f) (c : Id) : Wf (removeSubtree f c) := by
  obtain ⟨depth, hd⟩ := h.ranked
  have hsub : (removeSubtree f c).crates.Sublist f.crates := List.filter_sublist
  constructor
  case ids_nodup => exact List.Nodup.sublist (List.Sublist.map _ hsub) h.ids_nodup
  case id_pos => intro x hx; exact h.id_pos x (mem_removeSubtree.mp hx).1
  case parent_live =>
    intro x hx p hp
    obtain ⟨hx1, hx2, hx3⟩ := mem_removeSubtree.mp hx
    obtain ⟨y, hy, e⟩ := mem_ids.mp (h.parent_live x hx1 p hp)
    have hpo : f.parentOf x.id = some p := by rw [parentOf_of_mem h.ids_nodup hx1]; exact hp
    refine mem_ids.mpr ⟨y, mem_removeSubtree.mpr ⟨hy, ?_, ?_⟩, e⟩
    · rw [e]
      intro e'
      subst e'
      rw [isAncestor_of_parent hpo] at hx3; exact absurd hx3 (by simp)
    · rw [e]
      cases ha : f.isAncestor c p with
      | false => rfl
      | true =>
        rw [isAncestor_trans ha (isAncestor_of_parent hpo)] at hx3; exact absurd hx3 (by simp)
  case ranked => exact ⟨depth, fun x hx p hp => hd x (mem_removeSubtree.mp hx).1 p hp⟩
  case names_valid => intro x hx; exact h.names_valid x (mem_removeSubtree.mp hx).1
  case names_unique =>
    intro x hx x' hx' e1 e2
    exact h.names_unique x (mem_removeSubtree.mp hx).1 x' (mem_removeSubtree.mp hx').1 e1 e2

/-- When the Spec accepts: the forest it prescribes and, of the conditions `pre` and `clash` have checked, those that
`step_accept_wf` needs: for a rename the liveness of `c` is not among them, for a re-parenting
`f.nameOf c = some nm` carries it. -/
theorem step_accept {f f' : Forest} {op : Op} {n : Id} : step f op n = .accept f' →
    match op with
    | .createRoot nm =>
      validName nm = true ∧ f.nameTaken none nm = false ∧ f' = ⟨f.crates ++ [⟨n, nm, none⟩]⟩
    | .createSub p nm =>
      p ∈ f.ids ∧ validName nm = true ∧ f.nameTaken (some p) nm = false ∧ f' = ⟨f.crates ++ [⟨n, nm, some p⟩]⟩
    | .rename c nm =>
      validName nm = true ∧ f.nameTaken (f.parentOf c) nm (some c) = false ∧ f' = setNameOf f c nm
    | .setParent c p =>
      ∃ nm, f.nameOf c = some nm ∧ (∀ q, p = some q → q ∈ f.ids ∧ q ≠ c ∧ f.isAncestor c q = false) ∧
        f.nameTaken p nm (some c) = false ∧ f' = setParentOf f c p
    | .remove c => f' = removeSubtree f c := by
  intro hs
  obtain ⟨ha, rfl⟩ := step_accept_iff.mp hs
  obtain ⟨hp, hc⟩ := accepts_iff.mp ha
  cases op with
  | createRoot nm => exact ⟨hp, hc, rfl⟩
  | createSub p nm =>
    simp only [pre, Bool.and_eq_true] at hp
    exact ⟨live_iff.mp hp.1, hp.2, hc, rfl⟩
  | rename c nm =>
    simp only [pre, Bool.and_eq_true] at hp
    exact ⟨hp.2, hc, rfl⟩
  | setParent c p =>
    simp only [pre, Bool.and_eq_true] at hp
    obtain ⟨nm, hn⟩ := nameOf_of_live hp.1
    refine ⟨nm, hn, ?_, by simpa [clash, hn] using hc, rfl⟩
    rintro q rfl
    have : ¬ q = c ∧ q ∈ f.ids ∧ f.isAncestor c q = false := by simpa [live_iff, and_assoc] using hp.2
    exact ⟨this.2.1, this.1, this.2.2⟩
  | remove c =>
    have hl : f.live c = true := by simpa [clash] using hc
    simp only [target, hl, cond_true]

theorem step_accept_ids {f f' : Forest} (op : Op) (n : Id) (hs : step f op n = .accept f') :
    ∀ x ∈ f'.ids, x ∈ f.ids ∨ (op.isCreate = true ∧ x = n) := by
  intro x hx
  rw [(step_accept_iff.mp hs).2, ids_target] at hx
  cases op with
  | createRoot _ | createSub _ _ =>
    rcases List.mem_append.mp hx with hx | hx
    · exact Or.inl hx
    · exact Or.inr ⟨rfl, List.mem_singleton.mp hx⟩
  | rename _ _ | setParent _ _ => exact Or.inl hx
  | remove c =>
    dsimp only at hx
    split at hx
    · exact Or.inl (List.mem_filter.mp hx).1
    · exact Or.inl hx

theorem step_accept_wf {f f' : Forest} (h : Wf f) (op : Op) (n : Id) (hnew : op.isCreate = true → n ∉ f.ids ∧ 0 < n)
    (hs : step f op n = .accept f') : Wf f' := by
  have ha := step_accept hs
  cases op with
  | createRoot nm =>
    obtain ⟨hv, hnt, rfl⟩ := ha
    exact wf_append h (hnew rfl).1 (hnew rfl).2 (by simp) hv hnt
  | createSub p nm =>
    obtain ⟨hl, hv, hnt, rfl⟩ := ha
    exact wf_append h (hnew rfl).1 (hnew rfl).2 (fun q hq => Option.some.inj hq ▸ hl) hv hnt
  | rename c nm =>
    obtain ⟨hv, hnt, rfl⟩ := ha
    exact wf_rename h hv hnt
  | setParent c p =>
    obtain ⟨nm, hnm, hp, hnt, rfl⟩ := ha
    exact wf_setParent h hnm hp hnt
  | remove c =>
    rw [show f' = _ from ha]
    exact wf_remove h c

end EngineModel.Spec.Forest
