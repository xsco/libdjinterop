/-
Transfer of the C02 / C03 / C05 statements about the 2.x payload codecs from the
hand model `Impl.V2.*` to the model regenerated from the C++ sources
(`Gen.ImplV2.*`), through the equalities of Proofs/ImplV2Gen.lean and ImplV2GenEnc.lean:

* `gen_*_spec`  (C02): the regenerated decoder returns exactly the verdict of the
  independent Spec decoder (`liftDec c` = the Spec's value and remainder, or
  `invalid_argument`);
* `gen_*_safe`  (C05): no byte string makes the regenerated decoder produce an
  undefined-behaviour outcome — including the signed overflow and the
  out-of-bounds cursor moves that the generated code checks explicitly.
* `gen_*_roundtrip_partial` (C03): on the *regenerated pair* — encoder and decoder both
  translated from the C++, both through the C++-style primitives of Impl/CxxPrims.lean — the
  decoder returns exactly the value and extra bytes the encoder was given;
* `gen_encode*_eq_hand_partial`: the regenerated encoder returns what the hand model
  `Impl.V2.encode*` returns (so the C04 statements on the hand model transfer).

The size hypotheses are those of the equalities (see Proofs/ImplV2Gen.lean, ImplV2GenEnc.lean).
-/
import Proofs.ImplV2Gen
import Proofs.ImplV2GenEnc
import Proofs.ImplV2Lists

namespace EngineModel.Gen.ImplV2
open Codec Cur EngineModel.V2

theorem gen_track_spec (bs : Bytes) : decodeTrack bs = liftDec track bs := by
  rw [decodeTrack_eq, Impl.V2.decodeTrack_eq]
theorem gen_grid_spec (bs : Bytes) : decodeGrid bs = liftDec grid bs := by
  rw [decodeGrid_eq, Impl.V2.decodeGrid_eq]
theorem gen_beat_spec (bs : Bytes) : decodeBeat bs = liftDec beat bs := by
  rw [decodeBeat_eq, Impl.V2.decodeBeat_eq]
theorem gen_ovw_spec_partial (bs : Bytes) (hb : bs.length < 9223372036854775808) :
    decodeOvw bs = liftDec ovw bs := by
  rw [decodeOvw_eq_partial bs hb, Impl.V2.decodeOvw_eq bs (by unfold maxCount; exact hb)]
theorem gen_cues_spec_partial (bs : Bytes) (hb : bs.length < 2305843009213693952) :
    decodeCues bs = liftDec cues bs := by
  rw [decodeCues_eq_partial bs hb, Impl.V2.decodeCues_eq]
theorem gen_loops_spec_partial (bs : Bytes) (hb : bs.length < 2305843009213693952) :
    decodeLoops bs = liftDec loops bs := by
  rw [decodeLoops_eq_partial bs hb, Impl.V2.decodeLoops_eq]

theorem gen_track_safe (bs : Bytes) (u : Ub) : decodeTrack bs ≠ .ub u := by
  rw [gen_track_spec]; exact Impl.V2.liftDec_never_ub _ _ _
theorem gen_beat_safe (bs : Bytes) (u : Ub) : decodeBeat bs ≠ .ub u := by
  rw [gen_beat_spec]; exact Impl.V2.liftDec_never_ub _ _ _
theorem gen_ovw_safe_partial (bs : Bytes) (hb : bs.length < 9223372036854775808) (u : Ub) :
    decodeOvw bs ≠ .ub u := by
  rw [gen_ovw_spec_partial bs hb]; exact Impl.V2.liftDec_never_ub _ _ _
theorem gen_cues_safe_partial (bs : Bytes) (hb : bs.length < 2305843009213693952) (u : Ub) :
    decodeCues bs ≠ .ub u := by
  rw [gen_cues_spec_partial bs hb]; exact Impl.V2.liftDec_never_ub _ _ _
theorem gen_loops_safe_partial (bs : Bytes) (hb : bs.length < 2305843009213693952) (u : Ub) :
    decodeLoops bs ≠ .ub u := by
  rw [gen_loops_spec_partial bs hb]; exact Impl.V2.liftDec_never_ub _ _ _

theorem gen_encodeTrack_eq_hand_partial (v : Track) (extra : Bytes)
    (h : (track.enc v ++ extra).length < 9223372036854775808) :
    encodeTrack v extra = Impl.V2.encodeTrack v extra := by
  rw [encodeTrack_spec_partial v extra h, Impl.V2.encodeTrack_ok]
theorem gen_encodeBeat_eq_hand_partial (v : Beat) (extra : Bytes)
    (h : (beat.enc v ++ extra).length < 9223372036854775808) :
    encodeBeat v extra = Impl.V2.encodeBeat v extra := by
  rw [encodeBeat_spec_partial v extra h, Impl.V2.encodeBeat_ok]
theorem gen_encodeOvw_eq_hand_partial (v : Ovw) (hv : v.Valid) (extra : Bytes)
    (h : (ovw.enc v ++ extra).length < 9223372036854775808) :
    encodeOvw v extra = Impl.V2.encodeOvw v extra := by
  rw [encodeOvw_spec_partial v hv extra h, Impl.V2.encodeOvw_ok v hv]
theorem gen_encodeCues_eq_hand_partial (v : Cues) (extra : Bytes)
    (h : (cues.enc v ++ extra).length < 9223372036854775808) :
    encodeCues v extra = Impl.V2.encodeCues v extra := by
  by_cases hf : Impl.V2.CuesFit v
  · rw [encodeCues_ok_partial v hf extra h, Impl.V2.encodeCues_ok v hf]
  · rw [Impl.V2.encodeCues_reject v hf]
    refine encodeCues_reject_partial v ?_ extra h
    simpa [Impl.V2.CuesFit, Nat.not_le] using hf
theorem gen_encodeLoops_eq_hand_partial (v : Loops) (extra : Bytes)
    (h : (loops.enc v ++ extra).length < 9223372036854775808) :
    encodeLoops v extra = Impl.V2.encodeLoops v extra := by
  by_cases hf : Impl.V2.LoopsFit v
  · rw [encodeLoops_ok_partial v hf extra h, Impl.V2.encodeLoops_ok v hf]
  · rw [Impl.V2.encodeLoops_reject v hf]
    refine encodeLoops_reject_partial v ?_ extra h
    simpa [Impl.V2.LoopsFit, Nat.not_le] using hf

theorem gen_track_roundtrip_partial (v : Track) (extra : Bytes)
    (h : (track.enc v ++ extra).length < 9223372036854775808) :
    ∃ b, encodeTrack v extra = .ok b ∧ decodeTrack b = .ok (v, extra) :=
  ⟨_, encodeTrack_spec_partial v extra h, gen_track_spec _ ▸ liftDec_of_dec (track_sound v trivial extra)⟩

theorem gen_beat_roundtrip_partial (v : Beat) (extra : Bytes)
    (h : (beat.enc v ++ extra).length < 9223372036854775808) :
    ∃ b, encodeBeat v extra = .ok b ∧ decodeBeat b = .ok (v, extra) := by
  refine ⟨_, encodeBeat_spec_partial v extra h, ?_⟩
  have hv : v.Valid := by
    simp only [List.length_append, Impl.V2.beat_enc_length] at h
    unfold Beat.Valid maxCount; omega
  exact gen_beat_spec _ ▸ liftDec_of_dec (beat_sound v hv extra)

theorem gen_ovw_roundtrip_partial (v : Ovw) (hv : v.Valid) (extra : Bytes)
    (h : (ovw.enc v ++ extra).length < 9223372036854775808) :
    ∃ b, encodeOvw v extra = .ok b ∧ decodeOvw b = .ok (v, extra) :=
  ⟨_, encodeOvw_spec_partial v hv extra h, gen_ovw_spec_partial _ h ▸ liftDec_of_dec (ovw_sound v hv extra)⟩

theorem gen_cues_roundtrip_partial (v : Cues) (hf : ∀ q ∈ v.cues, q.label.length ≤ 255) (extra : Bytes)
    (h : (cues.enc v ++ extra).length < 2305843009213693952) :
    ∃ b, encodeCues v extra = .ok b ∧ decodeCues b = .ok (v, extra) := by
  refine ⟨_, encodeCues_ok_partial v hf extra (by omega), ?_⟩
  have hv : v.Valid := by
    refine ⟨?_, hf⟩
    simp only [List.length_append, Impl.V2.cues_enc_length] at h
    unfold maxCount; omega
  exact gen_cues_spec_partial _ h ▸ liftDec_of_dec (cues_sound v hv extra)

theorem gen_loops_roundtrip_partial (v : Loops) (hf : ∀ l ∈ v, l.label.length ≤ 255) (extra : Bytes)
    (h : (loops.enc v ++ extra).length < 2305843009213693952) :
    ∃ b, encodeLoops v extra = .ok b ∧ decodeLoops b = .ok (v, extra) := by
  refine ⟨_, encodeLoops_ok_partial v hf extra (by omega), ?_⟩
  have hv : LoopsValid v := by
    refine ⟨?_, hf⟩
    simp only [List.length_append, Impl.V2.loops_enc_length] at h
    unfold maxCount; omega
  exact gen_loops_spec_partial _ h ▸ liftDec_of_dec (loops_sound v hv extra)

end EngineModel.Gen.ImplV2
