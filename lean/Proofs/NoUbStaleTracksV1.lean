/-
C15, schema 1.x tracks: a removed track stays absent along every continuation in which no
`create_track` reports its id again.  (The 1.x track model allocates `MAX(id) + 1`, as the schemas
before 1.17.0 do — `INTEGER PRIMARY KEY` without AUTOINCREMENT — so the id of the removed track with
the largest id IS handed out again: `Properties/C15TracksV1.v1t_C15_stale_handle_counterexample`.)
-/
import Proofs.NoUbTracksV1

namespace EngineModel.Api.C15TracksV1
open EngineModel EngineModel.TracksV1
open Fl (FOps)

def createdId : Res Out → Option Int
  | .ok (.id i) => some i
  | _ => none

/-- Does some `create_track` of the continuation `ops` (run from `d`) report the id `id`? -/
def reissuesT (o : FOps) : Db → List Op → Int → Bool
  | _, [], _ => false
  | d, op :: ops, id =>
    (match op, (step o d op).2 with
      | .create _, .ok (.id i) => decide (i = id)
      | _, _ => false) || reissuesT o (step o d op).1 ops id

/-- A row that is not there appears only by a `create` that reports its id. -/
theorem Effect.absent {o : FOps} {d : Db} {op : Op} {p : Db × Res Out} (he : Effect o d op p) {id : Int}
    (h : d.rows id = none) (hno : ∀ x, op = .create x → p.2 ≠ .ok (.id id)) : p.1.rows id = none := by
  cases he with
  | same _ r => exact h
  | created x d' i hc =>
    obtain ⟨rows, _, _, rfl, rfl⟩ := dbCreate_eq_ok hc
    exact (aget_append_other _ _ _ _ fun (e : id = nextId d) => hno x rfl (e ▸ rfl)).trans h
  | updated i x d' hu =>
    obtain ⟨prior, rows, hr, _, _, rfl⟩ := dbUpdate_eq_ok hu
    exact (aget_aset_other _ _ _ _ fun e => by rw [e, hr] at h; cases h).trans h
  | set i f v d' hs =>
    cases hr : d.rows i with
    | none => obtain ⟨e, he⟩ := dbSet_absent o d i f v hr; rw [he] at hs; cases hs
    | some r => exact (dbSet_rows_other o d d' i id f v (fun e => by rw [e, hr] at h; cases h) hs).trans h
  | removed i =>
    show aget id (d.tracks.filter fun e => e.1 ≠ i) = none
    by_cases hi : id = i
    · subst hi; exact aget_filter_ne _ _
    · rw [aget_filter_other _ _ _ hi]; exact h

theorem absent_step (o : FOps) (d : Db) (id : Int) (h : d.rows id = none) (op : Op)
    (hno : (match op, (step o d op).2 with
      | .create _, .ok (.id i) => decide (i = id)
      | _, _ => false) = false) : (step o d op).1.rows id = none := by
  refine (step_effect o d op).absent h fun x hx he => ?_
  subst hx
  simp only [he] at hno
  exact absurd hno (by simp)

theorem absent_run (o : FOps) (id : Int) (ops : List Op) (d : Db) (h : d.rows id = none)
    (hno : reissuesT o d ops id = false) : (run o d ops).rows id = none :=
  (Machine.IsRun.induction (step := step o) (run := run o) ⟨fun _ => rfl, fun _ _ _ => rfl⟩
    (P := fun d ops => d.rows id = none ∧ reissuesT o d ops id = false)
    (fun d op _ ⟨h, hno⟩ => by
      simp only [reissuesT, Bool.or_eq_false_iff] at hno
      exact ⟨absent_step o d id h op hno.1, hno.2⟩) ops d ⟨h, hno⟩).1

theorem absent_calls (o : FOps) (d : Db) (id : Int) (h : d.rows id = none) :
    (step o d (.isValid id)).2 = .ok (.bool false) ∧
    (∀ f v, ∃ e, void (step o d (.set id f v)).2 = .throw e) ∧
    void (step o d (.snapshot id)).2 = .throw (.dj "track_deleted") := by
  have hsnap : dbSnap o d id = .throw (.dj "track_deleted") := by simp only [dbSnap, h]
  have hval : dbIsValid d id = false := by simp only [dbIsValid, h]; rfl
  refine ⟨by simp only [step, hval], fun f v => ?_, by simp only [step, hsnap]; rfl⟩
  obtain ⟨e, he⟩ := dbSet_absent o d id f v h
  exact ⟨e, by simp only [step, he]; rfl⟩

end EngineModel.Api.C15TracksV1
