/-
Statement-level lemmas for the schema-1.x crate model: what the INSTEAD OF
triggers of the List-backed views (>= 1.9.1) do to the stored rows equals the
plain table statement of the older schemas, so that the rest of the proofs can
work with `filter` / `map` / `++` for every schema version; and what one firing of
trigger_after_delete_Track (>= 1.17.0) does to Track and sqlite_sequence (`triggerStep_cases`,
with the induction over the rows a DELETE removes, `triggerFold_induction`).

The proof modules of the schema-1.x crates form a chain, each importing the one before it: CratesV1Sql, Forest, Struct,
Inv, Path; on Path, side by side, SetName and SetParent → Remove; Cases (on both), Abs, Members, Query, Sim, Ids, MemSim,
WfConv, Suffix.  NoUbCratesV1 branches off after Cases.  A module may use any module before it on its branch.
Apart from this chain: CratesV1Stmts (the calls as statement programs) imports none of these modules; C15FaultsV1 (calls under a
fault plan) stands on CratesV1Stmts and NoUbCratesV1.
-/
import EngineModel.Api.CratesV1
import Proofs.ListAux
import Mathlib.Data.List.Nodup

namespace EngineModel.Api.CratesV1
open EngineModel.Pure.Detect EngineModel.ListAux

theorem nodup_snoc {α} {l : List α} {a : α} (h : l.Nodup) (ha : a ∉ l) : (l ++ [a]).Nodup :=
  List.nodup_append.mpr ⟨h, List.nodup_singleton a, fun _ hx _ hy e => ha (List.mem_singleton.mp hy ▸ e ▸ hx)⟩

theorem mem_map_fst {l : List (Id × Id)} {r : Id × Id} (hr : r ∈ l) : r.1 ∈ l.map (·.1) := List.mem_map_of_mem hr

theorem nodup_snd_of_fst {l : List (Id × Id)} (h : l.Nodup) (c : Id) : ((l.filter (·.1 == c)).map (·.2)).Nodup := by
  apply List.Nodup.map_on _ (h.filter _)
  intro x hx y hy hxy
  simp only [List.mem_filter, beq_iff_eq] at hx hy
  exact Prod.ext (hx.2.trans hy.2.symm) hxy

theorem nodup_fst_of_snd {l : List (Id × Id)} (h : l.Nodup) (c : Id) : ((l.filter (·.2 == c)).map (·.1)).Nodup := by
  apply List.Nodup.map_on _ (h.filter _)
  intro x hx y hy hxy
  simp only [List.mem_filter, beq_iff_eq] at hx hy
  exact Prod.ext hxy (hx.2.trans hy.2.symm)

theorem forEachOld_filter_ne {α} [BEq α] [LawfulBEq α] (olds t : List α) :
    forEachOld olds (fun old acc => acc.filter (fun r => !(r == old))) t
      = t.filter (fun r => !olds.contains r) := by
  unfold forEachOld
  induction olds generalizing t with
  | nil => simp
  | cons o os ih =>
    simp only [List.foldl_cons, ih, List.filter_filter]
    apply List.filter_congr
    intro r _
    simp [Bool.and_comm]

theorem find?_filter_of_imp {α} {p q : α → Bool} : ∀ {l : List α}, (∀ x ∈ l, p x = true → q x = true) →
    (l.filter q).find? p = l.find? p := by
  intro l
  induction l with
  | nil => intro _; rfl
  | cons a l ih =>
    intro h
    have ih' := ih (fun x hx => h x (List.mem_cons_of_mem a hx))
    by_cases hq : q a = true
    · rw [List.filter_cons_of_pos hq, List.find?_cons, List.find?_cons, ih']
    · have hp : p a = false := by
        cases hpa : p a with
        | false => rfl
        | true => exact absurd (h a (by simp) hpa) hq
      rw [List.filter_cons_of_neg hq, List.find?_cons, hp, ih']

theorem deletePairs_eq (s : Schema) (t : List (Id × Id)) (p : Id × Id → Bool) :
    deletePairs s t p = t.filter (fun r => !p r) := by
  unfold deletePairs
  split
  · rw [forEachOld_filter_ne]
    apply List.filter_congr
    intro r hr
    simp [List.mem_filter, hr]
  · rfl

theorem deleteCrate_eq (s : Schema) (crate : List CrateRow) (c : Id) :
    deleteCrate s crate c = crate.filter (fun r => !(r.id == c)) := by
  unfold deleteCrate
  split
  · rw [forEachOld_filter_ne]
    apply List.filter_congr
    intro r hr
    by_cases hc : r.id = c <;> simp [List.mem_filter, hr, hc]
  · rfl

def ctlVisible (s : Schema) (db : Db) (r : Id × Id) : Bool := !hasListViews s || crateExists db r.1

theorem ctlView_eq (s : Schema) (db : Db) : ctlView s db = db.ctl.filter (ctlVisible s db) := by
  unfold ctlView ctlVisible
  split <;> rename_i h
  · simp [h]
  · simp [h]

theorem deleteCtl_ctl (s : Schema) (db : Db) (p : Id × Id → Bool) :
    (deleteCtl s db p).ctl = db.ctl.filter (fun r => !(ctlVisible s db r && p r)) := by
  unfold deleteCtl
  split <;> rename_i h
  · simp only [forEachOld_filter_ne]
    apply List.filter_congr
    intro r hr
    simp [ctlView, h, ctlVisible, List.mem_filter, hr, Bool.or_comm]
  · simp [ctlVisible, h]

theorem deleteCtl_other (s : Schema) (db : Db) (p : Id × Id → Bool) :
    (deleteCtl s db p).crate = db.crate ∧ (deleteCtl s db p).cpl = db.cpl ∧ (deleteCtl s db p).ch = db.ch ∧
    (deleteCtl s db p).track = db.track ∧ (deleteCtl s db p).trackSeq = db.trackSeq := by
  unfold deleteCtl
  split <;> simp

/-- An UPDATE through the view rewrites the row with the given id, as the UPDATE on the table does:
with unique ids the trigger fires for at most one row and changes only that one. -/
theorem forEachOld_update_eq {crate : List CrateRow} (h : (crate.map (·.id)).Nodup) (c : Id) (f : CrateRow → CrateRow) :
    forEachOld (crate.filter (·.id == c)) (fun old t => t.map (fun r => if r == old then f r else r)) crate
      = crate.map (fun r => if r.id == c then f r else r) := by
  by_cases hex : ∃ r ∈ crate, r.id = c
  case neg =>
    have h0 : ∀ x ∈ crate, ¬ (x.id == c) = true := fun x hx hk => hex ⟨x, hx, beq_iff_eq.mp hk⟩
    rw [List.filter_eq_nil_iff.mpr h0]
    simp only [forEachOld, List.foldl_nil]
    symm
    conv => rhs; rw [← List.map_id crate]
    apply List.map_congr_left
    intro x hx
    have := h0 x hx
    simp_all
  case pos =>
    obtain ⟨r, hr, hrc⟩ := hex
    rw [← hrc, filter_key_eq_singleton h hr, hrc]
    simp only [forEachOld, List.foldl_cons, List.foldl_nil]
    apply List.map_congr_left
    intro x hx
    by_cases hxc : x.id = c
    · have : x = r := List.inj_on_of_nodup_map h hx hr (by rw [hxc, hrc])
      simp [this, hrc]
    · have : ¬ x = r := fun e => hxc (by rw [e, hrc])
      simp [hxc, this]

theorem updateCratePath_eq (s : Schema) {crate : List CrateRow} (h : (crate.map (·.id)).Nodup) (c : Id) (path : Name) :
    updateCratePath s crate c path = crate.map (fun r => if r.id == c then { r with path := path } else r) := by
  unfold updateCratePath
  split
  · exact forEachOld_update_eq h c _
  · rfl

theorem updateCrateTitlePath_eq (s : Schema) {crate : List CrateRow} (h : (crate.map (·.id)).Nodup) (c : Id)
    (title path : Name) :
    updateCrateTitlePath s crate c title path
      = crate.map (fun r => if r.id == c then { r with title := title, path := path } else r) := by
  unfold updateCrateTitlePath
  split
  · exact forEachOld_update_eq h c _
  · rfl

theorem le_foldl_max (l : List Int) (init : Int) : init ≤ l.foldl max init ∧ ∀ x ∈ l, x ≤ l.foldl max init := by
  induction l generalizing init with
  | nil => simp
  | cons a l ih =>
    simp only [List.foldl_cons, List.mem_cons]
    have := ih (max init a)
    refine ⟨by omega, ?_⟩
    intro x hx
    rcases hx with rfl | hx
    · omega
    · exact this.2 x hx

theorem le_maxId {l : List Int} {x : Int} (h : x ∈ l) : x ≤ maxId l := (le_foldl_max l 0).2 x h

theorem idRowid_eq (l : List Id) : idRowid l = maxId l + 1 := by
  unfold idRowid
  cases l <;> simp [maxId]

theorem newCrateId_eq (s : Schema) (db : Db) : newCrateId s db = maxId (db.crate.map (·.id)) + 1 := by
  unfold newCrateId
  split
  · rfl
  · exact idRowid_eq _

theorem newCrateId_fresh (s : Schema) (db : Db) : newCrateId s db ∉ db.crate.map (·.id) := by
  intro h
  have h1 : newCrateId s db ≤ maxId (db.crate.map (·.id)) := le_maxId h
  rw [newCrateId_eq] at h1
  have : ∀ m : Int, ¬ (m + 1 ≤ m) := by intro m; omega
  exact this _ h1

/-- trigger_after_delete_Track, for one deleted row. -/
def triggerStep (acc : Db) (old : TrackRow) : Db :=
  if old.id > maxId (acc.track.map (·.id)) then
    let tr2 := acc.track.filter (·.hasPath)
    let id := max acc.trackSeq (maxId (tr2.map (·.id))) + 1
    { acc with track := tr2 ++ [⟨id, false⟩], trackSeq := id }
  else acc

theorem removeTrack_unfold (s : Schema) (db0 : Db) (t : Id) :
    removeTrack s db0 t =
      if trackAutoinc s then
        (((deleteCtl s db0 (fun r => r.2 == t)).track.filter (·.id == t)).foldl triggerStep
          { deleteCtl s db0 (fun r => r.2 == t) with
            track := (deleteCtl s db0 (fun r => r.2 == t)).track.filter (fun r => !(r.id == t)) }, .ok .unit)
      else ({ deleteCtl s db0 (fun r => r.2 == t) with
            track := (deleteCtl s db0 (fun r => r.2 == t)).track.filter (fun r => !(r.id == t)) }, .ok .unit) := rfl

/-- One firing of trigger_after_delete_Track touches only Track and sqlite_sequence: nothing happens, or the rows with
a path are kept and one placeholder row is added whose id, the new sequence value, exceeds the old sequence value and
every id kept. -/
theorem triggerStep_cases (acc : Db) (old : TrackRow) :
    triggerStep acc old = acc ∨
    ∃ id, acc.trackSeq < id ∧ (∀ r ∈ acc.track.filter (·.hasPath), r.id < id) ∧
      triggerStep acc old = { acc with track := acc.track.filter (·.hasPath) ++ [⟨id, false⟩], trackSeq := id } := by
  unfold triggerStep
  split
  · refine Or.inr ⟨max acc.trackSeq (maxId ((acc.track.filter (·.hasPath)).map (·.id))) + 1, ?_, fun r hr => ?_, rfl⟩
    · omega
    · have : r.id ≤ maxId ((acc.track.filter (·.hasPath)).map (·.id)) := le_maxId (List.mem_map_of_mem (f := (·.id)) hr)
      exact Int.lt_of_le_of_lt this (Int.lt_add_one_of_le (Int.le_max_right _ _))
  · exact Or.inl rfl

theorem triggerFold_induction (P : Db → Prop)
    (hstep : ∀ acc id, P acc → acc.trackSeq < id → (∀ r ∈ acc.track.filter (·.hasPath), r.id < id) →
      P { acc with track := acc.track.filter (·.hasPath) ++ [⟨id, false⟩], trackSeq := id }) :
    ∀ (olds : List TrackRow) (acc : Db), P acc → P (olds.foldl triggerStep acc) := by
  intro olds
  induction olds with
  | nil => exact fun _ h => h
  | cons o olds ih =>
    intro acc h
    rw [List.foldl_cons]
    rcases triggerStep_cases acc o with e | ⟨id, h1, h2, e⟩ <;> rw [e]
    · exact ih acc h
    · exact ih _ (hstep acc id h h1 h2)

end EngineModel.Api.CratesV1
