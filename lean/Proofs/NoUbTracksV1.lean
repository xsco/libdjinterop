/-
C15, schema 1.x tracks: no operation of `Api.C15TracksV1.step` ends in `ub`, for any argument values, on libraries
that satisfy the tracks-1.x invariant `DbInv` (`step_defined`, `outcomes_defined`), and every operation keeps `DbInv`
(`step_inv`, `run_inv`).

The getters are defined on rows whose two scaled columns fit `int64_t` (`rowsOk`, which `Inv` gives); the writing calls
by what the tracks package proves of them.  `Effect` / `step_effect` say what a call is (an answer on unchanged tables,
or one of the four writes, which return); what every call keeps is read off it.  The one law assumed of `std::ceil`,
`CeilInRange`, follows from `CeilBounded` (`ceilInRange_of_bounded`), which the bit-exact `ceilBits` satisfies
(`ceilBits_bounded` in `TracksV1Float`).
-/
import Proofs.TracksV1Table
import EngineModel.Api.C15TracksV1
import EngineModel.TracksV1.Accept
import Proofs.Machine

namespace EngineModel.Api.C15TracksV1
open EngineModel EngineModel.TracksV1
open EngineModel.Impl.V1 (GMarker HotCue LoopV Entry Wave Beat Cues Loops)
open Fl (FOps)

theorem set_defined_of_ceilInRange (o : FOps) (hc : CeilInRange o) (r : TrackRows) (f : Field) (v : f.ty) :
    Defined (TracksV1.set o r f v) :=
  fun u => set_defined o r f v (fun _ => hc) u

theorem ceilInRange_of_bounded {o : FOps} (h : CeilBounded o) : CeilInRange o :=
  fun b hb => Fl.toI64_some_of_absLt63 _ (h b hb)

theorem optMul_ok (k : Int) (v : Option Int) (h : mulFits k v = true) : ∃ r, optMul k v = .ok r :=
  ⟨_, optMul_of_fits k v fun a e => of_decide_eq_true (e ▸ h : mulFits k (some a) = true)⟩

theorem optMulU_ok (k : Int) (v : Option Int) (h : mulFits k v = true) : ∃ r, optMulU k v = .ok r := by
  obtain ⟨r, hr⟩ := optMul_ok k v h
  exact ⟨r.map Prim.u64OfInt, by simp [optMulU, hr, Res.bind]⟩

theorem mulFits_of (k : Int) (v : Option Int)
    (h : ∀ a, v = some a → -9223372036854775808 ≤ k * a ∧ k * a ≤ 9223372036854775807) : mulFits k v = true := by
  cases v with
  | none => rfl
  | some a =>
    simp only [mulFits, Cxx.inI64, Cxx.i64Min, Cxx.i64Max]
    exact decide_eq_true (h a rfl)

theorem rowsOk_of_inv {r : TrackRows} (h : Inv r = true) : rowsOk r = true := by
  have hi := (inv_iff r).mp h
  simp only [rowsOk, Bool.and_eq_true]
  exact ⟨mulFits_of _ _ hi.len, mulFits_of _ _ hi.ts⟩

theorem rowsOk_blank : rowsOk blankRows = true := rfl

theorem get_defined (o : FOps) (r : TrackRows) (h : rowsOk r = true) (f : Field) : Defined (get o r f) := by
  simp only [rowsOk, Bool.and_eq_true] at h
  cases f with
  | duration => exact defined_of_ok (optMulU_ok _ _ h.1)
  | lastPlayedAt => exact defined_of_ok (optMulU_ok _ _ h.2)
  | hotCueAt i => exact slot_lookup_defined _ _
  | loopAt i => exact slot_lookup_defined _ _
  | _ => exact Defined.ok _

theorem readSnap_defined (o : FOps) (s : Schema) (r : TrackRows) (h : rowsOk r = true) :
    Defined (readSnap o s r) := by
  simp only [rowsOk, Bool.and_eq_true] at h
  obtain ⟨a, ha⟩ := optMul_ok _ _ h.1
  obtain ⟨b, hb⟩ := optMul_ok _ _ h.2
  simp only [readSnap, ha, hb, Res.bind_ok, Res.pure_eq]
  exact Defined.ok _

theorem dbGet_defined (o : FOps) (d : Db) (hd : DbInv d) (id : Int) (f : Field) : Defined (dbGet o d id f) := by
  unfold dbGet
  cases hr : d.rows id with
  | none =>
    simp only
    split
    · exact Defined.throw _
    · exact get_defined o blankRows rowsOk_blank f
  | some r => exact get_defined o r (rowsOk_of_inv (hd id r hr)) f

theorem dbSnap_defined (o : FOps) (d : Db) (hd : DbInv d) (id : Int) : Defined (dbSnap o d id) := by
  unfold dbSnap
  cases hr : d.rows id with
  | none => exact Defined.throw _
  | some r => exact readSnap_defined o d.schema r (rowsOk_of_inv (hd id r hr))

theorem step_defined (o : FOps) (hc : CeilInRange o) (d : Db) (hd : DbInv d) (op : Op) :
    Defined (step o d op).2 := by
  cases op with
  | create x =>
    simp only [step]
    cases h : dbCreate o d x with
    | ok p => exact Defined.ok _
    | throw e => exact Defined.throw _
    | ub u => exact absurd h (dbCreate_defined o d x u)
  | update id x =>
    simp only [step]
    cases h : dbUpdate o d id x with
    | ok p => exact Defined.ok _
    | throw e => exact Defined.throw _
    | ub u => exact absurd h (dbUpdate_defined o d id x u)
  | snapshot id =>
    simp only [step]
    cases h : dbSnap o d id with
    | ok p => exact Defined.ok _
    | throw e => exact Defined.throw _
    | ub u => exact absurd h (dbSnap_defined o d hd id u)
  | get id f =>
    simp only [step]
    cases h : dbGet o d id f with
    | ok p => exact Defined.ok _
    | throw e => exact Defined.throw _
    | ub u => exact absurd h (dbGet_defined o d hd id f u)
  | getDerived id g =>
    simp only [step]
    cases d.rows id with
    | none => exact Defined.throw _
    | some r => exact Defined.ok _
  | set id f v =>
    simp only [step]
    cases h : dbSet o d id f v with
    | ok p => exact Defined.ok _
    | throw e => exact Defined.throw _
    | ub u => exact absurd h (dbSet_defined o hc d id f v u)
  | remove id => exact Defined.ok _
  | isValid id => exact Defined.ok _
  | handleId id => exact Defined.ok _
  | handleCopy id => exact Defined.ok _

/-- What a call is: an answer (a value or an exception) on unchanged tables, or one of the four writes, which return. -/
inductive Effect (o : FOps) (d : Db) : Op → Db × Res Out → Prop
  | same (op : Op) (r : Res Out) : Effect o d op (d, r)
  | created (x : Snap) (d' : Db) (id : Int) (h : dbCreate o d x = .ok (d', id)) : Effect o d (.create x) (d', .ok (.id id))
  | updated (id : Int) (x : Snap) (d' : Db) (h : dbUpdate o d id x = .ok d') : Effect o d (.update id x) (d', .ok .unit)
  | set (id : Int) (f : Field) (v : f.ty) (d' : Db) (h : dbSet o d id f v = .ok d') : Effect o d (.set id f v) (d', .ok .unit)
  | removed (id : Int) : Effect o d (.remove id) (dbRemove d id, .ok .unit)

theorem step_effect (o : FOps) (d : Db) (op : Op) : Effect o d op (step o d op) := by
  cases op with
  | create x =>
    simp only [step]
    cases h : dbCreate o d x with
    | ok p => exact .created x p.1 p.2 h
    | _ => exact .same _ _
  | update id x =>
    simp only [step]
    cases h : dbUpdate o d id x with
    | ok d' => exact .updated id x d' h
    | _ => exact .same _ _
  | set id f v =>
    simp only [step]
    cases h : dbSet o d id f v with
    | ok d' => exact .set id f v d' h
    | _ => exact .same _ _
  | snapshot id => simp only [step]; cases dbSnap o d id <;> exact .same _ _
  | get id f => simp only [step]; cases dbGet o d id f <;> exact .same _ _
  | getDerived id g => simp only [step]; cases d.rows id <;> exact .same _ _
  | remove id => exact .removed id
  | isValid id => exact .same _ _
  | handleId id => exact .same _ _
  | handleCopy id => exact .same _ _

theorem Effect.failed_unchanged {o : FOps} {d : Db} {op : Op} {p : Db × Res Out} (he : Effect o d op p)
    (h : ¬ ∃ v, p.2 = .ok v) : p.1 = d := by
  cases he with
  | same _ r => rfl
  | _ => exact absurd ⟨_, rfl⟩ h

theorem Effect.inv {o : FOps} {d : Db} {op : Op} {p : Db × Res Out} (he : Effect o d op p) (hd : DbInv d) : DbInv p.1 := by
  cases he with
  | same _ r => exact hd
  | created x d' id h => exact dbCreate_inv o d d' x id hd h
  | updated id x d' h => exact dbUpdate_inv o d d' x id hd h
  | set id f v d' h => exact dbSet_inv o d d' id f v hd h
  | removed id => exact AllRows.dbRemove id hd

theorem step_inv (o : FOps) (d : Db) (hd : DbInv d) (op : Op) : DbInv (step o d op).1 :=
  (step_effect o d op).inv hd

theorem run_inv (o : FOps) (ops : List Op) : ∀ d, DbInv d → DbInv (run o d ops) :=
  Machine.IsRun.inv (step := step o) ⟨fun _ => rfl, fun _ _ _ => rfl⟩ (fun d op h => step_inv o d h op) ops

theorem outcomes_defined (o : FOps) (hc : CeilInRange o) (ops : List Op) :
    ∀ d, DbInv d → ∀ r ∈ outcomes o d ops, Defined r :=
  Machine.IsOutcomes.forall (step := step o) ⟨fun _ => rfl, fun _ _ _ => rfl⟩
    (fun d op h => ⟨step_inv o d h op, step_defined o hc d h op⟩) ops

theorem dbInv_empty (s : Schema) : DbInv ⟨s, []⟩ := fun _ _ h => by cases h

end EngineModel.Api.C15TracksV1
