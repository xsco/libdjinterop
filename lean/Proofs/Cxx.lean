/-
Facts about the C++ integer vocabulary of `Pure/Cxx.lean` (checked `int64_t` operations `I64.*`, wrapping
`size_t` operations `U64.*`, the conversion `u64OfInt`) on operands that are naturals in range:
there each operation is the exact one; `chk64` succeeds inside the `int64_t` range.
-/
import EngineModel.Pure.Cxx
namespace EngineModel.Cxx

theorem inI64_iff (x : Int) : inI64 x = true ↔ -9223372036854775808 ≤ x ∧ x ≤ 9223372036854775807 :=
  decide_eq_true_iff

theorem chk64_of_inI64 {x : Int} (h : inI64 x = true) : chk64 x = some x := if_pos h

theorem chk64_natCast (q : Nat) (h : q ≤ 9223372036854775807) : chk64 (q : Int) = some (q : Int) :=
  chk64_of_inI64 ((inI64_iff _).mpr ⟨Int.le_trans (by decide) (Int.natCast_nonneg q), Int.ofNat_le.mpr h⟩)

theorem I64.div_natCast (a b : Nat) (ha : a ≤ 9223372036854775807) (hb : 0 < b) :
    I64.div (a : Int) (b : Int) = some ((a / b : Nat) : Int) := by
  unfold I64.div
  rw [if_neg (Int.natCast_ne_zero.mpr (Nat.ne_of_gt hb)), Int.tdiv_eq_ediv_of_nonneg (Int.natCast_nonneg a),
    ← Int.natCast_ediv]
  exact chk64_natCast _ (Nat.le_trans (Nat.div_le_self a b) ha)

theorem I64.mul_natCast (a b : Nat) (h : a * b ≤ 9223372036854775807) :
    I64.mul (a : Int) (b : Int) = some ((a * b : Nat) : Int) := by
  unfold I64.mul
  rw [← Int.natCast_mul]
  exact chk64_natCast _ h

theorem u64OfInt_natCast (n : Nat) (h : n < 18446744073709551616) : u64OfInt (n : Int) = n := by
  unfold u64OfInt
  rw [← Int.natCast_emod, Int.toNat_natCast]
  exact Nat.mod_eq_of_lt h

-- (`by decide`, not `rfl`: `simp` would use a `rfl` lemma through `dsimp` and leave the `Decidable`
-- instance of `n = u64OfInt 0` behind, so that no lemma about `decide (n = 0)` applies afterwards)
theorem u64OfInt_zero : u64OfInt 0 = 0 := by decide
theorem u64OfInt_one : u64OfInt 1 = 1 := by decide

theorem U64.add_small (a b : Nat) (h : a + b < 18446744073709551616) : U64.add a b = a + b :=
  Nat.mod_eq_of_lt h

theorem U64.sub_small (a b : Nat) (h : b ≤ a) (ha : a < 18446744073709551616) : U64.sub a b = a - b := by
  have ha : a < two64 := ha
  unfold U64.sub
  rw [Nat.mod_eq_of_lt (Nat.lt_of_le_of_lt h ha), Nat.sub_add_comm h, Nat.add_mod_right]
  exact Nat.mod_eq_of_lt (Nat.lt_of_le_of_lt (Nat.sub_le a b) ha)

theorem u64_sub_one (n : Nat) (h : n + 1 < 18446744073709551616) : U64.sub (n + 1) 1 = n :=
  U64.sub_small (n + 1) 1 (Nat.le_add_left 1 n) h

theorem u64_add_one (n : Nat) (h : n + 1 < 18446744073709551616) : U64.add n 1 = n + 1 := U64.add_small n 1 h

theorem U64.mul_small (a b : Nat) (h : a * b < 18446744073709551616) : U64.mul a b = a * b :=
  Nat.mod_eq_of_lt h

theorem U64.div_pos (a b : Nat) (h : b ≠ 0) : U64.div a b = some (a / b) := if_neg h

theorem U64.mod_pos (a b : Nat) (h : b ≠ 0) : U64.mod a b = some (a % b) := if_neg h

theorem ceil_div_alt (n q : Nat) (hn : 0 < n) (hq : 0 < q) : (n - 1) / q + 1 = (n + q - 1) / q := by
  rw [← Nat.add_div_right _ hq, Nat.sub_add_comm hn]

theorem round_down_alt (n q : Nat) : n - n % q = n / q * q := by
  rw [Nat.mul_comm]; exact Nat.sub_eq_of_eq_add (Nat.div_add_mod n q).symm

end EngineModel.Cxx
