/-
Invariants of the list-table model (property C18).  A property of every
Playlist row that the triggers' own column writes (`nextListId`, `isPersisted`)
keep is kept by every playlist / entity operation whose written rows have it.
One instance — the ids are bounded by the AUTOINCREMENT counter — is the
invariant `LDb.Wf`, kept by every operation (`wf_pAdd` … `wf_eRemove`), hence
after every history (`C18_list_histories`).
-/
import Proofs.TableLists
import Proofs.Machine
namespace EngineModel
namespace Table

/-- A property of a Playlist row that no trigger disturbs: it does not depend on
the columns `nextListId` and `isPersisted`. -/
structure TriggerStable (P : Raw PCol → Prop) : Prop where
  next : ∀ r v, P r → P (setCol r .nextListId v)
  persist : ∀ r v, P r → P (setCol r .isPersisted v)

section Keeps
variable {P : Raw PCol → Prop} (hP : TriggerStable P)
include hP

theorem persistTriggers_all {t t' : Rows PCol} {old : Option (Raw PCol)} {new : Raw PCol}
    (h : ∀ r ∈ t, P r) (hp : persistTriggers t old new = .ok t') : ∀ r ∈ t', P r := by
  rcases persistTriggers_ok hp with rfl | ⟨ids, v, rfl, _⟩
  · exact h
  · exact updWhere_all h _ _ (fun r => hP.persist r _)

theorem pInsertRow_all {t t' : Rows PCol} {raw : Raw PCol} (h : ∀ r ∈ t, P r) (hraw : P raw)
    (hi : pInsertRow t raw = .ok (some t')) : ∀ r ∈ t', P r := by
  refine persistTriggers_all hP (updWhere_all (fun x hx => ?_) _ _ (fun r => hP.next r _)) (pInsertRow_ok hi)
  rcases List.mem_append.mp hx with hx | hx
  · exact updWhere_all h _ _ (fun r => hP.next r _) x hx
  · cases List.mem_singleton.mp hx; exact hraw

theorem pUpdNext_all {t t' : Rows PCol} {p : Raw PCol → Bool} {v : Raw PCol → Val} (h : ∀ r ∈ t, P r)
    (hu : pUpdNext t p (fun x => setCol x .nextListId (v x)) = some t') : ∀ r ∈ t', P r :=
  pUpdNext_ok hu ▸ updWhere_all h _ _ (fun r => hP.next r _)

theorem NextSteps.all {t t' : Rows PCol} (hs : NextSteps t t') (h : ∀ r ∈ t, P r) : ∀ r ∈ t', P r := by
  obtain ⟨_, _, _, _, _, _, t1, t2, h1, h2, h3⟩ := hs
  exact pUpdNext_all hP (pUpdNext_all hP (pUpdNext_all hP h h1) h2) h3

theorem pUpdRow_all {t t' : Rows PCol} {i : Int} {ps : List (PCol × Val)} (h : ∀ r ∈ t, P r)
    (hnew : ∀ old ∈ t, P (assign old ps)) (hu : pUpdRow t i ps = .ok (some t')) : ∀ r ∈ t', P r := by
  rcases pUpdRow_ok hu with ⟨_, rfl⟩ | ⟨old, hold, hp⟩
  · exact h
  refine persistTriggers_all hP (fun x hx => ?_) hp
  obtain ⟨o, ho, rfl⟩ := List.mem_map.mp hx
  split
  · exact hnew old (findRow_some hold).1
  · exact h o ho

theorem pDeleteRow_all {t t' : Rows PCol} {i : Int} (h : ∀ r ∈ t, P r)
    (hd : pDeleteRow t i = some t') : ∀ r ∈ t', P r := by
  unfold pDeleteRow at hd
  split at hd
  · cases hd; exact h
  · simp only at hd
    split at hd <;> cases hd
    intro x hx
    exact updWhere_all (fun y hy => h y (List.mem_filter.mp hy).1) _ _ (fun r => hP.next r _) x
      (List.mem_filter.mp hx).1

theorem foldlM_pDelete_all (l : List Int) {t t' : Rows PCol} (h : ∀ r ∈ t, P r)
    (hf : l.foldlM (fun t j => pDeleteRow t j) t = some t') : ∀ r ∈ t', P r := by
  induction l generalizing t with
  | nil => cases hf; exact h
  | cons j js ih =>
    simp only [List.foldlM_cons, Option.bind_eq_bind] at hf
    cases hd : pDeleteRow t j with
    | none => rw [hd] at hf; cases hf
    | some t1 => rw [hd] at hf; exact ih (pDeleteRow_all hP h hd) hf

theorem pAdd_all {st : LStmts} {d : LDb} {r : Row PField} (h : ∀ x ∈ d.pl, P x)
    (hnew : ∀ ps, evalParams r st.pIns = .ok ps → P (assign (setCol nullRaw .id (.int (d.plSeq + 1))) ps)) :
    ∀ x ∈ (pAdd st d r).1.pl, P x := by
  rcases pAdd_cases st d r with ⟨h', _⟩ | ⟨ps, t, he, hins, h'⟩ <;> rw [h']
  · exact h
  · exact pInsertRow_all hP h (hnew ps he) hins

theorem pUpdate_all {st : LStmts} {d : LDb} {r : Row PField} (h : ∀ x ∈ d.pl, P x)
    (hnew : ∀ ps, evalParams r st.pUpdSimple = .ok ps ∨ evalParams r st.pUpdFull = .ok ps →
      ∀ old, P old → P (assign old ps)) :
    ∀ x ∈ (pUpdate st d r).1.pl, P x := by
  rcases pUpdate_cases st d r with ⟨h', _⟩ | ⟨i, old, t0, ps, t, _, _, hu, h', hstmt⟩ <;> rw [h']
  · exact h
  rcases hstmt with ⟨rfl, he, _⟩ | ⟨hsteps, he⟩
  · exact pUpdRow_all hP h (fun o ho => hnew ps (.inl he) o (h o ho)) hu
  · have h0 := hsteps.all hP h
    exact pUpdRow_all hP h0 (fun o ho => hnew ps (.inr he) o (h0 o ho)) hu

theorem pRemove_all {st : LStmts} {d : LDb} (h : ∀ x ∈ d.pl, P x) (i : Int) :
    ∀ x ∈ (pRemove st d i).1.pl, P x := by
  unfold pRemove
  split
  · split <;> exact h
  · split
    · exact h
    · split
      · exact h
      · simp only
        split
        · exact h
        · rename_i pl hf; exact foldlM_pDelete_all hP _ h hf

end Keeps

theorem pUpdate_plSeq (st : LStmts) (d : LDb) (r : Row PField) : (pUpdate st d r).1.plSeq = d.plSeq := by
  rcases pUpdate_cases st d r with ⟨h, _⟩ | ⟨_, _, _, _, _, _, _, _, h, _⟩ <;> rw [h]

theorem pRemove_plSeq (st : LStmts) (d : LDb) (i : Int) : (pRemove st d i).1.plSeq = d.plSeq := by
  unfold pRemove
  split
  · split <;> rfl
  · split
    · rfl
    · split
      · rfl
      · simp only; split <;> rfl

theorem eAddBack_pl {st : LStmts} (d : LDb) (r : Row EField) (f : Bool) :
    (eAddBack st d r f).1.pl = d.pl ∧ (eAddBack st d r f).1.plSeq = d.plSeq := by
  unfold eAddBack
  split
  · exact ⟨rfl, rfl⟩
  · split
    · split
      · split <;> exact ⟨rfl, rfl⟩
      · split
        · exact ⟨rfl, rfl⟩
        · exact ⟨rfl, rfl⟩
        · simp only; split <;> exact ⟨rfl, rfl⟩
    · exact ⟨rfl, rfl⟩

theorem eRemove_pl {st : LStmts} (d : LDb) (l e : Int) :
    (eRemove st d l e).1.pl = d.pl ∧ (eRemove st d l e).1.plSeq = d.plSeq := by
  unfold eRemove
  split
  · split <;> exact ⟨rfl, rfl⟩
  · exact ⟨rfl, rfl⟩

theorem rowId_le_stable (seq : Int) : TriggerStable (fun r => rowId .id r ≤ seq) :=
  ⟨fun r v h => (setNext_rowId r v).symm ▸ h,
   fun r v h => (rowId_setCol (C := PCol) .id r (c := .isPersisted) v (by decide)).symm ▸ h⟩

theorem wf_pAdd {st : LStmts} (ha : alignedL st = true) {d : LDb} (hwf : d.Wf) (r : Row PField) :
    (pAdd st d r).1.Wf := by
  rcases pAdd_cases st d r with ⟨h, _⟩ | ⟨ps, t, he, hins, h⟩ <;> rw [h]
  · exact hwf
  · exact pInsertRow_all (rowId_le_stable (d.plSeq + 1)) (idsBelow_mono hwf (by omega))
      (Int.le_of_eq (rowId_pInserted (alignedL_playlist ha).1 he _)) hins

theorem wf_pUpdate {st : LStmts} (ha : alignedL st = true) {d : LDb} (hwf : d.Wf) (r : Row PField) :
    (pUpdate st d r).1.Wf := by
  obtain ⟨_, hfull, hsimple, _⟩ := alignedL_playlist ha
  unfold LDb.Wf idsBelow
  rw [pUpdate_plSeq]
  refine pUpdate_all (rowId_le_stable d.plSeq) hwf fun ps he old hold => ?_
  -- neither statement names the id column
  have hn : PCol.id ∉ ps.map (·.1) := by
    rcases he with he | he
    · exact pid_not_written (by decide) hsimple he
    · exact pid_not_written (fun h => PField.mem_writable.mp h rfl) hfull he
  show readInt (assign old ps .id) ≤ _
  rw [assign_not_mem _ _ _ hn]
  exact hold

theorem wf_pRemove {st : LStmts} {d : LDb} (hwf : d.Wf) (i : Int) : (pRemove st d i).1.Wf := by
  unfold LDb.Wf idsBelow
  rw [pRemove_plSeq]
  exact pRemove_all (rowId_le_stable d.plSeq) hwf i

theorem wf_eAddBack {st : LStmts} {d : LDb} (hwf : d.Wf) (r : Row EField) (f : Bool) : (eAddBack st d r f).1.Wf := by
  unfold LDb.Wf
  rw [(eAddBack_pl d r f).1, (eAddBack_pl d r f).2]; exact hwf

theorem wf_eRemove {st : LStmts} {d : LDb} (hwf : d.Wf) (l e : Int) : (eRemove st d l e).1.Wf := by
  unfold LDb.Wf
  rw [(eRemove_pl d l e).1, (eRemove_pl d l e).2]; exact hwf

theorem LDb.empty_wf : LDb.empty.Wf := fun _ h => by cases h

theorem lRun_isRun (st : LStmts) : Machine.IsRun (fun d op => (lStep st d op, ())) (lRun st) :=
  ⟨fun _ => rfl, fun _ _ _ => rfl⟩

end Table
end EngineModel
