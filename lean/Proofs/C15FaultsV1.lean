/-
Lemmas for Properties/C15Faults.lean, schema 1.x crates (the counterpart of Proofs/C15FaultsV2.lean): a call executed
as its statement program under any fault plan is `step`'s call or throws on the prior state (`callF_cases`, from the
atomic shape of the program: C14's all-or-nothing), and throws there when the fault position lies inside the program
(`callF_fault_inside`); so `CInv` survives every history with failures and none of its calls is `ub` (`after_faults`).
-/
import EngineModel.Api.FaultsV1
import Proofs.CratesV1Stmts
import Proofs.NoUbCratesV1
import Proofs.Machine

namespace EngineModel.Proofs.C15FaultsV1
open EngineModel EngineModel.Api.CratesV1 EngineModel.Api.CratesV1.C15 EngineModel.Api.FaultsV1 EngineModel.Pure.Detect
open EngineModel.Spec.Txn EngineModel.Spec.Stmts EngineModel.Machine

theorem stmts_no_rollback (s : Schema) (d : Db) (op : Op) : ∀ x ∈ stmts s d op, x.kind ≠ .rollback :=
  Proofs.Stmts.form_no_rollback _ _ (CratesV1Stmts.body_rw s d op)

theorem raised_restores (s : Schema) (d : Db) (op : Op) (fault : Option Nat) (auto : Bool)
    (hr : (call fault auto (stmts s d op) d).raised = true) : (call fault auto (stmts s d op) d).conn = Conn.idle d :=
  (Proofs.Txn.shape_sound (stmts s d op) (CratesV1Stmts.stmts_atomic s d op) fault auto d).1 hr

theorem callF_some (s : Schema) (d : Db) (op : Op) (p : Plan) :
    callF s d op (some p) = Proofs.Stmts.faulted (step s d op) (call (some p.k) p.auto (stmts s d op) d) := by
  show (match (step s d op).2 with | .ub _ => _ | _ => _) = _
  unfold Proofs.Stmts.faulted; cases (step s d op).2 <;> rfl

theorem callF_cases (s : Schema) (d : Db) (op : Op) (plan : Option Plan) :
    callF s d op plan = step s d op ∨ callF s d op plan = (d, .throw .sqlite_error) := by
  cases plan with
  | none => exact .inl rfl
  | some p =>
    exact callF_some s d op p ▸ Proofs.Stmts.faulted_atomic _ _ (CratesV1Stmts.stmts_atomic s d op) _ _ d

theorem callF_state (s : Schema) (d : Db) (op : Op) (plan : Option Plan) :
    (callF s d op plan).1 = d ∨ (callF s d op plan).1 = (step s d op).1 :=
  (callF_cases s d op plan).symm.imp (congrArg Prod.fst) (congrArg Prod.fst)

theorem callF_outcome (s : Schema) (d : Db) (op : Op) (plan : Option Plan) :
    (callF s d op plan).2 = (step s d op).2 ∨ (callF s d op plan).2 = .throw .sqlite_error :=
  (callF_cases s d op plan).imp (congrArg Prod.snd) (congrArg Prod.snd)

theorem callF_fault_inside (s : Schema) (d : Db) (op : Op) (p : Plan) (hk : p.k < positions s d op)
    (hu : ∀ u, (step s d op).2 ≠ .ub u) : callF s d op (some p) = (d, .throw .sqlite_error) :=
  callF_some s d op p ▸ Proofs.Stmts.faulted_inside _ _ (CratesV1Stmts.stmts_atomic s d op) p.k p.auto d hk hu

theorem callF_defined {s : Schema} {d : Db} (hI : CInv s d) (op : Op) (plan : Option Plan) (u : Ub) :
    (callF s d op plan).2 ≠ .ub u :=
  (keeps_of_fails (P := fun r => ∀ u, r ≠ .ub u) (callF_cases s d op plan) hI (fun _ h => nomatch h)
    ⟨step_cinv s hI op, step_defined s hI.finv op⟩).2 u

theorem after_faults (s : Schema) (hist : List FCall) {d : Db} (hI : CInv s d) :
    CInv s (runF s d hist) ∧ ∀ r ∈ outcomesF s d hist, ∀ u, r ≠ .ub u :=
  after_failures (step := step s) (stepF := fun d c => callF s d c.1 c.2) (e := Prod.fst) (A := fun _ => True)
    (fun d c _ => callF_cases s d c.1 c.2) (fun _ h => nomatch h)
    (fun d op h _ => ⟨step_cinv s h op, step_defined s h.finv op⟩)
    ⟨fun _ => rfl, fun _ _ _ => rfl⟩ ⟨fun _ => rfl, fun _ _ _ => rfl⟩ hist d hI fun _ _ => trivial

theorem cinv_runF (s : Schema) (hist : List FCall) {d : Db} (hI : CInv s d) : CInv s (runF s d hist) :=
  (after_faults s hist hI).1

theorem outcomesF_defined (s : Schema) (hist : List FCall) {d : Db} (hI : CInv s d) :
    ∀ r ∈ outcomesF s d hist, ∀ u, r ≠ .ub u :=
  (after_faults s hist hI).2

end EngineModel.Proofs.C15FaultsV1
