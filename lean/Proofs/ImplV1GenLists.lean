/-
The 1.x quick-cue and loop *encoders* regenerated from the C++ sources (`Gen.ImplV1.encodeCues`,
`encodeLoops`; tools/tr_blobs_v1.py) equal the hand-written mirror `Impl.V1.encodeCues` / `encodeLoops`.

The regenerated code is the C++ statement by statement: `std::accumulate` of the label lengths in `int64_t`
(with the conversions through `size_t` the lambda performs), `throw hot_cues_overflow` for more than 8 slots,
the checked `129 + total_label_length`, the buffer, a range-`for` over the optional slots whose body either
throws (empty label, label > 255 bytes) or writes the slot (`if (c) {…} else {…}` on the optional), and the
closing `if (ptr != end) throw std::runtime_error` — which is how fewer than 8 slots are rejected.
The hand model computes the slot bytes first (`encodeSlots`), then compares lengths.

Hypothesis (`_partial`): the payload is below 2^63 bytes (`std::vector<std::byte>::max_size()`); above it the
`int64_t` accumulation / the `size_t` size wrap resp. the vector constructor throws `length_error`, while the
hand model uses unbounded naturals.
-/
import EngineModel.Gen.ImplV1Gen
import EngineModel.Impl.V1
import Proofs.WrLemmas
import Proofs.CxxPrimsLemmas
import Proofs.CursorCxxV1Lemmas
import Proofs.ImplV2
import Proofs.ListAux
-- As in ImplV2Gen.lean: both spellings of a comparison are listed (`h255` for `255 < n`, `h255'` for `n > 255`).
set_option linter.unusedSimpArgs false

namespace EngineModel
namespace Wr

/-- The writer `m` does what the pure slot encoder computed: it appends the `n` bytes of an `ok`, throws what a
`throw` says (as long as `n` bytes fit); the pure encoders have no undefined outcome. -/
def Implements (m : Wr Unit) (r : Res Bytes) (n : Nat) : Prop :=
  match r with
  | .ok b => Writes m b ∧ b.length = n
  | .throw e => Throws m e n
  | .ub _ => False

/-- As `forIn_throws` (WrLemmas.lean), with the exception the pure encoder names: that of the first failing slot. -/
theorem forIn_implements {α} {f : α → Wr Unit} {enc : α → Res Bytes} {len : α → Nat}
    (h : ∀ x, Implements (f x) (enc x) (len x)) :
    ∀ xs : List α, Implements (forIn' xs f) (Impl.V1.encodeSlots enc xs) (xs.map len).sum
  | [] => ⟨Writes.pure, rfl⟩
  | x :: r => by
    have hx := h x
    have hr := forIn_implements h r
    simp only [Impl.V1.encodeSlots, forIn', List.map_cons, List.sum_cons]
    cases hex : enc x with
    | ub u => rw [hex] at hx; exact hx
    | throw e => rw [hex] at hx; exact fun size out hr => hx.bind _ size out (by omega)
    | ok bx =>
      rw [hex] at hx
      cases her : Impl.V1.encodeSlots enc r with
      | ub u => rw [her] at hr; exact hr
      | throw e => rw [her] at hr; exact hx.2 ▸ hx.1.bindThrows hr
      | ok br => rw [her] at hr; exact ⟨hx.1.bind hr.1, by rw [List.length_append, hx.2, hr.2]⟩

/-- An encoder that writes a header, the slots in a range-`for` and a tail ending in the closing `ptr != end` test,
into a buffer with room for all of it, returns what the hand models compute: the slot bytes first (`encodeSlots`),
then the comparison of the written length with the buffer size. -/
theorem run_slots {α} {f : α → Wr Unit} {enc : α → Res Bytes} {len : α → Nat}
    (h : ∀ x, Implements (f x) (enc x) (len x)) (xs : List α) (hdr : Bytes) {tail : Wr Unit} {tw : Bytes}
    (htail : WritesEnd tail tw .runtime_error) {size : Nat}
    (hroom : hdr.length + (xs.map len).sum + tw.length ≤ size) (hmax : size ≤ 9223372036854775807) :
    run size (put hdr >>= fun _ => forIn' xs f >>= fun _ => tail) =
      match Impl.V1.encodeSlots enc xs with
      | .throw e => .throw e
      | .ub u => .ub u
      | .ok slots =>
        if size < (hdr ++ (slots ++ tw)).length then .ub .oob_write
        else if (hdr ++ (slots ++ tw)).length < size then .throw .runtime_error else .ok (hdr ++ (slots ++ tw)) := by
  have hs := forIn_implements h xs
  cases hslots : Impl.V1.encodeSlots enc xs with
  | ub u => rw [hslots] at hs; exact hs.elim
  | throw e =>
    rw [hslots] at hs
    -- the header is written, then the loop throws at the first bad slot; the slots before it fit
    exact run_of_throws ((Writes.put _).bindThrows (hs.bind _)) (by omega) hmax
  | ok slots =>
    rw [hslots] at hs
    have hlen : (hdr ++ (slots ++ tw)).length = hdr.length + (xs.map len).sum + tw.length := by
      simp only [List.length_append, hs.2]; omega
    -- a buffer that is not filled fails the closing test
    rw [run_of_writesEnd ((Writes.put hdr).bindEnd (hs.1.bindEnd htail)) (by omega) hmax]
    simp only [hlen]
    by_cases hq : hdr.length + (xs.map len).sum + tw.length = size
    · simp [hq]
    · have h1 : ¬ size < hdr.length + (xs.map len).sum + tw.length := by omega
      have h2 : hdr.length + (xs.map len).sum + tw.length < size := by omega
      simp [hq, h1, h2]

end Wr

namespace Gen.ImplV1
open Codec Wr

def cueLen (q : Option Impl.V1.HotCue) : Nat :=
  match q with
  | some c => c.label.length
  | none => 0

theorem cueLabels_sum : ∀ v : List (Option Impl.V1.HotCue),
    Impl.V2.labelsLen (Impl.V1.cueLabels v) = (v.map cueLen).sum
  | [] => rfl
  | none :: v => by simpa [Impl.V1.cueLabels, cueLen] using cueLabels_sum v
  | some l :: v => by
    have := cueLabels_sum v
    simp only [Impl.V1.cueLabels, Impl.V2.labelsLen] at this
    simp [Impl.V1.cueLabels, cueLen, Impl.V2.labelsLen, this]

/-- one slot of `quick_cues_data::encode`: `if (hot_cue) {…} else {…}` against `encodeCueSlot` -/
theorem encodeCues_body2_implements (q : Option Impl.V1.HotCue) :
    Implements (encodeCues_body2 q) (Impl.V1.encodeCueSlot q) (13 + cueLen q) := by
  unfold encodeCues_body2 Impl.V1.encodeCueSlot
  cases q with
  | none =>
    simp only [rep4, CxxPrims.encode_uint8_eq, CxxPrims.encode_double_be_eq]
    refine ⟨Writes.congr
      ((Writes.put _).bind <| (Writes.put _).bind <| (Writes.put _).bind <| (Writes.put _).bind <|
        (Writes.put _).bind <| (Writes.put _).bind Writes.pure) (by simp [u8]), ?_⟩
    simp [cueLen, Impl.V2.u64be_enc_length]
  | some c =>
    by_cases h0 : c.label.length = 0
    · simp only [h0, if_true]
      intro size out _; simp
    · by_cases h255 : 255 < c.label.length
      · have h255' : c.label.length > 255 := h255
        simp only [h0, h255, if_true, if_false]
        intro size out _; simp [h255']
      · have h255' : ¬ (c.label.length > 255) := h255
        simp only [h0, h255, h255', decide_false, Bool.false_eq_true, if_false, CxxPrims.encode_uint8_eq,
          CxxPrims.encode_double_be_eq]
        refine ⟨Writes.congr
          ((Writes.put _).bind <| (Writes.forIn (g := fun c => [c]) (fun _ => Writes.put _) _).bind <|
            (Writes.put _).bind <| (Writes.put _).bind <| (Writes.put _).bind <| (Writes.put _).bind <|
            Writes.put _) (by simp [lp8, V2.color, map, pair, u8, flatMap_singleton]), ?_⟩
        simp [cueLen, lp8, Impl.V2.u64be_enc_length, V2.color, map, pair, u8]
        omega

theorem flag_byte (b : Bool) :
    UInt8.ofNat (Cxx.u64OfInt (if b = true then (0 : Int) else 1)) = (if b = true then 0 else 1 : UInt8) := by
  cases b <;> decide

/-- `quick_cues_data::encode`.
Full statement: `encodeCues = Impl.V1.encodeCues` — false only for label totals of 2^63 bytes and more (no machine
holds them): `std::accumulate` runs in `int64_t`, `129 + total_label_length` is checked `int64_t` arithmetic and
`std::vector<std::byte>(size)` throws `length_error` above `max_size()`; the hand model has unbounded naturals. -/
theorem encodeCues_eq_partial (v : Impl.V1.Cues)
    (h : 129 + Impl.V2.labelsLen (Impl.V1.cueLabels v.cues) < 9223372036854775808) :
    encodeCues v = Impl.V1.encodeCues v := by
  rw [cueLabels_sum] at h
  unfold encodeCues Impl.V1.encodeCues
  by_cases h8 : 8 < v.cues.length
  · have h8' : v.cues.length > 8 := h8
    rw [pre_throw (e := .dj "hot_cues_overflow") _ (by simp [h8']), if_pos h8]
  · have h8' : ¬ (v.cues.length > 8) := h8
    -- (`cueLen` is the `match` of the accumulating lambda)
    generalize hT : List.foldl _ (0 : Int) v.cues = T
    obtain rfl : T = (((0 + (v.cues.map cueLen).sum : Nat)) : Int) :=
      hT ▸ accumulate_lengths cueLen v.cues 0 (by omega)
    rw [pre_ok (a := 129 + (v.cues.map cueLen).sum) _ (by
      simp only [bind_run, pure_run, h8', decide_false, Bool.false_eq_true, if_false]
      rw [chkI64_run (by omega) (by omega)]
      simp only [Nat.zero_add, show (129 : Int) = ((129 : Nat) : Int) from rfl, ← Int.natCast_add,
        Cxx.u64OfInt_natCast _ (show 129 + (v.cues.map cueLen).sum < 18446744073709551616 by omega)])]
    simp only [h8, if_false, cueLabels_sum]
    simp only [CxxPrims.encode_double_be_eq, CxxPrims.encode_int64_be_eq, CxxPrims.encode_uint8_eq, count_bits,
      flag_byte]
    -- fewer than 8 slots leave the buffer short: the closing `ptr != end` test throws
    refine (run_slots encodeCues_body2_implements v.cues _
      ((Writes.put _).bindEnd <| (Writes.put _).bindEnd <| (Writes.put _).bindEnd <| WritesEnd.endCheck _)
      (by simp only [ListAux.sum_map_add, Impl.V2.u64be_enc_length, u8, List.length_append, List.length_cons, List.length_nil]
          omega) (by omega)).trans ?_
    cases Impl.V1.encodeSlots Impl.V1.encodeCueSlot v.cues <;> simp [u8, List.append_assoc]

def loopLen (q : Option Impl.V1.LoopV) : Nat :=
  match q with
  | some c => c.label.length
  | none => 0

theorem loopLabels_sum : ∀ v : Impl.V1.Loops, Impl.V2.labelsLen (Impl.V1.loopLabels v) = (v.map loopLen).sum
  | [] => rfl
  | none :: v => by simpa [Impl.V1.loopLabels, loopLen] using loopLabels_sum v
  | some l :: v => by
    have := loopLabels_sum v
    simp only [Impl.V1.loopLabels, Impl.V2.labelsLen] at this
    simp [Impl.V1.loopLabels, loopLen, Impl.V2.labelsLen, this]

/-- one slot of `loops_data::encode` against `encodeLoopSlot` -/
theorem encodeLoops_body2_implements (q : Option Impl.V1.LoopV) :
    Implements (encodeLoops_body2 q) (Impl.V1.encodeLoopSlot q) (23 + loopLen q) := by
  unfold encodeLoops_body2 Impl.V1.encodeLoopSlot
  cases q with
  | none =>
    simp only [rep6, CxxPrims.encode_uint8_eq, CxxPrims.encode_double_le_eq]
    refine ⟨Writes.congr
      ((Writes.put _).bind <| (Writes.put _).bind <| (Writes.put _).bind <| (Writes.put _).bind <|
        (Writes.put _).bind <| (Writes.put _).bind <| (Writes.put _).bind <| (Writes.put _).bind <|
        (Writes.put _).bind Writes.pure) (by simp [u8]), ?_⟩
    simp [loopLen, Impl.V2.u64le_enc_length]
  | some c =>
    by_cases h0 : c.label.length = 0
    · simp only [h0, if_true]
      intro size out _; simp
    · by_cases h255 : 255 < c.label.length
      · have h255' : c.label.length > 255 := h255
        simp only [h0, h255, if_true, if_false]
        intro size out _; simp [h255']
      · have h255' : ¬ (c.label.length > 255) := h255
        simp only [h0, h255, h255', decide_false, Bool.false_eq_true, if_false, CxxPrims.encode_uint8_eq,
          CxxPrims.encode_double_le_eq]
        refine ⟨Writes.congr
          ((Writes.put _).bind <| (Writes.forIn (g := fun c => [c]) (fun _ => Writes.put _) _).bind <|
            (Writes.put _).bind <| (Writes.put _).bind <| (Writes.put _).bind <| (Writes.put _).bind <|
            (Writes.put _).bind <| (Writes.put _).bind <| (Writes.put _).bind <| Writes.put _)
          (by simp [lp8, V2.color, map, pair, u8, flatMap_singleton]), ?_⟩
        simp [loopLen, lp8, Impl.V2.u64le_enc_length, V2.color, map, pair, u8]
        omega

/-- `loops_data::encode`.
Full statement: `encodeLoops = Impl.V1.encodeLoops` — false only for payloads of 2^63 bytes and more (see
`encodeCues_eq_partial`; here the size `8 + 23 * n + total` is computed in wrapping `size_t`). -/
theorem encodeLoops_eq_partial (v : Impl.V1.Loops)
    (h : 8 + 23 * v.length + Impl.V2.labelsLen (Impl.V1.loopLabels v) < 9223372036854775808) :
    encodeLoops v = Impl.V1.encodeLoops v := by
  rw [loopLabels_sum] at h
  unfold encodeLoops Impl.V1.encodeLoops
  simp only [loopLabels_sum]
  generalize hT : Cxx.u64OfInt (List.foldl _ (0 : Int) v) = T
  obtain rfl : T = (v.map loopLen).sum := hT ▸ accumulate_lengths_u64 loopLen v (by omega)
  simp (disch := omega) only [Cxx.U64.add_small, Cxx.U64.mul_small]
  simp only [CxxPrims.encode_int64_le_eq, count_bits]
  refine (run_slots encodeLoops_body2_implements v _ (WritesEnd.endCheck _)
    (by rw [ListAux.sum_map_add, Impl.V2.u64le_enc_length]; simp; omega) (by omega)).trans ?_
  cases Impl.V1.encodeSlots Impl.V1.encodeLoopSlot v <;> simp

end Gen.ImplV1
end EngineModel
