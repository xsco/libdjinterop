/-
Every `set_*` call of the statement-level model (`callSet`: the SELECT / UPDATE
statements in the order of the C++, inside the transaction scope the C++ has)
is *atomic* on a well-formed table: it equals `atomicSet` — all of the setter's
effect on the row (`applySetter`, the lens model of C06) or, when a statement
fails, no effect at all.
-/
import Proofs.TracksV2Table

namespace EngineModel
namespace TracksV2

open Prim

/-- the whole effect of the setter, or nothing -/
def atomicSet (ops : FOps) (id : Nat) (σ : Setter) : M Unit := fun db =>
  match db.find id with
  | none => (db, .throw .runtime_error)
  | some t =>
    match applySetter ops σ t.row with
    | .ok r' => if pathTaken' db id r'.path then (db, .throw .sqlite_error) else (db.rep t r', .ok ())
    | .throw e => (db, .throw e)
    | .ub u => (db, .ub u)

section
variable {db : TDb} {id : Nat} {t : TRow}

theorem atomic_keep (ops : FOps) (σ : Setter) (hs : SInv db) (hf : db.find id = some t) {r' : Row}
    (ha : applySetter ops σ t.row = .ok r') (hp : r'.path = t.row.path) :
    atomicSet ops id σ db = (db.rep t r', .ok ()) := by
  obtain ⟨ht, hid⟩ := find_mem hf
  unfold atomicSet
  simp only [hf, ha, hp]
  rw [← hid, pathTaken_same hs ht]
  rfl

theorem atomic_throw (ops : FOps) (σ : Setter) (hf : db.find id = some t) {e : Exn}
    (ha : applySetter ops σ t.row = .throw e) : atomicSet ops id σ db = (db, .throw e) := by
  unfold atomicSet; simp only [hf, ha]

theorem atomic_ub (ops : FOps) (σ : Setter) (hf : db.find id = some t) {u : Ub}
    (ha : applySetter ops σ t.row = .ub u) : atomicSet ops id σ db = (db, .ub u) := by
  unfold atomicSet; simp only [hf, ha]

theorem sel_bind {β} (hf : db.find id = some t) (f : Row → M β) : (selectRow id >>= f) db = f t.row db := by
  rw [M.bind_apply, selectRow_some hf]

/-- a column write that keeps the path: result, and the table stays usable for the next statement -/
theorem step_keep (hs : SInv db) (hf : db.find id = some t) (g : Row → Row) (hp : (g t.row).path = t.row.path) :
    setCol id g db = (db.rep t (g t.row), .ok ()) ∧ SInv (db.rep t (g t.row)) ∧
      (db.rep t (g t.row)).find id = some { t with row := g t.row } := by
  obtain ⟨ht, hid⟩ := find_mem hf
  refine ⟨setCol_keep hs hf g hp, SInv_rep hs ht _ (by rw [hp]; exact pathTaken_same hs ht), ?_⟩
  rw [find_rep, hf]; simp [hid]

theorem keep_bind {β} (hs : SInv db) (hf : db.find id = some t) (g : Row → Row) (hp : (g t.row).path = t.row.path)
    (f : Unit → M β) : (setCol id g >>= f) db = f () (db.rep t (g t.row)) := by
  rw [M.bind_apply, (step_keep hs hf g hp).1]

end

theorem single_keep (ops : FOps) (σ : Setter) {db : TDb} {id : Nat} {t : TRow} (hs : SInv db)
    (hf : db.find id = some t) (g : Row → Row) (hp : (g t.row).path = t.row.path)
    (ha : applySetter ops σ t.row = .ok (g t.row)) : setCol id g db = atomicSet ops id σ db := by
  rw [setCol_keep hs hf g hp, atomic_keep ops σ hs hf ha hp]

theorem callSet_none (ops : FOps) (σ : Setter) {db : TDb} {id : Nat} (hf : db.find id = none) :
    callSet ops id σ db = (db, .throw .runtime_error) := by
  cases σ <;> simp only [callSet, M.transaction, M.bind_apply, setCol_none hf, selectRow_none hf]

/-- The body of a read-modify-write setter once the row is read: two conversions that may throw, then
one column other than the path written.  It is the lens `applySetter` computes the same way, applied
atomically. -/
theorem rmw_atomic (ops : FOps) (σ : Setter) {db : TDb} {id : Nat} {t : TRow} (hs : SInv db)
    (hf : db.find id = some t) {α β : Type} (a : Res α) (b : α → Res β) (g : β → Row → Row)
    (hp : ∀ q, (g q t.row).path = t.row.path)
    (ha : applySetter ops σ t.row = a.bind fun k => (b k).bind fun q => .ok (g q t.row)) :
    (M.lift a >>= fun k => M.lift (b k) >>= fun q => setCol id (g q)) db = atomicSet ops id σ db := by
  rw [M.lift_bind]
  cases a with
  | throw e => exact (atomic_throw ops _ hf ha).symm
  | ub u => exact (atomic_ub ops _ hf ha).symm
  | ok k =>
    simp only []
    rw [M.lift_bind]
    cases h2 : b k with
    | throw e => exact (atomic_throw ops _ hf (by rw [ha]; simp only [Res.bind, h2])).symm
    | ub u => exact (atomic_ub ops _ hf (by rw [ha]; simp only [Res.bind, h2])).symm
    | ok q => exact single_keep ops _ hs hf _ (hp _) (by rw [ha]; simp only [Res.bind, h2])

theorem two_keep_atomic (ops : FOps) (σ : Setter) {db : TDb} {id : Nat} {t : TRow} (hs : SInv db)
    (hf : db.find id = some t) (g1 g2 : Row → Row) (hp1 : (g1 t.row).path = t.row.path)
    (hp2 : (g2 (g1 t.row)).path = (g1 t.row).path) (ha : applySetter ops σ t.row = .ok (g2 (g1 t.row))) :
    M.transaction (setCol id g1 >>= fun _ => setCol id g2) db = atomicSet ops id σ db := by
  obtain ⟨e1, s1, f1⟩ := step_keep hs hf g1 hp1
  have e2 := (step_keep s1 f1 g2 hp2).1
  unfold M.transaction
  rw [M.bind_apply, e1]
  simp only []
  rw [e2, rep_rep]
  exact (atomic_keep ops _ hs hf ha (hp2.trans hp1)).symm

theorem callSet_atomic (ops : FOps) (id : Nat) (σ : Setter) {db : TDb} (hs : SInv db) :
    callSet ops id σ db = atomicSet ops id σ db := by
  cases hf : db.find id with
  | none =>
    rw [callSet_none ops σ hf]
    unfold atomicSet; simp only [hf]
  | some t =>
    obtain ⟨ht, hid⟩ := find_mem hf
    cases σ
    case hotCueAt | hotCues =>
      show (selectRow id >>= _) db = _
      rw [sel_bind hf]
      exact rmw_atomic ops _ hs hf _ _ (fun q x => { x with cues := q }) (fun _ => rfl) rfl
    case loopAt | loops =>
      show (selectRow id >>= _) db = _
      rw [sel_bind hf]
      exact rmw_atomic ops _ hs hf _ _ (fun q x => { x with loops := q }) (fun _ => rfl) rfl
    case waveform w =>
      show (selectRow id >>= _) db = _
      rw [sel_bind hf, sel_bind hf, sel_bind hf]
      exact rmw_atomic ops _ hs hf _ .ok (fun o x => { x with ovw := (o, t.row.ovw.2) }) (fun _ => rfl) rfl
    case bpm v => exact two_keep_atomic ops _ hs hf _ _ rfl rfl rfl
    case sampleCount | sampleRate =>
      show M.transaction (selectRow id >>= _) db = _
      unfold M.transaction
      rw [sel_bind hf, sel_bind hf]
      exact two_keep_atomic ops _ hs hf _ _ rfl rfl rfl

    case key v =>
      simp only [callSet]
      obtain ⟨e1, s1, f1⟩ := step_keep hs hf (fun r => { r with key := (writeKey v).1 }) rfl
      have e2 := (step_keep s1 f1 (fun x => { x with trackData :=
        ({ t.row.trackData.1 with key := (writeKey v).2 }, t.row.trackData.2) }) rfl).1
      unfold M.transaction
      rw [M.bind_apply, e1]
      simp only []
      rw [sel_bind f1]
      simp only []
      rw [e2, rep_rep]
      refine (atomic_keep ops _ hs hf ?_ ?_).symm <;> rfl
    case relativePath p =>
      simp only [callSet]
      unfold M.transaction atomicSet
      simp only [hf, applySetter]
      rw [M.bind_apply, setCol_some hs hf]
      cases hc : pathTaken' db id p with
      | true => simp
      | false =>
        simp only [Bool.false_eq_true, if_false]
        have s1 : SInv (db.rep t { t.row with path := p }) := SInv_rep hs ht _ (by rw [hid]; exact hc)
        have f1 : (db.rep t { t.row with path := p }).find id = some { t with row := { t.row with path := p } } := by
          rw [find_rep, hf]; simp [hid]
        obtain ⟨e2, s2, f2⟩ := step_keep s1 f1 (fun r => { r with filename := getFilename p }) rfl
        have e3 := (step_keep s2 f2 (fun r => { r with fileType := (getFileExtension (getFilename p)).getD [] }) rfl).1
        rw [M.bind_apply, e2]
        simp only []
        rw [e3, rep_rep, rep_rep]
    -- the other setters issue one UPDATE of columns other than the path (three after reading the blob they modify)
    all_goals
      simp only [callSet, sel_bind hf]
      exact single_keep ops _ hs hf _ rfl rfl

end TracksV2
end EngineModel
