/-
C06 on the Model's own setters and getters: getter = snapshot field, per-slot
frames; and on the Spec: the lens laws of `Spec.applySetter` and "the value
last set" over histories of observations.
-/
import Proofs.TracksV2Hist

namespace EngineModel
namespace TracksV2

open Prim

/-- the answer of the getter of field `f` on the row (each case is the C++
getter: the columns it reads, the conversion it applies); the duration getter
can fail (`length * 1000`) -/
def getField (ops : FOps) (r : Row) : Spec.Field → Res Spec.Val
  | .album => .ok (.str (getAlbum r)) | .artist => .ok (.str (getArtist r))
  | .averageLoudness => .ok (.dbl (getAverageLoudness r)) | .beatgrid => .ok (.grid (getBeatgrid r))
  | .bitrate => .ok (.int (getBitrate r)) | .bpm => .ok (.dbl (getBpm ops r)) | .comment => .ok (.str (getComment r))
  | .composer => .ok (.str (getComposer r)) | .duration => (getDuration r).bind fun d => .ok (.u64 d)
  | .fileBytes => .ok (.u64 r.fileBytes)
  | .genre => .ok (.str (getGenre r)) | .hotCues => .ok (.cues (getHotCues r)) | .key => .ok (.int (getKey r))
  | .lastPlayedAt => .ok (.u64 (getLastPlayedAt r)) | .loops => .ok (.loops (getLoops r))
  | .mainCue => .ok (.dbl (getMainCue r)) | .publisher => .ok (.str (getPublisher r)) | .rating => .ok (.int (getRating r))
  | .relativePath => .ok (.str (some (getRelativePath r))) | .sampleCount => .ok (.u64 (getSampleCount r))
  | .sampleRate => .ok (.dbl (getSampleRate r)) | .title => .ok (.str (getTitle r))
  | .trackNumber => .ok (.int (getTrackNumber r)) | .waveform => .ok (.wave (getWaveform r))
  | .year => .ok (.int (getYear r))

theorem getField_snapshot (ops : FOps) (r : Row) (y : Snap) (h : readSnap ops r = .ok y) (f : Spec.Field) :
    getField ops r f = .ok (Spec.fieldOf y f) := by
  obtain ⟨d, hd, rfl⟩ := readSnap_ok ops r y h
  cases f <;> first | rfl | (simp only [getField, getDuration, hd, Res.bind]; rfl)

theorem getHotCueAt_set_other (r : Row) (k : Nat) (q : V2.Cue) (j : UInt32) (hj : j.toNat ≠ k) :
    getHotCueAt { r with cues := ({ r.cues.1 with cues := r.cues.1.cues.set k q }, r.cues.2) } j = getHotCueAt r j := by
  unfold getHotCueAt
  simp only [List.length_set]
  cases hs : slotIndex j r.cues.1.cues.length with
  | throw e => rfl
  | ub u => rfl
  | ok m =>
    obtain ⟨rfl, _⟩ := slotIndex_eq_ok hs
    simp only [Res.bind]
    rw [List.getElem?_set_ne (fun e => hj e.symm)]

theorem getLoopAt_set_other (r : Row) (k : Nat) (q : V2.Loop) (j : UInt32) (hj : j.toNat ≠ k) :
    getLoopAt { r with loops := (r.loops.1.set k q, r.loops.2) } j = getLoopAt r j := by
  unfold getLoopAt
  simp only [List.length_set]
  cases hs : slotIndex j r.loops.1.length with
  | throw e => rfl
  | ub u => rfl
  | ok m =>
    obtain ⟨rfl, _⟩ := slotIndex_eq_ok hs
    simp only [Res.bind]
    rw [List.getElem?_set_ne (fun e => hj e.symm)]

namespace Spec

/-- the snapshot the observations hold for track `id` -/
def lookup (o : Obs) (id : Nat) : Option Snap := (o.find? (·.1 == id)).map (·.2)

theorem lookup_map (o : Obs) (id id' : Nat) (g : Snap → Snap) :
    lookup (o.map fun e => if e.1 == id then (e.1, g e.2) else e) id' =
      if id' = id then (lookup o id').map g else lookup o id' := by
  unfold lookup
  rw [find?_map_update (fun e : Nat × Snap => e.1) (fun e => (e.1, g e.2)) id id' (fun _ h => h), Option.map_map]
  by_cases h : id' = id
  · simp only [h, if_true, Option.map_map, Function.comp_def]
  · simp only [h, if_false, Function.comp_def]

theorem stepObs_noclash (o : Obs) (id : Nat) (σ : Setter) (hc : ¬ clashObs o id σ = true) :
    stepObs o id σ = o.map fun e => if e.1 == id then (e.1, (applySetter σ e.2).getD e.2) else e := by
  unfold stepObs
  rw [if_neg hc]
  apply List.map_congr_left
  intro e _
  split
  · cases applySetter σ e.2 <;> rfl
  · rfl

theorem lookup_stepObs (o : Obs) (id id' : Nat) (σ : Setter) :
    lookup (stepObs o id σ) id' =
      if clashObs o id σ = true ∨ id' ≠ id then lookup o id'
      else (lookup o id').map fun y => (applySetter σ y).getD y := by
  by_cases hc : clashObs o id σ = true
  · unfold stepObs; simp [hc]
  · rw [stepObs_noclash o id σ hc, lookup_map o id id' (fun y => (applySetter σ y).getD y)]
    by_cases h : id' = id <;> simp [h, hc]

theorem applySetter_lens (σ : Setter) (y y' : Snap) (h : applySetter σ y = some y') :
    some (fieldOf y' (fieldOfSetter σ)) = newValue σ y ∧
    ∀ g, g ≠ fieldOfSetter σ → fieldOf y' g = fieldOf y g := by
  -- an accepted call replaces one component of the snapshot: `g` is that one, or reads the same
  cases σ
  case hotCueAt i v =>
    simp only [applySetter] at h
    split at h
    · cases h
    · rename_i k hk
      split at h
      · cases h
        exact ⟨by simp only [newValue, hk]; rfl, fun g hg => by cases g <;> first | eq_refl | exact absurd rfl hg⟩
      · cases h
  case loopAt i v =>
    simp only [applySetter] at h
    split at h
    · cases h
    · rename_i k hk
      split at h
      · cases h
        exact ⟨by simp only [newValue, hk]; rfl, fun g hg => by cases g <;> first | eq_refl | exact absurd rfl hg⟩
      · cases h
  case hotCues v =>
    simp only [applySetter] at h
    split at h
    · cases h
    · cases h
      exact ⟨rfl, fun g hg => by cases g <;> first | eq_refl | exact absurd rfl hg⟩
  case loops v =>
    simp only [applySetter] at h
    split at h
    · cases h
    · cases h
      exact ⟨rfl, fun g hg => by cases g <;> first | eq_refl | exact absurd rfl hg⟩
  case waveform v =>
    simp only [applySetter] at h
    split at h
    · cases h
    · rename_i w hw
      cases h
      exact ⟨by simp only [newValue, hw]; rfl, fun g hg => by cases g <;> first | eq_refl | exact absurd rfl hg⟩
  all_goals
    cases h
    exact ⟨rfl, fun g hg => by cases g <;> first | eq_refl | exact absurd rfl hg⟩

theorem field_kept (o : Obs) (id : Nat) (g : Field) (c : Nat × Setter) (hc : c.1 = id → fieldOfSetter c.2 ≠ g) :
    (lookup (stepObs o c.1 c.2) id).map (fieldOf · g) = (lookup o id).map (fieldOf · g) := by
  rw [lookup_stepObs]
  split
  · rfl
  · rename_i hn
    have hid : id = c.1 := by
      by_cases h : id = c.1
      · exact h
      · exact absurd (Or.inr h) hn
    cases hl : lookup o id with
    | none => rfl
    | some y =>
      simp only [Option.map_some, Option.some.injEq]
      cases ha : applySetter c.2 y with
      | none => rfl
      | some y' => exact (applySetter_lens c.2 y y' ha).2 g (fun e => hc hid.symm e.symm)

theorem field_kept_run (o : Obs) (id : Nat) (g : Field) (h : List (Nat × Setter))
    (hh : ∀ c ∈ h, c.1 = id → fieldOfSetter c.2 ≠ g) :
    (lookup (runObs o h) id).map (fieldOf · g) = (lookup o id).map (fieldOf · g) := by
  induction h generalizing o with
  | nil => rfl
  | cons c t ih =>
    show (lookup (runObs (stepObs o c.1 c.2) t) id).map (fieldOf · g) = _
    rw [ih (stepObs o c.1 c.2) fun c' hc' => hh c' (List.mem_cons_of_mem _ hc')]
    exact field_kept o id g c (hh c (List.mem_cons_self ..))

theorem runObs_append (o : Obs) (h₁ h₂ : List (Nat × Setter)) : runObs o (h₁ ++ h₂) = runObs (runObs o h₁) h₂ := by
  unfold runObs; rw [List.foldl_append]

/-! The normalisation the setters' Spec applies field by field is the normalisation of the snapshot write
(C01's `Spec.normalize`). -/

/-- the setter call that writes field `f` of the snapshot `x` (no setter exists for `file_bytes`; the path must be present) -/
def setterOf (x : Snap) : Field → Option Setter
  | .album => some (.album x.album) | .artist => some (.artist x.artist)
  | .averageLoudness => some (.averageLoudness x.averageLoudness) | .beatgrid => some (.beatgrid x.beatgrid)
  | .bitrate => some (.bitrate x.bitrate) | .bpm => some (.bpm x.bpm) | .comment => some (.comment x.comment)
  | .composer => some (.composer x.composer) | .duration => some (.duration x.duration) | .fileBytes => none
  | .genre => some (.genre x.genre) | .hotCues => some (.hotCues x.hotCues) | .key => some (.key x.key)
  | .lastPlayedAt => some (.lastPlayedAt x.lastPlayedAt) | .loops => some (.loops x.loops)
  | .mainCue => some (.mainCue x.mainCue) | .publisher => some (.publisher x.publisher)
  | .rating => some (.rating x.rating) | .relativePath => x.relativePath.map .relativePath
  | .sampleCount => some (.sampleCount x.sampleCount) | .sampleRate => some (.sampleRate x.sampleRate)
  | .title => some (.title x.title) | .trackNumber => some (.trackNumber x.trackNumber)
  | .waveform => some (.waveform x.waveform) | .year => some (.year x.year)

/-- **The setters normalise exactly as the snapshot write does.**  If `create_track` / `update` accept `x` and
store `y = normalize x`, then setting any single field to `x`'s value (on any track; for the waveform: one with
`x`'s sample count and rate) must leave that field holding `y`'s value. -/
theorem newValue_eq_normalize (s : Schema) (x y : Snap) (h : normalize s x = some y) (f : Field) (σ : Setter)
    (hσ : setterOf x f = some σ) (y0 : Snap)
    (hw : f = .waveform → y0.sampleCount = x.sampleCount ∧ y0.sampleRate = x.sampleRate) :
    newValue σ y0 = some (fieldOf y f) := by
  obtain ⟨p, wv, hp, hnw, rfl, _⟩ := normalize_eq_some h
  cases f <;> simp only [setterOf, Option.some.injEq, hp, Option.map_some] at hσ
  case fileBytes => cases hσ
  case waveform =>
    subst hσ
    obtain ⟨h1, h2⟩ := hw rfl
    simp only [newValue, fieldOf, h1, h2, hnw, Option.map_some]
  case relativePath => subst hσ; simp only [newValue, fieldOf, hp]
  all_goals subst hσ; rfl

end Spec

theorem lookup_obs (ops : FOps) (db : Db) (id : Nat) : Spec.lookup (obs ops db) id = (db.get id).map (snapOf ops) := by
  unfold Spec.lookup obs Db.get
  rw [List.find?_map, Option.map_map, Option.map_map]
  rfl

theorem Db.run_append (ops : FOps) (db : Db) (h₁ h₂ : List (Nat × Setter)) :
    db.run ops (h₁ ++ h₂) = (db.run ops h₁).run ops h₂ := by
  unfold Db.run; rw [List.foldl_append]

end TracksV2
end EngineModel
