/-
The 26 setters (`set`, EngineModel/TracksV1/Accessors.lean) in one form.

`setPlan o r f v` is a second description of the setters, beside the model's `set`.  It runs the conversions of
the call that can throw or be undefined (`ceiledBpm`, the slot lookup, `lengthCalculated`, the waveform
extents, the resampling, the nine-loops test) and ends in a `SetPlan`: the cells the call writes outside
PerformanceData and the blob columns it stores, in order, every value read from the rows the call started
on.  `SetPlan.run` carries a plan out: the cell writes, then one `set_performance_data_column` per column
(`ColWrite.run`).  `set_eq_setPlan` says that the two descriptions agree, outcome for outcome.

The equation is exact although the C++ does not convert everything first: `set_sample_count` and
`set_sample_rate` recompute the extents of a stored waveform after two columns are already written.  Those
conversions never fail (`ovwExtents_ok`, `hiresExtents_ok`), so running them first changes no outcome;
and a cell write that follows a store (`set_key`) commutes with it (`runCols_edit`).

What a sequence of stores does is said once (`runCols_ok_iff`, `runCols_defined`), and `set_ok_form` joins
it to `set_eq_setPlan`.  What holds of every setter is read off these; what holds of one setter starts from
its case of `setPlan` (for the three composite setters: `setPlan_sampleCount`, `setPlan_sampleRate`, `setPlan_waveform`).
-/
import Proofs.TracksV1Lens

namespace EngineModel.TracksV1

open Impl.V1 (GMarker HotCue LoopV Entry Wave Beat Cues Loops)
open Fl (FOps)

/-- One store into a blob column (`set_performance_data_column`). -/
inductive ColWrite where
  | track (v : Impl.V1.Track)
  | beat (v : Beat)
  | cues (v : Cues)
  | loops (v : Loops)
  | hires (v : Wave)
  | ovw (v : Wave)

namespace ColWrite

def run (r : TrackRows) : ColWrite → Res TrackRows
  | track v => setTrackCol r v
  | beat v => setBeatCol r v
  | cues v => setCuesCol r v
  | loops v => setLoopsCol r v
  | hires v => setHiresCol r v
  | ovw v => setOvwCol r v

/-- The decode-after-encode guard of the store, as a test on the value. -/
def stable : ColWrite → Bool
  | track v => stableTrack v
  | beat v => stableBeat v
  | cues v => stableCues v
  | loops v => stableLoops v
  | hires v => stableWave v
  | ovw v => stableWave v

def put (p : PerfRow) : ColWrite → PerfRow
  | track v => { p with trackData := v, isAnalyzed := 1 }
  | beat v => { p with beat := v, isAnalyzed := 1 }
  | cues v => { p with cues := v, isAnalyzed := 1 }
  | loops v => { p with loops := v, isAnalyzed := 1 }
  | hires v => { p with hires := v, isAnalyzed := 1 }
  | ovw v => { p with overview := ⟨v.spe, v.entries.map opaque255⟩, isAnalyzed := 1 }

theorem run_iff (w : ColWrite) (r r' : TrackRows) :
    w.run r = .ok r' ↔ (w.stable = true ∧ ∃ p, r.perf = some p ∧ r' = { r with perf := some (w.put p) }) := by
  cases w with
  | track v => exact setCol_iff r r' _ _ v _ _ (guardTrack_iff v)
  | beat v => exact setCol_iff r r' _ _ v _ _ (guardBeat_iff v)
  | cues v => exact setCol_iff r r' _ _ v _ _ (guardCues_iff v)
  | loops v => exact setCol_iff r r' _ _ v _ _ (guardLoops_iff v)
  | hires v => exact setCol_iff r r' _ _ v _ _ (guardHires_iff v)
  | ovw v =>
    exact setCol_iff r r' (fun x => Res.ok (normOvw x)) eqWave (⟨v.spe, v.entries.map opaque255⟩ : Wave)
      (fun p x => { p with overview := x }) (stableWave v) (guardOvw_iff v.spe v.entries)

theorem run_defined (w : ColWrite) (r : TrackRows) : Defined (w.run r) := by
  cases w with
  | beat v => exact setCol_defined _ _ _ _ _ (normBeat_defined _)
  | cues v => exact setCol_defined _ _ _ _ _ (normCues_defined _)
  | loops v => exact setCol_defined _ _ _ _ _ (normLoops_defined _)
  | track v | hires v | ovw v => exact setCol_defined _ _ _ _ _ (Defined.ok _)

end ColWrite

/-- What a setter does once its conversions have succeeded. -/
structure SetPlan where
  track : TrackRow → TrackRow := id
  mstr : List (Int × Option Bytes) → List (Int × Option Bytes) := id
  mint : List (Int × Option Int) → List (Int × Option Int) := id
  cols : List ColWrite := []

/-- The cells written outside PerformanceData. -/
def SetPlan.edit (P : SetPlan) (r : TrackRows) : TrackRows :=
  { r with track := P.track r.track, mstr := P.mstr r.mstr, mint := P.mint r.mint }

def runCols : List ColWrite → TrackRows → Res TrackRows
  | [], r => .ok r
  | w :: ws, r => (w.run r).bind (runCols ws)

def SetPlan.run (P : SetPlan) (r : TrackRows) : Res TrackRows := runCols P.cols (P.edit r)

/-- The store that re-scales a stored waveform `w` to the extents `x`; none if no waveform is stored. -/
def respe (x : Res (Nat × Bits)) (w : Wave) (mk : Wave → ColWrite) : Res (List ColWrite) :=
  if w.entries.isEmpty then .ok [] else x.bind fun e => .ok [mk { w with spe := e.2 }]

def setPlan (o : FOps) (r : TrackRows) : (f : Field) → f.ty → Res SetPlan
  | .album, v => .ok { mstr := aset 3 v }
  | .artist, v => .ok { mstr := aset 2 v }
  | .comment, v => .ok { mstr := aset 5 v }
  | .composer, v => .ok { mstr := aset 7 v }
  | .genre, v => .ok { mstr := aset 4 v }
  | .publisher, v => .ok { mstr := aset 6 v }
  | .title, v => .ok { mstr := aset 1 v }
  | .averageLoudness, v =>
    .ok { cols := [.track { colTrack r with loudness := if F64.isZero (v.getD F64.zero) then none else v }] }
  | .beatgrid, g => .ok { cols := [.beat { colBeat r with adj := g, dflt := g }] }
  | .bitrate, v => .ok { track := fun t => { t with bitrate := v.map Prim.s32 } }
  | .bpm, v => (ceiledBpm o v).bind fun c =>
    .ok { track := fun t => { t with bpmAnalyzed := v.bind Fl.realCell, bpm := c } }
  | .duration, v =>
    let secs : Option Int := v.map fun d => tdivPos (Prim.s64 d) 1000
    .ok { track := fun t => { t with length := secs }, mstr := aset 10 (secs.map mmssSetter) }
  | .hotCues, cs => .ok { cols := [.cues { colCues r with cues := padTo8 cs }] }
  | .hotCueAt i, q => (slotIndex i (colCues r).cues).bind fun k =>
    .ok { cols := [.cues { colCues r with cues := setAt (colCues r).cues k q }] }
  | .key, k =>
    let k' : Option UInt32 := k
    .ok { mint := aset 4 (k'.map Prim.s32),
          cols := [.track { colTrack r with key := k'.bind fun x => if x = 0 then none else some x }] }
  | .lastPlayedAt, t =>
    .ok { mstr := aset 12 (some (if t.isSome then [49] else [48])), mint := aset 1 (t.map toTimestamp) }
  | .loops, ls => if 8 < ls.length then .throw (.dj "loops_overflow") else .ok { cols := [.loops (padTo8 ls)] }
  | .loopAt i, l => (slotIndex i (colLoops r)).bind fun k => .ok { cols := [.loops (setAt (colLoops r) k l)] }
  | .mainCue, v =>
    .ok { cols := [.cues { colCues r with adjMain := v.getD F64.zero, defMain := v.getD F64.zero }] }
  | .rating, v => .ok { mint := aset 5 (v.map clampRating) }
  | .relativePath, p =>
    .ok { track := fun t => { t with path := some p, filename := some (getFilename p) },
          mstr := aset 13 (getExtension (getFilename p)) }
  | .sampleCount, n0 =>
    let n0' : Option UInt64 := n0
    let n : Option UInt64 := n0'.bind fun x => if x = 0 then none else some x
    let td := colTrack r
    (lengthCalculated n td.sampleRate).bind fun secs =>
    (respe (ovwExtents o (n.getD 0) (td.sampleRate.getD F64.zero)) (colOvw r) .ovw).bind fun tail =>
    .ok { track := fun t => { t with lengthCalculated := secs },
          cols := .beat { colBeat r with sampleCount := n.map fun k => o.ofU64 k.toNat } ::
            .track { td with sampleCount := n } :: tail }
  | .sampleRate, v0 =>
    let v : Option Bits := zeroNoneF v0
    let td := colTrack r
    (lengthCalculated td.sampleCount v).bind fun secs =>
    (respe (hiresExtents o (td.sampleCount.getD 0) (v.getD F64.zero)) (colHires r) .hires).bind fun t1 =>
    (respe (ovwExtents o (td.sampleCount.getD 0) (v.getD F64.zero)) (colOvw r) .ovw).bind fun t2 =>
    .ok { track := fun t => { t with lengthCalculated := secs },
          cols := .beat { colBeat r with sampleRate := v } :: .track { td with sampleRate := v } :: (t1 ++ t2) }
  | .trackNumber, v => .ok { track := fun t => { t with playOrder := v.map Prim.s32 } }
  | .waveform, w =>
    (if w.isEmpty then .ok ((⟨F64.zero, []⟩ : Wave), (⟨F64.zero, []⟩ : Wave)) else
      let td := colTrack r
      let n := td.sampleCount.getD 0
      let rate := td.sampleRate.getD F64.zero
      (ovwExtents o n rate).bind fun oe => (resample w oe.1).bind fun es => (hiresExtents o n rate).bind fun he =>
      .ok ((⟨oe.2, es⟩ : Wave), (⟨he.2, w⟩ : Wave))).bind fun p =>
    .ok { cols := [.ovw p.1, .hires p.2] }
  | .year, v => .ok { track := fun t => { t with year := v.map Prim.s32 } }

theorem setCol_edit {α} (P : SetPlan) (r : TrackRows) (norm : α → Res α) (eq : α → α → Bool) (v : α)
    (put : PerfRow → α → PerfRow) :
    setCol (P.edit r) norm eq v put = (setCol r norm eq v put).bind fun r' => .ok (P.edit r') := by
  unfold setCol
  cases colGuard norm eq v with
  | throw e => rfl
  | ub u => rfl
  | ok v' => obtain ⟨t, ms, mi, pf⟩ := r; cases pf <;> rfl

theorem ColWrite.run_edit (P : SetPlan) (w : ColWrite) (r : TrackRows) :
    w.run (P.edit r) = (w.run r).bind fun r' => .ok (P.edit r') := by
  cases w <;> exact setCol_edit P r _ _ _ _

theorem runCols_edit (P : SetPlan) (ws : List ColWrite) (r : TrackRows) :
    runCols ws (P.edit r) = (runCols ws r).bind fun r' => .ok (P.edit r') := by
  induction ws generalizing r with
  | nil => rfl
  | cons w ws ih =>
    simp only [runCols, ColWrite.run_edit]
    cases w.run r with
    | ok r1 => exact ih r1
    | throw e => rfl
    | ub u => rfl

theorem runCols_defined (ws : List ColWrite) (r : TrackRows) : Defined (runCols ws r) := by
  induction ws generalizing r with
  | nil => exact Defined.ok _
  | cons w ws ih => exact Defined.bind (w.run_defined r) fun r1 _ => ih r1

/-- Stores return normally exactly when every value passes its guard and — if there is a store at all — the
PerformanceData row exists; the row then holds the values, the later over the earlier. -/
theorem runCols_ok_iff (ws : List ColWrite) (r r' : TrackRows) :
    runCols ws r = .ok r' ↔ ((∀ w ∈ ws, w.stable = true) ∧
      ((ws = [] ∧ r' = r) ∨ (ws ≠ [] ∧ ∃ p, r.perf = some p ∧ r' = { r with perf := some (ws.foldl ColWrite.put p) }))) := by
  induction ws generalizing r with
  | nil =>
    exact ⟨fun h => ⟨fun _ hw => (nomatch hw), Or.inl ⟨rfl, (Res.ok.inj h).symm⟩⟩,
      fun ⟨_, h⟩ => h.elim (fun h => by rw [h.2]; rfl) (fun h => absurd rfl h.1)⟩
  | cons w ws ih =>
    simp only [runCols, List.mem_cons, forall_eq_or_imp, reduceCtorEq, false_and, false_or, ne_eq, not_false_eq_true,
      true_and, List.foldl_cons]
    constructor
    · intro h
      obtain ⟨r1, h1, h⟩ := Res.bind_eq_ok.mp h
      obtain ⟨hs, p, hp, rfl⟩ := (w.run_iff r r1).mp h1
      obtain ⟨hall, h | ⟨_, q, hq, rfl⟩⟩ := (ih _).mp h
      · obtain ⟨rfl, rfl⟩ := h
        exact ⟨⟨hs, hall⟩, p, hp, rfl⟩
      · cases hq
        exact ⟨⟨hs, hall⟩, p, hp, rfl⟩
    · intro ⟨⟨hs, hall⟩, p, hp, hr⟩
      rw [(w.run_iff r _).mpr ⟨hs, p, hp, rfl⟩, Res.bind_ok', ih]
      refine ⟨hall, ?_⟩
      by_cases hws : ws = []
      · subst hws; exact Or.inl ⟨rfl, hr⟩
      · exact Or.inr ⟨hws, _, rfl, hr⟩

theorem runCols_induction {Q : TrackRows → Prop} (col : ∀ {r r'} (w : ColWrite), Q r → w.run r = .ok r' → Q r')
    {ws : List ColWrite} {r r' : TrackRows} (hr : Q r) (h : runCols ws r = .ok r') : Q r' := by
  induction ws generalizing r with
  | nil => cases h; exact hr
  | cons w ws ih =>
    obtain ⟨r1, h1, h⟩ := Res.bind_eq_ok.mp h
    exact ih (col w hr h1) h

theorem respe_ok {x : Res (Nat × Bits)} {w : Wave} {mk : Wave → ColWrite} {t : List ColWrite}
    (h : respe x w mk = .ok t) : t = [] ∨ ∃ e, x = .ok e ∧ t = [mk { w with spe := e.2 }] := by
  unfold respe at h
  split at h
  · cases h; exact Or.inl rfl
  · obtain ⟨e, he, h⟩ := Res.bind_eq_ok.mp h
    cases h; exact Or.inr ⟨e, he, rfl⟩

theorem respe_isOk {x : Res (Nat × Bits)} (hx : ∃ e, x = .ok e) (w : Wave) (mk : Wave → ColWrite) :
    ∃ t, respe x w mk = .ok t := by
  obtain ⟨e, rfl⟩ := hx
  unfold respe
  split <;> exact ⟨_, rfl⟩

theorem run_one (w : ColWrite) (r : TrackRows) : SetPlan.run { cols := [w] } r = w.run r :=
  Res.bind_ok_right _

theorem bind_setPlan {α} (X : Res α) (mk : α → SetPlan) (k : α → Res TrackRows) (r : TrackRows)
    (h : ∀ a, k a = (mk a).run r) : X.bind k = (X.bind fun a => .ok (mk a)).bind fun P => P.run r := by
  cases X with
  | ok a => exact h a
  | throw e => rfl
  | ub u => rfl

theorem set_eq_setPlan (o : FOps) (r : TrackRows) (f : Field) (v : f.ty) :
    set o r f v = (setPlan o r f v).bind fun P => P.run r := by
  cases f with
  | album | artist | comment | composer | genre | publisher | title | bitrate | duration | lastPlayedAt | rating
  | relativePath | trackNumber | year => rfl
  | averageLoudness => exact (run_one (.track _) r).symm
  | beatgrid => exact (run_one (.beat _) r).symm
  | hotCues | mainCue => exact (run_one (.cues _) r).symm
  | bpm => exact bind_setPlan _ _ _ r fun _ => rfl
  | hotCueAt i => exact bind_setPlan _ _ _ r fun _ => (run_one (.cues _) r).symm
  | loopAt i => exact bind_setPlan _ _ _ r fun _ => (run_one (.loops _) r).symm
  | loops =>
    simp only [set, setPlan]
    split
    · rfl
    · exact (run_one (.loops _) r).symm
  | key =>
    simp only [set, setPlan, Res.bind_ok', SetPlan.run]
    rw [runCols_edit]
    show _ = ((setTrackCol r _).bind Res.ok).bind _
    rw [Res.bind_ok_right]
    rfl
  | sampleCount =>
    obtain ⟨secs, hs⟩ := lengthCalculated_ok ((v : Option UInt64).bind fun x => if x = 0 then none else some x)
      (colTrack r).sampleRate
    obtain ⟨e, he⟩ := ovwExtents_ok o (((v : Option UInt64).bind fun x => if x = 0 then none else some x).getD 0)
      ((colTrack r).sampleRate.getD F64.zero)
    -- `hs`, `he` put the values where the conversions stand: `set` runs the extents after two stores, the plan before them
    simp only [set, setPlan, respe, hs, he, Res.bind_ok, Res.bind_ok']
    by_cases hc : (colOvw r).entries.isEmpty = true <;>
      simp only [hc, if_true, if_false, Bool.false_eq_true, Res.bind_ok', SetPlan.run, runCols, ColWrite.run,
        Res.bind_ok_right, bind, pure] <;> rfl
  | sampleRate =>
    obtain ⟨secs, hs⟩ := lengthCalculated_ok (colTrack r).sampleCount (zeroNoneF v)
    obtain ⟨e1, he1⟩ := hiresExtents_ok o ((colTrack r).sampleCount.getD 0) ((zeroNoneF v).getD F64.zero)
    obtain ⟨e2, he2⟩ := ovwExtents_ok o ((colTrack r).sampleCount.getD 0) ((zeroNoneF v).getD F64.zero)
    simp only [set, setPlan, respe, hs, he1, he2, Res.bind_ok, Res.bind_ok']
    by_cases hc : (colOvw r).entries.isEmpty = true <;> by_cases hh : (colHires r).entries.isEmpty = true <;>
      simp only [hc, hh, if_true, if_false, Bool.false_eq_true, Res.bind_ok', SetPlan.run, runCols, ColWrite.run,
        Res.bind_ok_right, List.nil_append, List.cons_append, bind, pure] <;> rfl
  | waveform =>
    refine bind_setPlan _ _ _ r fun p => ?_
    simp only [SetPlan.run, runCols, ColWrite.run, Res.bind_ok_right]
    rfl

theorem set_ok_form {o : FOps} {r r' : TrackRows} {f : Field} {v : f.ty} (h : set o r f v = .ok r') :
    ∃ P, setPlan o r f v = .ok P ∧ (∀ w ∈ P.cols, w.stable = true) ∧
      ((P.cols = [] ∧ r' = P.edit r) ∨
        (P.cols ≠ [] ∧ ∃ p, r.perf = some p ∧ r' = { P.edit r with perf := some (P.cols.foldl ColWrite.put p) })) := by
  rw [set_eq_setPlan] at h
  obtain ⟨P, hP, h⟩ := Res.bind_eq_ok.mp h
  exact ⟨P, hP, (runCols_ok_iff _ _ _).mp h⟩

theorem set_isOk_iff (o : FOps) (r : TrackRows) (f : Field) (v : f.ty) :
    (∃ r', set o r f v = .ok r') ↔
      ∃ P, setPlan o r f v = .ok P ∧ (∀ w ∈ P.cols, w.stable = true) ∧ (P.cols = [] ∨ ∃ p, r.perf = some p) := by
  rw [set_eq_setPlan]
  constructor
  · intro ⟨r', h⟩
    obtain ⟨P, hP, h⟩ := Res.bind_eq_ok.mp h
    obtain ⟨hall, ⟨he, _⟩ | ⟨_, p, hp, _⟩⟩ := (runCols_ok_iff _ _ _).mp h
    · exact ⟨P, hP, hall, Or.inl he⟩
    · exact ⟨P, hP, hall, Or.inr ⟨p, hp⟩⟩
  · intro ⟨P, hP, hall, hp⟩
    rw [hP, Res.bind_ok']
    by_cases he : P.cols = []
    · exact ⟨_, (runCols_ok_iff _ _ _).mpr ⟨hall, Or.inl ⟨he, rfl⟩⟩⟩
    · obtain ⟨p, hp⟩ := hp.resolve_left he
      exact ⟨_, (runCols_ok_iff _ _ _).mpr ⟨hall, Or.inr ⟨he, p, hp, rfl⟩⟩⟩

theorem setPlan_loops (o : FOps) (r : TrackRows) (ls : List (Option LoopV)) :
    setPlan o r .loops ls =
      if 8 < ls.length then .throw (.dj "loops_overflow") else .ok { cols := [.loops (padTo8 ls)] } := rfl

theorem setPlan_sampleCount (o : FOps) (r : TrackRows) (n0 : Option UInt64) (P : SetPlan) :
    setPlan o r .sampleCount n0 = .ok P ↔
      ∃ secs tail, lengthCalculated (n0.bind fun x => if x = 0 then none else some x) (colTrack r).sampleRate = .ok secs ∧
        respe (ovwExtents o ((n0.bind fun x => if x = 0 then none else some x).getD 0)
          ((colTrack r).sampleRate.getD F64.zero)) (colOvw r) .ovw = .ok tail ∧
        P = { track := fun t => { t with lengthCalculated := secs },
              cols := .beat { colBeat r with
                  sampleCount := (n0.bind fun x => if x = 0 then none else some x).map fun k => o.ofU64 k.toNat } ::
                .track { colTrack r with sampleCount := n0.bind fun x => if x = 0 then none else some x } :: tail } := by
  constructor
  · intro h
    obtain ⟨secs, h0, h⟩ := Res.bind_eq_ok.mp h
    obtain ⟨tail, h1, h⟩ := Res.bind_eq_ok.mp h
    cases h
    exact ⟨secs, tail, h0, h1, rfl⟩
  · intro ⟨secs, tail, h0, h1, hP⟩
    show (Res.bind _ _) = _
    rw [h0, Res.bind_ok', h1, hP]
    rfl

theorem setPlan_sampleRate (o : FOps) (r : TrackRows) (v0 : Option Bits) (P : SetPlan) :
    setPlan o r .sampleRate v0 = .ok P ↔
      ∃ secs t1 t2, lengthCalculated (colTrack r).sampleCount (zeroNoneF v0) = .ok secs ∧
        respe (hiresExtents o ((colTrack r).sampleCount.getD 0) ((zeroNoneF v0).getD F64.zero)) (colHires r) .hires
          = .ok t1 ∧
        respe (ovwExtents o ((colTrack r).sampleCount.getD 0) ((zeroNoneF v0).getD F64.zero)) (colOvw r) .ovw
          = .ok t2 ∧
        P = { track := fun t => { t with lengthCalculated := secs },
              cols := .beat { colBeat r with sampleRate := zeroNoneF v0 } ::
                .track { colTrack r with sampleRate := zeroNoneF v0 } :: (t1 ++ t2) } := by
  constructor
  · intro h
    obtain ⟨secs, h0, h⟩ := Res.bind_eq_ok.mp h
    obtain ⟨t1, h1, h⟩ := Res.bind_eq_ok.mp h
    obtain ⟨t2, h2, h⟩ := Res.bind_eq_ok.mp h
    cases h
    exact ⟨secs, t1, t2, h0, h1, h2, rfl⟩
  · intro ⟨secs, t1, t2, h0, h1, h2, hP⟩
    show (Res.bind _ _) = _
    rw [h0, Res.bind_ok', h1, Res.bind_ok', h2, hP]
    rfl

theorem setPlan_waveform (o : FOps) (r : TrackRows) (w : List Entry) (P : SetPlan) :
    setPlan o r .waveform w = .ok P ↔
      ∃ ov hi : Wave, P = { cols := [.ovw ov, .hires hi] } ∧
        ((w = [] ∧ ov = ⟨F64.zero, []⟩ ∧ hi = ⟨F64.zero, []⟩) ∨
          (w ≠ [] ∧ ∃ oe es he,
            ovwExtents o ((colTrack r).sampleCount.getD 0) ((colTrack r).sampleRate.getD F64.zero) = .ok oe ∧
            resample w oe.1 = .ok es ∧
            hiresExtents o ((colTrack r).sampleCount.getD 0) ((colTrack r).sampleRate.getD F64.zero) = .ok he ∧
            ov = ⟨oe.2, es⟩ ∧ hi = ⟨he.2, w⟩)) := by
  constructor
  · intro h
    obtain ⟨p, h0, h⟩ := Res.bind_eq_ok.mp h
    cases h
    refine ⟨p.1, p.2, rfl, ?_⟩
    cases w with
    | nil => cases h0; exact Or.inl ⟨rfl, rfl, rfl⟩
    | cons a t =>
      obtain ⟨oe, h1, h0⟩ := Res.bind_eq_ok.mp h0
      obtain ⟨es, h2, h0⟩ := Res.bind_eq_ok.mp h0
      obtain ⟨he, h3, h0⟩ := Res.bind_eq_ok.mp h0
      cases h0
      exact Or.inr ⟨List.cons_ne_nil _ _, oe, es, he, h1, h2, h3, rfl, rfl⟩
  · intro ⟨ov, hi, hP, h⟩
    rcases h with ⟨rfl, rfl, rfl⟩ | ⟨hw, oe, es, he, h1, h2, h3, rfl, rfl⟩
    · rw [hP]; rfl
    · cases w with
      | nil => exact absurd rfl hw
      | cons a t =>
        show (Res.bind (Res.bind _ _) _) = _
        rw [h1, Res.bind_ok', h2, Res.bind_ok', h3, hP]
        rfl

theorem slotIndex_defined {α} (i : UInt32) (l : List α) : Defined (slotIndex i l) := by
  rw [slotIndex_eq]
  cases Spec.slotOf i l.length <;> first | exact Defined.ok _ | exact Defined.throw _

theorem ceiledBpm_defined (o : FOps) (hc : CeilInRange o) (v : Option Bits) : Defined (ceiledBpm o v) := by
  unfold ceiledBpm
  cases v with
  | none => exact Defined.ok _
  | some b =>
    simp only
    by_cases h : Fl.absLt63 b = true
    · obtain ⟨i, hi⟩ := hc b h
      simp only [h, Bool.not_true, Bool.false_eq_true, if_false, hi]
      exact Defined.ok _
    · simp only [h, Bool.not_false, if_true]
      exact Defined.ok _

theorem respe_defined {x : Res (Nat × Bits)} (hx : ∃ e, x = .ok e) (w : Wave) (mk : Wave → ColWrite) :
    Defined (respe x w mk) :=
  defined_of_ok (respe_isOk hx w mk)

theorem setPlan_defined (o : FOps) (r : TrackRows) (f : Field) (v : f.ty) (hc : f = .bpm → CeilInRange o) :
    Defined (setPlan o r f v) := by
  cases f with
  | bpm => exact Defined.bind (ceiledBpm_defined o (hc rfl) v) fun _ _ => Defined.ok _
  | hotCueAt i => exact Defined.bind (slotIndex_defined _ _) fun _ _ => Defined.ok _
  | loopAt i => exact Defined.bind (slotIndex_defined _ _) fun _ _ => Defined.ok _
  | loops =>
    rw [show setPlan o r .loops v = _ from setPlan_loops o r v]
    split <;> first | exact Defined.throw _ | exact Defined.ok _
  | sampleCount =>
    exact Defined.bind (defined_of_ok (lengthCalculated_ok _ _)) fun _ _ =>
      Defined.bind (respe_defined (ovwExtents_ok o _ _) _ _) fun _ _ => Defined.ok _
  | sampleRate =>
    exact Defined.bind (defined_of_ok (lengthCalculated_ok _ _)) fun _ _ =>
      Defined.bind (respe_defined (hiresExtents_ok o _ _) _ _) fun _ _ =>
        Defined.bind (respe_defined (ovwExtents_ok o _ _) _ _) fun _ _ => Defined.ok _
  | waveform =>
    refine Defined.bind ?_ fun _ _ => Defined.ok _
    split
    · exact Defined.ok _
    · rename_i hw
      refine Defined.bind (defined_of_ok (ovwExtents_ok o _ _)) fun oe _ => ?_
      refine Defined.bind (defined_of_ok (resample_ok v oe.1 fun h => hw (by rw [h]; rfl))) fun _ _ => ?_
      exact Defined.bind (defined_of_ok (hiresExtents_ok o _ _)) fun _ _ => Defined.ok _
  | _ => exact Defined.ok _

/-- The cells that no setter other than `set_relative_path` writes: path, file name, album-art key, extension row. -/
def cells (r : TrackRows) : Option Bytes × Option Bytes × Option Int × Option (Option Bytes) :=
  (r.track.path, r.track.filename, r.track.idAlbumArt, aget 13 r.mstr)

theorem cells_aset (r : TrackRows) (k : Int) (v : Option Bytes) (hk : k ≠ 13) :
    cells { r with mstr := aset k v r.mstr } = cells r := by
  unfold cells
  simp only
  rw [aget_aset_other k 13 v r.mstr (fun e => hk e.symm)]

theorem setPlan_cells (o : FOps) (r : TrackRows) (f : Field) (v : f.ty) (hf : f ≠ .relativePath) (P : SetPlan)
    (h : setPlan o r f v = .ok P) : cells (P.edit r) = cells r := by
  cases f with
  | relativePath => exact absurd rfl hf
  | album => cases h; exact cells_aset r 3 v (by decide)
  | artist => cases h; exact cells_aset r 2 v (by decide)
  | comment => cases h; exact cells_aset r 5 v (by decide)
  | composer => cases h; exact cells_aset r 7 v (by decide)
  | genre => cases h; exact cells_aset r 4 v (by decide)
  | publisher => cases h; exact cells_aset r 6 v (by decide)
  | title => cases h; exact cells_aset r 1 v (by decide)
  | duration => cases h; exact cells_aset { r with track := { r.track with length := _ } } 10 _ (by decide)
  | lastPlayedAt => cases h; exact cells_aset { r with mint := _ } 12 _ (by decide)
  | bpm => obtain ⟨_, _, h⟩ := Res.bind_eq_ok.mp h; cases h; rfl
  | hotCueAt i => obtain ⟨_, _, h⟩ := Res.bind_eq_ok.mp h; cases h; rfl
  | loopAt i => obtain ⟨_, _, h⟩ := Res.bind_eq_ok.mp h; cases h; rfl
  | loops =>
    rw [show setPlan o r .loops v = _ from setPlan_loops o r v] at h
    split at h <;> cases h
    rfl
  | sampleCount => obtain ⟨_, _, _, _, rfl⟩ := (setPlan_sampleCount o r v P).mp h; rfl
  | sampleRate => obtain ⟨_, _, _, _, _, _, rfl⟩ := (setPlan_sampleRate o r v P).mp h; rfl
  | waveform => obtain ⟨_, _, rfl, _⟩ := (setPlan_waveform o r v P).mp h; rfl
  | averageLoudness | beatgrid | bitrate | hotCues | key | mainCue | rating | trackNumber | year => cases h; rfl

theorem ColWrite.run_cells {w : ColWrite} {r r' : TrackRows} (h : w.run r = .ok r') : cells r' = cells r := by
  obtain ⟨_, p, _, rfl⟩ := (w.run_iff r r').mp h
  rfl

theorem set_cells (o : FOps) {r r' : TrackRows} {f : Field} {v : f.ty} (hf : f ≠ .relativePath)
    (h : set o r f v = .ok r') : cells r' = cells r := by
  rw [set_eq_setPlan] at h
  obtain ⟨P, hP, h⟩ := Res.bind_eq_ok.mp h
  exact runCols_induction (Q := fun x => cells x = cells r) (fun _ hx hw => (ColWrite.run_cells hw).trans hx)
    (setPlan_cells o r f v hf P hP) h

/-- Every setter other than `set_relative_path` is a chain of writes of seven kinds: one that leaves the PerformanceData
row and `cells` alone, or the store of one of the six blob columns.  What these seven keep, every such setter keeps. -/
theorem set_induction (o : FOps) {P : TrackRows → Prop}
    (other : ∀ {r r'}, P r → r'.perf = r.perf → cells r' = cells r → P r')
    (track : ∀ {r r' v}, P r → setTrackCol r v = .ok r' → P r')
    (beat : ∀ {r r' v}, P r → setBeatCol r v = .ok r' → P r')
    (cues : ∀ {r r' v}, P r → setCuesCol r v = .ok r' → P r')
    (loops : ∀ {r r' v}, P r → setLoopsCol r v = .ok r' → P r')
    (hires : ∀ {r r' v}, P r → setHiresCol r v = .ok r' → P r')
    (ovw : ∀ {r r' v}, P r → setOvwCol r v = .ok r' → P r')
    {r r' : TrackRows} {f : Field} {v : f.ty} (hf : f ≠ .relativePath) (hr : P r) (h : set o r f v = .ok r') : P r' := by
  rw [set_eq_setPlan] at h
  obtain ⟨Pl, hP, h⟩ := Res.bind_eq_ok.mp h
  have h0 : P (Pl.edit r) := other hr rfl (setPlan_cells o r f v hf Pl hP)
  refine runCols_induction (fun w hx hw => ?_) h0 h
  cases w with
  | track v => exact track hx hw
  | beat v => exact beat hx hw
  | cues v => exact cues hx hw
  | loops v => exact loops hx hw
  | hires v => exact hires hx hw
  | ovw v => exact ovw hx hw

end EngineModel.TracksV1
