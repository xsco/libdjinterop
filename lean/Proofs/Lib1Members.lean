/-
Cross-family facts about tracks in the composite model: `is_valid()` decides `liveTrack` (`trackIsValid_live`,
`trackLive_iff_rows`); what the calls answer on a track that has no rows (`absent_answers`); a removed track stays
removed as long as no `create_track` reports its id again (`absent_suffix`), and likewise a removed crate
(`crateDead_suffix`).
-/
import Proofs.Lib1Proj
import Proofs.CratesV1MemSim
import Proofs.CratesV1Suffix

namespace EngineModel.Lib.V1
open EngineModel.Api
open EngineModel.Api.CratesV1 (liveTrack trackAutoinc)
open EngineModel.TracksV1 (Snap Field TrackRows aget aset TableOk DbInv KeysDistinct dbCreate)
open EngineModel.TracksV1.Fl (FOps)

/-- With a primary key on Track, `is_valid()` never sees two rows: it answers whether the track is live. -/
theorem trackIsValid_live {db : CratesV1.Db} (hn : (db.track.map (·.id)).Nodup) (t : Id) :
    (liveTrack db t → CratesV1.trackIsValid db t = .ok true) ∧
    (¬ liveTrack db t → CratesV1.trackIsValid db t = .ok false) := by
  have hle := ListAux.filter_key_le_one (fun r : CratesV1.TrackRow => r.id) (fun r => r.hasPath) t db.track hn
  have hc := CratesV1.liveTrack_iff_count db t
  unfold CratesV1.trackIsValid
  constructor <;> intro hl
  · have : (db.track.filter (fun r => r.id == t && r.hasPath)).length = 1 := by have := hc.mpr hl; omega
    simp [this]
  · have : (db.track.filter (fun r => r.id == t && r.hasPath)).length = 0 := by have := mt hc.mp hl; omega
    simp [this]

theorem trackLive_iff_rows {s : VSchema} {L : Lib1} (h : LibInv s L) (t : Id) :
    trackLive L t = .ok (L.tr.rows t).isSome := by
  unfold trackLive
  obtain ⟨h1, h2⟩ := trackIsValid_live h.crates.trackNodup t
  cases hr : (L.tr.rows t).isSome with
  | true => exact h1 ((h.coupled t).mpr hr)
  | false => exact h2 (fun hl => by have := (h.coupled t).mp hl; rw [hr] at this; cases this)

theorem absent_answers (o : FOps) {s : VSchema} {L : Lib1} (h : LibInv s L) {t : Id} (hrow : L.tr.rows t = none) :
    ¬ liveTrack L.cr t ∧ (step o s L (.trackIsValid t)).2 = .ok (.bool false) ∧
    (step o s L (.snapshot t)).2 = .throw (.dj "track_deleted") ∧
    (∀ f v, ∃ e, (step o s L (.set t f v)).2 = .throw e) ∧
    (∀ c, t ∉ CratesV1.crateTracks (toDetect s) L.cr c) ∧ t ∉ CratesV1.dbTracks L.cr := by
  have hdead : ¬ liveTrack L.cr t := fun hl => by have := (h.coupled t).mp hl; rw [hrow] at this; cases this
  refine ⟨hdead, ?_, ?_, fun f v => ?_, fun c hm => ?_, fun hm => hdead ((CratesV1.mem_dbTracks _ _).mp hm)⟩
  · show mapRes Out.bool (trackLive L t) = _
    rw [trackLive_iff_rows h t, hrow]; rfl
  · show mapRes Out.snap (TracksV1.dbSnap o L.tr t) = _
    unfold TracksV1.dbSnap; rw [hrow]; rfl
  · obtain ⟨e, he⟩ := TracksV1.dbSet_absent o L.tr t f v hrow
    exact ⟨e, by show (viaTracks L (TracksV1.dbSet o L.tr t f v)).2 = _; rw [he]; rfl⟩
  · exact hdead (h.crates.ctlLive _ ((CratesV1.mem_crateTracks _ h.crates c t).mp hm)).2

theorem viaCrates_tr (s : VSchema) (L : Lib1) (op : CratesV1.Op) : (viaCrates s L op).1.tr = L.tr := rfl

theorem reissuesTrack_cons (o : FOps) (s : VSchema) (L : Lib1) (c : Call) (cs : List Call) (y : Id) :
    reissuesTrack o s L (c :: cs) y = (reissuesTrack o s L [c] y || reissuesTrack o s (step o s L c).1 cs y) := by
  simp only [reissuesTrack, Bool.or_false]

theorem absent_step (o : FOps) (s : VSchema) {L : Lib1} (t : Id) (ht : L.tr.rows t = none) (c : Call)
    (hno : reissuesTrack o s L [c] t = false) : (step o s L c).1.tr.rows t = none := by
  cases step_eff o s L c with
  | idle e _ _ =>
    rw [e]; exact ht
  | crate op _ _ e _ =>
    rw [e]; exact ht
  | create x id seq rows _ _ _ _ e =>
    have hno : (Out.newId (step o s L (.createTrack x)).2 == some t) = false := (Bool.or_false _).symm.trans hno
    rw [e] at hno ⊢
    rw [rows_append, ht, if_neg fun hid => by subst hid; simp [Out.newId] at hno]
    rfl
  | remove u e =>
    rw [e, rows_dbRemove, ht, ite_self]
  | write u r r' hr _ _ e =>
    rw [e, rows_aset, if_neg fun hu => by rw [hu, hr] at ht; cases ht]; exact ht

theorem absent_suffix (o : FOps) (s : VSchema) (t : Id) (cs : List Call) {L : Lib1} (ht : L.tr.rows t = none)
    (hno : reissuesTrack o s L cs t = false) : (run o s L cs).tr.rows t = none :=
  (run_induction o s (P := fun L cs => L.tr.rows t = none ∧ reissuesTrack o s L cs t = false)
    (fun L c cs ⟨ht, hno⟩ => by
      rw [reissuesTrack_cons, Bool.or_eq_false_iff] at hno
      exact ⟨absent_step o s t ht c hno.1, hno.2⟩) cs L ⟨ht, hno⟩).1

theorem reissuesCrate_cons (o : FOps) (s : VSchema) (L : Lib1) (c : Call) (cs : List Call) (y : Id) :
    reissuesCrate o s L (c :: cs) y = (reissuesCrate o s L [c] y || reissuesCrate o s (step o s L c).1 cs y) := by
  simp only [reissuesCrate, Bool.or_false]

theorem crateDead_step (o : FOps) {s : VSchema} {L : Lib1} (h : LibInv s L) (y : Id) (hy : y ∉ CratesV1.ids L.cr) (c : Call)
    (hno : reissuesCrate o s L [c] y = false) : y ∉ CratesV1.ids (step o s L c).1.cr := by
  have hi := h.crates
  have dead : ∀ op, ¬ ((CratesV1.step (toDetect s) L.cr op).2 = .ok (.id y) ∧ CratesV1.forestOp op ≠ none) →
      y ∉ CratesV1.ids (viaCrates s L op).1.cr := fun op hop => CratesV1.dead_step (toDetect s) hi hy hop
  -- a creation reports the new id, and `hno` says it is not `y`
  have created : ∀ op, (Out.newId (viaCrates s L op).2 == some y || false) = false →
      y ∉ CratesV1.ids (viaCrates s L op).1.cr :=
    fun op hh => dead op fun hc => by
      rw [show (viaCrates s L op).2 = mapRes convOut (CratesV1.step (toDetect s) L.cr op).2 from rfl, hc.1] at hh
      simp [mapRes, convOut, Out.newId] at hh
  cases c with
  | createRootCrate n => exact created (.createRoot n) hno
  | createRootCrateAfter n a => exact created (.createRoot n) hno
  | createSubCrate p n => exact created (.createSub p n) hno
  | createSubCrateAfter p n a => exact created (.createSub p n) hno
  -- the other forest operations report no id
  | removeCrate c =>
    refine dead (.removeCrate c) fun ⟨e, _⟩ => ?_
    rw [show CratesV1.step (toDetect s) L.cr (.removeCrate c) = _ from CratesV1.removeCrate_eq (toDetect s) hi c] at e
    cases e
  | setName c n =>
    refine dead (.rename c n) fun ⟨e, _⟩ => ?_
    rcases CratesV1.step_cases_finv (toDetect s) hi.toFInv (op := .rename c n) rfl with ⟨_, _, he⟩ | ⟨_, d, o, he, hr⟩ <;>
      rw [he] at e
    · cases e
    · rw [hr.2] at e; cases e
  | setParent c p =>
    refine dead (.setParent c p) fun ⟨e, _⟩ => ?_
    rcases CratesV1.step_cases_finv (toDetect s) hi.toFInv (op := .setParent c p) rfl with ⟨_, _, he⟩ | ⟨_, d, o, he, hr⟩ <;>
      rw [he] at e
    · cases e
    · rw [hr.2] at e; cases e
  -- the membership and track operations are no forest operations
  | addTrack c t => exact dead (.addTrack c t) (fun hc => hc.2 rfl)
  | crateRemoveTrack c t => exact dead (.removeTrackFrom c t) (fun hc => hc.2 rfl)
  | clearTracks c => exact dead (.clearTracks c) (fun hc => hc.2 rfl)
  | removeTrack t => exact dead (.removeTrack t) (fun hc => hc.2 rfl)
  | createTrack x =>
    rw [step_cr]
    show y ∉ CratesV1.ids (match (if (dbCreate o L.tr x).isOk then some CratesV1.Op.createTrack else none) with
      | some op => (CratesV1.step (toDetect s) L.cr op).1
      | none => L.cr)
    cases (dbCreate o L.tr x).isOk
    · exact hy
    · exact dead .createTrack (fun hc => hc.2 rfl)
  | update t x => rw [show (step o s L (.update t x)).1.cr = L.cr from viaTracks_cr L _]; exact hy
  | set t f v => rw [show (step o s L (.set t f v)).1.cr = L.cr from viaTracks_cr L _]; exact hy
  | _ => exact hy

theorem crateDead_suffix (o : FOps) {s : VSchema} (y : Id) (cs : List Call) {L : Lib1} (h : LibInv s L)
    (hy : y ∉ CratesV1.ids L.cr) (hno : reissuesCrate o s L cs y = false) : y ∉ CratesV1.ids (run o s L cs).cr :=
  (run_induction o s (P := fun L cs => LibInv s L ∧ y ∉ CratesV1.ids L.cr ∧ reissuesCrate o s L cs y = false)
    (fun L c cs ⟨h, hy, hno⟩ => by
      rw [reissuesCrate_cons, Bool.or_eq_false_iff] at hno
      exact ⟨libInv_step o h c, crateDead_step o h y hy c hno.1, hno.2⟩) cs L ⟨h, hy, hno⟩).2.1

end EngineModel.Lib.V1
