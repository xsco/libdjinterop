/-
C15: what the guard conditions regenerated from the C++ source (`Gen.C15Guards`) MEAN — each lemma is
proved semantically (truth table for the Boolean ones, `omega` for the integer ones), so a
behaviour-preserving rewrite of a guard in the C++ keeps every proof that rests on these lemmas, while a
weakened or dropped guard makes the lemma — and with it "guarded model = model, never ub" — unprovable.
-/
import EngineModel.Gen.C15Guards
import EngineModel.Basic.Prim

namespace EngineModel.Gen.C15Guards
open EngineModel

theorem v2_crate_name_norow_eq (b : Bool) : v2_crate_name_norow b = (!b) := by cases b <;> rfl
theorem v2_crate_parent_norow_eq (b : Bool) : v2_crate_parent_norow b = (!b) := by cases b <;> rfl
theorem v2_crate_set_name_norow_eq (b : Bool) : v2_crate_set_name_norow b = (!b) := by cases b <;> rfl
theorem v2_crate_set_parent_self_eq (a b : Bool) : v2_crate_set_parent_self a b = (a && b) := by cases a <;> cases b <;> rfl
theorem v2_crate_set_parent_norow_eq (b : Bool) : v2_crate_set_parent_norow b = (!b) := by cases b <;> rfl
theorem v2_crate_set_parent_given_eq (b : Bool) : v2_crate_set_parent_given b = b := by cases b <;> rfl
theorem v2_crate_set_parent_given2_eq (b : Bool) : v2_crate_set_parent_given2 b = b := by cases b <;> rfl
theorem v2_crate_sub_after_norow_eq (b : Bool) : v2_crate_sub_after_norow b = (!b) := by cases b <;> rfl
theorem v2_crate_remove_track_found_eq (b : Bool) : v2_crate_remove_track_found b = b := by cases b <;> rfl
theorem v2_crate_sub_by_name_none_eq (b : Bool) : v2_crate_sub_by_name_none b = (!b) := by cases b <;> rfl
theorem v2_db_root_after_norow_eq (b : Bool) : v2_db_root_after_norow b = (!b) := by cases b <;> rfl
theorem v2_db_remove_track_found_eq (b : Bool) : v2_db_remove_track_found b = b := by cases b <;> rfl
theorem v2_db_root_by_name_none_eq (b : Bool) : v2_db_root_by_name_none b = (!b) := by cases b <;> rfl
theorem v2_db_tracks_by_path_found_eq (b : Bool) : v2_db_tracks_by_path_found b = b := by cases b <;> rfl
theorem v2_pe_add_back_existing_eq (b : Bool) : v2_pe_add_back_existing b = b := by cases b <;> rfl
theorem v2_pl_sort_ids_empty_eq (b : Bool) : v2_pl_sort_ids_empty b = b := by cases b <;> rfl
theorem v2_pe_get_for_list_empty_eq (b : Bool) : v2_pe_get_for_list_empty b = b := by cases b <;> rfl
theorem v1_crate_name_none_eq (b : Bool) : v1_crate_name_none b = (!b) := by cases b <;> rfl

theorem v2_wave_empty_eq (b : Bool) : v2_wave_empty b = b := by cases b <;> rfl
theorem v2_wave_absent_eq (a b : Bool) : v2_wave_absent a b = ((!a) || (!b)) := by cases a <;> cases b <;> rfl
theorem v2_wave_range_eq (b : Bool) : v2_wave_range b = (!b) := by cases b <;> rfl
theorem v2_wave_nonempty_eq (b : Bool) : v2_wave_nonempty b = (!b) := by cases b <;> rfl
theorem v2_bpm_inrange_eq (a b c : Bool) : v2_bpm_inrange a b c = ((a && b) && c) := by
  cases a <;> cases b <;> cases c <;> rfl
theorem v2_wave_noextent_iff (n : Nat) : v2_wave_noextent n = true ↔ n = 0 := by
  unfold v2_wave_noextent; simp only [decide_eq_true_eq]; omega
theorem v2_wave_loop_iff (i n : Nat) : v2_wave_loop i n = true ↔ i < n := by
  unfold v2_wave_loop; simp only [decide_eq_true_eq]; omega
theorem v1_length_calc_none_eq (a b c e : Bool) : v1_length_calc_none a b c e = ((((!a) || (!b)) || (!c)) || (!e)) := by
  cases a <;> cases b <;> cases c <;> cases e <;> rfl
theorem v1_bpm_fields_inrange_eq (a b : Bool) : v1_bpm_fields_inrange a b = (a && b) := by cases a <;> cases b <;> rfl
theorem v1_set_bpm_inrange_eq (a b : Bool) : v1_set_bpm_inrange a b = (a && b) := by cases a <;> cases b <;> rfl
theorem v1_extents_rate_out_eq (a : Bool) : v1_extents_rate_out a = (!a) := by cases a <;> rfl
theorem v1_overview_absent_eq (a b : Bool) : v1_overview_absent a b = ((!a) || (!b)) := by cases a <;> cases b <;> rfl
theorem v1_overview_nonempty_eq (a : Bool) : v1_overview_nonempty a = (!a) := by cases a <;> rfl
theorem v1_hires_absent_eq (a b c e : Bool) : v1_hires_absent a b c e = ((((!a) || b) || (!c)) || e) := by
  cases a <;> cases b <;> cases c <;> cases e <;> rfl
theorem v1_overview_loop_iff (i n : Nat) : v1_overview_loop i n = true ↔ i < n := by
  unfold v1_overview_loop; simp only [decide_eq_true_eq]; omega

/-! ### track_utils.hpp: the "no extents" test must cover `qn == 0` (the divisor) -/
theorem util_ovw_zero_iff (n : Nat) (qn : Int) (r : F64.Bits) : util_ovw_zero n qn r = true ↔ (n = 0 ∨ qn = 0) := by
  unfold util_ovw_zero; simp only [Bool.or_eq_true, decide_eq_true_eq]; omega
theorem util_hires_zero_iff (n : Nat) (qn : Int) (r : F64.Bits) : util_hires_zero n qn r = true ↔ (n = 0 ∨ qn = 0) :=
  util_ovw_zero_iff n qn r

/-! ### the slot range tests: for an `int` index, "throws" iff the index is outside `0 ≤ index < size` -/

def IsRange (guard : Int → Nat → Bool) : Prop :=
  ∀ (idx : Int) (n : Nat), -2147483648 ≤ idx → idx < 2147483648 → (guard idx n = true ↔ (idx < 0 ∨ (n : Int) ≤ idx))

/- Each test is proved from its own regenerated body, not from a lemma about the shape it has today
(2.x: `index < 0 || (unsigned)index >= size`; 1.x: the same with the conversion to `size_t` only): a rewrite of
the C++ that keeps the meaning changes the shape, and the proof has to survive it. -/
theorem v2_track_hot_cue_at_range_isRange : IsRange v2_track_hot_cue_at_range := by
  intro idx n h1 h2; unfold v2_track_hot_cue_at_range; simp only [Bool.or_eq_true, decide_eq_true_eq]; omega
theorem v2_track_set_hot_cue_at_range_isRange : IsRange v2_track_set_hot_cue_at_range := by
  intro idx n h1 h2; unfold v2_track_set_hot_cue_at_range; simp only [Bool.or_eq_true, decide_eq_true_eq]; omega
theorem v2_track_loop_at_range_isRange : IsRange v2_track_loop_at_range := by
  intro idx n h1 h2; unfold v2_track_loop_at_range; simp only [Bool.or_eq_true, decide_eq_true_eq]; omega
theorem v2_track_set_loop_at_range_isRange : IsRange v2_track_set_loop_at_range := by
  intro idx n h1 h2; unfold v2_track_set_loop_at_range; simp only [Bool.or_eq_true, decide_eq_true_eq]; omega
theorem v1_track_hot_cue_at_range_isRange : IsRange v1_track_hot_cue_at_range := by
  intro idx n h1 h2; unfold v1_track_hot_cue_at_range; simp only [Bool.or_eq_true, decide_eq_true_eq]; omega
theorem v1_track_set_hot_cue_at_range_isRange : IsRange v1_track_set_hot_cue_at_range := by
  intro idx n h1 h2; unfold v1_track_set_hot_cue_at_range; simp only [Bool.or_eq_true, decide_eq_true_eq]; omega
theorem v1_track_loop_at_range_isRange : IsRange v1_track_loop_at_range := by
  intro idx n h1 h2; unfold v1_track_loop_at_range; simp only [Bool.or_eq_true, decide_eq_true_eq]; omega
theorem v1_track_set_loop_at_range_isRange : IsRange v1_track_set_loop_at_range := by
  intro idx n h1 h2; unfold v1_track_set_loop_at_range; simp only [Bool.or_eq_true, decide_eq_true_eq]; omega

end EngineModel.Gen.C15Guards
