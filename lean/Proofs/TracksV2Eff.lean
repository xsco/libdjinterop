/-
What one call does to the row store `Db`: nothing, or — having returned normally — one of three changes (`Eff`:
the columns of one stored row replaced, a row appended under the next id, the rows of one id deleted).  The
invariants of the table are proved against these changes: a property of rows that every setter keeps and every
written row has holds of all rows afterwards (`Eff.rows`), and the list of ids changes as `Eff.idList` says.
Before that, what an accepted setter leaves alone in its row (`applySetter_frame`).
-/
import EngineModel.TracksV2.Lens
import EngineModel.Api.C15TracksV2
import Proofs.TracksV2Db

namespace EngineModel
namespace TracksV2

theorem slotIndex_eq_ok {i : UInt32} {n k : Nat} (h : slotIndex i n = .ok k) : k = i.toNat ∧ i.toNat < n := by
  unfold slotIndex at h
  split at h
  · cases h
  · rename_i hc
    cases h
    exact ⟨rfl, by omega⟩

theorem putCues_eq_ok {x q : V2.Cues × Bytes} : putCues x = .ok q ↔ cuesEncodable x.1 = true ∧ q = x := by
  unfold putCues
  split
  · rename_i h; exact ⟨fun e => ⟨h, (Res.ok.inj e).symm⟩, fun e => by rw [e.2]⟩
  · rename_i h; exact ⟨fun e => (nomatch e), fun e => absurd e.1 h⟩

theorem putLoops_eq_ok {x q : V2.Loops × Bytes} : putLoops x = .ok q ↔ loopsEncodable x.1 = true ∧ q = x := by
  unfold putLoops
  split
  · rename_i h; exact ⟨fun e => ⟨h, (Res.ok.inj e).symm⟩, fun e => by rw [e.2]⟩
  · rename_i h; exact ⟨fun e => (nomatch e), fun e => absurd e.1 h⟩

theorem hotCueAt_row {ops : FOps} {i : UInt32} {v : Option HotCue} {r r' : Row}
    (h : applySetter ops (.hotCueAt i v) r = .ok r') :
    i.toNat < r.cues.1.cues.length ∧ slotIndex i r.cues.1.cues.length = .ok i.toNat ∧
      cuesEncodable { r.cues.1 with cues := r.cues.1.cues.set i.toNat (writeHotCue v) } = true ∧
      r' = { r with cues := ({ r.cues.1 with cues := r.cues.1.cues.set i.toNat (writeHotCue v) }, r.cues.2) } := by
  obtain ⟨k, hs, h⟩ := Res.bind_eq_ok.mp h
  obtain ⟨rfl, hk⟩ := slotIndex_eq_ok hs
  obtain ⟨q, hq, h⟩ := Res.bind_eq_ok.mp h
  obtain ⟨he, rfl⟩ := putCues_eq_ok.mp hq
  cases h
  exact ⟨hk, hs, he, rfl⟩

theorem loopAt_row {ops : FOps} {i : UInt32} {v : Option LoopV} {r r' : Row}
    (h : applySetter ops (.loopAt i v) r = .ok r') :
    i.toNat < r.loops.1.length ∧ slotIndex i r.loops.1.length = .ok i.toNat ∧
      loopsEncodable (r.loops.1.set i.toNat (writeLoop v)) = true ∧
      r' = { r with loops := (r.loops.1.set i.toNat (writeLoop v), r.loops.2) } := by
  obtain ⟨k, hs, h⟩ := Res.bind_eq_ok.mp h
  obtain ⟨rfl, hk⟩ := slotIndex_eq_ok hs
  obtain ⟨q, hq, h⟩ := Res.bind_eq_ok.mp h
  obtain ⟨he, rfl⟩ := putLoops_eq_ok.mp hq
  cases h
  exact ⟨hk, hs, he, rfl⟩

theorem hotCues_row {ops : FOps} {v : List (Option HotCue)} {r r' : Row}
    (h : applySetter ops (.hotCues v) r = .ok r') :
    ∃ cs, writeHotCues v = .ok cs ∧ cuesEncodable { r.cues.1 with cues := cs } = true ∧
      r' = { r with cues := ({ r.cues.1 with cues := cs }, r.cues.2) } := by
  obtain ⟨cs, hc, h⟩ := Res.bind_eq_ok.mp h
  obtain ⟨q, hq, h⟩ := Res.bind_eq_ok.mp h
  obtain ⟨he, rfl⟩ := putCues_eq_ok.mp hq
  cases h
  exact ⟨cs, hc, he, rfl⟩

theorem loops_row {ops : FOps} {v : List (Option LoopV)} {r r' : Row}
    (h : applySetter ops (.loops v) r = .ok r') :
    ∃ ls, writeLoops v = .ok ls ∧ loopsEncodable ls = true ∧ r' = { r with loops := (ls, r.loops.2) } := by
  obtain ⟨ls, hl, h⟩ := Res.bind_eq_ok.mp h
  obtain ⟨q, hq, h⟩ := Res.bind_eq_ok.mp h
  obtain ⟨he, rfl⟩ := putLoops_eq_ok.mp hq
  cases h
  exact ⟨ls, hl, he, rfl⟩

theorem waveform_row {ops : FOps} {w : List WEntry} {r r' : Row}
    (h : applySetter ops (.waveform w) r = .ok r') :
    ∃ o, writeWaveform ops w (getSampleCount r) (getSampleRate r) = .ok o ∧ r' = { r with ovw := (o, r.ovw.2) } := by
  obtain ⟨o, hw, h⟩ := Res.bind_eq_ok.mp h
  cases h
  exact ⟨o, hw, rfl⟩

theorem padTo_length {α} (n : Nat) (e : α) (l : List α) (h : l.length ≤ n) : (padTo n e l).length = n := by
  unfold padTo; simp; omega

theorem writeHotCues_length (v : List (Option HotCue)) (cs : List V2.Cue) (h : writeHotCues v = .ok cs) :
    cs.length = 8 := by
  unfold writeHotCues at h
  split at h
  · cases h
  · cases h; exact padTo_length _ _ _ (by simp; omega)

theorem writeLoops_length (v : List (Option LoopV)) (ls : V2.Loops) (h : writeLoops v = .ok ls) :
    ls.length = 8 := by
  unfold writeLoops at h
  split at h
  · cases h
  · cases h; exact padTo_length _ _ _ (by simp; omega)

/-- What an accepted setter leaves alone, one conjunct per group of columns.  `set_relative_path` derives `filename`
and `fileType` from the new path; the whole-list cue and loop setters pad to eight slots; labels that fit their
length byte still do because the cue and loop setters run `to_blob()`'s own test. -/
theorem applySetter_frame (ops : FOps) (σ : Setter) (r r' : Row) (h : applySetter ops σ r = .ok r') :
    ((∃ p, σ = .relativePath p ∧ r'.path = p ∧ r'.filename = getFilename p ∧
        r'.fileType = (getFileExtension (getFilename p)).getD []) ∨
      (σ.newPath = none ∧ r'.path = r.path ∧ r'.filename = r.filename ∧ r'.fileType = r.fileType)) ∧
    ((∃ v, σ = .duration v ∧ r'.length = writeDuration v) ∨ r'.length = r.length) ∧
    (r'.cues.1.cues.length = r.cues.1.cues.length ∨ r'.cues.1.cues.length = 8) ∧
    (r'.loops.1.length = r.loops.1.length ∨ r'.loops.1.length = 8) ∧
    r'.albumArtId = r.albumArtId ∧
    (cuesEncodable r.cues.1 = true → cuesEncodable r'.cues.1 = true) ∧
    (loopsEncodable r.loops.1 = true → loopsEncodable r'.loops.1 = true) := by
  cases σ
  case relativePath p => cases h; exact ⟨.inl ⟨p, rfl, rfl, rfl, rfl⟩, .inr rfl, .inl rfl, .inl rfl, rfl, id, id⟩
  case duration v =>
    cases h; exact ⟨.inr ⟨rfl, rfl, rfl, rfl⟩, .inl ⟨v, rfl, rfl⟩, .inl rfl, .inl rfl, rfl, id, id⟩
  case hotCueAt i v =>
    obtain ⟨_, _, he, rfl⟩ := hotCueAt_row h
    exact ⟨.inr ⟨rfl, rfl, rfl, rfl⟩, .inr rfl, .inl (List.length_set ..), .inl rfl, rfl, fun _ => he, id⟩
  case loopAt i v =>
    obtain ⟨_, _, he, rfl⟩ := loopAt_row h
    exact ⟨.inr ⟨rfl, rfl, rfl, rfl⟩, .inr rfl, .inl rfl, .inl (List.length_set ..), rfl, id, fun _ => he⟩
  case hotCues v =>
    obtain ⟨cs, hc, he, rfl⟩ := hotCues_row h
    exact ⟨.inr ⟨rfl, rfl, rfl, rfl⟩, .inr rfl, .inr (writeHotCues_length _ _ hc), .inl rfl, rfl, fun _ => he, id⟩
  case loops v =>
    obtain ⟨ls, hl, he, rfl⟩ := loops_row h
    exact ⟨.inr ⟨rfl, rfl, rfl, rfl⟩, .inr rfl, .inl rfl, .inr (writeLoops_length _ _ hl), rfl, id, fun _ => he⟩
  case waveform w =>
    obtain ⟨_, _, rfl⟩ := waveform_row h
    exact ⟨.inr ⟨rfl, rfl, rfl, rfl⟩, .inr rfl, .inl rfl, .inl rfl, rfl, id, id⟩
  all_goals cases h; exact ⟨.inr ⟨rfl, rfl, rfl, rfl⟩, .inr rfl, .inl rfl, .inl rfl, rfl, id, id⟩

theorem applySetter_cols (ops : FOps) (σ : Setter) (r r' : Row) (h : applySetter ops σ r = .ok r') :
    (∃ p, σ = .relativePath p ∧ r'.path = p ∧ r'.filename = getFilename p ∧
        r'.fileType = (getFileExtension (getFilename p)).getD []) ∨
    (σ.newPath = none ∧ r'.path = r.path ∧ r'.filename = r.filename ∧ r'.fileType = r.fileType) :=
  (applySetter_frame ops σ r r' h).1

/-- What every setter keeps of the row it writes: the album art reference (no setter touches `albumArtId`), and
that every cue / loop label fits its length byte (the cue / loop setters through `to_blob()`'s own test). -/
theorem applySetter_keeps (ops : FOps) (σ : Setter) (r r' : Row) (h : applySetter ops σ r = .ok r') :
    r'.albumArtId = r.albumArtId ∧ (cuesEncodable r.cues.1 = true → cuesEncodable r'.cues.1 = true) ∧
    (loopsEncodable r.loops.1 = true → loopsEncodable r'.loops.1 = true) :=
  (applySetter_frame ops σ r r' h).2.2.2.2

/-- What `snapshot_to_row` + `track_table::add` / `update` store: the default album art, and labels that fit
(`tablePut` runs `to_blob()`'s test on the cues and the loops). -/
theorem writeStore_keeps (ops : FOps) (s : Schema) (x : Snap) (r : Row) (h : writeStore ops s x = .ok r) :
    r.albumArtId = 1 ∧ cuesEncodable r.cues.1 = true ∧ loopsEncodable r.loops.1 = true :=
  ⟨(writeStore_eq_ok h).art, (writeStore_eq_ok h).cuesEnc, (writeStore_eq_ok h).loopsEnc⟩

def Slots8 (r : Row) : Prop := r.cues.1.cues.length = 8 ∧ r.loops.1.length = 8

theorem slots8_written (ops : FOps) (s : Schema) (x : Snap) (r : Row) (h : writeStore ops s x = .ok r) : Slots8 r :=
  ⟨writeHotCues_length _ _ (writeStore_eq_ok h).cues, writeLoops_length _ _ (writeStore_eq_ok h).loops⟩

theorem slots8_set (ops : FOps) (σ : Setter) (r r' : Row) (h : applySetter ops σ r = .ok r') (h8 : Slots8 r) :
    Slots8 r' := by
  obtain ⟨_, _, hc, hl, _⟩ := applySetter_frame ops σ r r' h
  exact ⟨hc.elim (fun e => e.trans h8.1) id, hl.elim (fun e => e.trans h8.2) id⟩

/-- the row a call writes in place of the stored row `r`: what a setter makes of `r`, or what `snapshot_to_row`
and the table layer make of a snapshot -/
inductive Written (ops : FOps) (r : Row) : Row → Prop
  | set {σ r'} : applySetter ops σ r = .ok r' → Written ops r r'
  | store {s x r'} : writeStore ops s x = .ok r' → Written ops r r'

/-- **The changes a call can make**: none; the columns of one stored row replaced (its path kept, or a path no
other row has); a row appended under the next id (with a path no row has); the rows of one id deleted. -/
inductive Eff (ops : FOps) (db : Db) : Db → Prop
  | same : Eff ops db db
  | put {i r r'} : db.get i = some r → Written ops r r' → (r'.path = r.path ∨ db.pathTaken i r'.path = false) →
      Eff ops db (db.put i r')
  | add {s x r} : writeStore ops s x = .ok r → db.pathTaken 0 r.path = false →
      Eff ops db ⟨db.rows ++ [(db.nextId, r)], db.nextId + 1⟩
  | del (i : Nat) : Eff ops db { db with rows := db.rows.filter fun e => !(e.1 == i) }

/-- a call leaves the table as it was, or it has returned normally and made one of the changes -/
def Ran {α} (ops : FOps) (db : Db) (p : Db × Res α) : Prop :=
  p.1 = db ∨ ((∃ a, p.2 = .ok a) ∧ Eff ops db p.1)

variable {ops : FOps} {db db' : Db}

theorem Ran.eff {α} {p : Db × Res α} (h : Ran ops db p) : Eff ops db p.1 := by
  rcases h with h | ⟨_, h⟩
  · rw [h]; exact .same
  · exact h

theorem Ran.failed {α} {p : Db × Res α} (h : Ran ops db p) (hf : ¬ ∃ a, p.2 = .ok a) : p.1 = db :=
  h.resolve_right fun hr => hf hr.1

theorem set_ran (ops : FOps) (db : Db) (id : Nat) (σ : Setter) : Ran ops db (db.set ops id σ) := by
  unfold Db.set
  cases hg : db.get id with
  | none => exact .inl rfl
  | some r =>
    simp only
    cases ha : applySetter ops σ r with
    | throw e => exact .inl rfl
    | ub u => exact .inl rfl
    | ok r' =>
      simp only
      split
      · exact .inl rfl
      · rename_i hc
        refine .inr ⟨⟨_, rfl⟩, .put hg (.set ha) ?_⟩
        rcases applySetter_cols ops σ r r' ha with ⟨p, rfl, h1, _⟩ | ⟨_, h1, _⟩
        · right; rw [h1]; simpa [Db.clash, Setter.newPath] using hc
        · exact .inl h1

theorem create_ran (ops : FOps) (s : Schema) (db : Db) (x : Snap) : Ran ops db (db.create ops s x) := by
  unfold Db.create
  cases hw : writeStore ops s x with
  | throw e => exact .inl rfl
  | ub u => exact .inl rfl
  | ok r =>
    simp only
    split
    · exact .inl rfl
    · rename_i hc; exact .inr ⟨⟨_, rfl⟩, .add hw (by simpa using hc)⟩

theorem update_ran (ops : FOps) (s : Schema) (db : Db) (id : Nat) (x : Snap) :
    Ran ops db (db.update ops s id x) := by
  unfold Db.update
  cases hw : writeStore ops s x with
  | throw e => exact .inl rfl
  | ub u => exact .inl rfl
  | ok r =>
    simp only
    cases hg : db.get id with
    | none => exact .inl rfl
    | some r0 =>
      simp only [Option.isNone_some, Bool.false_eq_true, if_false]
      split
      · exact .inl rfl
      · rename_i hc; exact .inr ⟨⟨_, rfl⟩, .put hg (.store hw) (.inr (by simpa using hc))⟩

theorem remove_ran (ops : FOps) (db : Db) (id : Nat) : Ran ops db (Api.C15TracksV2.remove db id) := by
  unfold Api.C15TracksV2.remove
  split
  · exact .inr ⟨⟨_, rfl⟩, .del id⟩
  · exact .inl rfl

/-- a property of stored rows that every setter keeps and every row built from a snapshot has -/
structure RowInv (ops : FOps) (P : Row → Prop) : Prop where
  set : ∀ {σ r r'}, P r → applySetter ops σ r = .ok r' → P r'
  store : ∀ {s x r}, writeStore ops s x = .ok r → P r

theorem slots8_inv (ops : FOps) : RowInv ops Slots8 :=
  ⟨fun h8 h => slots8_set ops _ _ _ h h8, fun h => slots8_written ops _ _ _ h⟩

theorem mem_put {i : Nat} {r' : Row} {e : Nat × Row} (he : e ∈ (db.put i r').rows) :
    (e ∈ db.rows ∧ e.1 ≠ i) ∨ e = (i, r') := by
  simp only [Db.put, List.mem_map] at he
  obtain ⟨e0, he0, rfl⟩ := he
  split
  · exact .inr rfl
  · rename_i h; exact .inl ⟨he0, by simpa using h⟩

theorem Eff.rows {P : Row → Prop} (hP : RowInv ops P) (h : Eff ops db db') (hdb : ∀ e ∈ db.rows, P e.2) :
    ∀ e ∈ db'.rows, P e.2 := by
  intro e he
  cases h with
  | same => exact hdb e he
  | @put i r r' hg hw _ =>
    rcases mem_put he with ⟨h, _⟩ | rfl
    · exact hdb e h
    · cases hw with
      | set ha => exact hP.set (hdb _ (get_mem db i r hg)) ha
      | store hs => exact hP.store hs
  | add hw _ =>
    rcases List.mem_append.mp he with h | h
    · exact hdb e h
    · cases List.mem_singleton.mp h; exact hP.store hw
  | del i => exact hdb e (List.mem_filter.mp he).1

theorem put_idList (db : Db) (i : Nat) (r : Row) : (db.put i r).rows.map (·.1) = db.rows.map (·.1) := by
  simp only [Db.put, List.map_map]
  refine List.map_congr_left fun e _ => ?_
  simp only [Function.comp]
  split
  · rename_i h; exact (by simpa using h : e.1 = i).symm
  · rfl

theorem Eff.idList (h : Eff ops db db') :
    ((db'.rows.map (·.1)).Sublist (db.rows.map (·.1)) ∧ db'.nextId = db.nextId) ∨
    (db'.rows.map (·.1) = db.rows.map (·.1) ++ [db.nextId] ∧ db'.nextId = db.nextId + 1) := by
  cases h with
  | same => exact .inl ⟨List.Sublist.refl _, rfl⟩
  | put _ _ _ => exact .inl ⟨by rw [put_idList]; exact List.Sublist.refl _, rfl⟩
  | add _ _ => exact .inr ⟨by simp, rfl⟩
  | del i => exact .inl ⟨List.Sublist.map _ List.filter_sublist, rfl⟩

theorem Eff.ids (h : Eff ops db db') {e : Nat × Row} (he : e ∈ db'.rows) :
    (∃ e0 ∈ db.rows, e0.1 = e.1) ∨ (e.1 = db.nextId ∧ db'.nextId = db.nextId + 1) := by
  have hm : e.1 ∈ db'.rows.map (·.1) := List.mem_map_of_mem he
  rcases h.idList with ⟨h1, _⟩ | ⟨h1, h2⟩
  · obtain ⟨e0, h0, h⟩ := List.mem_map.mp (h1.subset hm)
    exact .inl ⟨e0, h0, h⟩
  · rw [h1, List.mem_append, List.mem_singleton] at hm
    rcases hm with hm | hm
    · obtain ⟨e0, h0, h⟩ := List.mem_map.mp hm
      exact .inl ⟨e0, h0, h⟩
    · exact .inr ⟨hm, h2⟩

theorem Eff.nextId_le (h : Eff ops db db') : db.nextId ≤ db'.nextId := by
  rcases h.idList with ⟨_, h⟩ | ⟨_, h⟩ <;> omega

/-- AUTOINCREMENT: every stored id stays below the next id -/
theorem Eff.fresh (h : Eff ops db db') (hf : db.Fresh) : db'.Fresh := by
  intro e he
  have hn := h.nextId_le
  rcases h.ids he with ⟨e0, h0, h1⟩ | ⟨h1, h2⟩
  · have := hf e0 h0; omega
  · omega

/-- ids are not given out twice: a call stores no ids but those stored and the counter's -/
theorem Eff.gone (h : Eff ops db db') {id : Nat} (hlt : id < db.nextId) (ha : ∀ e ∈ db.rows, e.1 ≠ id) :
    id < db'.nextId ∧ ∀ e ∈ db'.rows, e.1 ≠ id := by
  refine ⟨Nat.lt_of_lt_of_le hlt h.nextId_le, fun e he => ?_⟩
  rcases h.ids he with ⟨e0, h0, h1⟩ | ⟨h1, _⟩
  · rw [← h1]; exact ha e0 h0
  · omega

theorem Eff.nodup (h : Eff ops db db') (hI : db'.nextId = db.nextId ∨ db.Fresh) (hn : (db.rows.map (·.1)).Nodup) :
    (db'.rows.map (·.1)).Nodup := by
  rcases h.idList with ⟨h1, _⟩ | ⟨h1, h2⟩
  · exact hn.sublist h1
  · rcases hI with hI | hI
    · omega
    · rw [h1, List.nodup_append]
      refine ⟨hn, by simp, fun a ha b hb => ?_⟩
      obtain ⟨e, he, rfl⟩ := List.mem_map.mp ha
      cases List.mem_singleton.mp hb
      exact Nat.ne_of_lt (hI e he)

end TracksV2
end EngineModel
