/-
Composite 2.x library: the whole-library invariant `LibInv` = the package invariants (track package `Inv` on
the real Track table; crate package `Inv` + `AllOwn` on the crate tables seen with the real Track ids) + the
cross-table clauses (ChangeLog → Track, Track → AlbumArt, PreparelistEntity → Track, Information), and what each
class of calls — a call of the crate package, a call of the track package, `database::remove_track` — does to
the crate view, to the Track table and to the invariant, whatever the call answers (failed calls included).
The package invariants are transported, not re-proved: a composite call acts on the crate view exactly as a
call of the crate package, and on the Track table exactly as a call of the track package (`TStep`).
-/
import Proofs.Lib2Track
import Proofs.Lib2Crate

namespace EngineModel.Lib.V2
open EngineModel EngineModel.Db.Chain EngineModel.TracksV2
open EngineModel.Table (Schema2)

theorem m2_bind_apply {α β} (m : M2 α) (f : α → M2 β) (L : Lib2) :
    (m >>= f) L = match m L with
      | (L', .ok a) => f a L'
      | (L', .throw e) => (L', .throw e)
      | (L', .ub u) => (L', .ub u) := rfl

theorem m2_bind_pure {α β} (m : M2 α) (f : α → β) (L : Lib2) :
    (m >>= fun a => (pure (f a) : M2 β)) L = ((m L).1, (m L).2.bind fun a => .ok (f a)) := by
  rw [m2_bind_apply]
  rcases m L with ⟨L', r⟩
  cases r <;> rfl

theorem m2_bind_pure_fst {α β} (m : M2 α) (f : α → β) (L : Lib2) :
    ((m >>= fun a => (pure (f a) : M2 β)) L).1 = (m L).1 :=
  congrArg Prod.fst (m2_bind_pure m f L)

theorem m2_bind_pure_snd {α β} (m : M2 α) (f : α → β) (L : Lib2) :
    ((m >>= fun a => (pure (f a) : M2 β)) L).2 = (m L).2.bind fun a => .ok (f a) :=
  congrArg Prod.snd (m2_bind_pure m f L)

theorem isOk_bind_ok {α β} (r : Res α) (f : α → β) : isOk (r.bind fun a => .ok (f a)) = isOk r := by
  cases r <;> rfl

theorem notOk_of_bind_ok {α β} {r : Res α} {f : α → β} (h : ∀ v, (r.bind fun a => .ok (f a)) ≠ .ok v) :
    ∀ v, r ≠ .ok v :=
  fun v hv => h (f v) (by rw [hv]; rfl)

/-- everything but "every entry is the library's own": what is kept also when other software adds entries of
other databases -/
structure LibCore (s : Schema2) (L : Lib2) : Prop where
  /-- the track package's invariant on the real Track table (ids / paths keys, origin columns =
  (Information.uuid, id), derived columns, id range) -/
  tr : Inv L.tdb
  /-- the crate package's invariants (chains, forest, names; memberships of this database reference live
  playlists and live tracks — live in the REAL Track table) -/
  cr : ∃ S, EngineModel.Db.V2.Inv S L.crates
  /-- ChangeLog has no rows where it is a view (2.20.3 and later) -/
  logNone : hasChangeLog s = false → L.log = []
  /-- ChangeLog ids are a key, within the counter -/
  logIds : (L.log.map (·.id)).Nodup ∧ ∀ r ∈ L.log, 1 ≤ r.id ∧ r.id ≤ L.logSeq
  /-- every ChangeLog row references a live track or NULL -/
  logLive : ∀ r ∈ L.log, ∀ t, r.track = some t → t ∈ L.tdb.rows.map (·.id)
  /-- the default album art row exists and every Track.albumArtId references an AlbumArt row -/
  art : 1 ∈ L.art ∧ ∀ t ∈ L.tdb.rows, t.row.albumArtId.toNat ∈ L.art
  /-- every PreparelistEntity row (Engine's prepare list; the library only ever deletes from it) references a live track or NULL -/
  prep : ∀ r ∈ L.prep, ∀ t, r.track = some t → t ∈ L.tdb.rows.map (·.id)
  ver : L.ver = s.version

structure LibInv (s : Schema2) (L : Lib2) : Prop extends LibCore s L where
  /-- every entry carries the library's own database uuid -/
  own : EngineModel.Db.V2.AllOwn L.crates

theorem libInv_empty (s : Schema2) (uuid : Bytes) : LibInv s (Lib2.empty s uuid) where
  tr := inv_empty uuid
  cr := ⟨_, EngineModel.Db.V2.inv_empty⟩
  own := EngineModel.Db.V2.allOwn_empty
  logNone := fun _ => rfl
  logIds := ⟨List.nodup_nil, fun r hr => by cases hr⟩
  logLive := fun r hr => by cases hr
  art := ⟨by simp [Lib2.empty], fun t ht => by cases ht⟩
  prep := fun r hr => by cases hr
  ver := rfl

/-- the crate package's "memberships reference live rows", read on the composite: an entry of this database names
a Playlist row and a ROW of table Track -/
theorem entry_refs {S} {L : Lib2} (hS : EngineModel.Db.V2.Inv S L.crates) {e : EngineModel.Db.Chain.Row Ent}
    (he : e ∈ L.pe) (hu : e.val.uuid = 0) :
    (∃ p ∈ L.pl, p.id = e.key) ∧ ∃ t ∈ L.tdb.rows, (t.id : Int) = e.val.track :=
  let ⟨h1, h2⟩ := hS.mem.live (core e) (mem_cores.mpr ⟨e, he, rfl⟩) hu
  ⟨List.mem_map.mp h1, List.mem_map.mp h2⟩

theorem entry_own {L : Lib2} (h : EngineModel.Db.V2.AllOwn L.crates) {e : EngineModel.Db.Chain.Row Ent} (he : e ∈ L.pe) :
    e.val.uuid = 0 :=
  h (core e) (mem_cores.mpr ⟨e, he, rfl⟩)

theorem withTdb_self (L : Lib2) : { L with tdb := L.tdb } = L := rfl

/-- crate creation / renaming / re-parenting / removal, add / remove / clear tracks; an entry of another database
being added -/
theorem libCore_crateCall {s : Schema2} {L : Lib2} (h : LibCore s L) (op : COp) (h1 : op ≠ .createTrack)
    (h2 : ∀ t, op ≠ .removeTrack t) (hm : EngineModel.Db.V2.memOp op = true) : LibCore s (crateCall op L).1 :=
  let ⟨_, hS⟩ := h.cr
  { h with cr := ⟨_, crateCall_crates L op h1 h2 ▸ EngineModel.Db.V2.inv_step hS op hm⟩ }

/-- the library after a `remove_track` that went through -/
def removed (s : Schema2) (t : Nat) (L : Lib2) : Lib2 :=
  { L with
    pe := (ids L.pl).foldl (EngineModel.Db.V2.rmTrackIn (t : Int)) L.pe
    log := if hasChangeLog s then (L.logNullify t).log else L.log
    prep := L.prep.filter fun r => r.track != some t
    tdb := { L.tdb with rows := L.tdb.rows.filter fun e => !(e.id == t) } }

theorem removeTrack_eq (s : Schema2) (t : Nat) (L : Lib2) :
    removeTrack s t L =
      if (L.tdb.rows.filter fun e => e.id == t).length = 0 then (L, .throw .invalid_argument)
      else (removed s t L, .ok ()) := by
  unfold removeTrack M2.transaction
  by_cases hz : (L.tdb.rows.filter fun e => e.id == t).length = 0 <;> cases hc : hasChangeLog s <;>
    simp only [bind, M2.bind, M2.modify, M2.track, callRemove_eq, hz, removed, hc, Lib2.logNullify,
      Bool.false_eq_true, if_true, if_false]

/-- `database::remove_track` as the client sees it -/
theorem step_removeTrack (ops : FOps) (s : Schema2) (L : Lib2) (t : Nat) :
    step ops s L (.removeTrack t) =
      if (L.tdb.find t).isSome then (removed s t L, .ok .unit) else (L, .throw .invalid_argument) := by
  show (removeTrack s t >>= fun _ => (pure Out.unit : M2 Out)) L = _
  rw [m2_bind_apply, removeTrack_eq]
  simp only [count_eq_zero_iff]
  cases (L.tdb.find t).isSome <;> rfl

/-- `track_table::exists` as `crate::add_track` / `track_by_id` ask it (an `int64_t` id), of an id that fits -/
theorem trackExists_cast (L : Lib2) (t : Nat) : trackExists L (t : Int) = (L.tdb.find t).isSome := by
  simp [trackExists, nat?]

theorem contains_cast (L : Lib2) (t : Nat) : L.crates.tracks.contains (t : Int) = (L.tdb.find t).isSome := by
  rw [Bool.eq_iff_iff, find_isSome_iff, List.contains_iff_mem]
  show (t : Int) ∈ L.tdb.rows.map (fun e => (e.id : Int)) ↔ _
  simp only [List.mem_map, Int.natCast_inj]

theorem removeTrack_failed (s : Schema2) (t : Nat) (L : Lib2) (h : ∀ v, (removeTrack s t L).2 ≠ .ok v) :
    (removeTrack s t L).1 = L := by
  rw [removeTrack_eq] at h ⊢
  split
  · rfl
  · rename_i hz; simp only [hz, if_false] at h; exact absurd rfl (h ())

theorem removeTrack_tdb (ops : FOps) (s : Schema2) (t : Nat) (L : Lib2) :
    (removeTrack s t L).1.tdb = (L.tdb.step ops (toT s) (.remove t)).1 := by
  rw [removeTrack_eq]
  show _ = ((callRemove t >>= fun _ => (pure 0 : M Nat)) L.tdb).1
  rw [M.bind_pure, callRemove_eq]
  split <;> rfl

theorem cast_filter (rows : List TRow) (t : Nat) :
    (rows.filter fun e => !(e.id == t)).map (fun e => (e.id : Int)) =
      (rows.map fun e => (e.id : Int)).filter (· != (t : Int)) := by
  rw [List.filter_map]
  refine congrArg _ (List.filter_congr fun e _ => ?_)
  show (!(e.id == t)) = ((e.id : Int) != (t : Int))
  rw [Bool.eq_iff_iff]; simp [Int.natCast_inj]

theorem removeTrack_crates (s : Schema2) (t : Nat) (L : Lib2) :
    (removeTrack s t L).1.crates = (EngineModel.Db.V2.step L.crates (.removeTrack (t : Int))).1 := by
  rw [removeTrack_eq]
  simp only [EngineModel.Db.V2.step, contains_cast, count_eq_zero_iff]
  cases (L.tdb.find t).isSome
  · rfl
  · simp only [Bool.true_eq_false, if_false, if_true, removed, Lib2.crates, cast_filter]

/-- where there is no ChangeLog table there are no rows: in every case the rows after `remove_track` are the old
ones with the reference to `t` cleared -/
theorem removed_log {s : Schema2} {L : Lib2} (h : LibCore s L) (t : Nat) :
    (removed s t L).log = L.log.map fun r => if r.track == some t then { r with track := none } else r := by
  simp only [removed, Lib2.logNullify]
  split
  · rfl
  · rename_i hc; rw [h.logNone (by simpa using hc)]; rfl

/-- `remove_track` keeps the invariant: the membership loop, the UPDATE that sets `ChangeLog.trackId` to NULL and the
DELETE on PreparelistEntity clear every reference to the row before it goes -/
theorem libCore_removeTrack {s : Schema2} {L : Lib2} (h : LibCore s L) (t : Nat) : LibCore s (removeTrack s t L).1 := by
  obtain ⟨S, hS⟩ := h.cr
  have hcr : ∃ S', EngineModel.Db.V2.Inv S' (removeTrack s t L).1.crates :=
    ⟨_, removeTrack_crates s t L ▸ EngineModel.Db.V2.inv_step hS (.removeTrack (t : Int)) rfl⟩
  rw [removeTrack_eq] at hcr ⊢
  split
  · exact h
  rename_i hz
  simp only [hz, if_false] at hcr
  have live : ∀ t', t' ≠ t → t' ∈ L.tdb.rows.map (·.id) → t' ∈ (removed s t L).tdb.rows.map (·.id) := by
    intro t' hne ht'
    obtain ⟨x, hx, rfl⟩ := List.mem_map.mp ht'
    exact List.mem_map_of_mem (List.mem_filter.mpr ⟨hx, by simpa using hne⟩)
  have hlog := removed_log h t
  exact {
    tr := inv_filter h.tr _
    cr := hcr
    logNone := fun hn => by rw [hlog, h.logNone hn]; rfl
    logIds := by
      rw [hlog]
      refine ⟨?_, fun r hr => ?_⟩
      · rw [List.map_map, List.map_congr_left (g := (·.id)) fun r _ => by simp only [Function.comp]; split <;> rfl]
        exact h.logIds.1
      · obtain ⟨r0, hr0, rfl⟩ := List.mem_map.mp hr
        split <;> exact h.logIds.2 r0 hr0
    logLive := fun r hr t' ht' => by
      rw [hlog] at hr
      obtain ⟨r0, hr0, rfl⟩ := List.mem_map.mp hr
      split at ht'
      · cases ht'
      · rename_i hne
        exact live t' (fun e => hne (by rw [ht', e]; simp)) (h.logLive r0 hr0 t' ht')
    art := ⟨h.art.1, fun x hx => h.art.2 x (List.mem_filter.mp hx).1⟩
    prep := fun r hr t' ht' =>
      let ⟨hr1, hr2⟩ := List.mem_filter.mp hr
      live t' (fun e => by rw [ht', e] at hr2; simp at hr2) (h.prep r hr1 t' ht')
    ver := h.ver }

theorem logAppend_eq (L : Lib2) (t n : Nat) :
    L.logAppend t n = { L with log := L.log ++ (List.range' (L.logSeq + 1) n).map fun i => ⟨i, some t⟩,
                               logSeq := L.logSeq + n } := by
  induction n generalizing L with
  | zero => simp [Lib2.logAppend]
  | succ n ih =>
    unfold Lib2.logAppend
    rw [ih]
    simp only [List.range'_succ, List.map_cons, List.append_assoc, List.singleton_append, Nat.add_assoc, Nat.add_comm 1 n]

theorem logIds_append {L : Lib2} (h : (L.log.map (·.id)).Nodup ∧ ∀ r ∈ L.log, 1 ≤ r.id ∧ r.id ≤ L.logSeq) (t n : Nat) :
    ((L.logAppend t n).log.map (·.id)).Nodup ∧ ∀ r ∈ (L.logAppend t n).log, 1 ≤ r.id ∧ r.id ≤ (L.logAppend t n).logSeq := by
  rw [logAppend_eq]
  simp only [List.map_append, List.map_map, Function.comp_def, List.map_id', List.mem_append, List.mem_map,
    List.mem_range'_1]
  constructor
  · refine List.nodup_append.mpr ⟨h.1, List.nodup_range' 1 (by omega), fun a ha b hb => ?_⟩
    obtain ⟨r, hr, rfl⟩ := List.mem_map.mp ha
    have := (h.2 r hr).2
    have := List.mem_range'_1.mp hb
    omega
  · rintro r (hr | ⟨i, hi, rfl⟩)
    · have := h.2 r hr; omega
    · show 1 ≤ i ∧ i ≤ _; omega

/-- how a track call shows to the crate package: a `create_track` that returned normally as its `createTrack`,
anything else not at all -/
def viewOf (ok : Bool) : TOp → Option COp
  | .create _ => if ok then some .createTrack else none
  | _ => none

theorem viewOf_eq_some {b : Bool} {op : TOp} {o : COp} (h : viewOf b op = some o) : o = .createTrack := by
  cases op with
  | create x => cases b <;> cases h; rfl
  | _ => cases h

/-- the crate view after the crate package's own step on what it sees of a call -/
def viewed (d : CDb) : Option COp → CDb
  | some op => (EngineModel.Db.V2.step d op).1
  | none => d

theorem created_crates (L : Lib2) (row : Row) :
    ({ L with tdb := { L.tdb with rows := L.tdb.rows ++ [L.tdb.created row], seq := L.tdb.seq + 1 } } : Lib2).crates
      = (EngineModel.Db.V2.step L.crates .createTrack).1 := by
  simp only [Lib2.crates, EngineModel.Db.V2.step, List.map_append, List.map_cons, List.map_nil, TDb.created]
  congr 1

theorem rep_crates (L : Lib2) (t : TRow) (row : Row) :
    ({ L with tdb := L.tdb.rep t row } : Lib2).crates = L.crates := by
  have e := congrArg (List.map fun (n : Nat) => (n : Int)) (rep_ids L.tdb t row)
  simp only [List.map_map, Function.comp_def] at e
  simp only [Lib2.crates, e]
  rfl

/-- the library with the ChangeLog rows `trigger_after_update_Track` writes for `n` UPDATEs of track `t` -/
def logged (s : Schema2) (L : Lib2) (t n : Nat) : Lib2 := if hasChangeLog s then L.logAppend t n else L

theorem logged_crates (s : Schema2) (L : Lib2) (t n : Nat) : (logged s L t n).crates = L.crates := by
  unfold logged
  split
  · rw [logAppend_eq]; rfl
  · rfl

/-- create_track / update / any setter on the whole library: refused, with every table as it was; or the package's
call on the Track table returned normally, and the ChangeLog trigger has fired for the call's subject -/
theorem trackCall_cases {s : Schema2} {L : Lib2} (hs : SInv L.tdb) (ops : FOps) (op : TOp) :
    (∃ r, (∀ v, r ≠ .ok v) ∧ trackCall ops s op L = (L, r)) ∨
    ∃ v, TStep ops (toT s) L.tdb op (L.tdb.step ops (toT s) op).1 (.ok v) ∧
      trackCall ops s op L =
        (logged s { L with tdb := (L.tdb.step ops (toT s) op).1 } (TOp.subject v op) (logFires ops L.tdb op), .ok v) := by
  have h := tstep ops (toT s) hs op
  unfold trackCall
  simp only []
  generalize L.tdb.step ops (toT s) op = p at h ⊢
  obtain ⟨d', r⟩ := p
  -- an answer other than `.ok` leaves only `TStep.failed`, whose table is the old one
  cases r with
  | ok v => exact .inr ⟨v, h, rfl⟩
  | throw e => cases h; exact .inl ⟨.throw e, nofun, rfl⟩
  | ub u => cases h; exact .inl ⟨.ub u, nofun, rfl⟩

/-- What a call other than `remove` that returned normally does to the ids: every old id is still there and so is
the call's subject (for `create_track` the next AUTOINCREMENT id, which it returns); the crate package, which sees
the ids only, sees `viewOf` of the call. -/
theorem TStep.live {ops : FOps} {s : TracksV2.Schema} {L : Lib2} {op : TOp} {tdb' : TDb} {v : Nat}
    (h : TStep ops s L.tdb op tdb' (.ok v)) (hop : ∀ id, op ≠ .remove id) :
    ({ L with tdb := tdb' } : Lib2).crates = viewed L.crates (viewOf true op) ∧
    (∀ i ∈ L.tdb.rows.map (·.id), i ∈ tdb'.rows.map (·.id)) ∧ TOp.subject v op ∈ tdb'.rows.map (·.id) ∧
    (∀ x, op = .create x → v = L.tdb.seq + 1) := by
  have live : ∀ {id t}, L.tdb.find id = some t → id ∈ L.tdb.rows.map (·.id) := fun hf =>
    (find_isSome_iff L.tdb _).mp (by rw [hf]; rfl)
  cases h with
  | failed _ _ hr => cases hr
  | created x row hw =>
    exact ⟨created_crates L row, fun i hi => by simp only [List.map_append]; exact List.mem_append_left _ hi,
      List.mem_map.mpr ⟨_, List.mem_append_right _ (List.mem_singleton.mpr rfl), rfl⟩, fun _ _ => rfl⟩
  | updated id _ t row hf _ | set id _ t row hf _ =>
    exact ⟨rep_crates L t row, fun i hi => by rw [rep_ids]; exact hi, by rw [rep_ids]; exact live hf, fun _ h => by cases h⟩
  | removed id t hf => exact absurd rfl (hop id)

theorem trackCall_failed {s : Schema2} {L : Lib2} (hI : Inv L.tdb) (ops : FOps) (op : TOp)
    (h : ∀ v, (trackCall ops s op L).2 ≠ .ok v) : (trackCall ops s op L).1 = L := by
  rcases trackCall_cases (s := s) hI.s ops op with ⟨r, _, e⟩ | ⟨v, _, e⟩
  · rw [e]
  · rw [e] at h; exact absurd rfl (h v)

theorem trackCall_crates {s : Schema2} {L : Lib2} (hI : Inv L.tdb) (ops : FOps) (op : TOp) (hop : ∀ id, op ≠ .remove id) :
    (trackCall ops s op L).1.crates = viewed L.crates (viewOf (isOk (trackCall ops s op L).2) op) := by
  rcases trackCall_cases (s := s) hI.s ops op with ⟨r, hr, e⟩ | ⟨v, ht, e⟩
  · rw [e]; cases r <;> first | exact absurd rfl (hr _) | (cases op <;> rfl)
  · rw [e]; exact (logged_crates ..).trans (ht.live hop).1

theorem trackCall_tdb (ops : FOps) (s : Schema2) (op : TOp) (L : Lib2) :
    (trackCall ops s op L).1.tdb = (L.tdb.step ops (toT s) op).1 := by
  unfold trackCall
  simp only []
  cases (L.tdb.step ops (toT s) op).2 with
  | ok v =>
    simp only []
    split
    · rw [logAppend_eq]
    · rfl
  | throw e => rfl
  | ub u => rfl

theorem libCore_trackCall {s : Schema2} {L : Lib2} (h : LibCore s L) (ops : FOps) (op : TOp)
    (hop : ∀ id, op ≠ .remove id) : LibCore s (trackCall ops s op L).1 := by
  obtain ⟨S, hS⟩ := h.cr
  rcases trackCall_cases (s := s) h.tr.s ops op with ⟨r, _, e⟩ | ⟨v, ht, e⟩
  · rw [e]; exact h
  rw [e]
  obtain ⟨hview, hids, hsub, _⟩ := ht.live hop
  -- first `base`: the new Track table with the old log; then the rows the trigger appends, which name the call's
  -- subject, a live row of the new table (`hsub`)
  have base : LibCore s ({ L with tdb := (L.tdb.step ops (toT s) op).1 } : Lib2) := {
    tr := inv_step ops (toT s) op h.tr
    cr := by
      rw [hview]
      cases hv : viewOf true op with
      | none => exact ⟨S, hS⟩
      | some o => exact ⟨_, EngineModel.Db.V2.inv_step hS o (viewOf_eq_some hv ▸ rfl)⟩
    logNone := h.logNone
    logIds := h.logIds
    logLive := fun r hr t ht => hids t (h.logLive r hr t ht)
    art := ⟨h.art.1, step_rows (P := fun r => r.albumArtId.toNat ∈ L.art)
      ⟨fun hr ha => (applySetter_keeps ops _ _ _ ha).1 ▸ hr, fun hw => (writeStore_keeps ops _ _ _ hw).1 ▸ h.art.1⟩
      (toT s) h.tr.s h.art.2 op⟩
    prep := fun r hr t ht => hids t (h.prep r hr t ht)
    ver := h.ver }
  show LibCore s (if _ then _ else _)
  split
  · rename_i hc
    rw [logAppend_eq]
    exact { base with
      logNone := fun hn => by rw [hc] at hn; cases hn
      logIds := logAppend_eq _ _ _ ▸ logIds_append base.logIds (TOp.subject v op) _
      logLive := fun r hr t ht => by
        rcases List.mem_append.mp hr with hr | hr
        · exact base.logLive r hr t ht
        · obtain ⟨i, _, rfl⟩ := List.mem_map.mp hr
          cases ht; exact hsub }
  · exact base

end EngineModel.Lib.V2
