/-
Generic facts about statement programs (`Spec/Stmts.lean`) over the connection
model of `Spec/Txn.lean`: a fault position inside the call always raises; the
skeleton decides `atomicShape`; `txn body` / a flat body with at most one write
are atomic shapes; their fault-free run makes exactly the composition of the
writes durable; `form_outcome` says what such a call comes to under any plan,
and `faulted` is a call of an API model run as its program under a plan.
-/
import EngineModel.Spec.Stmts
import EngineModel.Basic.Res
import Proofs.Txn

namespace EngineModel.Proofs.Stmts
open EngineModel.Spec.Txn EngineModel.Spec.Stmts EngineModel.Proofs.Txn

variable {α : Type}

theorem countFaultable_cons (k : CmdKind) (ks : List CmdKind) :
    countFaultable (k :: ks) = (if faultable k then 1 else 0) + countFaultable ks := by
  unfold countFaultable
  by_cases h : faultable k <;> simp [List.filter_cons, h]; omega

theorem raised_of_fault_aux (k : Nat) (auto : Bool) :
    ∀ (cs : List (Cmd α)) (seen scopes : Nat) (c : Conn α), seen ≤ k →
      k < seen + countFaultable (cs.map Cmd.kind) → (exec (some k) auto cs seen scopes c).raised = true := by
  intro cs
  induction cs with
  | nil => intro seen scopes c h1 h2; simp [countFaultable] at h2; omega
  | cons cmd rest ih =>
    intro seen scopes c h1 h2
    rcases exec_cons_cases (some k) auto cmd rest seen scopes c with ⟨c', hi, _, he⟩ | ⟨_, hr, _⟩
    · rw [he, Outcome.cons_raised]
      simp only [List.map_cons, countFaultable_cons] at h2
      apply ih
      · simp only [seenAfter]
        by_cases hf : faultable cmd.kind
        · simp only [hf, if_true]
          have : seen ≠ k := by
            intro hsk
            simp [injectedAt, hf, hsk] at hi
          omega
        · rw [if_neg hf]; exact h1
      · simp only [seenAfter]
        by_cases hf : faultable cmd.kind
        · rw [if_pos hf] at h2 ⊢; omega
        · rw [if_neg hf] at h2 ⊢; omega
    · exact hr

/-- **The failing statement is reported**: whenever the fault position lies inside the call (`k` below the
number of faultable statements it would issue), the call raises — whatever its statements are. -/
theorem raised_of_fault (cs : List (Cmd α)) (k : Nat) (auto : Bool) (db : α)
    (hk : k < countFaultable (cs.map Cmd.kind)) : (call (some k) auto cs db).raised = true :=
  raised_of_fault_aux k auto cs 0 0 (Conn.idle db) (Nat.zero_le _) (by omega)

/-- `t` = inside a scope, `w` = the scope has written; inside a scope nothing is durable yet. -/
structure SkInv (s : ShapeSt) (t w : Bool) : Prop where
  txn : s.inTxn = t
  pend : w = true → s.pending = true ∧ s.inTxn = true
  noeff : s.inTxn = true → s.effected = false

theorem shapeRun_kept {s : ShapeSt} {k : CmdKind} {ks ks' : List CmdKind}
    (h : ∀ s1, shapeStep s k = some s1 → shapeRun s1 ks' = shapeRun s1 ks) :
    shapeRun s (k :: ks') = shapeRun s (k :: ks) := by
  rw [shapeRun, shapeRun]
  cases hs : shapeStep s k with
  | none => rfl
  | some s1 => exact h s1 hs

theorem shapeRun_skel : ∀ (ks : List CmdKind) (s : ShapeSt) (t w : Bool), SkInv s t w →
    shapeRun s (skel t w ks) = shapeRun s ks := by
  intro ks
  induction ks with
  | nil => intro s t w _; rfl
  | cons k ks ih =>
    intro s t w hinv
    cases k with
    | read =>
      -- a read does not move the monitor
      have : shapeStep s .read = some s := by rcases s with ⟨_, _, e⟩; cases e <;> rfl
      rw [shapeRun, this]
      exact ih s t w hinv
    | write =>
      obtain ⟨rfl, hp, he⟩ := hinv
      rcases s with ⟨inTxn, pending, effected⟩
      by_cases hw : (inTxn && w) = true
      · -- a further write of a scope that has written does not move the monitor either
        obtain ⟨rfl, rfl⟩ := Bool.and_eq_true_iff.1 hw
        obtain ⟨rfl, _⟩ := hp rfl
        obtain rfl : effected = false := he rfl
        exact ih _ true true ⟨rfl, hp, he⟩
      · rw [show skel inTxn w (.write :: ks) = .write :: skel inTxn inTxn ks from if_neg hw]
        refine shapeRun_kept fun s1 h1 => ih s1 inTxn inTxn ?_
        obtain ⟨hfe, hk⟩ := shapeStep_some h1
        obtain rfl : effected = false := by cases effected; rfl; cases hfe
        cases inTxn <;> cases hk
        · exact ⟨rfl, nofun, nofun⟩
        · exact ⟨rfl, fun _ => ⟨rfl, rfl⟩, fun _ => rfl⟩
    | begin =>
      refine shapeRun_kept fun s1 h1 => ih s1 true false ?_
      obtain ⟨hfe, _, rfl⟩ := shapeStep_some h1
      exact ⟨rfl, nofun, fun _ => by cases hs : s.effected; rfl; rw [hs] at hfe; cases hfe⟩
    | commit =>
      refine shapeRun_kept fun s1 h1 => ih s1 false false ?_
      obtain ⟨_, _, rfl⟩ := shapeStep_some h1
      exact ⟨rfl, nofun, nofun⟩
    | rollback =>
      refine shapeRun_kept fun s1 h1 => ih s1 false false ?_
      obtain ⟨_, hk⟩ := shapeStep_some h1
      cases hk
      exact ⟨rfl, nofun, nofun⟩

/-- Dropping reads and collapsing the writes of a scope does not change the monitor's verdict. -/
theorem atomicShape_skeleton (ks : List CmdKind) : atomicShape (skeleton ks) = atomicShape ks := by
  unfold atomicShape skeleton
  rw [shapeRun_skel ks ShapeSt.init false false ⟨rfl, nofun, nofun⟩]

theorem skel_body (body : List (Cmd α)) (hb : ∀ c ∈ body, Cmd.rw c = true) (rest : List CmdKind) (w : Bool) :
    skel true w (body.map Cmd.kind ++ rest) =
      (if !w && hasWrite body then [CmdKind.write] else []) ++ skel true (w || hasWrite body) rest := by
  induction body generalizing w with
  | nil => simp [hasWrite]
  | cons c body ih =>
    have hc := hb c List.mem_cons_self
    have ih' := fun w => ih (fun x hx => hb x (List.mem_cons_of_mem _ hx)) w
    simp only [Cmd.rw, Bool.or_eq_true, beq_iff_eq] at hc
    rcases hc with hc | hc
    · simp only [List.map_cons, List.cons_append, hc, skel, hasWrite, List.any_cons]
      rw [ih' w]
      simp [hasWrite, show (CmdKind.read == CmdKind.write) = false from rfl]
    · simp only [List.map_cons, List.cons_append, hc, skel, hasWrite, List.any_cons, Bool.true_and]
      cases w
      · simp only [Bool.false_eq_true, if_false]
        rw [ih' true]
        simp
      · simp only [if_true]
        rw [ih' true]
        simp

theorem skeleton_txn (body : List (Cmd α)) (hb : ∀ c ∈ body, Cmd.rw c = true) :
    skeleton ((txn body).map Cmd.kind) = if hasWrite body then [.begin, .write, .commit] else [.begin, .commit] := by
  have e : (txn body).map Cmd.kind = CmdKind.begin :: (body.map Cmd.kind ++ [CmdKind.commit]) := by
    simp [txn, Cmd.kind]
  rw [e]
  unfold skeleton
  rw [skel, skel_body body hb]
  cases hasWrite body <;> simp [skel, Cmd.kind]

theorem skel_flat (body : List (Cmd α)) (hb : ∀ c ∈ body, Cmd.rw c = true) :
    skel false false (body.map Cmd.kind) = (body.filter (·.kind == .write)).map (fun _ => CmdKind.write) := by
  induction body with
  | nil => rfl
  | cons c body ih =>
    have hc := hb c List.mem_cons_self
    have ih' := ih (fun x hx => hb x (List.mem_cons_of_mem _ hx))
    simp only [Cmd.rw, Bool.or_eq_true, beq_iff_eq] at hc
    rcases hc with hc | hc
    · simp [List.map_cons, hc, skel, ih', List.filter_cons]
    · simp [List.map_cons, hc, skel, ih', List.filter_cons]

theorem atomic_txn (body : List (Cmd α)) (hb : ∀ c ∈ body, Cmd.rw c = true) :
    atomicShape ((txn body).map Cmd.kind) = true := by
  rw [← atomicShape_skeleton, skeleton_txn body hb]
  cases hasWrite body <;> decide

theorem atomic_flat (body : List (Cmd α)) (hb : ∀ c ∈ body, Cmd.rw c = true)
    (h1 : (body.filter (·.kind == .write)).length ≤ 1) : atomicShape (body.map Cmd.kind) = true := by
  rw [← atomicShape_skeleton]
  unfold skeleton
  rw [skel_flat body hb]
  generalize body.filter (·.kind == .write) = l at h1
  match l, h1 with
  | [], _ => rfl
  | [_], _ => rfl
  | _ :: _ :: _, h1 => simp at h1

/-- Reads and writes, in a scope (`k v = ⟨cm, some v⟩`) or in autocommit mode (`k v = ⟨v, none⟩`): without a
fault they run through, and what the connection sees evolves by the writes. -/
theorem exec_body (auto : Bool) (k : α → Conn α)
    (hk : ∀ (f : α → Option α) v v1, f v = some v1 → stepStmt (k v) (.write f) = some (k v1))
    (body : List (Cmd α)) (hb : ∀ c ∈ body, Cmd.rw c = true) :
    ∀ (rest : List (Cmd α)) (seen scopes : Nat) (v v' : α), applyAll (writesOf body) v = some v' →
      ∃ seen', (exec none auto (body ++ rest) seen scopes (k v)).conn
          = (exec none auto rest seen' scopes (k v')).conn ∧
        (exec none auto (body ++ rest) seen scopes (k v)).raised
          = (exec none auto rest seen' scopes (k v')).raised := by
  induction body with
  | nil => intro rest seen scopes v v' h; cases h; exact ⟨seen, rfl, rfl⟩
  | cons c body ih =>
    intro rest seen scopes v v' h
    have hc := hb c List.mem_cons_self
    have ih' := ih (fun x hx => hb x (List.mem_cons_of_mem _ hx))
    cases c with
    | read =>
      obtain ⟨s', h1, h2⟩ := ih' rest (seenAfter .read seen) scopes v v' h
      rw [List.cons_append, exec_cons_ok none auto .read _ seen scopes _ (k v) (injectedAt_none _ _) rfl]
      exact ⟨s', h1, h2⟩
    | write f =>
      change (f v).bind (applyAll (writesOf body)) = some v' at h
      cases hf : f v with
      | none => rw [hf] at h; cases h
      | some v1 =>
        rw [hf] at h
        obtain ⟨s', h1, h2⟩ := ih' rest (seenAfter .write seen) scopes v1 v' h
        rw [List.cons_append, exec_cons_ok none auto (.write f) _ seen scopes _ _ (injectedAt_none _ _) (hk f v v1 hf)]
        exact ⟨s', h1, h2⟩
    | begin => cases hc
    | commit => cases hc
    | rollback => cases hc

theorem txn_run (auto : Bool) (body : List (Cmd α)) (hb : ∀ c ∈ body, Cmd.rw c = true) (db db' : α)
    (h : applyAll (writesOf body) db = some db') :
    (call none auto (txn body) db).raised = false ∧ (call none auto (txn body) db).conn = Conn.idle db' := by
  show (exec none auto (Cmd.begin :: (body ++ [Cmd.commit])) 0 0 (Conn.idle db)).raised = false ∧
    (exec none auto (Cmd.begin :: (body ++ [Cmd.commit])) 0 0 (Conn.idle db)).conn = Conn.idle db'
  rw [exec_cons_ok none auto Cmd.begin (body ++ [Cmd.commit]) 0 0 (Conn.idle db) ⟨db, some db⟩ (injectedAt_none _ _) rfl]
  obtain ⟨s', h1, h2⟩ := exec_body auto (fun v => ⟨db, some v⟩) (fun f v v1 h => by show (f v).map _ = _; rw [h]; rfl) body hb [.commit]
    (seenAfter (Cmd.begin : Cmd α).kind 0) (scopesAfter (Cmd.begin : Cmd α).kind 0) db db' h
  rw [Outcome.cons_raised, Outcome.cons_conn, h1, h2,
    exec_cons_ok none auto .commit [] s' _ ⟨db, some db'⟩ ⟨db', none⟩ (injectedAt_none _ _) rfl]
  exact ⟨rfl, rfl⟩

theorem flat_run (auto : Bool) (body : List (Cmd α)) (hb : ∀ c ∈ body, Cmd.rw c = true) (db db' : α)
    (h : applyAll (writesOf body) db = some db') :
    (call none auto body db).raised = false ∧ (call none auto body db).conn = Conn.idle db' := by
  obtain ⟨s', h1, h2⟩ := exec_body auto Conn.idle (fun f v v1 h => by show (f v).map _ = _; rw [h]; rfl) body hb [] 0 0 db db' h
  rw [List.append_nil] at h1 h2
  exact ⟨h2, h1⟩

theorem skeleton_scope (body : List (Cmd α)) (hb : ∀ c ∈ body, Cmd.rw c = true) (hw : hasWrite body = true) :
    skeleton ((txn body).map Cmd.kind) = Skeleton.scope.kinds := by
  rw [skeleton_txn body hb, hw]; rfl

theorem rw_of_all {body : List (Cmd α)} (h : body.all Cmd.rw = true) : ∀ c ∈ body, Cmd.rw c = true :=
  List.all_eq_true.1 h

theorem atomic_form (sc : Bool) (body : List (Cmd α)) (hb : ∀ c ∈ body, Cmd.rw c = true)
    (h1 : sc = false → (body.filter (·.kind == .write)).length ≤ 1) :
    atomicShape ((if sc then txn body else body).map Cmd.kind) = true := by
  cases sc
  · exact atomic_flat body hb (h1 rfl)
  · exact atomic_txn body hb

theorem form_run (sc auto : Bool) (body : List (Cmd α)) (hb : ∀ c ∈ body, Cmd.rw c = true) (db db' : α)
    (h : applyAll (writesOf body) db = some db') :
    (call none auto (if sc then txn body else body) db).raised = false ∧
    (call none auto (if sc then txn body else body) db).conn = Conn.idle db' := by
  cases sc
  · exact flat_run auto body hb db db' h
  · exact txn_run auto body hb db db' h

theorem all_or_nothing (cs : List (Cmd α)) (h : atomicShape (cs.map Cmd.kind) = true) (k : Nat) (auto : Bool) (db : α)
    (hk : k < countFaultable (cs.map Cmd.kind)) :
    (call (some k) auto cs db).raised = true ∧ (call (some k) auto cs db).conn = Conn.idle db := by
  have hr := raised_of_fault cs k auto db hk
  obtain ⟨s', hs, _⟩ := atomicShape_iff.1 h
  exact ⟨hr, (sound_aux (some k) auto db cs ShapeSt.init s' 0 0 (Conn.idle db) (TInv.init db) hs).1 hr⟩

theorem applyAll_tot_foldl {β : Type} (xs : List β) (g : β → α → α) (a : α) :
    applyAll (xs.map fun x => fun d => some (g x d)) a = some (xs.foldl (fun acc x => g x acc) a) := by
  induction xs generalizing a with
  | nil => rfl
  | cons x xs ih => simp [applyAll, Option.bind, ih]

theorem applyAll_append_of_some (p q : List (α → Option α)) (a b : α) (h : applyAll p a = some b) :
    applyAll (p ++ q) a = applyAll q b := by
  rw [applyAll_append, h]; rfl

theorem writesOf_map_tot {β : Type} (xs : List β) (g : β → α → α) :
    writesOf (xs.map fun x => tot (g x)) = xs.map fun x => fun d => some (g x d) := by
  induction xs with
  | nil => rfl
  | cons x xs ih => exact congrArg (_ :: ·) ih

theorem writesOf_append (p q : List (Cmd α)) : writesOf (p ++ q) = writesOf p ++ writesOf q := by
  induction p with
  | nil => rfl
  | cons c p ih => cases c <;> simp [writesOf, ih]

theorem form_no_rollback (sc : Bool) (body : List (Cmd α)) (hb : ∀ c ∈ body, Cmd.rw c = true) :
    ∀ x ∈ (if sc then txn body else body), x.kind ≠ .rollback := by
  have hb' : ∀ x ∈ body, x.kind ≠ .rollback := fun x hx h => by
    have := hb x hx
    rw [Cmd.rw, h] at this; cases this
  cases sc
  · exact hb'
  · exact List.forall_mem_cons.2 ⟨nofun, List.forall_mem_append.2 ⟨hb', List.forall_mem_cons.2 ⟨nofun, nofun⟩⟩⟩

theorem writesOf_form (sc : Bool) (body : List (Cmd α)) :
    writesOf (if sc then txn body else body) = writesOf body := by
  cases sc
  · rfl
  · show writesOf (body ++ [.commit]) = _
    rw [writesOf_append]; exact List.append_nil _

theorem form_outcome (sc auto : Bool) (fault : Option Nat) (body : List (Cmd α)) (hb : ∀ c ∈ body, Cmd.rw c = true)
    (h1 : sc = false → (body.filter (·.kind == .write)).length ≤ 1) (db : α) :
    let out := call fault auto (if sc then txn body else body) db
    (out.raised = true → out.conn = Conn.idle db) ∧
    (out.raised = false → ∃ db', applyAll (writesOf body) db = some db' ∧ out.conn = Conn.idle db') ∧
    (fault = none → (out.raised = true ↔ applyAll (writesOf body) db = none)) ∧
    (∀ k, fault = some k → k < countFaultable ((if sc then txn body else body).map Cmd.kind) → out.raised = true) := by
  intro out
  have hat := atomic_form sc body hb h1
  have hs := shape_sound _ hat fault auto db
  have hdone : out.raised = false → ∃ db', applyAll (writesOf body) db = some db' ∧ out.conn = Conn.idle db' := by
    intro hr
    have hw := all_writes _ hat (form_no_rollback sc body hb) fault auto db hr
    rw [writesOf_form] at hw
    refine ⟨_, hw, ?_⟩
    have hnone : out.conn.working = none := (hs.2 hr).1
    rcases hc : out.conn with ⟨cm, wk⟩
    rw [hc] at hnone
    cases hnone; rfl
  refine ⟨hs.1, hdone, fun hf => ?_, fun k hf hk => by subst hf; exact raised_of_fault _ k auto db hk⟩
  subst hf
  constructor
  · intro hr
    cases ha : applyAll (writesOf body) db with
    | none => rfl
    | some db' => exact absurd hr (by rw [(form_run sc auto body hb db db' ha).1]; nofun)
  · intro hn
    cases hr : out.raised with
    | true => rfl
    | false =>
      obtain ⟨db', h, _⟩ := hdone hr
      rw [hn] at h; cases h

/-- A call of a model (`st` = its state and outcome) run as its statement program under a fault plan (`r` = the
run): what the `callF` of each fault model is, once its plan is there. -/
def faulted {σ β : Type} (st : σ × Res β) (r : Outcome σ) : σ × Res β :=
  match st.2 with
  | .ub _ => st
  | _ => if r.raised then (r.conn.view, .throw .sqlite_error) else st

theorem faulted_cases {σ β : Type} (st : σ × Res β) (r : Outcome σ) (d : σ)
    (hr : r.raised = true → r.conn = Conn.idle d) :
    faulted st r = st ∨ faulted st r = (d, .throw .sqlite_error) := by
  unfold faulted
  split
  · exact .inl rfl
  · split
    · rename_i h; rw [hr h]; exact .inr rfl
    · exact .inl rfl

theorem faulted_raised {σ β : Type} (st : σ × Res β) (r : Outcome σ) (d : σ) (hu : ∀ u, st.2 ≠ .ub u)
    (hr : r.raised = true) (hc : r.conn = Conn.idle d) : faulted st r = (d, .throw .sqlite_error) := by
  unfold faulted
  split
  · rename_i u h; exact absurd h (hu u)
  · rw [if_pos hr, hc]; rfl

theorem faulted_atomic {σ β : Type} (st : σ × Res β) (cs : List (Cmd σ)) (hat : atomicShape (cs.map Cmd.kind) = true)
    (fault : Option Nat) (auto : Bool) (d : σ) :
    faulted st (call fault auto cs d) = st ∨ faulted st (call fault auto cs d) = (d, .throw .sqlite_error) :=
  faulted_cases st _ d (shape_sound cs hat fault auto d).1

theorem faulted_inside {σ β : Type} (st : σ × Res β) (cs : List (Cmd σ)) (hat : atomicShape (cs.map Cmd.kind) = true)
    (k : Nat) (auto : Bool) (d : σ) (hk : k < countFaultable (cs.map Cmd.kind)) (hu : ∀ u, st.2 ≠ .ub u) :
    faulted st (call (some k) auto cs d) = (d, .throw .sqlite_error) :=
  have h := all_or_nothing cs hat k auto d hk
  faulted_raised st _ d hu h.1 h.2

end EngineModel.Proofs.Stmts
