/-
`information_table` (property C18): `get` on the created library,
and `update_current_played_indicator` changes that member only.
-/
import Proofs.TableCore
import EngineModel.Table.Info
namespace EngineModel
namespace Table

theorem IField.mem_all (f : IField) : f ∈ IField.all := by cases f <;> decide
theorem IField.nodup_all : nodupB IField.all = true := by decide
theorem IField.col_inj {f g : IField} (h : f.col = g.col) : f = g := by
  have hc : ∀ f : IField, f.col.ctorIdx = f.ctorIdx := fun f => by cases f <;> rfl
  have hi := congrArg ICol.ctorIdx h
  rw [hc, hc] at hi
  rw [← IField.ofNat_ctorIdx f, hi, IField.ofNat_ctorIdx]

theorem iSpec_ok : iSpec.Ok := ⟨IField.col_inj, IField.nodup_all, IField.mem_all⟩

theorem alignedI_sel {st : IStmts} (ha : alignedI st = true) : alignedR iSpec (fun _ => true) st.sel = true := by
  simp only [alignedI, Bool.and_eq_true] at ha
  exact ha.1.2

theorem info_get_created {st : IStmts} (ha : alignedI st = true) (s : Schema2) (uuid : Bytes) (cpi : Int) :
    iGet st (infoRow s (.text uuid) cpi) = .ok (normInfo s uuid cpi) :=
  (readRow_eq_ok_iff iSpec_ok (alignedI_sel ha)).mpr fun f => by cases f <;> rfl

/-- **update_current_played_indicator changes that member only**: `get` afterwards
returns the row it returned before with `current_played_indicator` replaced. -/
theorem info_set_get {st : IStmts} (ha : alignedI st = true) {raw : Raw ICol} {g : Row IField}
    (h : iGet st raw = .ok g) (v : Int) : iGet st (iSetCpi st raw v) = .ok (normInfoSet v g) := by
  have hcol : st.setCpi = iSpec.colOf .current_played_indicator := by
    simp only [alignedI, Bool.and_eq_true, decide_eq_true_eq] at ha
    exact ha.2
  refine (readRow_eq_ok_iff iSpec_ok (alignedI_sel ha)).mpr fun f => ?_
  unfold iSetCpi normInfoSet
  rw [hcol, view_setCol iSpec_ok]
  split
  · rename_i hf; rw [if_pos hf.1, hf.1]; rfl
  · rename_i hf; rw [if_neg (fun h => hf ⟨h, rfl⟩)]
    exact (readRow_eq_ok_iff iSpec_ok (alignedI_sel ha)).mp h f

end Table
end EngineModel
