/-
C05 "decoders terminate promptly": from loop-body executions (Proofs/DecodeSteps.lean) to
CURSOR READS.

On the Model's own loop bodies: each iteration of each count-prefixed loop either returns having
advanced the cursor by EXACTLY its record size — 13 + label bytes for a quick cue, 23 + label
bytes for a loop, 24 for a beat-grid marker, 3 / 6 for an overview / high-resolution waveform
entry — or throws `invalid_argument`, or (only when fewer bytes than one primitive are left, which
the decoders' guards exclude) is an out-of-bounds read.  A completed loop has consumed exactly the
sum of its record sizes (`Steps.forN_consumes_exact`).

Instrumented: `CurT` is the cursor monad with a counter of primitive cursor actions: one tick per
`decode_uint8 / int32 / int64 / double` call and per bulk copy (`string::assign` of a label,
`decode_extra`, `memcpy` of waveform points); pointer arithmetic (`end - ptr`) and comparisons are
free.  Every loop body and every one of the eleven payload decoders is written once more in `CurT`
with the same statements, and proved to ERASE to the Model decoder (`erase_*`, `*T_fst`: dropping the counter
gives exactly `Impl.V2.* / Impl.V1.*`, on every input), so the tick count is a count of what the
Model really does.  Composite reads of the Model (`rd marker`, `rd color`) are expanded into the
primitive calls the C++ makes (4 each), which the erasure theorem justifies.  Then:
 * per iteration: at most 7 primitive reads for a quick cue, 10 for a loop, 4 for a marker,
   3 / 6 for a waveform entry (`CurT.Le`: a bound that holds wherever the cursor stands);
 * per decoder: `reads bs ≤ K · (bs.length / w) + c` (`CurT.LeLen`; the count test in front of a loop is what
   turns the embedded count into `bs.length / w`, `CurT.ticks_count_guard_le`), with the constants of `*_reads`.
-/
import Proofs.DecodeSteps

namespace EngineModel
namespace Reads
open Codec Cur Steps

theorem decodeLoop_iter (bs : Bytes) :
    (∃ l, Impl.V2.decodeLoop bs = .ok (l, bs.drop (23 + l.label.length)) ∧ 23 + l.label.length ≤ bs.length) ∨
    Impl.V2.decodeLoop bs = .throw .invalid_argument := by
  rw [Impl.V2.decodeLoop_eq]
  unfold liftDec
  cases hd : V2.loop.dec bs with
  | none => right; rfl
  | some p =>
    obtain ⟨l, r⟩ := p
    left
    have e := (V2.loop_exact bs l r hd).2
    obtain ⟨h1, h2⟩ := drop_of_append e
    rw [Impl.V2.loop_enc_length] at h1 h2
    exact ⟨l, by rw [← h1], h2⟩

theorem decodeLoop_consumes (bs : Bytes) (l : V2.Loop) (r : Bytes) (h : Impl.V2.decodeLoop bs = .ok (l, r)) :
    r = bs.drop (23 + l.label.length) ∧ 23 + l.label.length ≤ bs.length := by
  rcases decodeLoop_iter bs with ⟨l', h1, h2⟩ | h1 <;> rw [h1] at h <;> cases h
  exact ⟨rfl, h2⟩

/-- The 17 are the trailer's bytes, which the cue's own length test covers (`decodeCue_look`). -/
theorem decodeCue_iter (bs : Bytes) :
    (∃ q, Impl.V2.decodeCue bs = .ok (q, bs.drop (13 + q.label.length)) ∧
        13 + q.label.length + 17 ≤ bs.length) ∨
    Impl.V2.decodeCue bs = .throw .invalid_argument ∨
    (bs = [] ∧ Impl.V2.decodeCue bs = .ub .oob_read) := by
  cases bs with
  | nil => right; right; exact ⟨rfl, rfl⟩
  | cons b t =>
    rw [Impl.V2.decodeCue_run (b :: t) (by simp)]
    cases hd : V2.cue.dec (b :: t) with
    | none => right; left; rfl
    | some p =>
      obtain ⟨q, r⟩ := p
      simp only []
      by_cases h17 : 17 ≤ r.length
      · left
        have e := (V2.cue_exact _ q r hd).2
        obtain ⟨h1, h2⟩ := drop_of_append e
        rw [Impl.V2.cue_enc_length] at h1 h2
        refine ⟨q, by simp only [h17, if_true]; rw [← h1], ?_⟩
        have : (b :: t).length = (V2.cue.enc q ++ r).length := congrArg List.length e
        rw [List.length_append, Impl.V2.cue_enc_length] at this
        omega
      · right; left; simp only [h17, if_false]

theorem decodeCue_consumes (bs : Bytes) (q : V2.Cue) (r : Bytes) (h : Impl.V2.decodeCue bs = .ok (q, r)) :
    r = bs.drop (13 + q.label.length) ∧ 13 + q.label.length ≤ bs.length := by
  rcases decodeCue_iter bs with ⟨q', h1, h2⟩ | h1 | ⟨_, h1⟩ <;> rw [h1] at h <;> cases h
  exact ⟨rfl, by omega⟩

theorem marker_iter (bs : Bytes) :
    (∃ m, rd V2.marker bs = .ok (m, bs.drop 24) ∧ 24 ≤ bs.length) ∨ rd V2.marker bs = .ub .oob_read :=
  rd_fixed_iter V2.marker_fixed bs

theorem marker_consumes (bs : Bytes) (m : V2.Marker) (r : Bytes) (h : rd V2.marker bs = .ok (m, r)) :
    r = bs.drop 24 ∧ 24 ≤ bs.length := rd_marker_consumes bs m r h

theorem ovwEntry_iter (bs : Bytes) :
    (∃ e, Impl.V1.ovwEntry bs = .ok (e, bs.drop 3) ∧ 3 ≤ bs.length) ∨ Impl.V1.ovwEntry bs = .ub .oob_read := by
  unfold Impl.V1.ovwEntry
  match bs with
  | a :: b :: c :: t => left; exact ⟨_, rfl, by simp⟩
  | [] => right; rfl
  | [a] => right; rfl
  | [a, b] => right; rfl

theorem hiresEntry_iter (bs : Bytes) :
    (∃ e, Impl.V1.hiresEntry bs = .ok (e, bs.drop 6) ∧ 6 ≤ bs.length) ∨ Impl.V1.hiresEntry bs = .ub .oob_read := by
  unfold Impl.V1.hiresEntry
  match bs with
  | a :: b :: c :: d :: e :: f :: t => left; exact ⟨_, rfl, by simp⟩
  | [] => right; rfl
  | [a] => right; rfl
  | [a, b] => right; rfl
  | [a, b, c] => right; rfl
  | [a, b, c, d] => right; rfl
  | [a, b, c, d, e] => right; rfl

/-- 1.x loop entry = the 2.x wire entry read as present / absent: same cursor movement. -/
theorem decodeLoop1_iter (bs : Bytes) :
    (∃ l o, Impl.V2.decodeLoop bs = .ok (l, bs.drop (23 + l.label.length)) ∧
        Impl.V1.decodeLoop bs = .ok (o, bs.drop (23 + l.label.length)) ∧ 23 + l.label.length ≤ bs.length) ∨
    Impl.V1.decodeLoop bs = .throw .invalid_argument := by
  unfold Impl.V1.decodeLoop
  simp only [bind_run]
  rcases decodeLoop_iter bs with ⟨l, h1, h2⟩ | h1
  · left; exact ⟨l, _, h1, by rw [h1]; rfl, h2⟩
  · right; rw [h1]

theorem decodeCue1_iter (bs : Bytes) :
    (∃ q o, Impl.V2.decodeCue bs = .ok (q, bs.drop (13 + q.label.length)) ∧
        Impl.V1.decodeCue bs = .ok (o, bs.drop (13 + q.label.length)) ∧ 13 + q.label.length + 17 ≤ bs.length) ∨
    Impl.V1.decodeCue bs = .throw .invalid_argument ∨
    (bs = [] ∧ Impl.V1.decodeCue bs = .ub .oob_read) := by
  unfold Impl.V1.decodeCue
  simp only [bind_run]
  rcases decodeCue_iter bs with ⟨q, h1, h2⟩ | h1 | ⟨h0, h1⟩
  · left; exact ⟨q, _, h1, by rw [h1]; rfl, h2⟩
  · right; left; rw [h1]
  · right; right; exact ⟨h0, by rw [h1]⟩

def CurT (α : Type) := Bytes → Res (α × Bytes) × Nat

namespace CurT

@[inline] def pure' {α} (a : α) : CurT α := fun bs => (.ok (a, bs), 0)
@[inline] def bind' {α β} (m : CurT α) (f : α → CurT β) : CurT β := fun bs =>
  match m bs with
  | (.ok (a, r), n) => ((f a r).1, n + (f a r).2)
  | (.throw e, n) => (.throw e, n)
  | (.ub u, n) => (.ub u, n)

instance : Monad CurT where
  pure := pure'
  bind := bind'

/-- a cursor action of the Model, charged `k` primitive reads -/
def ofCur {α} (k : Nat) (m : Cur α) : CurT α := fun bs => (m bs, k)

/-- `decode_uint8 / decode_int32_* / decode_int64_* / decode_double_*`: one primitive read -/
def rd {α} (c : Codec α) : CurT α := ofCur 1 (Cur.rd c)
/-- `string::assign(ptr, n)` / `memcpy`: one bulk copy -/
def takeN (n : Nat) : CurT Bytes := ofCur 1 (Cur.takeN n)
/-- `decode_extra`: one bulk copy -/
def rest : CurT Bytes := ofCur 1 Cur.rest
/-- `end - ptr`: pointer arithmetic, no memory access -/
def remaining : CurT Nat := ofCur 0 Cur.remaining
def throwC {α} (e : Exn) : CurT α := ofCur 0 (Cur.throwC e)
def lift {α} (x : Res α) : CurT α := ofCur 0 (Cur.lift x)

def forN {α} (body : CurT α) : Nat → CurT (List α)
  | 0 => pure []
  | n + 1 => do
    let a ← body
    let l ← forN body n
    pure (a :: l)

def erase {α} (m : CurT α) : Cur α := fun bs => (m bs).1
def ticks {α} (m : CurT α) (bs : Bytes) : Nat := (m bs).2

theorem erase_pure {α} (a : α) : erase (pure a : CurT α) = (pure a : Cur α) := rfl

theorem erase_bind {α β} (m : CurT α) (f : α → CurT β) :
    erase (m >>= f) = (erase m >>= fun a => erase (f a)) := by
  funext bs
  show (bind' m f bs).1 = _
  simp only [bind', erase, bind_run]
  rcases h : m bs with ⟨r, n⟩
  cases r with
  | ok p => obtain ⟨a, r'⟩ := p; rfl
  | throw e => rfl
  | ub u => rfl

theorem erase_ofCur {α} (k : Nat) (m : Cur α) : erase (ofCur k m) = m := rfl
theorem erase_rd {α} (c : Codec α) : erase (rd c) = Cur.rd c := rfl
theorem erase_takeN (n : Nat) : erase (takeN n) = Cur.takeN n := rfl
theorem erase_rest : erase rest = Cur.rest := rfl
theorem erase_remaining : erase remaining = Cur.remaining := rfl
theorem erase_throwC {α} (e : Exn) : erase (throwC e : CurT α) = Cur.throwC e := rfl
theorem erase_lift {α} (x : Res α) : erase (lift x) = Cur.lift x := rfl

theorem erase_ite {α} (c : Prop) [Decidable c] (a b : CurT α) :
    erase (if c then a else b) = if c then erase a else erase b := by
  split <;> rfl

theorem erase_forN {α} (body : CurT α) : ∀ n, erase (forN body n) = Cur.forN (erase body) n
  | 0 => rfl
  | n + 1 => by
    show erase (body >>= fun a => forN body n >>= fun l => pure (a :: l)) = _
    simp only [erase_bind, erase_forN body n, erase_pure]
    rfl

theorem ticks_pure {α} (a : α) (bs : Bytes) : ticks (pure a : CurT α) bs = 0 := rfl
theorem ticks_ofCur {α} (k : Nat) (m : Cur α) (bs : Bytes) : ticks (ofCur k m) bs = k := rfl

theorem ticks_bind {α β} (m : CurT α) (f : α → CurT β) (bs : Bytes) :
    ticks (m >>= f) bs = ticks m bs + match erase m bs with
      | .ok (a, r) => ticks (f a) r
      | _ => 0 := by
  show (bind' m f bs).2 = _
  simp only [bind', erase, ticks]
  rcases h : m bs with ⟨r, n⟩
  cases r with
  | ok p => obtain ⟨a, r'⟩ := p; rfl
  | throw e => rfl
  | ub u => rfl

theorem ticks_ite {α} (c : Prop) [Decidable c] (a b : CurT α) (bs : Bytes) :
    ticks (if c then a else b) bs = if c then ticks a bs else ticks b bs := by
  split <;> rfl

theorem ticks_bind_le {α β} (m : CurT α) (f : α → CurT β) (bs : Bytes) (k1 k2 : Nat)
    (h1 : ticks m bs ≤ k1) (h2 : ∀ a r, erase m bs = .ok (a, r) → ticks (f a) r ≤ k2) :
    ticks (m >>= f) bs ≤ k1 + k2 := by
  rw [ticks_bind]
  refine Nat.add_le_add h1 ?_
  split
  · exact h2 _ _ ‹_›
  · exact Nat.zero_le k2

theorem ticks_ofCur_bind_le {α β} {k : Nat} {m : Cur α} {f : α → CurT β} {bs : Bytes} {a r} {k2 : Nat}
    (hm : m bs = .ok (a, r)) (h : ticks (f a) r ≤ k2) : ticks (ofCur k m >>= f) bs ≤ k2 + k :=
  Nat.add_comm k k2 ▸ ticks_bind_le _ f bs k k2 (Nat.le_refl k) fun a' r' h' => by
    rw [erase_ofCur, hm] at h'
    cases h'
    exact h

theorem ticks_ite_le {α} {c : Prop} [Decidable c] {a b : CurT α} {bs : Bytes} {k : Nat}
    (h1 : c → ticks a bs ≤ k) (h2 : ¬ c → ticks b bs ≤ k) : ticks (if c then a else b) bs ≤ k := by
  split
  · exact h1 ‹_›
  · exact h2 ‹_›

theorem ticks_remaining_bind {β} (f : Nat → CurT β) (bs : Bytes) :
    ticks (remaining >>= f) bs = ticks (f bs.length) bs := Nat.zero_add _

/-- Checked arithmetic costs nothing and leaves the cursor. -/
theorem ticks_lift_bind_le {α β} {x : Res α} {f : α → CurT β} {bs : Bytes} {k : Nat}
    (h : ∀ a, x = .ok a → ticks (f a) bs ≤ k) : ticks (lift x >>= f) bs ≤ k := by
  rw [ticks_bind, erase_lift]
  cases x with
  | ok a => exact Nat.le_trans (Nat.le_of_eq (Nat.zero_add _)) (h a rfl)
  | throw e => exact Nat.zero_le k
  | ub u => exact Nat.zero_le k

theorem ticks_forN_le {α} (body : CurT α) (k : Nat) (hk : ∀ bs, ticks body bs ≤ k) :
    ∀ (n : Nat) (bs : Bytes), ticks (forN body n) bs ≤ k * forNIters (erase body) n bs
  | 0, bs => Nat.zero_le _
  | n + 1, bs => by
    show ticks (body >>= fun a => forN body n >>= fun l => pure (a :: l)) bs ≤ _
    rw [ticks_bind]
    simp only [forNIters]
    have h0 := hk bs
    cases hb : erase body bs with
    | ok p =>
      have h2 := ticks_bind_le (forN body n) (fun l => (pure (p.1 :: l) : CurT (List α))) p.2 _ 0
        (ticks_forN_le body k hk n p.2) (fun _ _ _ => Nat.le_refl 0)
      simp only [Nat.mul_add]
      omega
    | throw e => simp only []; omega
    | ub u => simp only []; omega

/-- `m` makes at most `k` primitive cursor actions, wherever the cursor stands. -/
def Le {α} (m : CurT α) (k : Nat) : Prop := ∀ bs, ticks m bs ≤ k

theorem Le.of_le {α} {m : CurT α} {k k' : Nat} (hk : k ≤ k') (h : Le m k) : Le m k' :=
  fun bs => Nat.le_trans (h bs) hk

theorem Le.pure {α} {a : α} : Le (pure a : CurT α) 0 := fun _ => Nat.le_refl 0

theorem Le.ofCur {α} {k : Nat} {m : Cur α} : Le (ofCur k m) k := fun _ => Nat.le_refl k

theorem Le.bind {α β} {m : CurT α} {f : α → CurT β} {k1 k2 : Nat} (h1 : Le m k1) (h2 : ∀ a, Le (f a) k2) :
    Le (m >>= f) (k1 + k2) :=
  fun bs => ticks_bind_le m f bs k1 k2 (h1 bs) fun a r _ => h2 a r

theorem Le.ite {α} {c : Prop} [Decidable c] {a b : CurT α} {k1 k2 : Nat} (ha : Le a k1) (hb : Le b k2) :
    Le (if c then a else b) (max k1 k2) := by
  split
  · exact ha.of_le (Nat.le_max_left k1 k2)
  · exact hb.of_le (Nat.le_max_right k1 k2)

theorem Le.forN {α} {body : CurT α} {k : Nat} (h : Le body k) (n : Nat) : Le (forN body n) (k * n) :=
  fun bs => Nat.le_trans (ticks_forN_le body k h n bs) (Nat.mul_le_mul_left k (forNIters_le _ n bs))

/-- `m` makes at most `k` actions per `w` bytes ahead of the cursor, and `c` more. -/
def LeLen {α} (m : CurT α) (k w c : Nat) : Prop := ∀ bs, ticks m bs ≤ k * (bs.length / w) + c

theorem LeLen.of_le {α} {m : CurT α} {k w c c' : Nat} (hc : c ≤ c') (h : LeLen m k w c) : LeLen m k w c' :=
  fun bs => Nat.le_trans (h bs) (Nat.add_le_add_left hc _)

theorem LeLen.rd_bind {α β} {cd : Codec α} {P : α → Prop} (hx : cd.Exact P) {f : α → CurT β} {k w c : Nat}
    (h : ∀ a, LeLen (f a) k w c) : LeLen (rd cd >>= f) k w (1 + c) := fun bs => by
  refine Nat.le_trans (ticks_bind_le _ f bs 1 (k * (bs.length / w) + c) (Nat.le_refl 1) fun a r hr => ?_)
    (Nat.le_of_eq (Nat.add_left_comm ..))
  have hr' : Cur.rd cd bs = .ok (a, r) := hr
  unfold Cur.rd at hr'
  split at hr'
  · cases hr'
    exact Nat.le_trans (h a r)
      (Nat.add_le_add_right (Nat.mul_le_mul_left k (Nat.div_le_div_right (hx.length_le ‹_›))) c)
  · cases hr'

theorem LeLen.remaining_bind {β} {f : Nat → CurT β} {k w c : Nat}
    (h : ∀ bs, ticks (f bs.length) bs ≤ k * (bs.length / w) + c) : LeLen (remaining >>= f) k w c :=
  fun bs => Nat.le_trans (Nat.le_of_eq (ticks_remaining_bind f bs)) (h bs)

theorem LeLen.throwC {α} (e : Exn) {k w c : Nat} : LeLen (throwC e : CurT α) k w c := fun _ => Nat.zero_le _

theorem LeLen.ite {α} {p : Prop} [Decidable p] {a b : CurT α} {k w c : Nat} (ha : LeLen a k w c)
    (hb : LeLen b k w c) : LeLen (if p then a else b) k w c := by
  split
  · exact ha
  · exact hb

/-- Behind the count test `n < 0 || n > (end - ptr) / w` what follows may spend `k` per counted entry:
the count is at most the bytes ahead divided by `w`. -/
theorem ticks_count_guard_le {β} (w : Nat) {n : UInt64} {K : CurT β} {b k c : Nat} (hK : Le K b)
    (hb : b ≤ k * n.toNat + c) (e : Exn) (bs : Bytes) :
    ticks (if Prim.s64 n < 0 ∨ ((bs.length : Int) / (w : Int)) < Prim.s64 n then throwC e else K) bs ≤
      k * (bs.length / w) + c := by
  split
  · exact Nat.zero_le _
  · exact Nat.le_trans (hK bs) <| Nat.le_trans hb
      (Nat.add_le_add_right (Nat.mul_le_mul_left k (count_le_of_guard n bs.length w ‹_›)) c)

end CurT

/-- a colour: four `decode_uint8` calls -/
def rdColorT : CurT V2.Color := do
  let a ← CurT.rd u8
  let r ← CurT.rd u8
  let g ← CurT.rd u8
  let b ← CurT.rd u8
  pure ⟨a, r, g, b⟩

theorem erase_rdColorT : CurT.erase rdColorT = Cur.rd V2.color := by
  unfold rdColorT V2.color
  simp only [CurT.erase_bind, CurT.erase_rd, CurT.erase_pure, rd_map_seq, rd_pair_seq,
    bind_assoc, pure_bind]

/-- a beat-grid marker: `decode_double_le`, `decode_int64_le`, `decode_int32_le`, `decode_int32_le` -/
def rdMarkerT : CurT V2.Marker := do
  let off ← CurT.rd u64le
  let bn ← CurT.rd u64le
  let nb ← CurT.rd u32le
  let unk ← CurT.rd u32le
  pure ⟨off, bn, nb, unk⟩

theorem erase_rdMarkerT : CurT.erase rdMarkerT = Cur.rd V2.marker := by
  unfold rdMarkerT V2.marker
  simp only [CurT.erase_bind, CurT.erase_rd, CurT.erase_pure, rd_map_seq, rd_pair_seq,
    bind_assoc, pure_bind]

/-! The constant bounds below follow the statements of each decoder one by one: a primitive is charged
what `ofCur` charges it, a bind adds, a branch takes the larger side. -/

theorem rdColorT_le : CurT.Le rdColorT 4 :=
  .of_le (by decide) <| .bind .ofCur fun _ => .bind .ofCur fun _ => .bind .ofCur fun _ =>
    .bind .ofCur fun _ => .pure

theorem rdMarkerT_le : CurT.Le rdMarkerT 4 :=
  .of_le (by decide) <| .bind .ofCur fun _ => .bind .ofCur fun _ => .bind .ofCur fun _ =>
    .bind .ofCur fun _ => .pure

/-- `quick_cues_blob::from_blob`, loop body (2.x and 1.x): 1 + 1 + 1 + 4 primitive actions -/
def decodeCueT : CurT V2.Cue := do
  let len ← CurT.rd u8
  let rem ← CurT.remaining
  if rem < 29 + len.toNat then CurT.throwC .invalid_argument else
  let label ← CurT.takeN len.toNat
  let off ← CurT.rd u64be
  let col ← rdColorT
  pure ⟨label, off, col⟩

theorem erase_decodeCueT : CurT.erase decodeCueT = Impl.V2.decodeCue := by
  unfold decodeCueT Impl.V2.decodeCue
  simp only [CurT.erase_bind, CurT.erase_rd, CurT.erase_remaining, CurT.erase_ite, CurT.erase_throwC,
    CurT.erase_takeN, erase_rdColorT, CurT.erase_pure]

theorem decodeCueT_le : CurT.Le decodeCueT 7 :=
  .of_le (by decide) <| .bind .ofCur fun _ => .bind .ofCur fun _ => .ite .ofCur <|
    .bind .ofCur fun _ => .bind .ofCur fun _ => .bind rdColorT_le fun _ => .pure

/-- `loops_blob::from_blob`, loop body (2.x and 1.x): 1 + 1 + 2 + 2 + 4 primitive actions -/
def decodeLoopT : CurT V2.Loop := do
  let rem ← CurT.remaining
  if rem < 23 then CurT.throwC .invalid_argument else
  let len ← CurT.rd u8
  let rem ← CurT.remaining
  if rem < 22 + len.toNat then CurT.throwC .invalid_argument else
  let label ← CurT.takeN len.toNat
  let s ← CurT.rd u64le
  let e ← CurT.rd u64le
  let f1 ← CurT.rd u8
  let f2 ← CurT.rd u8
  let col ← rdColorT
  pure ⟨label, s, e, f1, f2, col⟩

theorem erase_decodeLoopT : CurT.erase decodeLoopT = Impl.V2.decodeLoop := by
  unfold decodeLoopT Impl.V2.decodeLoop
  simp only [CurT.erase_bind, CurT.erase_rd, CurT.erase_remaining, CurT.erase_ite, CurT.erase_throwC,
    CurT.erase_takeN, erase_rdColorT, CurT.erase_pure]

theorem decodeLoopT_le : CurT.Le decodeLoopT 10 :=
  .of_le (by decide) <| .bind .ofCur fun _ => .ite .ofCur <| .bind .ofCur fun _ =>
    .bind .ofCur fun _ => .ite .ofCur <| .bind .ofCur fun _ => .bind .ofCur fun _ =>
    .bind .ofCur fun _ => .bind .ofCur fun _ => .bind .ofCur fun _ =>
    .bind rdColorT_le fun _ => .pure

/-- 1.x bodies: the 2.x wire entry, then a pure reading (no further cursor action) -/
def decodeCue1T : CurT (Option Impl.V1.HotCue) := do
  let q ← decodeCueT
  pure (if F64.ne q.off F64.negOne then some ⟨q.label, q.off, q.color⟩ else none)

def decodeLoop1T : CurT (Option Impl.V1.LoopV) := do
  let l ← decodeLoopT
  pure (if F64.ne l.start F64.negOne then some ⟨l.label, l.start, l.stop, l.color⟩ else none)

theorem erase_decodeCue1T : CurT.erase decodeCue1T = Impl.V1.decodeCue := by
  unfold decodeCue1T Impl.V1.decodeCue
  simp only [CurT.erase_bind, erase_decodeCueT, CurT.erase_pure]

theorem erase_decodeLoop1T : CurT.erase decodeLoop1T = Impl.V1.decodeLoop := by
  unfold decodeLoop1T Impl.V1.decodeLoop
  simp only [CurT.erase_bind, erase_decodeLoopT, CurT.erase_pure]

theorem decodeCue1T_le : CurT.Le decodeCue1T 7 := .bind decodeCueT_le fun _ => .pure

theorem decodeLoop1T_le : CurT.Le decodeLoop1T 10 := .bind decodeLoopT_le fun _ => .pure

/-- 1.x waveform entries: 3 / 6 `decode_uint8` calls -/
def ovwEntryT : CurT Impl.V1.Entry := do
  let a ← CurT.rd u8; let b ← CurT.rd u8; let c ← CurT.rd u8
  pure ⟨a, b, c, 255, 255, 255⟩

def hiresEntryT : CurT Impl.V1.Entry := do
  let a ← CurT.rd u8; let b ← CurT.rd u8; let c ← CurT.rd u8
  let d ← CurT.rd u8; let e ← CurT.rd u8; let f ← CurT.rd u8
  pure ⟨a, b, c, d, e, f⟩

theorem erase_ovwEntryT : CurT.erase ovwEntryT = Impl.V1.ovwEntry := by
  unfold ovwEntryT Impl.V1.ovwEntry
  simp only [CurT.erase_bind, CurT.erase_rd, CurT.erase_pure]

theorem erase_hiresEntryT : CurT.erase hiresEntryT = Impl.V1.hiresEntry := by
  unfold hiresEntryT Impl.V1.hiresEntry
  simp only [CurT.erase_bind, CurT.erase_rd, CurT.erase_pure]

theorem ovwEntryT_le : CurT.Le ovwEntryT 3 :=
  .of_le (by decide) <| .bind .ofCur fun _ => .bind .ofCur fun _ => .bind .ofCur fun _ => .pure

theorem hiresEntryT_le : CurT.Le hiresEntryT 6 :=
  .of_le (by decide) <| .bind .ofCur fun _ => .bind .ofCur fun _ => .bind .ofCur fun _ =>
    .bind .ofCur fun _ => .bind .ofCur fun _ => .bind .ofCur fun _ => .pure

/-! Each `decode…T` is `if <too short> then (throw, 0) else (result of M, ticks of M)` for a `CurT` program `M`. -/

theorem fst_wrap_eq {α ρ} {p : Prop} [Decidable p] {e : Exn} {M : CurT α} {D : Cur α} {g : α × Bytes → Res ρ}
    (h : CurT.erase M = D) (bs : Bytes) :
    (if p then (Res.throw e, 0) else ((CurT.erase M bs).bind g, CurT.ticks M bs)).1 =
      if p then .throw e else (D bs).bind g := by
  subst h
  split <;> rfl

theorem snd_ite_le {ρ} {p : Prop} [Decidable p] {x y : ρ} {t K : Nat} (h : ¬ p → t ≤ K) :
    (if p then (x, 0) else (y, t)).2 ≤ K := by
  split
  · exact Nat.zero_le K
  · exact h ‹_›

def decodeCuesM : CurT (V2.Cues × Bytes) := do
  let n ← CurT.rd u64be
  let rem ← CurT.remaining
  if Prim.s64 n < 0 ∨ (rem / 13 : Int) < Prim.s64 n then CurT.throwC .invalid_argument else
  let cs ← CurT.forN decodeCueT n.toNat
  let adj ← CurT.rd u64be
  let flag ← CurT.rd u8
  let dflt ← CurT.rd u64be
  let extra ← CurT.rest
  pure (⟨cs, adj, flag != 0, dflt⟩, extra)

/-- `quick_cues_blob::from_blob` on the payload, with the number of primitive cursor actions -/
def decodeCuesT (bs : Bytes) : Res (V2.Cues × Bytes) × Nat :=
  if bs.length < 25 then (.throw .invalid_argument, 0) else
  ((CurT.erase decodeCuesM bs).bind (fun p => .ok p.1), CurT.ticks decodeCuesM bs)

theorem decodeCuesT_fst (bs : Bytes) : (decodeCuesT bs).1 = Impl.V2.decodeCues bs :=
  fst_wrap_eq (by
    unfold decodeCuesM
    simp only [CurT.erase_bind, CurT.erase_rd, CurT.erase_remaining, CurT.erase_ite, CurT.erase_throwC,
      CurT.erase_forN, erase_decodeCueT, CurT.erase_rest, CurT.erase_pure]) bs

theorem decodeCuesM_le : CurT.LeLen decodeCuesM 7 13 5 :=
  .of_le (by decide) <| .rd_bind u64be_exact fun _ => .remaining_bind <| CurT.ticks_count_guard_le 13
    (.bind (.forN decodeCueT_le _) fun _ => .bind .ofCur fun _ => .bind .ofCur fun _ =>
      .bind .ofCur fun _ => .bind .ofCur fun _ => .pure) (Nat.le_refl _) _

theorem decodeCuesT_reads (bs : Bytes) : (decodeCuesT bs).2 ≤ 7 * (bs.length / 13) + 5 :=
  snd_ite_le fun _ => decodeCuesM_le bs

def decodeLoopsM : CurT (V2.Loops × Bytes) := do
  let n ← CurT.rd u64le
  let rem ← CurT.remaining
  if Prim.s64 n < 0 ∨ (rem / 23 : Int) < Prim.s64 n then CurT.throwC .invalid_argument else
  let ls ← CurT.forN decodeLoopT n.toNat
  let extra ← CurT.rest
  pure (ls, extra)

def decodeLoopsT (bs : Bytes) : Res (V2.Loops × Bytes) × Nat :=
  if bs.length < 8 then (.throw .invalid_argument, 0) else
  ((CurT.erase decodeLoopsM bs).bind (fun p => .ok p.1), CurT.ticks decodeLoopsM bs)

theorem decodeLoopsT_fst (bs : Bytes) : (decodeLoopsT bs).1 = Impl.V2.decodeLoops bs :=
  fst_wrap_eq (by
    unfold decodeLoopsM
    simp only [CurT.erase_bind, CurT.erase_rd, CurT.erase_remaining, CurT.erase_ite, CurT.erase_throwC,
      CurT.erase_forN, erase_decodeLoopT, CurT.erase_rest, CurT.erase_pure]) bs

theorem decodeLoopsM_le : CurT.LeLen decodeLoopsM 10 23 2 :=
  .of_le (by decide) <| .rd_bind u64le_exact fun _ => .remaining_bind <| CurT.ticks_count_guard_le 23
    (.bind (.forN decodeLoopT_le _) fun _ => .bind .ofCur fun _ => .pure) (Nat.le_refl _) _

theorem decodeLoopsT_reads (bs : Bytes) : (decodeLoopsT bs).2 ≤ 10 * (bs.length / 23) + 2 :=
  snd_ite_le fun _ => decodeLoopsM_le bs

def decodeCues1M : CurT Impl.V1.Cues := do
  let n ← CurT.rd u64be
  let rem ← CurT.remaining
  if Prim.s64 n < 0 ∨ (rem / 13 : Int) < Prim.s64 n then CurT.throwC .invalid_argument else
  let cs ← CurT.forN decodeCue1T n.toNat
  let adj ← CurT.rd u64be
  let flag ← CurT.rd u8
  let dflt ← CurT.rd u64be
  if flag.toNat > 1 ∨ (flag.toNat = 0 ∧ F64.ne adj dflt) then CurT.throwC .invalid_argument else
  let rem ← CurT.remaining
  if rem ≠ 0 then CurT.throwC .invalid_argument else
  pure (⟨cs, adj, dflt⟩ : Impl.V1.Cues)

def decodeCues1T (bs : Bytes) : Res Impl.V1.Cues × Nat :=
  if bs.length < 25 then (.throw .invalid_argument, 0) else
  ((CurT.erase decodeCues1M bs).bind (fun p => .ok p.1), CurT.ticks decodeCues1M bs)

theorem decodeCues1T_fst (bs : Bytes) : (decodeCues1T bs).1 = Impl.V1.decodeCues bs :=
  fst_wrap_eq (by
    unfold decodeCues1M
    simp only [CurT.erase_bind, CurT.erase_rd, CurT.erase_remaining, CurT.erase_ite, CurT.erase_throwC,
      CurT.erase_forN, erase_decodeCue1T, CurT.erase_pure]) bs

theorem decodeCues1M_le : CurT.LeLen decodeCues1M 7 13 4 :=
  .of_le (by decide) <| .rd_bind u64be_exact fun _ => .remaining_bind <| CurT.ticks_count_guard_le 13
    (.bind (.forN decodeCue1T_le _) fun _ =>
      .bind .ofCur fun _ => .bind .ofCur fun _ => .bind .ofCur fun _ => .ite .ofCur <|
      .bind .ofCur fun _ => .ite .ofCur .pure) (Nat.le_refl _) _

theorem decodeCues1T_reads (bs : Bytes) : (decodeCues1T bs).2 ≤ 7 * (bs.length / 13) + 4 :=
  snd_ite_le fun _ => decodeCues1M_le bs

def decodeLoops1M : CurT Impl.V1.Loops := do
  let n ← CurT.rd u64le
  let rem ← CurT.remaining
  if Prim.s64 n < 0 ∨ (rem / 23 : Int) < Prim.s64 n then CurT.throwC .invalid_argument else
  let ls ← CurT.forN decodeLoop1T n.toNat
  let rem ← CurT.remaining
  if rem ≠ 0 then CurT.throwC .invalid_argument else
  pure ls

def decodeLoops1T (bs : Bytes) : Res Impl.V1.Loops × Nat :=
  if bs.length < 8 then (.throw .invalid_argument, 0) else
  ((CurT.erase decodeLoops1M bs).bind (fun p => .ok p.1), CurT.ticks decodeLoops1M bs)

theorem decodeLoops1T_fst (bs : Bytes) : (decodeLoops1T bs).1 = Impl.V1.decodeLoops bs :=
  fst_wrap_eq (by
    unfold decodeLoops1M
    simp only [CurT.erase_bind, CurT.erase_rd, CurT.erase_remaining, CurT.erase_ite, CurT.erase_throwC,
      CurT.erase_forN, erase_decodeLoop1T, CurT.erase_pure]) bs

theorem decodeLoops1M_le : CurT.LeLen decodeLoops1M 10 23 1 :=
  .of_le (by decide) <| .rd_bind u64le_exact fun _ => .remaining_bind <| CurT.ticks_count_guard_le 23
    (.bind (.forN decodeLoop1T_le _) fun _ =>
      .bind .ofCur fun _ => .ite .ofCur .pure) (Nat.le_refl _) _

theorem decodeLoops1T_reads (bs : Bytes) : (decodeLoops1T bs).2 ≤ 10 * (bs.length / 23) + 1 :=
  snd_ite_le fun _ => decodeLoops1M_le bs

/-! The two grids of the beat data share the bytes: the bound on each is in executed marker iterations
(`itersGridV2`, `itersGridV1`), and `decode_steps_*_beat` bounds their sum. -/

def decodeGridT : CurT (List V2.Marker) := do
  let rem ← CurT.remaining
  if rem < 8 then CurT.throwC .invalid_argument else
  let count ← CurT.rd u64be
  let rem ← CurT.remaining
  if Prim.s64 count < 0 ∨ (rem / 24 : Int) < Prim.s64 count then CurT.throwC .invalid_argument else
  CurT.forN rdMarkerT count.toNat

theorem erase_decodeGridT : CurT.erase decodeGridT = Impl.V2.decodeGrid := by
  unfold decodeGridT Impl.V2.decodeGrid
  simp only [CurT.erase_bind, CurT.erase_rd, CurT.erase_remaining, CurT.erase_ite, CurT.erase_throwC,
    CurT.erase_forN, erase_rdMarkerT]

/-- one count read and four reads per executed marker iteration -/
theorem ticks_decodeGridT_le (bs : Bytes) : CurT.ticks decodeGridT bs ≤ 1 + 4 * itersGridV2 bs := by
  unfold decodeGridT
  rw [CurT.ticks_remaining_bind, Nat.add_comm]
  refine CurT.ticks_ite_le (fun _ => Nat.zero_le _) fun h8 => ?_
  have h8 : 8 ≤ bs.length := Nat.le_of_not_lt h8
  refine CurT.ticks_ofCur_bind_le (rd_u64be_run h8) ?_
  rw [CurT.ticks_remaining_bind]
  refine CurT.ticks_ite_le (fun _ => Nat.zero_le _) fun hg => ?_
  rw [List.length_drop] at hg
  have := CurT.ticks_forN_le rdMarkerT 4 rdMarkerT_le (u64be.get bs).toNat (bs.drop 8)
  rw [erase_rdMarkerT] at this
  unfold itersGridV2 gridCount
  rw [if_pos ⟨h8, hg⟩]
  exact this

def decodeBeatM : CurT (V2.Beat × Bytes) := do
  let sr ← CurT.rd u64be
  let n ← CurT.rd u64be
  let f ← CurT.rd u8
  let d ← decodeGridT
  let a ← decodeGridT
  let extra ← CurT.rest
  pure (⟨sr, n, f, d, a⟩, extra)

def decodeBeatT (bs : Bytes) : Res (V2.Beat × Bytes) × Nat :=
  if bs.length < 33 then (.throw .invalid_argument, 0) else
  ((CurT.erase decodeBeatM bs).bind (fun p => .ok p.1), CurT.ticks decodeBeatM bs)

theorem decodeBeatT_fst (bs : Bytes) : (decodeBeatT bs).1 = Impl.V2.decodeBeat bs :=
  fst_wrap_eq (by
    unfold decodeBeatM
    simp only [CurT.erase_bind, CurT.erase_rd, erase_decodeGridT, CurT.erase_rest, CurT.erase_pure]) bs

theorem decodeBeatT_reads (bs : Bytes) : (decodeBeatT bs).2 ≤ 4 * (bs.length / 24) + 6 := by
  refine snd_ite_le fun h33 => ?_
  unfold decodeBeatM
  refine CurT.ticks_ofCur_bind_le (rd_u64be_run (by omega)) ?_
  refine CurT.ticks_ofCur_bind_le (rd_u64be_run (by rw [List.length_drop]; omega)) ?_
  refine CurT.ticks_ofCur_bind_le (rd_u8_run (by simp only [List.length_drop]; omega)) ?_
  simp only [List.drop_drop, Nat.reduceAdd]
  rw [CurT.ticks_bind, erase_decodeGridT]
  have h1 := ticks_decodeGridT_le (bs.drop 17)
  cases hg1 : Impl.V2.decodeGrid (bs.drop 17) with
  | ok p =>
    have := two_grids_steps itersGridV2 itersGridV2_le bs h33 _ (.inr ⟨p.2, decodeGrid_consumes _ _ _ hg1, rfl⟩)
    have h2 := CurT.ticks_bind_le decodeGridT (fun a => (do
      let extra ← CurT.rest
      pure (⟨u64be.get bs, u64be.get (bs.drop 8), u8.get (bs.drop 16), p.1, a⟩, extra) : CurT (V2.Beat × Bytes)))
      p.2 _ _ (ticks_decodeGridT_le p.2) fun _ r _ => (CurT.Le.bind .ofCur fun _ => .pure) r
    simp only []
    omega
  | throw e =>
    have := two_grids_steps itersGridV2 itersGridV2_le bs h33 0 (.inl rfl)
    simp only []
    omega
  | ub u =>
    have := two_grids_steps itersGridV2 itersGridV2_le bs h33 0 (.inl rfl)
    simp only []
    omega

def decodeGrid1T : CurT (List Impl.V1.GMarker) := do
  let rem ← CurT.remaining
  if rem < 8 then CurT.throwC .invalid_argument else
  let count ← CurT.rd u64be
  if Prim.s64 count = 0 then pure [] else
  if Prim.s64 count < 2 then CurT.throwC .invalid_argument else
  if Prim.s64 count > 32768 then CurT.throwC .invalid_argument else
  let rem ← CurT.remaining
  let need ← CurT.lift (Chk.mul64 24 (Prim.s64 count))
  if (rem : Int) < need then CurT.throwC .invalid_argument else
  let wire ← CurT.forN rdMarkerT count.toNat
  CurT.ofCur 0 (fun bs => match Impl.V1.checkWire none wire with
    | .ok g => .ok (g, bs)
    | .throw e => .throw e
    | .ub u => .ub u)

theorem erase_decodeGrid1T : CurT.erase decodeGrid1T = Impl.V1.decodeGrid := by
  unfold decodeGrid1T Impl.V1.decodeGrid
  simp only [CurT.erase_bind, CurT.erase_rd, CurT.erase_remaining, CurT.erase_ite, CurT.erase_throwC,
    CurT.erase_forN, erase_rdMarkerT, CurT.erase_lift, CurT.erase_pure]
  rfl

theorem ticks_decodeGrid1T_le (bs : Bytes) : CurT.ticks decodeGrid1T bs ≤ 1 + 4 * itersGridV1 bs := by
  unfold decodeGrid1T
  rw [CurT.ticks_remaining_bind, Nat.add_comm]
  refine CurT.ticks_ite_le (fun _ => Nat.zero_le _) fun h8 => ?_
  have h8 : 8 ≤ bs.length := Nat.le_of_not_lt h8
  refine CurT.ticks_ofCur_bind_le (rd_u64be_run h8) ?_
  refine CurT.ticks_ite_le (fun _ => Nat.zero_le _) fun hz => ?_
  refine CurT.ticks_ite_le (fun _ => Nat.zero_le _) fun h2 => ?_
  refine CurT.ticks_ite_le (fun _ => Nat.zero_le _) fun hb => ?_
  rw [CurT.ticks_remaining_bind]
  refine CurT.ticks_lift_bind_le fun need hn => ?_
  refine CurT.ticks_ite_le (fun _ => Nat.zero_le _) fun hg => ?_
  rw [Chk.mul64_eq_ok hn, List.length_drop] at hg
  have := CurT.ticks_bind_le _ (fun wire => CurT.ofCur 0 (grid1Check wire)) _ _ 0
    (CurT.ticks_forN_le rdMarkerT 4 rdMarkerT_le (u64be.get bs).toNat (bs.drop 8)) fun _ _ _ => Nat.le_refl 0
  rw [erase_rdMarkerT] at this
  unfold itersGridV1 gridCount
  rw [if_pos ⟨h8, hz, h2, hb, hg⟩]
  exact this

/-- bytes examined by the trailing `while (ptr != end) { if (*ptr != 0) throw; ptr++; }` -/
def zeroScan (r : Bytes) : Nat := (r.takeWhile (· == 0)).length + (if r.all (· == 0) then 0 else 1)

theorem zeroScan_le (r : Bytes) : zeroScan r ≤ r.length := by
  unfold zeroScan
  induction r with
  | nil => exact Nat.le_refl 0
  | cons b t ih =>
    simp only [List.takeWhile_cons, List.all_cons, List.length_cons]
    by_cases hb : (b == 0) = true
    · simp only [hb, if_true, Bool.true_and, List.length_cons]
      omega
    · simp only [hb, Bool.false_eq_true, if_false, Bool.false_and, List.length_nil]
      omega

def beatHeadT : CurT (UInt64 × UInt64) := do
  let sr ← CurT.rd u64be
  let sc ← CurT.rd u64be
  let _flag ← CurT.rd u8
  pure (sr, sc)

/-- 1.x `beat_data::decode` on the payload, with the number of primitive cursor actions (the `try … catch`
keeps the reads made before the exception; the trailer loop reads `zeroScan` bytes) -/
def decodeBeat1T (bs : Bytes) : Res Impl.V1.Beat × Nat :=
  if bs.length < 33 then (.throw .invalid_argument, 0) else
  match CurT.erase beatHeadT bs with
  | .throw e => (.throw e, CurT.ticks beatHeadT bs)
  | .ub u => (.ub u, CurT.ticks beatHeadT bs)
  | .ok ((sr, sc), r0) =>
    let k := CurT.ticks beatHeadT bs
    let k1 := CurT.ticks decodeGrid1T r0
    match CurT.erase decodeGrid1T r0 with
    | .ub u => (.ub u, k + k1)
    | .throw _ =>
      (if !Impl.V1.allZero r0 then .throw .invalid_argument else
        .ok ⟨if F64.isZero sr then none else some sr, if F64.isZero sc then none else some sc, [], []⟩,
       k + k1 + zeroScan r0)
    | .ok (d, r1) =>
      let k2 := CurT.ticks decodeGrid1T r1
      match CurT.erase decodeGrid1T r1 with
      | .ub u => (.ub u, k + k1 + k2)
      | .throw _ =>
        (if !Impl.V1.allZero r1 then .throw .invalid_argument else
          .ok ⟨if F64.isZero sr then none else some sr, if F64.isZero sc then none else some sc, [], []⟩,
         k + k1 + k2 + zeroScan r1)
      | .ok (a, r2) =>
        (if !Impl.V1.allZero r2 then .throw .invalid_argument else
          .ok ⟨if F64.isZero sr then none else some sr, if F64.isZero sc then none else some sc, d, a⟩,
         k + k1 + k2 + zeroScan r2)

theorem erase_beatHeadT : CurT.erase beatHeadT =
    (do let sr ← Cur.rd u64be; let sc ← Cur.rd u64be; let _flag ← Cur.rd u8; pure (sr, sc) : Cur (UInt64 × UInt64)) := by
  unfold beatHeadT
  simp only [CurT.erase_bind, CurT.erase_rd, CurT.erase_pure]

theorem beatHead_run (bs : Bytes) (h : 17 ≤ bs.length) :
    CurT.erase beatHeadT bs = .ok ((u64be.get bs, u64be.get (bs.drop 8)), bs.drop 17) := by
  rw [erase_beatHeadT, beat_head_run _ h]
  rfl

theorem decodeBeat1T_fst (bs : Bytes) : (decodeBeat1T bs).1 = Impl.V1.decodeBeat bs := by
  unfold decodeBeat1T Impl.V1.decodeBeat
  by_cases h33 : bs.length < 33
  · rw [if_pos h33, if_pos h33]
  · have hh := beatHead_run bs (Nat.le_trans (by decide) (Nat.le_of_not_lt h33))
    rw [if_neg h33, if_neg h33, erase_decodeGrid1T, hh]
    rw [erase_beatHeadT] at hh
    rw [hh]
    simp only []
    cases Impl.V1.decodeGrid (bs.drop 17) with
    | ok q =>
      simp only []
      cases Impl.V1.decodeGrid q.2 <;> rfl
    | throw e => rfl
    | ub u => rfl

theorem beatHeadT_le : CurT.Le beatHeadT 3 :=
  .of_le (by decide) <| .bind .ofCur fun _ => .bind .ofCur fun _ => .bind .ofCur fun _ => .pure

/-- The head costs `k`, the grids `k1`, `k2` (a count word and four reads per marker iteration, `i1 + i2`
iterations in all), the zero check `z` of the `L` bytes. -/
theorem beat1_reads_arith {L D k k1 k2 i1 i2 z : Nat} (hk : k ≤ 3) (hk1 : k1 ≤ 1 + 4 * i1) (hk2 : k2 ≤ 1 + 4 * i2)
    (hs : i1 + i2 ≤ D) (hz : z ≤ L) : k + k1 + k2 + z ≤ 4 * D + L + 5 := by omega

theorem decodeBeat1T_reads (bs : Bytes) : (decodeBeat1T bs).2 ≤ 4 * (bs.length / 24) + bs.length + 5 := by
  unfold decodeBeat1T
  by_cases h33 : bs.length < 33
  · rw [if_pos h33]
    exact Nat.zero_le _
  · rw [if_neg h33]
    have hk : CurT.ticks beatHeadT bs ≤ 3 := beatHeadT_le bs
    have hk1 := ticks_decodeGrid1T_le (bs.drop 17)
    have hl0 : (bs.drop 17).length ≤ bs.length := List.length_drop ▸ Nat.sub_le _ _
    have hs0 := two_grids_steps itersGridV1 itersGridV1_le bs h33 0 (.inl rfl)
    rw [beatHead_run bs (Nat.le_trans (by decide) (Nat.le_of_not_lt h33)), erase_decodeGrid1T]
    simp only []
    -- the counters become variables: compared as terms they would be unfolded, decoders and all
    generalize CurT.ticks beatHeadT bs = k at hk ⊢
    generalize CurT.ticks decodeGrid1T (bs.drop 17) = k1 at hk1 ⊢
    split
    · exact beat1_reads_arith (k2 := 0) (i2 := 0) (z := 0) hk hk1 (Nat.zero_le _) hs0 (Nat.zero_le _)
    · exact beat1_reads_arith (k2 := 0) (i2 := 0) hk hk1 (Nat.zero_le _) hs0 (Nat.le_trans (zeroScan_le _) hl0)
    · rename_i d r1 hg1
      have hc1 := decodeGrid1_consumes _ _ _ hg1
      have hl1 : r1.length ≤ bs.length := Nat.le_trans (Nat.le_trans (Nat.le_add_left _ _) hc1) hl0
      have hs := two_grids_steps itersGridV1 itersGridV1_le bs h33 _ (.inr ⟨r1, hc1, rfl⟩)
      have hk2 := ticks_decodeGrid1T_le r1
      generalize CurT.ticks decodeGrid1T r1 = k2 at hk2 ⊢
      split
      · exact beat1_reads_arith (z := 0) hk hk1 hk2 hs (Nat.zero_le _)
      · exact beat1_reads_arith hk hk1 hk2 hs (Nat.le_trans (zeroScan_le _) hl1)
      · rename_i a r2 hg2
        exact beat1_reads_arith hk hk1 hk2 hs (Nat.le_trans (zeroScan_le _) <|
          Nat.le_trans (Nat.le_trans (Nat.le_add_left _ _) (decodeGrid1_consumes _ _ _ hg2)) hl1)

def decodeOvwM : CurT (V2.Ovw × Bytes) := do
  let n1 ← CurT.rd u64be
  let n2 ← CurT.rd u64be
  let spp ← CurT.rd u64be
  if n1 ≠ n2 then CurT.throwC .invalid_argument else
  let rem ← CurT.remaining
  if Prim.s64 n1 < 0 ∨ (rem / 3 : Int) < Prim.s64 n1 then CurT.throwC .invalid_argument else
  let n1p ← CurT.lift (Chk.add64 (Prim.s64 n1) 1)
  let need ← CurT.lift (Chk.mul64 3 n1p)
  if (rem : Int) < need then CurT.throwC .invalid_argument else
  let pts ← CurT.takeN (3 * n1.toNat)
  let mx ← CurT.takeN 3
  let extra ← CurT.rest
  pure (⟨spp, pts, mx⟩, extra)

/-- 2.x `overview_waveform_data_blob::from_blob`: no loop in the Model (the points are one bulk copy) -/
def decodeOvwT (bs : Bytes) : Res (V2.Ovw × Bytes) × Nat :=
  if bs.length < 27 then (.throw .invalid_argument, 0) else
  ((CurT.erase decodeOvwM bs).bind (fun p => .ok p.1), CurT.ticks decodeOvwM bs)

theorem decodeOvwT_fst (bs : Bytes) : (decodeOvwT bs).1 = Impl.V2.decodeOvw bs :=
  fst_wrap_eq (by
    unfold decodeOvwM
    simp only [CurT.erase_bind, CurT.erase_rd, CurT.erase_remaining, CurT.erase_ite, CurT.erase_throwC,
      CurT.erase_lift, CurT.erase_takeN, CurT.erase_rest, CurT.erase_pure]) bs

theorem decodeOvwM_le : CurT.Le decodeOvwM 6 :=
  .of_le (by decide) <| .bind .ofCur fun _ => .bind .ofCur fun _ => .bind .ofCur fun _ =>
    .ite .ofCur <| .bind .ofCur fun _ => .ite .ofCur <| .bind .ofCur fun _ =>
    .bind .ofCur fun _ => .ite .ofCur <| .bind .ofCur fun _ => .bind .ofCur fun _ =>
    .bind .ofCur fun _ => .pure

theorem decodeOvwT_reads (bs : Bytes) : (decodeOvwT bs).2 ≤ 6 := snd_ite_le fun _ => decodeOvwM_le bs

def decodeWaveM (w : Nat) (entry : CurT Impl.V1.Entry) : CurT Impl.V1.Wave := do
  let n1 ← CurT.rd u64be
  let n2 ← CurT.rd u64be
  let spe ← CurT.rd u64be
  if n1 ≠ n2 then CurT.throwC .invalid_argument else
  let rem ← CurT.remaining
  if Prim.s64 n1 < 0 ∨ (rem / w : Int) < Prim.s64 n1 then CurT.throwC .invalid_argument else
  let n1p ← CurT.lift (Chk.add64 (Prim.s64 n1) 1)
  let need ← CurT.lift (Chk.mul64 (w : Int) n1p)
  if (rem : Int) ≠ need then CurT.throwC .invalid_argument else
  let es ← CurT.forN entry n1.toNat
  let _ ← CurT.takeN w
  let rem ← CurT.remaining
  if rem ≠ 0 then CurT.throwC .runtime_error else
  pure (⟨spe, es⟩ : Impl.V1.Wave)

/-- 1.x waveform decoders (`w` = 3 overview, 6 high resolution) -/
def decodeWaveT (minLen w : Nat) (entry : CurT Impl.V1.Entry) (bs : Bytes) : Res Impl.V1.Wave × Nat :=
  if bs.length < minLen then (.throw .invalid_argument, 0) else
  ((CurT.erase (decodeWaveM w entry) bs).bind (fun p => .ok p.1), CurT.ticks (decodeWaveM w entry) bs)

theorem decodeWaveT_fst (minLen w : Nat) (entry : CurT Impl.V1.Entry) (bs : Bytes) :
    (decodeWaveT minLen w entry bs).1 = Impl.V1.decodeWave minLen w (CurT.erase entry) bs :=
  fst_wrap_eq (by
    unfold decodeWaveM
    simp only [CurT.erase_bind, CurT.erase_rd, CurT.erase_remaining, CurT.erase_ite, CurT.erase_throwC,
      CurT.erase_lift, CurT.erase_takeN, CurT.erase_forN, CurT.erase_pure]) bs

theorem decodeWaveM_le (w : Nat) {entry : CurT Impl.V1.Entry} {k : Nat} (hk : CurT.Le entry k) :
    CurT.LeLen (decodeWaveM w entry) k w 4 := by
  refine .of_le (by decide) <| .rd_bind u64be_exact fun n1 => .rd_bind u64be_exact fun _ =>
    .rd_bind u64be_exact fun _ => .ite (.throwC _) <| .remaining_bind fun bs =>
    CurT.ticks_count_guard_le w (n := n1) (c := 1)
      (.bind .ofCur fun _ => .bind .ofCur fun _ => .ite .ofCur <|
        .bind (.forN hk _) fun _ => .bind .ofCur fun _ => .bind .ofCur fun _ =>
        .ite .ofCur .pure) ?_ _ bs
  omega

theorem decodeWaveT_reads (minLen w : Nat) (entry : CurT Impl.V1.Entry) (k : Nat)
    (hk : CurT.Le entry k) (bs : Bytes) :
    (decodeWaveT minLen w entry bs).2 ≤ k * (bs.length / w) + 4 := snd_ite_le fun _ => decodeWaveM_le w hk bs

def decodeTrackM : CurT (V2.Track × Bytes) := do
  let sr ← CurT.rd u64be
  let n ← CurT.rd u64be
  let k ← CurT.rd u32be
  let lo ← CurT.rd u64be
  let mid ← CurT.rd u64be
  let hi ← CurT.rd u64be
  let extra ← CurT.rest
  pure (⟨sr, n, k, lo, mid, hi⟩, extra)

def decodeTrackT (bs : Bytes) : Res (V2.Track × Bytes) × Nat :=
  if bs.length < 44 then (.throw .invalid_argument, 0) else
  ((CurT.erase decodeTrackM bs).bind (fun p => .ok p.1), CurT.ticks decodeTrackM bs)

theorem decodeTrackT_fst (bs : Bytes) : (decodeTrackT bs).1 = Impl.V2.decodeTrack bs :=
  fst_wrap_eq (by
    unfold decodeTrackM
    simp only [CurT.erase_bind, CurT.erase_rd, CurT.erase_rest, CurT.erase_pure]) bs

theorem decodeTrackM_le : CurT.Le decodeTrackM 7 :=
  .of_le (by decide) <| .bind .ofCur fun _ => .bind .ofCur fun _ => .bind .ofCur fun _ =>
    .bind .ofCur fun _ => .bind .ofCur fun _ => .bind .ofCur fun _ => .bind .ofCur fun _ =>
    .pure

theorem decodeTrackT_reads (bs : Bytes) : (decodeTrackT bs).2 ≤ 7 := snd_ite_le fun _ => decodeTrackM_le bs

def decodeTrack1M : CurT Impl.V1.Track := do
  let sr ← CurT.rd u64be
  let n ← CurT.rd u64be
  let loud ← CurT.rd u64be
  let k ← CurT.rd u32be
  let rem ← CurT.remaining
  if rem ≠ 0 then CurT.throwC .runtime_error else
  pure (⟨if F64.isZero sr then none else some sr, if n = 0 then none else some n,
    if F64.isZero loud then none else some loud, if k = 0 then none else some k⟩ : Impl.V1.Track)

def decodeTrack1T (bs : Bytes) : Res Impl.V1.Track × Nat :=
  if bs.length ≠ 28 then (.throw .invalid_argument, 0) else
  ((CurT.erase decodeTrack1M bs).bind (fun p => .ok p.1), CurT.ticks decodeTrack1M bs)

theorem decodeTrack1T_fst (bs : Bytes) : (decodeTrack1T bs).1 = Impl.V1.decodeTrack bs :=
  fst_wrap_eq (by
    unfold decodeTrack1M
    simp only [CurT.erase_bind, CurT.erase_rd, CurT.erase_remaining, CurT.erase_ite, CurT.erase_throwC,
      CurT.erase_pure]) bs

theorem decodeTrack1M_le : CurT.Le decodeTrack1M 4 :=
  .of_le (by decide) <| .bind .ofCur fun _ => .bind .ofCur fun _ => .bind .ofCur fun _ =>
    .bind .ofCur fun _ => .bind .ofCur fun _ => .ite .ofCur .pure

theorem decodeTrack1T_reads (bs : Bytes) : (decodeTrack1T bs).2 ≤ 4 := snd_ite_le fun _ => decodeTrack1M_le bs

end Reads
end EngineModel
