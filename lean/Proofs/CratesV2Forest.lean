/-
Schema 2.x crates refine Spec.Forest: for every operation of the Model on a state
whose forest is well-formed, the Spec's verdict on the abstracted forest allows
what the Model does, and the forest afterwards is the abstraction of the Model
state afterwards (`FStep`, `fstep`).

`Does.fstep` goes through the alternatives of `Does` (Proofs/CratesV2Does.lean): each refusal is a guard the Spec has too
(`Forest.pre`, `Forest.clash`), each Playlist write is the forest the Spec asks for (`Forest.target`).
-/
import Proofs.CratesV2Bridge

namespace EngineModel.Db.V2

open EngineModel.Db.Chain EngineModel.Spec EngineModel.Spec.Forest EngineModel.ListAux

/-- One `DELETE FROM Playlist WHERE id = a`: the row `a` goes, its children may go, nothing else does. -/
theorem cores_deleteCascade_filter {α : Type} (u : Table α) (a : Int) :
    ∃ q, cores (deleteCascade u a) = (cores u).filter q ∧
      ∀ c ∈ cores u, (q c = true → c.1 ≠ a) ∧ (c.1 ≠ a → c.2.1 ≠ a → q c = true) := by
  cases hg : Chain.get u a with
  | none =>
    refine ⟨fun _ => true, by rw [deleteCascade_none hg, List.filter_eq_self.mpr fun _ _ => rfl], fun c hc => ⟨fun _ e => ?_, fun _ _ => rfl⟩⟩
    obtain ⟨r, hr, rfl⟩ := mem_cores.mp hc
    exact get_none hg (List.mem_map.mpr ⟨r, hr, e⟩)
  | some old => exact ⟨_, cores_deleteCascade hg, fun c _ => by simp only [Bool.and_eq_true, bne_iff_ne]; grind⟩

/-- `DELETE FROM Playlist WHERE id = ?` for each of `L`, when the children of members of `L` are in `L`:
exactly the rows with an id in `L` go. -/
theorem cores_foldl_deleteCascade {α : Type} (L : List Int) (u : Table α)
    (hcl : ∀ c ∈ cores u, L.contains c.2.1 = true → L.contains c.1 = true) :
    cores (L.foldl deleteCascade u) = (cores u).filter (fun c => !L.contains c.1) := by
  induction L generalizing u with
  | nil => exact (List.filter_eq_self.mpr fun _ _ => rfl).symm
  | cons a L ih =>
    obtain ⟨q, hq, hq'⟩ := cores_deleteCascade_filter u a
    simp only [List.contains_cons, Bool.or_eq_true, beq_iff_eq] at hcl
    rw [List.foldl_cons, ih, hq, List.filter_filter]
    · apply List.filter_congr
      intro c hc
      rw [Bool.eq_iff_iff]
      simp only [List.contains_cons, Bool.and_eq_true, Bool.not_eq_true', Bool.or_eq_false_iff, beq_eq_false_iff_ne]
      constructor
      · rintro ⟨h1, h2⟩
        exact ⟨(hq' c hc).1 h2, h1⟩
      · rintro ⟨h1, h2⟩
        refine ⟨h2, (hq' c hc).2 h1 fun e => ?_⟩
        rcases hcl c hc (.inl e) with e' | e'
        · exact h1 e'
        · rw [h2] at e'; cases e'
    · intro c hc hk
      rw [hq] at hc
      obtain ⟨hc1, hc2⟩ := List.mem_filter.mp hc
      exact (hcl c hc1 (.inr hk)).resolve_left ((hq' c hc1).1 hc2)

theorem get_of_mem_pl {d : Db} (hn : (ids d.pl).Nodup) {r : Row Bytes} (hr : r ∈ d.pl) : get d.pl r.id = some r :=
  get_of_mem hn hr

theorem absF_parentOf_row {d : Db} (hn : (ids d.pl).Nodup) {r : Row Bytes} (hr : r ∈ d.pl) :
    (absF d).parentOf r.id = parentOpt r.key := by
  rw [absF_parentOf, get_of_mem hn hr]; rfl

/-- `G` lists exactly the crate `c` and its descendants (in whatever order the view delivered them). -/
def IsGone (d : Db) (c : Int) (G : List Int) : Prop := ∀ x, x ∈ G ↔ x = c ∨ x ∈ descSet d c

theorem IsGone.contains {d : Db} {c : Int} {G : List Int} (hG : IsGone d c G) (x : Int) :
    G.contains x = (c :: descSet d c).contains x := by
  rw [Bool.eq_iff_iff, List.contains_iff_mem, List.contains_iff_mem, hG x, List.mem_cons]

theorem isGone_cons {d : Db} {c : Int} {l : List Int} (h : ∀ x, x ∈ l ↔ x ∈ descSet d c) : IsGone d c (c :: l) := by
  intro x; rw [List.mem_cons, h x]

/-- The removed set is closed under "child of": a row whose parent goes is a descendant of `c`. -/
theorem gone_closed {d : Db} (hn : (ids d.pl).Nodup) (hpos : ∀ r ∈ d.pl, 0 < r.id) {c : Int} (hc : c ∈ ids d.pl)
    {G : List Int} (hG : IsGone d c G) :
    ∀ k ∈ cores d.pl, G.contains k.2.1 = true → G.contains k.1 = true := by
  intro k hk hkey
  obtain ⟨r, hr, rfl⟩ := mem_cores.mp hk
  rw [List.contains_iff_mem, hG] at hkey ⊢
  simp only [core] at hkey ⊢
  have hpos' : ∀ x ∈ ids d.pl, 0 < x := by
    intro x hx
    obtain ⟨r0, hr0, rfl⟩ := List.mem_map.mp hx
    exact hpos r0 hr0
  have hk0 : 0 < r.key := by
    rcases hkey with e | e
    · exact e ▸ hpos' c hc
    · exact hpos' _ (mem_descSet.mp e).1
  have hpo : (absF d).parentOf r.id = some r.key := by
    rw [absF_parentOf_row hn hr, parentOpt_of_ne (by omega)]
  refine .inr (mem_descSet.mpr ⟨List.mem_map.mpr ⟨r, hr, rfl⟩, ?_⟩)
  rcases hkey with e | e
  · exact e ▸ Forest.isAncestor_of_parent hpo
  · exact Forest.isAncestor_trans (mem_descSet.mp e).2 (Forest.isAncestor_of_parent hpo)

theorem cores_plRemove_pl {d : Db} (hn : (ids d.pl).Nodup) (hpos : ∀ r ∈ d.pl, 0 < r.id) {c : Int} (hc : c ∈ ids d.pl)
    {G : List Int} (hG : IsGone d c G) :
    cores (plRemove d G).pl = (cores d.pl).filter (fun k => !(c :: descSet d c).contains k.1) := by
  simp only [← hG.contains]
  exact cores_foldl_deleteCascade _ _ (gone_closed hn hpos hc hG)

theorem absF_plRemove {d : Db} (hn : (ids d.pl).Nodup) (hpos : ∀ r ∈ d.pl, 0 < r.id) {c : Int} (hc : c ∈ ids d.pl)
    {G : List Int} (hG : IsGone d c G) :
    absF (plRemove d G) = Forest.removeSubtree (absF d) c := by
  rw [absF, cores_plRemove_pl hn hpos hc hG, Forest.removeSubtree]
  show _ = Forest.Forest.mk (List.filter _ (List.map crateOf (cores d.pl)))
  rw [List.filter_map]
  congr 2
  apply List.filter_congr
  intro k hk
  obtain ⟨r, hr, rfl⟩ := mem_cores.mp hk
  have hmem : r.id ∈ ids d.pl := List.mem_map.mpr ⟨r, hr, rfl⟩
  simp only [Function.comp, crateOf, core, List.contains_cons]
  congr 2
  rw [Bool.eq_iff_iff, List.contains_iff_mem, mem_descSet]
  exact ⟨fun h => h.2, fun h => ⟨hmem, h⟩⟩

inductive FStep (d : Db) (op : Op) : Prop
  | throws (e : Exn) (h : step d op = (d, .throw e))
      (hv : ∀ fop, forestOp op = some fop →
        (∀ n f', Forest.step (absF d) fop n ≠ .accept f') ∨ afterOk (absF d) op = false)
  | okF (out : Out) (fop : Forest.Op) (h2 : (step d op).2 = .ok out) (hf : forestOp op = some fop)
      (hacc : Forest.step (absF d) fop (newIdOf (.ok out)) = .accept (absF (step d op).1))
      (hnew : isCreate op = true → out = some (d.plSeq + 1))
      (hseq : (step d op).1.plSeq = if isCreate op then d.plSeq + 1 else d.plSeq)
  | okN (out : Out) (h2 : (step d op).2 = .ok out) (hf : forestOp op = none) (hpl : (step d op).1.pl = d.pl)
      (hseq : (step d op).1.plSeq = d.plSeq)

namespace FStep
variable {d d' : Db} {op : Op} {fop : Forest.Op} {out : Out}

theorem rejected (e : Exn) (hs : step d op = (d, .throw e)) (hf : forestOp op = some fop)
    (hrej : ∀ n f', Forest.step (absF d) fop n ≠ .accept f') : FStep d op :=
  .throws e hs fun _ hf' => .inl (Option.some.inj (hf.symm.trans hf') ▸ hrej)

theorem badAfter (e : Exn) (hs : step d op = (d, .throw e)) (ha : afterOk (absF d) op = false) : FStep d op :=
  .throws e hs fun _ _ => .inr ha

theorem accepted (hs : step d op = (d', .ok out)) (hf : forestOp op = some fop)
    (hacc : Forest.step (absF d) fop (newIdOf (.ok out)) = .accept (absF d'))
    (hnew : isCreate op = true → out = some (d.plSeq + 1))
    (hseq : d'.plSeq = if isCreate op then d.plSeq + 1 else d.plSeq) : FStep d op :=
  .okF out fop (by rw [hs]) hf (by rw [hs]; exact hacc) hnew (by rw [hs]; exact hseq)

end FStep

theorem live_of_get {d : Db} {c : Int} {row : Row Bytes} (hg : get d.pl c = some row) : (absF d).live c = true := by
  rw [← plExists_eq_live, plExists_iff, ← get_isSome_iff, hg]; rfl

theorem live_false_of_get {d : Db} {c : Int} (hg : get d.pl c = none) : (absF d).live c = false := by
  rw [Forest.live_false_iff, absF_ids]; exact get_none hg

theorem absF_parentOf_get {d : Db} {c : Int} {row : Row Bytes} (hg : get d.pl c = some row) :
    (absF d).parentOf c = parentOpt row.key := by
  rw [absF_parentOf, hg]; rfl

theorem absF_nameOf_get {d : Db} {c : Int} {row : Row Bytes} (hg : get d.pl c = some row) :
    (absF d).nameOf c = some row.val := by
  rw [absF_nameOf, hg]; rfl

theorem absF_reparent {d : Db} (hn : (ids d.pl).Nodup) {c : Int} {row : Row Bytes} (k : Int)
    (hg : get d.pl c = some row) :
    absF { d with pl := if row.key = k then setVal d.pl c row.val else move d.pl c row.key row.next k 0 row.val } =
      Forest.setParentOf (absF d) c (parentOpt k) := by
  -- with ids a key, the crate with id `c` is the abstraction of the row `get` delivers
  have hu : ∀ x ∈ (absF d).crates, x.id = c → x = rowCrate row := by
    intro x hx e
    rw [absF_crates] at hx
    obtain ⟨r, hr, rfl⟩ := List.mem_map.mp hx
    rw [eq_of_id_eq hn hr (get_some hg).1 (e.trans (get_some hg).2.symm)]
  split
  · next hk =>
    rw [absF_setVal, setNameOf_same (fun x hx e => by rw [hu x hx e]; rfl),
      setParentOf_same (fun x hx e => by rw [hu x hx e, ← hk]; rfl)]
  · exact absF_move d c row.key row.next k 0 row.val (fun r hr e => by
      have := hu _ (mem_crates_of_row hr) e
      exact congrArg Forest.Crate.name this)

theorem parentOpt_keyOf_live {d : Db} (hW : Forest.Wf (absF d)) {p : Option Int}
    (hl : ∀ q, p = some q → plExists d q = true) : parentOpt (keyOf p) = p :=
  parentOpt_keyOf fun q hq => Int.ne_of_gt (pos_of_live hW (plExists_iff.mp (hl q hq)))

theorem view_ok {d : Db} (hW : Forest.Wf (absF d)) {c : Int} {ds : List Int} (hds : descendantIds d.pl c = .ok ds) :
    ∀ x, x ∈ ds ↔ x ∈ descSet d c := by
  obtain ⟨ds', hds', hmem⟩ := descendantIds_ok hW c
  cases hds.symm.trans hds'
  exact hmem

theorem view_not_ub {d : Db} (hW : Forest.Wf (absF d)) {c : Int} {u : Ub} (hds : descendantIds d.pl c = .ub u) : False := by
  obtain ⟨ds', hds', _⟩ := descendantIds_ok hW c
  cases hds.symm.trans hds'

theorem target_createOp (f : Forest.Forest) (p : Option Int) (n : Bytes) (i : Int) :
    Forest.target f (createOp p n) i = ⟨f.crates ++ [⟨i, n, p⟩]⟩ := by
  cases p <;> rfl

theorem accepts_createOp (f : Forest.Forest) (p : Option Int) (n : Bytes) :
    Forest.accepts f (createOp p n) = (p.all f.live && Forest.validName n && !f.nameTaken p n) := by
  cases p <;> simp [createOp, Forest.accepts, Forest.pre, Forest.clash]

/-- Every alternative of `Does` against the forest Spec: a refusal names a guard that `Forest.pre` or `Forest.clash`
has too (or a sibling `after` that is none); a Playlist write is the forest `Forest.target` asks for; the other
writes leave Playlist alone. -/
theorem Does.fstep {d : Db} {op : Op} {r : Db × Res Out} (h : Does d op r) (hr : step d op = r)
    (hW : Forest.Wf (absF d)) : FStep d op := by
  have hn : (ids d.pl).Nodup := by rw [← absF_ids]; exact hW.ids_nodup
  have none_throws : ∀ {e}, step d op = (d, .throw e) → forestOp op = none → FStep d op :=
    fun hs hf => .throws _ hs (by simp [hf])
  have none_ok : ∀ {d' out}, step d op = (d', .ok out) → forestOp op = none → d'.pl = d.pl → d'.plSeq = d.plSeq → FStep d op :=
    fun hs hf h1 h2 => .okN _ (by rw [hs]) hf (by rw [hs]; exact h1) (by rw [hs]; exact h2)
  have live_eq := plExists_eq_live d
  cases h with
  | diverges u c hds _ => exact (view_not_ub hW hds).elim
  | throws e why =>
    cases why with
    | parentGone q n a hq =>
      exact .rejected e hr (forestOp_mkCreate ..) (Forest.not_accept_of (by simp [accepts_createOp, ← live_eq, hq]))
    | nameTaken p n a hlive hf =>
      have hnt := findId_isSome d (keyOf p) n
      rw [parentOpt_keyOf_live hW hlive, hf] at hnt
      exact .rejected e hr (forestOp_mkCreate ..) (Forest.not_accept_of (by simp [accepts_createOp, ← hnt]))
    | notSibling p n a hlive hno =>
      refine .badAfter e hr ?_
      rw [afterOk_mkCreate, ← parentOpt_keyOf_live hW hlive, absF_childrenOpt, List.contains_eq_mem, decide_eq_false_iff_not]
      intro hm
      obtain ⟨r0, hr0, rfl⟩ := List.mem_map.mp hm
      exact hno r0 (get_of_mem hn (mem_rowsOf.mp hr0).1) (mem_rowsOf.mp hr0).2
    | badName p n a hv =>
      exact .rejected e hr (forestOp_mkCreate ..) (Forest.not_accept_of (by simp [accepts_createOp, hv]))
    | noRow c hg hop =>
      have hl := live_false_of_get hg
      rcases hop with ⟨n, rfl⟩ | ⟨p, rfl⟩ <;>
        exact .rejected e hr rfl (Forest.not_accept_of (by simp [Forest.accepts, Forest.pre, hl]))
    | renameBad c n hv => exact .rejected e hr rfl (Forest.not_accept_of (by simp [Forest.accepts, Forest.pre, hv]))
    | renameClash c n row hg hc =>
      rw [titleClash_eq, ← absF_parentOf_get hg] at hc
      exact .rejected e hr rfl (Forest.not_accept_of (by simp [Forest.accepts, Forest.clash, hc]))
    | selfParent c => exact .rejected e hr rfl (Forest.not_accept_of (by simp [Forest.accepts, Forest.pre]))
    | deadParent c q he =>
      exact .rejected e hr rfl (Forest.not_accept_of (by simp [Forest.accepts, Forest.pre, ← live_eq, he]))
    | cycle c q ds hds hq =>
      have hanc := (mem_descSet.mp ((view_ok hW hds q).mp hq)).2
      exact .rejected e hr rfl (Forest.not_accept_of (by simp [Forest.accepts, Forest.pre, hanc]))
    | moveBad c p row hg hv =>
      exact absurd (hW.names_valid (rowCrate row) (mem_crates_of_row (get_some hg).1)) (by simp [rowCrate, hv])
    | moveClash c p row hg hp hc =>
      rw [titleClash_eq, parentOpt_keyOf_live hW (fun q hq => (hp q hq).2.1)] at hc
      exact .rejected e hr rfl (Forest.not_accept_of (by simp [Forest.accepts, Forest.clash, absF_nameOf_get hg, hc]))
    | noCrate c he =>
      exact .rejected e hr rfl (Forest.not_accept_of (by simp [Forest.accepts, Forest.clash, ← live_eq, he]))
    | noTrack | addDead | dup | noEntry => exact none_throws hr rfl
  | inserted p n a b hlive hfree hv hb =>
    have hpk := parentOpt_keyOf_live hW hlive
    have hnt := findId_isSome d (keyOf p) n
    rw [hpk, hfree] at hnt
    have hl : p.all (absF d).live = true := by cases p <;> simp [← live_eq, hlive]
    refine .accepted hr (forestOp_mkCreate ..) (Forest.step_accept_iff.mpr ⟨?_, ?_⟩) (fun _ => rfl)
      (by rw [isCreate_mkCreate]; rfl)
    · simp [accepts_createOp, hl, hv, ← hnt]
    · rw [absF_insert, hpk, target_createOp]; rfl
  | retitled c n row hg hv hc =>
    rw [titleClash_eq, ← absF_parentOf_get hg] at hc
    exact .accepted hr rfl (Forest.step_accept_iff.mpr
      ⟨by simp [Forest.accepts, Forest.pre, Forest.clash, live_of_get hg, hv, hc], absF_setVal ..⟩) nofun rfl
  | reparented c p row hg hp hv hc =>
    have hpk := parentOpt_keyOf_live hW (fun q hq => (hp q hq).2.1)
    rw [titleClash_eq, hpk] at hc
    refine .accepted hr rfl (Forest.step_accept_iff.mpr ⟨?_, by rw [absF_reparent hn (keyOf p) hg, hpk]; rfl⟩) nofun rfl
    cases p with
    | none => simp [Forest.accepts, Forest.pre, Forest.clash, live_of_get hg, absF_nameOf_get hg, hc]
    | some q =>
      obtain ⟨h1, h2, ds, hds, hq'⟩ := hp q rfl
      have hanc : (absF d).isAncestor c q = false := Bool.eq_false_iff.mpr fun hanc => by
        have := (view_ok hW hds q).mpr (mem_descSet.mpr ⟨plExists_iff.mp h2, hanc⟩)
        simp [this] at hq'
      simp [Forest.accepts, Forest.pre, Forest.clash, live_of_get hg, absF_nameOf_get hg, hc, h1, ← live_eq, h2, hanc]
  | removed c ds he hds =>
    have hl : (absF d).live c = true := (live_eq c).symm.trans he
    refine .accepted hr rfl (Forest.step_accept_iff.mpr ⟨by simp [Forest.accepts, Forest.pre, Forest.clash, hl], ?_⟩) nofun rfl
    rw [absF_plRemove hn (fun r hr => hW.id_pos (rowCrate r) (mem_crates_of_row hr)) (plExists_iff.mp he)
      (isGone_cons (view_ok hW hds))]
    simp [Forest.target, hl]
  | trackCreated | trackRemoved | absent => exact none_ok hr rfl rfl rfl
  | present _ _ _ _ hop => rcases hop with ⟨rfl, _⟩ | ⟨_, rfl⟩ <;> exact none_ok hr rfl rfl rfl
  | appended _ _ _ hop => rcases hop with ⟨rfl, _⟩ | ⟨_, rfl⟩ <;> exact none_ok hr rfl rfl rfl
  | entryRemoved _ _ _ _ hop => rcases hop with ⟨_, rfl, _⟩ | rfl <;> exact none_ok hr rfl rfl rfl
  | cleared _ hop => rcases hop with rfl | rfl <;> exact none_ok hr rfl rfl rfl

theorem fstep {d : Db} (hW : Forest.Wf (absF d)) (op : Op) : FStep d op :=
  (step_does d op).fstep rfl hW

/-- On a well-formed forest no call ends in undefined behaviour: the only way there is the recursive view. -/
theorem Does.defined {d : Db} {op : Op} {r : Db × Res Out} (h : Does d op r) (hW : Forest.Wf (absF d)) :
    ∀ u, r.2 ≠ .ub u := by
  cases h with
  | diverges u c hds _ => exact (view_not_ub hW hds).elim
  | _ => intro u hu; cases hu

end EngineModel.Db.V2
