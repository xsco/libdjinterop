/-
C04 on the regenerated pair: decoding a (foreign) payload with the decoder
regenerated from `from_blob` and re-encoding the result with the encoder
regenerated from `to_blob` returns every byte (`normBool`: the one
`is_main_cue_adjusted` byte of quick cues is normalised to 0/1).
Obtained from the C04 theorems on the hand model through the equalities of
Proofs/ImplV2Gen.lean and ImplV2GenTransfer.lean; the size hypotheses are theirs.
-/
import Proofs.ImplV2GenTransfer
import Properties.C04

namespace EngineModel.Gen.ImplV2
open Codec EngineModel.V2 EngineModel.Properties.C04

theorem gen_track_reencode_partial (bs : Bytes) (hb : bs.length < 9223372036854775808) (v : Track) (extra : Bytes)
    (h : decodeTrack bs = .ok (v, extra)) : encodeTrack v extra = .ok bs := by
  rw [decodeTrack_eq] at h
  rw [gen_encodeTrack_eq_hand_partial v extra (by rw [← Impl.V2.decodeTrack_exact h]; exact hb)]
  exact C04_v2_track_reencode bs v extra h

theorem gen_beat_reencode_partial (bs : Bytes) (hb : bs.length < 9223372036854775808) (v : Beat) (extra : Bytes)
    (h : decodeBeat bs = .ok (v, extra)) : encodeBeat v extra = .ok bs := by
  rw [decodeBeat_eq] at h
  rw [gen_encodeBeat_eq_hand_partial v extra (by rw [← (Impl.V2.decodeBeat_exact h).2]; exact hb)]
  exact C04_v2_beat_reencode bs v extra h

theorem gen_ovw_reencode_partial (bs : Bytes) (hb : bs.length < 9223372036854775808) (v : Ovw) (extra : Bytes)
    (h : decodeOvw bs = .ok (v, extra)) : encodeOvw v extra = .ok bs := by
  rw [decodeOvw_eq_partial bs hb] at h
  have hm : bs.length < maxCount := by unfold maxCount; exact hb
  obtain ⟨hv, he⟩ := Impl.V2.decodeOvw_exact hm h
  rw [gen_encodeOvw_eq_hand_partial v hv extra (by rw [← he]; exact hb)]
  exact C04_v2_ovw_reencode bs hm v extra h

theorem gen_loops_reencode_partial (bs : Bytes) (hb : bs.length < 2305843009213693952) (v : Loops) (extra : Bytes)
    (h : decodeLoops bs = .ok (v, extra)) : encodeLoops v extra = .ok bs := by
  rw [decodeLoops_eq_partial bs hb] at h
  rw [gen_encodeLoops_eq_hand_partial v extra (by rw [← (Impl.V2.decodeLoops_exact h).2]; omega)]
  exact C04_v2_loops_reencode bs v extra h

theorem gen_cues_reencode_partial (bs : Bytes) (hb : bs.length < 2305843009213693952) (v : Cues) (extra : Bytes)
    (h : decodeCues bs = .ok (v, extra)) : encodeCues v extra = .ok (normBool bs) := by
  rw [decodeCues_eq_partial bs hb] at h
  have hlen : (normBool bs).length = bs.length := by
    obtain ⟨raw, hraw, -⟩ := Impl.V2.decodeCues_raw h
    obtain ⟨pre, post, e1, e2⟩ := C04_normBool_one_byte bs raw extra hraw
    rw [e2, e1]; simp
  rw [gen_encodeCues_eq_hand_partial v extra (by rw [(cues_reencode h).2, hlen]; omega)]
  exact C04_v2_cues_reencode bs v extra h

end EngineModel.Gen.ImplV2
