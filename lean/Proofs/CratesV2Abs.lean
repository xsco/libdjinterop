/-
Schema 2.x crates: how the Model state (Db/V2Crates.lean) is read as a Spec state,
and how the Spec is *driven* by a Model history.

The executable Specs (Spec/Forest.lean, Spec/Members.lean, Spec/Ordered.lean) are
judges: they are told which operation was called and what came back (returned /
threw, the reported new id) and say whether that is allowed and what the abstract
state is afterwards.  In the tie the real library's answers are fed to them
(Driver/Cmds/CratesV2Spec.lean); here the Model's answers are, by the functions
`judgeF`, `judgeM`, `ordNext` below — the theorems of Properties/C07V2, C08V2, C09
say that for every history the judges never object and the abstract state they
track is exactly the abstraction (`absF`, `absM`, `ChInv`) of the Model state.

The judges see NOTHING of the Model but its answers: every guard and every prescription
below is computed from the Spec state (the forest `f`, the membership state, the ordered
lists with the payload of every entry) and the arguments of the call.
-/
import Proofs.ChainCore
import EngineModel.Db.V2Crates
import EngineModel.Db.V2Wf
import EngineModel.Spec.Forest
import EngineModel.Spec.Members

namespace EngineModel.Db.V2

open EngineModel.Db.Chain EngineModel.Spec

/-! ### abstraction functions -/

/-- parentListId 0 = no parent. -/
def parentOpt (k : Int) : Option Int := if k = 0 then none else some k

def keyOf : Option Int → Int
  | none => 0
  | some p => p

def crateOf (c : Int × Int × Bytes) : Forest.Crate := ⟨c.1, c.2.2, parentOpt c.2.1⟩

/-- The Playlist table read as a forest: one crate per row, in row order. -/
def absF (d : Db) : Forest.Forest := ⟨(cores d.pl).map crateOf⟩

def pairOf (c : Int × Int × Ent) : Int × Int := (c.2.1, c.2.2.track)

/-- Entries of the library's own database (uuid tag 0): the memberships of its tracks.  Entries of other
databases (a playlist may reference tracks on another drive) are nobody's membership here. -/
def own (c : Int × Int × Ent) : Bool := c.2.2.uuid == 0

/-- Playlist / Track / PlaylistEntity read as a membership state: live crates, live tracks, (list, track) per
entity row of this database. -/
def absM (d : Db) : Members.State := ⟨ids d.pl, d.tracks, ((cores d.pe).filter own).map pairOf⟩

/-! ### outcomes -/

/-- returned (`true`) / threw a std::exception (`false`); undefined behaviour is neither. -/
def outcome : Res Out → Option Bool
  | .ok _ => some true
  | .throw _ => some false
  | .ub _ => none

def newIdOf : Res Out → Int
  | .ok (some i) => i
  | _ => 0

/-! ### C07: the forest judge -/

def forestOp : Op → Option Forest.Op
  | .createRoot n => some (.createRoot n)
  | .createRootAfter n _ => some (.createRoot n)
  | .createSub p n => some (.createSub p n)
  | .createSubAfter p n _ => some (.createSub p n)
  | .rename c n => some (.rename c n)
  | .setParent c p => some (.setParent c p)
  | .removeCrate c => some (.remove c)
  | _ => none

def isCreate : Op → Bool
  | .createRoot _ | .createRootAfter _ _ | .createSub _ _ | .createSubAfter _ _ _ => true
  | _ => false

/-- `create_*_crate_after(…, a)`: is `a` one of the siblings-to-be?  If not the property does not
say what must happen (the verdict `accept` is weakened to `either`). -/
def afterOk (f : Forest.Forest) : Op → Bool
  | .createRootAfter _ a => f.roots.contains a
  | .createSubAfter p _ a => (f.children p).contains a
  | _ => true

def downgrade : Forest.Verdict → Forest.Verdict
  | .accept f' => .either f'
  | v => v

def verdictF (f : Forest.Forest) (op : Op) (fop : Forest.Op) (newId : Int) : Forest.Verdict :=
  if afterOk f op then Forest.step f fop newId else downgrade (Forest.step f fop newId)

/-- One operation and its result against Spec.Forest: the forest afterwards, `none` = the Spec objects
(outcome not allowed by the verdict, undefined behaviour, or a new id that is not fresh / not positive). -/
def judgeF (f : Forest.Forest) (op : Op) (res : Res Out) : Option Forest.Forest :=
  match forestOp op with
  | none => some f
  | some fop =>
    match outcome res with
    | none => none
    | some ok =>
      if ok && isCreate op && !(Forest.freshId f (newIdOf res) && decide (0 < newIdOf res)) then none
      else (verdictF f op fop (newIdOf res)).next f ok

/-- The Spec forest after a Model history, driven by the Model's own answers. -/
def specRunF : Db → Forest.Forest → List Op → Option Forest.Forest
  | _, f, [] => some f
  | d, f, op :: ops =>
    match judgeF f op (step d op).2 with
    | none => none
    | some f' => specRunF (step d op).1 f' ops

/-! ### C08: the membership judge -/

/-- The membership-level reading of an operation, from the Spec forest before the call, the call and its
result (the same translation as the oracle of the tie performs on the real library's answers). -/
def membersOps (f : Forest.Forest) (op : Op) (res : Res Out) : List Members.Op :=
  match op with
  | .createRoot _ | .createRootAfter _ _ | .createSub _ _ | .createSubAfter _ _ _ =>
    if outcome res == some true then [.newCrate (newIdOf res)] else []
  | .removeCrate c =>
    if outcome res == some true && f.live c then [.dropCrates (c :: f.descendants c)] else []
  | .createTrack => [.newTrack (newIdOf res)]
  | .removeTrack t => [.dropTrack t]
  | .addTrack c t => [.add c t]
  | .removeTrackFrom c t => [.remove c t]
  | .clearTracks c => [.clear c]
  | _ => []

def judgeM1 (s : Members.State) (mop : Members.Op) (ok : Bool) : Option Members.State :=
  match mop with
  | .newTrack t => if s.tracks.contains t then none else (Members.step s mop).next s ok
  | _ => (Members.step s mop).next s ok

def judgeM (s : Members.State) (f : Forest.Forest) (op : Op) (res : Res Out) : Option Members.State :=
  match outcome res with
  | none => none
  | some ok => (membersOps f op res).foldlM (fun s mop => judgeM1 s mop ok) s

/-- The crate / track API (what C07, C08 and C11 quantify over); the `pe*` operations are the
table-level playlist_entity_table interface. -/
def apiOp : Op → Bool
  | .peAddBack _ _ _ _ | .peRemove _ _ | .peClear _ => false
  | _ => true

/-- Histories C08 is stated for: the crate / track API, interleaved with entries of OTHER databases
(uuid tag ≠ 0, positive track id) being added to any list at table level — what other software sharing
the library does.  (Table-level removal, or table-level entries of the own database for lists / tracks
that do not exist, are outside what "added to a crate" means.) -/
def memOp : Op → Bool
  | .peAddBack _ t u _ => decide (u ≠ 0) && decide (0 < t)
  | .peRemove _ _ | .peClear _ => false
  | _ => true

def specRunM : Db → Forest.Forest → Members.State → List Op → Option (Forest.Forest × Members.State)
  | _, f, s, [] => some (f, s)
  | d, f, s, op :: ops =>
    match judgeF f op (step d op).2, judgeM s f op (step d op).2 with
    | some f', some s' => specRunM (step d op).1 f' s' ops
    | _, _ => none

/-! ### C09: the ordered lists -/

/-- One duplicate-free ordered list per key: siblings per parent (0 = the roots); entries per playlist,
each with its payload (track id, database). -/
structure Ord where
  kids : Int → List Int
  ents : Int → List (Int × Ent)

def Ord.empty : Ord := ⟨fun _ => [], fun _ => []⟩

/-- The entity ids of the entries of a list, in order. -/
def Ord.entIds (S : Ord) : Int → List Int := fun l => (S.ents l).map (·.1)

/-- The entry of list `l` for track `t` of database `u`, looked up in the Spec's own listing. -/
def Ord.find (S : Ord) (l t u : Int) : Option (Int × Ent) :=
  (S.ents l).find? (fun p => p.2.track == t && p.2.uuid == u)

/-- The entry with entity id `e` leaves a listing, the rest stays in order. -/
def dropEnt (L : List (Int × Ent)) (e : Int) : List (Int × Ent) := L.filter (fun p => p.1 != e)

def setKeyE (E : Int → List (Int × Ent)) (k : Int) (L : List (Int × Ent)) : Int → List (Int × Ent) :=
  fun k' => if k' = k then L else E k'

/-- The listings of the keys `ks` are dropped. -/
def clearKeys (A : Int → List Int) (ks : List Int) : Int → List Int :=
  fun k => if ks.contains k then [] else A k

def clearKeysE (E : Int → List (Int × Ent)) (ks : List Int) : Int → List (Int × Ent) :=
  fun k => if ks.contains k then [] else E k

/-- `c` leaves the list of `ok` and is appended to the list of `nk`. -/
def moveKid (A : Int → List Int) (ok nk c : Int) : Int → List Int :=
  setKey (setKey A ok ((A ok).erase c)) nk (setKey A ok ((A ok).erase c) nk ++ [c])

/-- One successful operation on the ordered lists, using nothing but the list operations of Spec/Ordered
(`insertAfter`, append, `erase` / drop of one entry, drop of a listing), the Spec forest `f` before the call
(who is whose parent, who is live, the subtree of a crate) and the answer of the call (`out`: the new id). -/
def ordOk (S : Ord) (f : Forest.Forest) (op : Op) (out : Out) : Ord :=
    match op, out with
    | .createRoot _, some i => { S with kids := setKey S.kids 0 (S.kids 0 ++ [i]) }
    | .createRootAfter _ a, some i => { S with kids := setKey S.kids 0 (Ordered.insertAfter a i (S.kids 0)) }
    | .createSub p _, some i => { S with kids := setKey S.kids p (S.kids p ++ [i]) }
    | .createSubAfter p _ a, some i => { S with kids := setKey S.kids p (Ordered.insertAfter a i (S.kids p)) }
    | .setParent c p, _ =>
      if f.live c && keyOf (f.parentOf c) != keyOf p then { S with kids := moveKid S.kids (keyOf (f.parentOf c)) (keyOf p) c }
      else S
    | .removeCrate c, _ =>
      if f.live c then
        let gone := c :: f.descendants c
        { kids := clearKeys (setKey S.kids (keyOf (f.parentOf c)) ((S.kids (keyOf (f.parentOf c))).erase c)) gone,
          ents := clearKeysE S.ents gone }
      else S
    | .removeTrack t, _ =>
      { S with ents := fun l =>
          if f.ids.contains l then
            match S.find l t 0 with
            | some p => dropEnt (S.ents l) p.1
            | none => S.ents l
          else S.ents l }
    | .addTrack c t, some e =>
      if (S.find c t 0).isNone then { S with ents := setKeyE S.ents c (S.ents c ++ [(e, ⟨t, 0⟩)]) } else S
    | .peAddBack l t u _, some e =>
      if (S.find l t u).isNone then { S with ents := setKeyE S.ents l (S.ents l ++ [(e, ⟨t, u⟩)]) } else S
    | .removeTrackFrom c t, _ =>
      match S.find c t 0 with
      | some p => { S with ents := setKeyE S.ents c (dropEnt (S.ents c) p.1) }
      | none => S
    | .clearTracks c, _ => { S with ents := setKeyE S.ents c [] }
    | .peRemove l e, _ => { S with ents := setKeyE S.ents l (dropEnt (S.ents l) e) }
    | .peClear l, _ => { S with ents := setKeyE S.ents l [] }
    | _, _ => S

/-- … driven by the result of the call: a call that threw changes nothing. -/
def ordNext (S : Ord) (f : Forest.Forest) (op : Op) (res : Res Out) : Ord :=
  match res with
  | .ok out => ordOk S f op out
  | _ => S

/-- The Spec forest and the Spec lists after a Model history, driven by the Model's answers only. -/
def specRunO : Db → Forest.Forest → Ord → List Op → Option (Forest.Forest × Ord)
  | _, f, S, [] => some (f, S)
  | d, f, S, op :: ops =>
    match judgeF f op (step d op).2 with
    | none => none
    | some f' => specRunO (step d op).1 f' (ordNext S f op (step d op).2) ops

/-- Table-level `add_back` with a non-positive track id is outside the domain of C09's theorem
(recorded finding: the schema's delete trigger is declared `WHEN OLD.trackId > 0`). -/
def okOp : Op → Bool
  | .peAddBack _ t _ _ => decide (0 < t)
  | _ => true

/-- What the property prescribes for the sibling listing of key `k` across one successful operation
(same table as the oracle of the tie): from the Spec forest before the call and the call. -/
def kidsChangeOk (f : Forest.Forest) (op : Op) (out : Out) (k : Int) : Ordered.Change :=
    match op, out with
    | .createRoot _, some i => if k = 0 then .appended i else .same
    | .createRootAfter _ a, some i => if k = 0 then .insertedAfter a i else .same
    | .createSub p _, some i => if k = p then .appended i else .same
    | .createSubAfter p _ a, some i => if k = p then .insertedAfter a i else .same
    | .setParent c p, _ =>
      if f.live c && keyOf (f.parentOf c) != keyOf p then
        (if k = keyOf p then .appended c else if k = keyOf (f.parentOf c) then .erased c else .same)
      else .same
    | .removeCrate c, _ =>
      if f.live c then
        (if (c :: f.descendants c).contains k then .dropped
         else if k = keyOf (f.parentOf c) then .erased c else .same)
      else .same
    | _, _ => .same

def kidsChange (f : Forest.Forest) (op : Op) (res : Res Out) (k : Int) : Ordered.Change :=
  match res with
  | .ok out => kidsChangeOk f op out k
  | _ => .same

/-- … and for the entry listing (entity row ids) of playlist `l`: from the Spec forest and the Spec lists
before the call, and the call. -/
def entsChangeOk (S : Ord) (f : Forest.Forest) (op : Op) (out : Out) (l : Int) : Ordered.Change :=
    match op, out with
    | .removeCrate c, _ => if f.live c && (c :: f.descendants c).contains l then .dropped else .same
    | .removeTrack t, _ =>
      if f.ids.contains l then
        match S.find l t 0 with
        | some p => .erased p.1
        | none => .same
      else .same
    | .addTrack c t, some e => if l = c && (S.find c t 0).isNone then .appended e else .same
    | .peAddBack c t u _, some e => if l = c && (S.find c t u).isNone then .appended e else .same
    | .removeTrackFrom c t, _ =>
      match S.find c t 0 with
      | some p => if l = c then .erased p.1 else .same
      | none => .same
    | .clearTracks c, _ => if l = c then .dropped else .same
    | .peRemove c e, _ => if l = c then .erased e else .same
    | .peClear c, _ => if l = c then .dropped else .same
    | _, _ => .same

def entsChange (S : Ord) (f : Forest.Forest) (op : Op) (res : Res Out) (l : Int) : Ordered.Change :=
  match res with
  | .ok out => entsChangeOk S f op out l
  | _ => .same

end EngineModel.Db.V2
