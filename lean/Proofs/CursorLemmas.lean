/-
`liftDec`: a Spec decoder (`Codec.dec`) read in the outcome alphabet of the cursor monad — the right-hand side
of every "hand model = Spec" statement of C02 / C05 — and the lemmas that turn the C++ pattern "test the
length, then read unchecked" (`Cur.rd`, `forN`, `rest`) into it.  Where a test covers bytes that are read
only later, the intermediate reads are `look j c`: the Spec's decoder with `j` bytes to spare (`look_rd`,
`forN_look`).
-/
import EngineModel.Impl.Cursor
import EngineModel.Format.V2
import Proofs.MonadLaws

namespace EngineModel
open Codec Cur

/-- Spec verdict in the outcome alphabet: rejection is `invalid_argument`. -/
def ofOpt {α} : Option α → Res α
  | some a => .ok a
  | none => .throw .invalid_argument

@[simp] theorem ofOpt_some {α} (a : α) : ofOpt (some a) = .ok a := rfl
@[simp] theorem ofOpt_none {α} : (ofOpt (none : Option α)) = .throw .invalid_argument := rfl

theorem ofOpt_never_ub {α} (o : Option α) (u : Ub) : ofOpt o ≠ .ub u := by
  cases o <;> simp [ofOpt]

theorem ofOpt_throw {α} {o : Option α} {e : Exn} (h : ofOpt o = .throw e) : e = .invalid_argument := by
  cases o <;> simp [ofOpt] at h
  exact h.symm

theorem ofOpt_ok_iff {α} {o : Option α} {a : α} : ofOpt o = .ok a ↔ o = some a := by
  cases o <;> simp [ofOpt]

/-- Lift of a Spec decoder to the outcome alphabet: rejection is an exception. -/
def liftDec {α} (c : Codec α) : Cur α := fun bs =>
  match c.dec bs with
  | some p => .ok p
  | none => .throw .invalid_argument

/-- The Spec's decoder demanding that `j` more bytes follow the value.  The C++ tests lengths ahead of
its unchecked reads, and one test may cover more than the layout about to be read: bytes of the enclosing
structure that are read later without a test of their own.  `look 0 c = liftDec c`. -/
def look (j : Nat) {α} (c : Codec α) : Cur α := fun bs =>
  match c.dec bs with
  | some (a, r) => if j ≤ r.length then .ok (a, r) else .throw .invalid_argument
  | none => .throw .invalid_argument

namespace Codec

theorem liftDec_eq_ofOpt {α} (c : Codec α) (bs : Bytes) : liftDec c bs = ofOpt (c.dec bs) := by
  unfold liftDec; cases c.dec bs <;> rfl

theorem liftDec_ok_iff {α} {c : Codec α} {bs : Bytes} {p} :
    liftDec c bs = .ok p ↔ c.dec bs = some p := liftDec_eq_ofOpt c bs ▸ ofOpt_ok_iff

theorem liftDec_of_dec {α} {c : Codec α} {bs : Bytes} {p} (h : c.dec bs = some p) :
    liftDec c bs = .ok p := liftDec_ok_iff.mpr h

theorem look_zero {α} (c : Codec α) : look 0 c = liftDec c := by
  funext bs
  unfold look liftDec
  cases c.dec bs with
  | none => rfl
  | some p => obtain ⟨a, r⟩ := p; dsimp only; rw [if_pos (Nat.zero_le _)]

/-! `liftDec`, like `rd`, turns `pair` and `map` into sequencing; the two differ only in the
outcome of a failed read, and under a sufficient length guard a fixed-width read cannot fail. -/

theorem liftDec_pair {α β} (c : Codec α) (d : Codec β) :
    liftDec (pair c d) = liftDec c >>= fun a => liftDec d >>= fun b => pure (a, b) := by
  funext bs
  simp only [bind_run, liftDec, pair]
  cases c.dec bs with
  | none => rfl
  | some p =>
    obtain ⟨a, r⟩ := p
    dsimp only
    cases d.dec r <;> rfl

theorem liftDec_map {α β} (f : α → β) (g : β → α) (c : Codec α) :
    liftDec (map f g c) = liftDec c >>= fun a => pure (f a) := by
  funext bs
  simp only [bind_run, liftDec, map]
  cases c.dec bs <;> rfl

theorem look_map {α β} (j : Nat) (f : α → β) (g : β → α) (c : Codec α) :
    look j (map f g c) = look j c >>= fun a => pure (f a) := by
  funext bs
  simp only [bind_run, look, map]
  cases c.dec bs with
  | none => rfl
  | some p =>
    obtain ⟨a, r⟩ := p
    dsimp only
    by_cases h : j ≤ r.length
    · rw [if_pos h, if_pos h]; rfl
    · rw [if_neg h, if_neg h]

/-- The bytes to spare are demanded of the last field only. -/
theorem look_pair {α β} (j : Nat) (c : Codec α) (d : Codec β) :
    look j (pair c d) = liftDec c >>= fun a => look j d >>= fun b => pure (a, b) := by
  funext bs
  simp only [bind_run, look, liftDec, pair]
  cases c.dec bs with
  | none => rfl
  | some p =>
    obtain ⟨a, r⟩ := p
    dsimp only
    cases d.dec r with
    | none => rfl
    | some q =>
      obtain ⟨b, r'⟩ := q
      dsimp only
      by_cases h : j ≤ r'.length
      · rw [if_pos h, if_pos h]; rfl
      · rw [if_neg h, if_neg h]

/-- An unchecked fixed-width read behind a lookahead uses up its width of it. -/
theorem look_rd {α β γ} {t : Codec β} {w : Nat} (ht : t.Fixed w) {j' : Nat} (j : Nat) (hj : j' = w + j)
    (c : Codec α) (K : α → β → Cur γ) :
    (look j' c >>= fun a => rd t >>= K a) = liftDec c >>= fun a => look j t >>= K a := by
  subst hj
  funext bs
  simp only [bind_run, look, liftDec]
  cases c.dec bs with
  | none => rfl
  | some p =>
    obtain ⟨a, r⟩ := p
    dsimp only
    by_cases hw : w ≤ r.length
    · obtain ⟨b, hb⟩ := ht.dec_some hw
      rw [hb]
      dsimp only
      rw [List.length_drop]
      by_cases h : w + j ≤ r.length
      · rw [if_pos h, if_pos (by omega)]; dsimp only; rw [rd_of_dec hb]
      · rw [if_neg h, if_neg (by omega)]
    · rw [if_neg (by omega), ht.dec_none (Nat.lt_of_not_le hw)]

/-- The C++ pattern "test that `w` bytes are left, then read them unchecked" is the Spec's
decoder of a `w`-byte layout. -/
theorem Fixed.guard_rd {α} {c : Codec α} {w : Nat} (hc : c.Fixed w) (bs : Bytes) :
    (if bs.length < w then .throw .invalid_argument else rd c bs) = liftDec c bs := by
  unfold liftDec rd
  split
  · rename_i h; rw [hc.dec_none h]
  · rename_i h
    obtain ⟨a, ha⟩ := hc.dec_some (Nat.le_of_not_lt h)
    rw [ha]

/-- Sequencing form of the same fact. -/
theorem Fixed.rd_bind_agree {α β} {c : Codec α} {w : Nat} (hc : c.Fixed w) {f g : α → Cur β} {n : Nat}
    (hfg : ∀ a bs, n ≤ bs.length → f a bs = g a bs) (bs : Bytes) (h : n + w ≤ bs.length) :
    (rd c >>= f) bs = (liftDec c >>= g) bs := by
  obtain ⟨a, ha⟩ := hc.dec_some (bs := bs) (by omega)
  simp only [bind_run, rd_of_dec ha, liftDec_of_dec ha]
  exact hfg a _ (by rw [List.length_drop]; omega)

/-- A decoder that finishes with `decode_extra` and returns the value with the extra bytes. -/
theorem withRest_run {α} (m : Cur α) (bs : Bytes) :
    ((m >>= fun v => rest >>= fun e => pure (v, e)) bs).bind (fun p => .ok p.1) = m bs := by
  simp only [bind_run]
  cases m bs with
  | ok p => rfl
  | throw e => rfl
  | ub u => rfl

theorem dec_none_of_short {α} {c : Codec α} {P} (hx : c.Exact P) {n : Nat}
    (hlen : ∀ a, P a → n ≤ (c.enc a).length) {bs : Bytes} (h : bs.length < n) : c.dec bs = none := by
  cases hd : c.dec bs with
  | none => rfl
  | some p =>
    obtain ⟨a, r⟩ := p
    have := (hx bs a r hd).2
    have h2 := hlen a (hx bs a r hd).1
    rw [this] at h
    simp at h
    omega

theorem forN_rd_eq {α} (c : Codec α) : ∀ (n : Nat) (bs : Bytes),
    forN (rd c) n bs = match decN c n bs with
      | some p => .ok p
      | none => .ub .oob_read := by
  intro n
  induction n with
  | zero => intro bs; rfl
  | succ n ih =>
    intro bs
    simp only [forN, bind_run, decN, rd]
    cases h : c.dec bs with
    | none => simp
    | some p =>
      obtain ⟨a, r⟩ := p
      simp only [ih r]
      cases h2 : decN c n r with
      | none => simp
      | some q => obtain ⟨l, r'⟩ := q; simp

theorem decN_min_length {α} {c : Codec α} {P} (hx : c.Exact P) {w : Nat}
    (hw : ∀ a, P a → w ≤ (c.enc a).length) :
    ∀ (n : Nat) (bs : Bytes) (l : List α) (r : Bytes), decN c n bs = some (l, r) →
      w * n + r.length ≤ bs.length := by
  intro n
  induction n with
  | zero =>
    intro bs l r h
    simp [decN] at h
    obtain ⟨_, rfl⟩ := h
    simp
  | succ n ih =>
    intro bs l r h
    simp only [decN] at h
    split at h
    · simp at h
    · rename_i a r1 h1
      split at h
      · simp at h
      · rename_i l' r2 h2
        simp at h
        obtain ⟨_, rfl⟩ := h
        obtain ⟨pa, e1⟩ := hx _ _ _ h1
        have h3 := ih _ _ _ h2
        have h4 := hw a pa
        rw [e1, List.length_append]
        have : w * (n + 1) = w * n + w := Nat.mul_succ w n
        omega

theorem decN_rest_le {α} {c : Codec α} {P} (hx : c.Exact P)
    {n : Nat} {bs : Bytes} {l : List α} {r : Bytes} (h : decN c n bs = some (l, r)) :
    r.length ≤ bs.length := by
  have := decN_min_length hx (w := 0) (fun _ _ => Nat.zero_le _) n bs l r h
  omega

/-- A loop body that reads `c` with `j` bytes to spare, entered with `j` bytes on hand, reads the
repetition with `j` to spare: the spare bytes of one round are the next round's bytes on hand. -/
theorem forN_look {α} {c : Codec α} {P} (hx : c.Exact P) {m : Cur α} {n j : Nat} (hnj : n ≤ j)
    (hm : ∀ bs : Bytes, n ≤ bs.length → m bs = look j c bs) :
    ∀ (k : Nat) (bs : Bytes), j ≤ bs.length → forN m k bs = look j (rep k c) bs := by
  intro k
  induction k with
  | zero => intro bs h; simp only [forN, look, rep, decN, pure_run, if_pos h]
  | succ k ih =>
    intro bs h
    simp only [forN, bind_run, hm bs (Nat.le_trans hnj h)]
    simp only [look, rep, decN] at ih ⊢
    cases hd : c.dec bs with
    | none => rfl
    | some p =>
      obtain ⟨a, r⟩ := p
      dsimp only
      by_cases hj : j ≤ r.length
      · rw [if_pos hj]
        dsimp only
        rw [ih r hj]
        cases decN c k r with
        | none => rfl
        | some q =>
          obtain ⟨l, r'⟩ := q
          dsimp only
          by_cases hj' : j ≤ r'.length
          · rw [if_pos hj', if_pos hj']; rfl
          · rw [if_neg hj', if_neg hj']
      · rw [if_neg hj]
        cases hd2 : decN c k r with
        | none => rfl
        | some q =>
          obtain ⟨l, r'⟩ := q
          dsimp only
          rw [if_neg (by have := decN_rest_le hx hd2; omega)]

theorem forN_map_bind {α β} (m : Cur α) (f : α → β) :
    ∀ n : Nat, forN (m >>= fun a => pure (f a)) n = forN m n >>= fun l => pure (l.map f) := by
  intro n
  induction n with
  | zero => rfl
  | succ n ih =>
    simp only [forN, ih, bind_assoc, pure_bind, List.map_cons]

theorem encL_eq_flatMap {α} (c : Codec α) (l : List α) : encL c l = l.flatMap c.enc := by
  induction l with
  | nil => rfl
  | cons a l ih => simp [encL, ih]

theorem encL_length_const {α} {c : Codec α} {w : Nat} (hw : ∀ a, (c.enc a).length = w) :
    ∀ l : List α, (encL c l).length = w * l.length := by
  intro l
  induction l with
  | nil => simp [encL]
  | cons a l ih => simp [encL, hw, ih, Nat.mul_succ]; omega

theorem decN_some_of_len {α} {c : Codec α} {w : Nat} (hc : c.Fixed w) :
    ∀ (n : Nat) (bs : Bytes), w * n ≤ bs.length → ∃ l, decN c n bs = some (l, bs.drop (w * n)) := by
  intro n
  induction n with
  | zero => intro bs _; exact ⟨[], by simp [decN]⟩
  | succ n ih =>
    intro bs h
    have h1 : w ≤ bs.length := by
      have : w * (n + 1) = w * n + w := Nat.mul_succ w n
      omega
    obtain ⟨a, ha⟩ := hc.dec_some h1
    have h2 : w * n ≤ (bs.drop w).length := by
      have : w * (n + 1) = w * n + w := Nat.mul_succ w n
      simp; omega
    obtain ⟨l, hl⟩ := ih (bs.drop w) h2
    refine ⟨a :: l, ?_⟩
    simp only [decN, ha, hl]
    have : w * (n + 1) = w + w * n := by rw [Nat.mul_succ]; omega
    simp [this, List.drop_drop]

theorem Fixed.forN_rd {α} {c : Codec α} {w : Nat} (hc : c.Fixed w) (k : Nat) (bs : Bytes)
    (h : w * k ≤ bs.length) : forN (rd c) k bs = look 0 (rep k c) bs := by
  obtain ⟨l, hl⟩ := decN_some_of_len hc k bs h
  rw [forN_rd_eq, look_zero, liftDec_of_dec (c := rep k c) hl, hl]

/-- A loop whose body reads `w` bytes into one entry, on `w * n` bytes: the bytes cut into entries. -/
theorem forN_chunks {α} {entry : Cur α} {chunk : Bytes → List α} {w : Nat} (hnil : chunk [] = [])
    (h : ∀ x : Bytes, x.length = w → ∃ e, ∀ r, entry (x ++ r) = .ok (e, r) ∧ chunk (x ++ r) = e :: chunk r) :
    ∀ (n : Nat) (bs : Bytes), w * n ≤ bs.length →
      forN entry n bs = .ok (chunk (bs.take (w * n)), bs.drop (w * n)) := by
  intro n
  induction n with
  | zero => intro bs _; simp only [forN, Nat.mul_zero, List.take_zero, List.drop_zero, hnil, pure_run]
  | succ n ih =>
    intro bs hlen
    have hs : w * (n + 1) = w + w * n := by rw [Nat.mul_succ]; omega
    obtain ⟨e, he⟩ := h (bs.take w) (by rw [List.length_take]; omega)
    have hr : w * n ≤ (bs.drop w).length := by rw [List.length_drop]; omega
    have hb := he (bs.drop w)
    have hc := (he ((bs.drop w).take (w * n))).2
    rw [List.take_append_drop] at hb
    rw [hs, List.take_add, hc, ← List.drop_drop]
    simp only [forN, bind_run, hb.1, ih _ hr, pure_run]

theorem bytesN2_dec (a b : Nat) (r : Bytes) : (pair (bytesN a) (bytesN b)).dec r =
    if a + b ≤ r.length then some ((r.take a, (r.drop a).take b), r.drop (a + b)) else none := by
  by_cases h : a + b ≤ r.length
  · have ha : a ≤ r.length := by omega
    have hb : b ≤ (r.drop a).length := by rw [List.length_drop]; omega
    simp only [pair, bytesN, ha, hb, h, if_true, List.drop_drop]
  · by_cases ha : a ≤ r.length
    · have hb : ¬ b ≤ (r.drop a).length := by rw [List.length_drop]; omega
      simp only [pair, bytesN, ha, hb, h, if_true, if_false]
    · simp only [pair, bytesN, ha, h, if_false]

/-- The layout of every waveform blob: count, the same count again, one header field, `w` bytes per entry, one more
entry.  `V2.ovw` (`w = 3`) and `V1.wave w` unfold to it. -/
abbrev waveLayout {β} (w : Nat) (key : β → UInt64) (F : Unit × UInt64 × Bytes × Bytes → β)
    (G : β → Unit × UInt64 × Bytes × Bytes) : Codec β :=
  dep (filter (fun k => decide (k.toNat < maxCount)) u64be) key fun n =>
    map F G (pair (expect u64be n) (pair u64be (pair (bytesN (w * n.toNat)) (bytesN w))))

theorem waveLayout_enc_length {β} (w : Nat) (key : β → UInt64) (F : Unit × UInt64 × Bytes × Bytes → β)
    (G : β → Unit × UInt64 × Bytes × Bytes) (v : β) :
    ((waveLayout w key F G).enc v).length = 24 + (G v).2.2.1.length + (G v).2.2.2.length := by
  have h8 : ∀ x, (u64be.enc x).length = 8 := fun _ => rfl
  simp only [waveLayout, dep, filter, map, pair, expect, bytesN, List.length_append, h8]
  omega

theorem waveLayout_dec_run {β} (w : Nat) (key : β → UInt64) (F : Unit × UInt64 × Bytes × Bytes → β)
    (G : β → Unit × UInt64 × Bytes × Bytes) {bs : Bytes} (h : 24 ≤ bs.length) :
    (waveLayout w key F G).dec bs =
    if (u64be.get bs).toNat < maxCount ∧ u64be.get (bs.drop 8) = u64be.get bs ∧
        w * (u64be.get bs).toNat + w ≤ bs.length - 24 then
      some (F ((), u64be.get (bs.drop 16), (bs.drop 24).take (w * (u64be.get bs).toNat),
              ((bs.drop 24).drop (w * (u64be.get bs).toNat)).take w),
            (bs.drop 24).drop (w * (u64be.get bs).toNat + w))
    else none := by
  have e1 := u64be_fixed.dec_run (bs := bs) (by omega)
  have e2 := u64be_fixed.dec_run (bs := bs.drop 8) (by rw [List.length_drop]; omega)
  have e3 := u64be_fixed.dec_run (bs := bs.drop 16) (by rw [List.length_drop]; omega)
  have hp := bytesN2_dec (w * (u64be.get bs).toNat) w (bs.drop 24)
  simp only [List.drop_drop, Nat.reduceAdd] at e2 e3
  rw [List.length_drop] at hp
  generalize u64be.get bs = n1 at *
  generalize u64be.get (bs.drop 8) = n2 at *
  by_cases hk : n1.toNat < maxCount
  · by_cases hn : n2 = n1
    · subst hn
      simp only [waveLayout, dep, filter, e1, hk, decide_true, if_true, true_and]
      generalize pair (bytesN _) (bytesN w) = tl at hp ⊢
      by_cases hc : w * n2.toNat + w ≤ bs.length - 24 <;>
        simp only [map, expect, pair, e2, e3, if_true, hp, hc, if_false]
    · simp only [waveLayout, dep, filter, map, expect, pair, e1, e2, hk, hn, decide_true, if_true, if_false,
        false_and, and_false]
  · simp only [waveLayout, dep, filter, e1, hk, decide_false, false_and, if_false, Bool.false_eq_true]

end Codec
end EngineModel
