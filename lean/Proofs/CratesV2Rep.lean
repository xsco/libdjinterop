/-
Schema 2.x crates, C09 side: the ordered lists `S : Ord` (driven through Spec.Ordered
operations by `ordStep`) are represented (`R`) by the Playlist and PlaylistEntity
tables after every operation — `ChInv` is preserved by `step` / `ordStep`.

Every statement the library issues on the two tables has its lemma (`chInv_insert` … `chInv_clearKey`: the new lists
from the old ones, by the matching `Chain.R_*` and `cores_*` lemma); the loops of remove_crate and remove_track iterate them; a call is one alternative of `Does`
(Proofs/CratesV2Does.lean), and each alternative is one of these (`Does.chInv`).
-/
import Proofs.CratesV2Pairs

namespace EngineModel.Db.V2

open EngineModel.Db.Chain EngineModel.Spec EngineModel.Spec.Forest EngineModel.ListAux

theorem ids_subset_of_cores_filter {α : Type} {t t' : Table α} {q : Int × Int × α → Bool}
    (h : cores t' = (cores t).filter q) : ∀ i ∈ ids t', i ∈ ids t := by
  intro i hi
  rw [ids_eq_cores, h] at hi
  rw [ids_eq_cores]
  obtain ⟨c, hc, e⟩ := List.mem_map.mp hi
  exact List.mem_map.mpr ⟨c, (List.mem_filter.mp hc).1, e⟩

/-- An INSERT under AUTOINCREMENT: the ids stay within the counter. -/
theorem ids_le_of_cores_append {α : Type} {t t' : Table α} {c : Int × Int × α} {s : Int} (h : cores t' = cores t ++ [c])
    (hs : ∀ i ∈ ids t, i ≤ s) (hc : c.1 = s + 1) : ∀ i ∈ ids t', i ≤ s + 1 := by
  intro i hi
  rw [ids_eq_cores, h, List.map_append, List.mem_append, ← ids_eq_cores] at hi
  rcases hi with hi | hi
  · have := hs i hi; omega
  · simp only [List.map_cons, List.map_nil, List.mem_singleton] at hi; omega

/-- The chain invariant: the tables represent the ordered lists (the entity table: the entity ids of the Spec's
entries, every row carrying the payload the Spec recorded for it), no (list, database, track) triple twice, the
delete trigger of PlaylistEntity fires for every row, ids are within the AUTOINCREMENT counters. -/
structure ChInv (S : Ord) (d : Db) : Prop where
  rk : R S.kids d.pl
  re : R S.entIds d.pe
  pay : ∀ c ∈ cores d.pe, (c.1, c.2.2) ∈ S.ents c.2.1
  pairs : PairsOk (cores d.pe)
  fires : ∀ r ∈ d.pe, fires r = true
  plSeq : ∀ i ∈ ids d.pl, i ≤ d.plSeq
  plSeq0 : 0 ≤ d.plSeq
  peSeq : ∀ i ∈ ids d.pe, i ≤ d.peSeq
  peSeq0 : 0 ≤ d.peSeq
  trPos : ∀ t ∈ d.tracks, 0 < t
  trSeq0 : 0 ≤ d.trSeq

theorem R_empty {α : Type} : R (fun _ => []) ([] : Table α) := by
  constructor <;> simp [ids]

theorem chInv_empty : ChInv Ord.empty Db.empty := by
  refine ⟨R_empty, R_empty, ?_, pairsOk_nil, ?_, ?_, ?_, ?_, ?_, ?_, ?_⟩ <;> simp [Db.empty, ids, cores]

theorem fires_val (r r' : Row Ent) (h : r.val = r'.val) : fires r = fires r' := by
  simp [fires, h]

/-- The Spec lists after `op`, the Spec forest being (by C07's refinement) the abstraction of the Playlist table. -/
def ordStep (S : Ord) (d : Db) (op : Op) : Ord := ordNext S (absF d) op (step d op).2

theorem ChInv.withPl {S : Ord} {d : Db} (hI : ChInv S d) {K : Int → List Int} {pl : Table Bytes} {seq : Int}
    (hk : R K pl) (hs : ∀ i ∈ ids pl, i ≤ seq) (hs0 : 0 ≤ seq) :
    ChInv { S with kids := K } { d with pl := pl, plSeq := seq } :=
  ⟨hk, hI.re, hI.pay, hI.pairs, hI.fires, hs, hs0, hI.peSeq, hI.peSeq0, hI.trPos, hI.trSeq0⟩

theorem ChInv.withPe {S : Ord} {d : Db} (hI : ChInv S d) {E : Int → List (Int × Ent)} {pe : Table Ent} {seq : Int}
    (he : R (fun l => (E l).map (·.1)) pe) (hpay : ∀ c ∈ cores pe, (c.1, c.2.2) ∈ E c.2.1) (hp : PairsOk (cores pe))
    (hf : ∀ r ∈ pe, V2.fires r = true) (hs : ∀ i ∈ ids pe, i ≤ seq) (hs0 : 0 ≤ seq) :
    ChInv { S with ents := E } { d with pe := pe, peSeq := seq } :=
  ⟨hI.rk, he, hpay, hp, hf, hI.plSeq, hI.plSeq0, hs, hs0, hI.trPos, hI.trSeq0⟩

theorem ChInv.withTracks {S : Ord} {d : Db} (hI : ChInv S d) {ts : List Int} {seq : Int} (ht : ∀ t ∈ ts, 0 < t)
    (hs0 : 0 ≤ seq) : ChInv S { d with tracks := ts, trSeq := seq } :=
  ⟨hI.rk, hI.re, hI.pay, hI.pairs, hI.fires, hI.plSeq, hI.plSeq0, hI.peSeq, hI.peSeq0, ht, hs0⟩

theorem ChInv.congr_ents {K : Int → List Int} {E E' : Int → List (Int × Ent)} {d : Db} (h : ChInv ⟨K, E⟩ d)
    (he : ∀ l, E' l = E l) : ChInv ⟨K, E'⟩ d := by
  rw [funext he]; exact h

/-- The delete trigger's `WHEN OLD.trackId > 0` looks at the payload only. -/
theorem fires_iff_cores {t : Table Ent} : (∀ r ∈ t, fires r = true) ↔ ∀ c ∈ cores t, 0 < c.2.2.track := by
  simp only [cores, core, fires, List.forall_mem_map, decide_eq_true_eq, gt_iff_lt]

/-- Rows of PlaylistEntity are deleted: what is demanded of each single row is inherited. -/
theorem ChInv.dropPe {S : Ord} {d : Db} (hI : ChInv S d) {E : Int → List (Int × Ent)} {pe : Table Ent}
    {q : Int × Int × Ent → Bool} (hc : cores pe = (cores d.pe).filter q) (he : R (fun l => (E l).map (·.1)) pe)
    (hpay : ∀ c ∈ cores d.pe, q c = true → (c.1, c.2.2) ∈ E c.2.1) :
    ChInv { S with ents := E } { d with pe := pe } := by
  have hsub : ∀ c ∈ cores pe, c ∈ cores d.pe ∧ q c = true := fun c h => List.mem_filter.mp (hc ▸ h)
  exact hI.withPe he (fun c h => hpay c (hsub c h).1 (hsub c h).2) (hc ▸ hI.pairs.filter q)
    (fires_iff_cores.mpr fun c h => fires_iff_cores.mp hI.fires c (hsub c h).1)
    (fun i hi => hI.peSeq i (ids_subset_of_cores_filter hc i hi)) hI.peSeq0

theorem keyOf_parentOpt (k : Int) : keyOf (parentOpt k) = k := by
  unfold parentOpt; by_cases h : k = 0 <;> simp [h, keyOf]

theorem setKeyE_same (E : Int → List (Int × Ent)) (k : Int) (L : List (Int × Ent)) : setKeyE E k L k = L := by
  simp [setKeyE]

theorem setKeyE_other (E : Int → List (Int × Ent)) {k k' : Int} (L : List (Int × Ent)) (h : k' ≠ k) :
    setKeyE E k L k' = E k' := by
  simp [setKeyE, h]

theorem entIds_setKeyE (E : Int → List (Int × Ent)) (l : Int) (L : List (Int × Ent)) :
    (fun k => (setKeyE E l L k).map (·.1)) = setKey (fun k => (E k).map (·.1)) l (L.map (·.1)) := by
  funext k
  by_cases hk : k = l
  · subst hk; simp [setKeyE]
  · simp [setKeyE, setKey, hk]

theorem setKeyE_self (E : Int → List (Int × Ent)) (k : Int) : setKeyE E k (E k) = E := by
  funext k'; by_cases h : k' = k <;> simp [setKeyE, h]

theorem map_fst_dropEnt {L : List (Int × Ent)} (hn : (L.map (·.1)).Nodup) (e : Int) :
    (dropEnt L e).map (·.1) = (L.map (·.1)).erase e := by
  rw [hn.erase_eq_filter, List.filter_map]; rfl

theorem ChInv.row_of_entry {S : Ord} {d : Db} (hI : ChInv S d) {l : Int} {p : Int × Ent} (hp : p ∈ S.ents l) :
    ∃ r ∈ d.pe, r.id = p.1 ∧ r.key = l ∧ r.val = p.2 := by
  have hm : p.1 ∈ S.entIds l := List.mem_map.mpr ⟨p, hp, rfl⟩
  obtain ⟨r, hr, e1, e2⟩ := hI.re.cover l p.1 hm
  refine ⟨r, hr, e1, e2, ?_⟩
  have h1 := hI.pay (core r) (mem_cores.mpr ⟨r, hr, rfl⟩)
  simp only [core] at h1
  rw [e2] at h1
  have := eq_of_map_eq (hI.re.nodup l) h1 hp (by simpa using e1)
  rw [← this]

/-- No (list, track, database) twice: an entry of the Spec's listing with the payload the SELECT asked for
is the row it found. -/
theorem ChInv.entry_eq_of_find {S : Ord} {d : Db} (hI : ChInv S d) {l t u : Int} {e : Row Ent} (h : peFind d l t u = some e)
    {q : Int × Ent} (hq : q ∈ S.ents l) (hqp : q.2.track = t ∧ q.2.uuid = u) : q = (e.id, e.val) := by
  obtain ⟨hce, _, hel, hev⟩ := lookup_core h
  obtain ⟨r, hr, e1, e2, e3⟩ := hI.row_of_entry hq
  have hrv : r.val = e.val := by rw [e3, hev]; exact ent_eq.mpr hqp
  have := hI.pairs.pair_unique (core r) (mem_cores.mpr ⟨r, hr, rfl⟩) (core e) hce (by simp [core, e2, hel])
    (by simp [core, hrv])
  exact Prod.ext (e1.symm.trans (congrArg (·.1) this)) (e3.symm.trans hrv)

theorem ChInv.find_some {S : Ord} {d : Db} (hI : ChInv S d) {l t u : Int} {e : Row Ent} (h : peFind d l t u = some e) :
    S.find l t u = some (e.id, e.val) := by
  obtain ⟨hce, _, hel, hev⟩ := lookup_core h
  have hin : (e.id, e.val) ∈ S.ents l := by
    have := hI.pay (core e) hce; simpa [core, hel] using this
  exact find?_unique hin (by simp [hev]) fun q hq hqp => hI.entry_eq_of_find h hq (by simpa using hqp)

theorem ChInv.find_none {S : Ord} {d : Db} (hI : ChInv S d) {l t u : Int} (h : peFind d l t u = none) :
    S.find l t u = none := by
  unfold Ord.find
  rw [List.find?_eq_none]
  intro q hq hqp
  obtain ⟨r, hr, _, e2, e3⟩ := hI.row_of_entry hq
  simp only [Bool.and_eq_true, beq_iff_eq] at hqp
  exact lookup_none h (core r) (mem_cores.mpr ⟨r, hr, rfl⟩) ⟨e2, by simp only [core]; rw [e3]; exact ent_eq.mpr hqp⟩

/-- INSERT of the next id before `b` (0: at the end) of the list of `k`, under the two triggers. -/
theorem chInv_insert {S : Ord} {d : Db} (hI : ChInv S d) (name : Bytes) {k b : Int} (hb : b = 0 ∨ b ∈ S.kids k) :
    ChInv { S with kids := setKey S.kids k (Ordered.insertBefore b (d.plSeq + 1) (S.kids k)) }
      { d with pl := insertBefore d.pl (d.plSeq + 1) k b name, plSeq := d.plSeq + 1 } :=
  have h0 := hI.plSeq0
  hI.withPl (R_insertBefore hI.rk name (by omega) (fun h => by have := hI.plSeq _ h; omega) hb)
    (ids_le_of_cores_append (cores_insertBefore ..) hI.plSeq rfl) (by omega)

theorem chInv_setVal {S : Ord} {d : Db} (hI : ChInv S d) (i : Int) (v : Bytes) :
    ChInv S { d with pl := setVal d.pl i v } :=
  hI.withPl (K := S.kids) (seq := d.plSeq) (R_setVal hI.rk i v) (by rw [ids_setVal]; exact hI.plSeq) hI.plSeq0

/-- The four UPDATEs that take a row to the end of the list of another key. -/
theorem chInv_move {S : Ord} {d : Db} (hI : ChInv S d) {row : Row Bytes} (hrow : row ∈ d.pl) {nk : Int}
    (hk : nk ≠ row.key) (v : Bytes) :
    ChInv { S with kids := moveKid S.kids row.key nk row.id }
      { d with pl := move d.pl row.id row.key row.next nk 0 v } := by
  have hm := R_move hI.rk hrow hk (Or.inl rfl) v
  rw [insertBefore_zero (hI.rk.ne0 _)] at hm
  unfold moveKid
  rw [setKey_other _ _ hk]
  exact hI.withPl (seq := d.plSeq) hm (by rw [ids_move]; exact hI.plSeq) hI.plSeq0

/-- add_back of a (list, track, database) that is not there. -/
theorem chInv_appendBack {S : Ord} {d : Db} (hI : ChInv S d) {l t u : Int} (ht : 0 < t) (hnone : peFind d l t u = none) :
    ChInv { S with ents := setKeyE S.ents l (S.ents l ++ [(d.peSeq + 1, ⟨t, u⟩)]) }
      { d with pe := appendBack d.pe (d.peSeq + 1) l ⟨t, u⟩, peSeq := d.peSeq + 1 } := by
  have h0 := hI.peSeq0
  have hfresh : d.peSeq + 1 ∉ ids d.pe := fun h => by have := hI.peSeq _ h; omega
  have hc := cores_appendBack d.pe (d.peSeq + 1) l (⟨t, u⟩ : Ent)
  refine hI.withPe ?_ ?_ (pairsOk_append hI.pairs hfresh hnone) (fires_iff_cores.mpr ?_)
    (ids_le_of_cores_append hc hI.peSeq rfl) (by omega)
  · rw [entIds_setKeyE, List.map_append]
    exact R_appendBack hI.re (n := d.peSeq + 1) _ (by omega) hfresh
  · rw [hc]
    intro k hk
    rcases List.mem_append.mp hk with hk | hk
    · by_cases hkl : k.2.1 = l
      · rw [hkl, setKeyE_same]; exact List.mem_append_left _ (hkl ▸ hI.pay k hk)
      · rw [setKeyE_other _ _ hkl]; exact hI.pay k hk
    · rw [List.mem_singleton.mp hk]; simp [setKeyE]
  · rw [hc]
    intro k hk
    rcases List.mem_append.mp hk with hk | hk
    · exact fires_iff_cores.mp hI.fires k hk
    · rw [List.mem_singleton.mp hk]; exact ht

/-- `DELETE … WHERE listId = l AND id = e` of a row that is there: the entry `e` leaves the listing of `l`. -/
theorem chInv_deleteKeyed {S : Ord} {d : Db} (hI : ChInv S d) {l e : Int} {row : Row Ent}
    (hrow : row ∈ d.pe) (hid : row.id = e) (hkey : row.key = l) :
    ChInv { S with ents := setKeyE S.ents l (dropEnt (S.ents l) e) } { d with pe := deleteKeyed fires d.pe l e } := by
  have hc : cores (deleteKeyed fires d.pe l e) = (cores d.pe).filter (fun c => c.1 != e) :=
    cores_deleteKeyed fires fun r hr he => by rw [eq_of_id_eq hI.re.ids_nodup hr hrow (he.trans hid.symm), hkey]
  refine hI.dropPe hc ?_ ?_
  · rw [entIds_setKeyE, map_fst_dropEnt (hI.re.nodup l)]
    exact R_deleteKeyed hI.re fires hI.fires l e
  · intro k hk hq
    by_cases hkl : k.2.1 = l
    · rw [hkl, setKeyE_same]; exact List.mem_filter.mpr ⟨hkl ▸ hI.pay k hk, hq⟩
    · rw [setKeyE_other _ _ hkl]; exact hI.pay k hk

/-- `DELETE … WHERE listId = l`. -/
theorem chInv_clearKey {S : Ord} {d : Db} (hI : ChInv S d) (l : Int) :
    ChInv { S with ents := setKeyE S.ents l [] } { d with pe := clearKey fires d.pe l } := by
  refine hI.dropPe (cores_clearKey fires hI.re.ids_nodup l) ?_ ?_
  · rw [entIds_setKeyE]
    exact R_clearKey hI.re fires fires_val hI.fires l
  · intro k hk hq
    have hkl : k.2.1 ≠ l := by simpa using hq
    rw [setKeyE_other _ _ hkl]; exact hI.pay k hk

/-- remove_crate's loop: the listings of all of `G` are dropped. -/
theorem chInv_clearKeys {S : Ord} {d : Db} (hI : ChInv S d) (G : List Int) :
    ChInv { S with ents := clearKeysE S.ents G } { d with pe := G.foldl (fun t i => clearKey fires t i) d.pe } := by
  induction G generalizing S d with
  | nil => exact hI.congr_ents fun l => by simp [clearKeysE]
  | cons g G ih =>
    refine (ih (chInv_clearKey hI g)).congr_ents fun k => ?_
    by_cases hk : k = g
    · simp [clearKeysE, hk, setKeyE_same]
    · simp [clearKeysE, hk, setKeyE_other _ _ hk]

/-- crate::remove_track, and one round of the loop of database::remove_track: the entry that the SELECT on
(list, track, own database) finds, if any, leaves the listing of `l`. -/
theorem chInv_rmTrackIn {S : Ord} {d : Db} (hI : ChInv S d) (t l : Int) :
    ChInv
      { S with
        ents := setKeyE S.ents l
          (match S.find l t 0 with
           | some p => dropEnt (S.ents l) p.1
           | none => S.ents l) }
      { d with pe := rmTrackIn t d.pe l } := by
  rw [rmTrackIn_eq]
  cases hf : peFind d l t 0 with
  | some e =>
    rw [show lookup d.pe l t 0 = some e from hf, hI.find_some hf]
    exact chInv_deleteKeyed hI (lookup_core hf).2.1 rfl (lookup_core hf).2.2.1
  | none =>
    rw [show lookup d.pe l t 0 = none from hf, hI.find_none hf, setKeyE_self]
    exact hI

/-- database::remove_track's loop over the lists `L` (pairwise different). -/
theorem chInv_rmTracks {S : Ord} {d : Db} (hI : ChInv S d) (t : Int) {L : List Int} (hn : L.Nodup) :
    ChInv
      { S with
        ents := fun l =>
          if L.contains l then
            (match S.find l t 0 with
             | some p => dropEnt (S.ents l) p.1
             | none => S.ents l)
          else S.ents l }
      { d with pe := L.foldl (rmTrackIn t) d.pe } := by
  induction L generalizing S d with
  | nil => exact hI.congr_ents fun l => by simp
  | cons a L ih =>
    have hn' := List.nodup_cons.mp hn
    refine (ih (chInv_rmTrackIn hI t a) hn'.2).congr_ents fun l => ?_
    by_cases hla : l = a
    · subst hla
      simp [hn'.1, setKeyE_same]
    · simp only [contains_cons_ne hla, Ord.find, setKeyE_other _ _ hla]

/-- "after `a`" = "before the successor of `a`", which is what the row of `a` stores. -/
theorem after_eq_before {S : Ord} {d : Db} (hI : ChInv S d) {after k : Int} {a : Row Bytes} (hg : get d.pl after = some a)
    (hk : a.key = k) :
    (a.next = 0 ∨ a.next ∈ S.kids k) ∧
    ∀ n, Ordered.insertAfter after n (S.kids k) = Ordered.insertBefore a.next n (S.kids k) := by
  subst hk
  obtain ⟨ha, hid⟩ := get_some hg
  refine ⟨next_zero_or_mem hI.rk ha, fun n => ?_⟩
  have hm : after ∈ S.kids a.key := hid ▸ hI.rk.mem a ha
  rw [insertAfter_eq_insertBefore (hI.rk.nodup _) (hI.rk.ne0 _) hm, hI.rk.next a ha, hid]

theorem cores_foldl_clearKey {t : Table Ent} (hn : (ids t).Nodup) (G : List Int) :
    cores (G.foldl (fun t i => clearKey fires t i) t) = (cores t).filter (fun c => !G.contains c.2.1) := by
  induction G generalizing t with
  | nil =>
    simp only [List.foldl_nil, List.contains_nil, Bool.not_false]
    exact (List.filter_eq_self.mpr (fun _ _ => rfl)).symm
  | cons g G ih =>
    simp only [List.foldl_cons]
    have h1 := cores_clearKey fires hn g
    have hn1 : (ids (clearKey fires t g)).Nodup := by
      rw [ids_eq_cores, h1]
      rw [ids_eq_cores] at hn
      exact List.Nodup.sublist (List.Sublist.map _ List.filter_sublist) hn
    rw [ih hn1, h1, List.filter_filter]
    apply List.filter_congr
    intro c _
    by_cases hcg : c.2.1 = g
    · simp [hcg]
    · have : (c.2.1 == g) = false := by simpa using hcg
      rw [contains_cons_ne hcg]
      simp [hcg]

theorem ordOk_removeCrate {S : Ord} {d : Db} {c : Int} {row : Row Bytes} (hg : get d.pl c = some row) {G : List Int}
    (hG : IsGone d c G) (out : Out) :
    ordOk S (absF d) (.removeCrate c) out =
      { kids := clearKeys (setKey S.kids row.key ((S.kids row.key).erase c)) G, ents := clearKeysE S.ents G } := by
  simp only [ordOk, live_of_get hg, absF_parentOf_get hg, keyOf_parentOpt, if_true]
  congr 1 <;> funext k <;> simp only [clearKeys, clearKeysE, hG.contains, descSet]

/-- remove_crate of a live crate, the view having delivered `ds`: the crate leaves its parent's list, the lists keyed by
it and by its descendants are dropped, with their entries. -/
theorem chInv_removeCrate {S : Ord} {d : Db} (hI : ChInv S d) (hW : Forest.Wf (absF d)) {c : Int} {ds : List Int}
    (he : plExists d c = true) (hds : descendantIds d.pl c = .ok ds) :
    ChInv (ordOk S (absF d) (.removeCrate c) none) (plRemove d (c :: ds)) := by
  have hmem := view_ok hW hds
  have hG : IsGone d c (c :: ds) := isGone_cons hmem
  have hc : c ∈ ids d.pl := plExists_iff.mp he
  have hn := hI.rk.ids_nodup
  cases hg : get d.pl c with
  | none => exact absurd hc (get_none hg)
  | some row =>
  obtain ⟨hrow, hid⟩ := get_some hg
  rw [ordOk_removeCrate hg hG]
  -- siblings: the row itself, then the descendants
  have hclosed := gone_closed hn hI.rk.id_pos hc hG
  have hcores : cores ((c :: ds).foldl deleteCascade d.pl)
      = (cores d.pl).filter (fun k => !(c :: ds).contains k.1) :=
    cores_foldl_deleteCascade _ _ hclosed
  have hkeys : ∀ a ∈ ds, ∀ r ∈ deleteCascade d.pl c, r.id = a → r.key ∈ c :: ds := by
    intro a ha r hr e
    obtain ⟨r0, hr0, e1, e2⟩ := mem_deleteCascade_core hr
    rw [← e2]
    have hanc := (mem_descSet.mp ((hmem a).mp ha)).2
    obtain ⟨p', hp', hor⟩ := Forest.isAncestor_step hanc
    rw [← e, ← e1, absF_parentOf_row hn hr0, parentOpt_eq_some] at hp'
    rw [hp'.1]
    rcases hor with h | h
    · rw [h]; simp
    · refine List.mem_cons_of_mem _ ((hmem _).mpr (mem_descSet.mpr ⟨?_, h⟩))
      rw [← absF_ids]; exact Forest.descendant_live h
  obtain ⟨A', hA', hA'eq⟩ := R_foldl_deleteCascade (c :: ds) ds _ _ (R_deleteCascade hI.rk hg)
    (fun a ha => List.mem_cons_of_mem _ ha) hkeys
  have hkids : R (clearKeys (setKey S.kids row.key ((S.kids row.key).erase c)) (c :: ds))
      ((c :: ds).foldl deleteCascade d.pl) := by
    refine R_congr hA' fun k => ?_
    unfold clearKeys
    by_cases hk : (c :: ds).contains k = true
    · -- no row with a key among the removed survives
      rw [if_pos hk]
      symm
      apply hA'.nil_of_no_rows
      intro r hr hrk
      obtain ⟨h2, h3⟩ := List.mem_filter.mp (hcores ▸ mem_cores.mpr ⟨r, hr, rfl⟩)
      rw [hclosed (core r) h2 (show (c :: ds).contains r.key = true from hrk ▸ hk)] at h3
      exact absurd h3 (by simp)
    · rw [if_neg hk]
      have hk' : k ∉ c :: ds := fun h => hk (List.contains_iff_mem.mpr h)
      rw [hA'eq k hk', setKey_other _ _ fun e : k = c => hk' (e ▸ List.mem_cons_self)]
  exact (chInv_clearKeys hI (c :: ds)).withPl hkids
    (fun i hi => hI.plSeq i (ids_subset_of_cores_filter hcores i hi)) hI.plSeq0

/-- Every alternative of `Does` against the ordered lists: the list operation `ordOk` prescribes for the call is the
one the table statement performs (`chInv_insert` … `chInv_clearKey`).  The forest has to be well-formed for remove_crate
only, where the recursive view must have delivered the subtree. -/
theorem Does.chInv {S : Ord} {d : Db} {op : Op} {r : Db × Res Out} (h : Does d op r) (hI : ChInv S d) (hP : PlInv d)
    (hok : okOp op = true) : ChInv (ordNext S (absF d) op r.2) r.1 := by
  cases h with
  | throws | diverges => exact hI
  | inserted p n a b hlive hfree hv hb =>
    simp only [ordNext, ordOk_mkCreate, placed]
    cases a with
    | none =>
      subst hb
      rw [← insertBefore_zero (hI.rk.ne0 _)]
      exact chInv_insert hI n (Or.inl rfl)
    | some a =>
      obtain ⟨row, hg, hk, rfl⟩ := hb
      obtain ⟨hb', hins⟩ := after_eq_before hI hg hk
      simp only [hins]
      exact chInv_insert hI n hb'
  | retitled c n row hg hv hc => exact chInv_setVal hI c n
  | reparented c p row hg hp hv hc =>
    simp only [ordNext, ordOk, live_of_get hg, absF_parentOf_get hg, keyOf_parentOpt, Bool.true_and]
    by_cases hk : row.key = keyOf p
    · simp only [hk, bne_self_eq_false, Bool.false_eq_true, if_false, if_true]
      exact chInv_setVal hI c row.val
    · have hne : (row.key != keyOf p) = true := by simpa using hk
      simp only [hne, if_true, if_neg hk]
      obtain ⟨hrow, hid⟩ := get_some hg
      rw [← hid]
      exact chInv_move hI hrow (Ne.symm hk) row.val
  | removed c ds he hds => exact chInv_removeCrate hI hP.wf he hds
  | trackCreated =>
    have h0 := hI.trSeq0
    refine hI.withTracks (fun x hx => ?_) (by omega)
    rcases List.mem_append.mp hx with hx | hx
    · exact hI.trPos x hx
    · rw [List.mem_singleton.mp hx]; omega
  | trackRemoved t ht =>
    simp only [ordNext, ordOk, absF_ids]
    exact (chInv_rmTracks hI t hI.rk.ids_nodup).withTracks (fun x hx => hI.trPos x (List.mem_filter.mp hx).1) hI.trSeq0
  | present l t u e hop hf =>
    rcases hop with ⟨rfl, rfl, _⟩ | ⟨f, rfl⟩ <;>
      simp only [ordNext, ordOk, hI.find_some hf, Option.isNone_some, Bool.false_eq_true, if_false] <;> exact hI
  | appended l t u hop hf =>
    rcases hop with ⟨rfl, rfl, _, ht⟩ | ⟨f, rfl⟩
    · simp only [ordNext, ordOk, hI.find_none hf, Option.isNone_none, if_true]
      exact chInv_appendBack hI (hI.trPos t ht) hf
    · simp only [ordNext, ordOk, hI.find_none hf, Option.isNone_none, if_true]
      exact chInv_appendBack hI (by simpa [okOp] using hok) hf
  | entryRemoved l e row hrow hop =>
    rcases hop with ⟨t, rfl, hf⟩ | rfl
    · simp only [ordNext, ordOk, hI.find_some hf]
      exact hrow.2.1 ▸ chInv_deleteKeyed hI hrow.1 rfl hrow.2.2
    · exact chInv_deleteKeyed hI hrow.1 hrow.2.1 hrow.2.2
  | absent l t hf =>
    simp only [ordNext, ordOk, hI.find_none hf]
    exact hI
  | cleared l hop => rcases hop with rfl | rfl <;> exact chInv_clearKey hI l

theorem chInv_step {S : Ord} {d : Db} (hI : ChInv S d) (hP : PlInv d) (op : Op) (hok : okOp op = true) :
    ChInv (ordStep S d op) (step d op).1 :=
  (step_does d op).chInv hI hP hok

/-- The Spec run (forest by `judgeF`, lists by `ordNext`, both from the Model's answers only) never objects,
its forest is the abstraction of the Playlist table, and its lists are represented by the tables. -/
theorem chInv_run {S : Ord} {d : Db} (hI : ChInv S d) (hP : PlInv d) (ops : List Op) (hok : ops.all okOp = true) :
    ∃ S', specRunO d (absF d) S ops = some (absF (run d ops), S') ∧ ChInv S' (run d ops) := by
  induction ops generalizing S d with
  | nil => exact ⟨S, rfl, hI⟩
  | cons op ops ih =>
    simp only [List.all_cons, Bool.and_eq_true] at hok
    obtain ⟨S', h1, h2⟩ := ih (chInv_step hI hP op hok.1) (plInv_step hP op) hok.2
    refine ⟨S', ?_, h2⟩
    simp only [specRunO, run]
    rw [judgeF_of_fstep hP (fstep hP.wf op)]
    exact h1

end EngineModel.Db.V2
