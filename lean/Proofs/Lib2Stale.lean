/-
Composite 2.x library: stale track handles along interleaved histories.  Track ids are AUTOINCREMENT, so the id
of a removed track is never issued again; everything follows from the track package's own "gone" theorems through
the composition theorem `tdb_run`.
-/
import Proofs.Lib2Sim
import Proofs.TracksV2Gone
import Proofs.TracksV2RoundTrip

namespace EngineModel.Lib.V2
open EngineModel EngineModel.Db.Chain EngineModel.TracksV2
open EngineModel.Table (Schema2)

/-- after `remove_track` of a track that has a row, the track is gone from the Track table and stays gone along every
later history of the composite (whatever is created, updated, removed meanwhile) -/
theorem gone_after_remove (ops : FOps) (s : Schema2) {L : Lib2} (h : LibCore s L) (t : Nat)
    (hf : (L.tdb.find t).isSome = true) (later : List Call) :
    Gone (run ops s (step ops s L (.removeTrack t)).1 later).tdb t := by
  obtain ⟨row, hrow⟩ := Option.isSome_iff_exists.mp hf
  have hg := (gone_of_remove h.tr hrow).2
  rw [callRemove_present hrow] at hg
  rw [tdb_run, step_removeTrack, hf]
  exact gone_run ops (toT s) _ (inv_filter h.tr _) hg

theorem trackCall_throw {ops : FOps} {s : Schema2} {op : TOp} {L : Lib2} {e : Exn}
    (h : L.tdb.step ops (toT s) op = (L.tdb, .throw e)) : trackCall ops s op L = (L, .throw e) := by
  unfold trackCall; simp only [h]

/-- every call through the handle of a track that has no row: what it answers, and that it writes nothing -/
theorem stale_track_calls (ops : FOps) (s : Schema2) (L : Lib2) (t : Nat) (hg : L.tdb.find t = none) :
    (step ops s L (.trackIsValid t)).2 = .ok (.bool false) ∧
    (step ops s L (.trackById (t : Int))).2 = .ok (.oid none) ∧
    (step ops s L (.trackSnapshot t)).2 = .throw (.dj "track_deleted") ∧
    (∀ g, (step ops s L (.trackGet t g)).2 = .throw .runtime_error) ∧
    (∀ σ, step ops s L (.trackSet t σ) = (L, .throw .runtime_error)) ∧
    (∀ x, ∃ e, step ops s L (.trackUpdate t x) = (L, .throw e)) ∧
    step ops s L (.removeTrack t) = (L, .throw .invalid_argument) ∧
    (∀ c, ∃ e, step ops s L (.crateAddTrack c (t : Int)) = (L, .throw e)) := by
  have hs : (L.tdb.find t).isSome = false := by rw [hg]; rfl
  refine ⟨?_, ?_, ?_, fun g => ?_, fun σ => ?_, fun x => ?_, ?_, fun c => ?_⟩
  · show Res.ok (Out.bool (L.tdb.find t).isSome) = _
    rw [hs]
  · show Res.ok (Out.oid (if trackExists L (t : Int) = true then some (t : Int) else none)) = _
    rw [trackExists_cast, hs]; rfl
  · show (match L.tdb.find t with | some row => _ | none => _ : Lib2 × Res Out).2 = _
    rw [hg]
  · show (trackQuery t _ _ L).2 = _
    simp only [trackQuery, bind, M2.bind, M2.track, selectRow_none hg]
  · show (trackCall ops s (.set t σ) >>= _) L = _
    rw [m2_bind_apply, trackCall_throw (e := .runtime_error)]
    show (callSet ops t σ >>= fun _ => (pure 0 : M Nat)) L.tdb = _
    rw [M.bind_pure, callSet_none ops σ hg]; rfl
  · have ⟨e, he⟩ : ∃ e, callUpdate ops (toT s) t x L.tdb = (L.tdb, .throw e) := by
      rw [callUpdate_none ops (toT s) hg x]
      rcases writeStore_total ops (toT s) x with ⟨r, hw⟩ | ⟨e, hw⟩ <;> rw [hw] <;> exact ⟨_, rfl⟩
    refine ⟨e, ?_⟩
    show (trackCall ops s (.update t x) >>= _) L = _
    rw [m2_bind_apply, trackCall_throw (e := e)]
    show (callUpdate ops (toT s) t x >>= fun _ => (pure 0 : M Nat)) L.tdb = _
    rw [M.bind_pure, he]; rfl
  · rw [step_removeTrack, hs]; rfl
  · -- `crate::add_track` tests `track_table::exists` on the real Track table
    have : ∃ e, EngineModel.Db.V2.step L.crates (.addTrack c (t : Int)) = (L.crates, .throw e) := by
      simp only [EngineModel.Db.V2.step, contains_cast, hs, Bool.not_false, if_true]
      split <;> exact ⟨_, rfl⟩
    obtain ⟨e, he⟩ := this
    refine ⟨e, ?_⟩
    show (crateCall (.addTrack c (t : Int)) >>= _) L = _
    rw [m2_bind_apply, crateCall_same he]

end EngineModel.Lib.V2
