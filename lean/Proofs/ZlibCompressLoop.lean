/-
Completeness of the `zlib_compress` loops over any deflate oracle that honours
an explicit call contract (a structure parameter — not an assumption of the
development): with enough fuel the loops return, the blob is the length prefix
followed by every byte every `deflate()` call produced, every payload byte was
consumed, and the last call was a `Z_FINISH` call answering `Z_STREAM_END`.
Also: the inner-loop condition `while (strm.avail_in != 0)` is wrong.
-/
import EngineModel.Impl.ZlibCompress
import Proofs.ZlibLoop
-- `compress_ok`, `compress_output`, `compress_consumed`, `compress_finished` carry the hypotheses of `compress_complete`;
-- each uses only a part of them.
set_option linter.unusedVariables false

namespace EngineModel.Impl.Zlib

/-- The part of zlib.h's contract for `deflate()` the compress loops rely on.

* `live s` — the stream is initialised and has not yet entered zlib's
  `FINISH_STATE` (no `Z_FINISH` call has taken all of its input yet).  Needed
  because the two "drained" laws below are only true of such streams (or of a
  finished stream that is handed no further input): zlib answers
  `Z_BUF_ERROR`/`Z_STREAM_ERROR`, consuming nothing, when a finished stream is
  given more input or a non-`Z_FINISH` flush.
* `pot s a` bounds the number of bytes the stream can still produce from state
  `s` when `a` more input bytes are available, finishing (last block, trailer)
  included; `b` further input bytes add at most `ratio * b` (`pot_input`),
  and more input never lowers the bound (`pot_mono`).
* `step_ok` — every call consumes at most the window, produces at most
  `avail_out`, and pays for its output out of `pot`.
* `consume_all` — a call on a live stream that did not fill the output buffer
  consumed its whole window (deflate only leaves input behind when it runs
  out of output space).
* `finish_end` — a `Z_FINISH` call (on a live stream, or on any stream with an
  empty window) that did not fill the output buffer returned `Z_STREAM_END`
  (zlib returns `Z_OK` from a `Z_FINISH` call only while output is pending,
  and output is pending only if `avail_out` dropped to 0).
* `live_noFlush` — a `Z_NO_FLUSH` call keeps the stream live.
* `live_finish` — a `Z_FINISH` call that left input behind keeps the stream
  live (`FINISH_STATE` is entered only once all input has been taken). -/
structure DContract {σ : Type} (o : DOracle σ) where
  live : σ → Prop
  pot : σ → Nat → Nat
  ratio : Nat
  pot_mono : ∀ s a b, pot s a ≤ pot s (a + b)
  pot_input : ∀ s a b, pot s (a + b) ≤ pot s a + ratio * b
  step_ok : ∀ s win n f,
    (o.step s win n f).2.1 ≤ win.length ∧
    (o.step s win n f).2.2.1.length ≤ n ∧
    pot (o.step s win n f).2.2.2 (win.length - (o.step s win n f).2.1)
        + (o.step s win n f).2.2.1.length
      ≤ pot s win.length
  consume_all : ∀ s win n f, live s →
    (o.step s win n f).2.2.1.length < n → (o.step s win n f).2.1 = win.length
  finish_end : ∀ s win n, (live s ∨ win = []) →
    (o.step s win n .finish).2.2.1.length < n → (o.step s win n .finish).1 = .streamEnd
  live_noFlush : ∀ s win n, live s → live (o.step s win n .noFlush).2.2.2
  live_finish : ∀ s win n, live s →
    (o.step s win n .finish).2.1 < win.length → live (o.step s win n .finish).2.2.2

/-- Steps still needed from a loop position.  A call that produces output pays out of `pot`; opening a window of
`a ≥ 1` bytes raises `pot` by at most `ratio * a` (`pot_input`), paid by the position term, whose further `3 * a`
covers the larger constant of the inner phase; leaving the inner loop (3 → 2) is a step down by the constants alone. -/
def cmeasure {σ} {o : DOracle σ} (c : DContract o) (len : Nat) (s : σ) (ptr : Nat) : CPhase → Nat
  | .outer => c.pot s 0 + (c.ratio + 3) * (len - ptr) + 2
  | .inner win .noFlush => c.pot s win.length + (c.ratio + 3) * (len - ptr) + 3
  | .inner win .finish => c.pot s win.length + 1

/-- What holds of the stream state at a loop position: the stream is live,
except that inside the final (`Z_FINISH`) inner loop it may have finished once
the window is exhausted; the final inner loop runs with `ptr` at the end. -/
def CInv {σ} {o : DOracle σ} (c : DContract o) (len : Nat) (s : σ) (ptr : Nat) : CPhase → Prop
  | .outer => c.live s
  | .inner _ .noFlush => c.live s
  | .inner win .finish => (c.live s ∨ win = []) ∧ ptr = len

/-- Input bytes handed to the current inner loop and not yet consumed. -/
def winLen : CPhase → Nat
  | .outer => 0
  | .inner win _ => win.length

theorem cmeasure_outer_noFlush {σ} {o : DOracle σ} (c : DContract o) (len : Nat) (s : σ) (ptr : Nat)
    (win : Bytes) {n : Nat} (hw : win.length = n) (hn : 0 < n) (h : ptr + n ≤ len) :
    cmeasure c len s (ptr + n) (.inner win .noFlush) < cmeasure c len s ptr .outer := by
  have := window_pays (pot := c.pot s) (fun b => Nat.zero_add b ▸ c.pot_input s 0 b) h
  simp only [cmeasure, hw]
  omega

theorem cmeasure_outer_finish {σ} {o : DOracle σ} (c : DContract o) (len : Nat) (s : σ) (ptr ptr' : Nat)
    (win : Bytes) (h : win.length = len - ptr) :
    cmeasure c len s ptr' (.inner win .finish) < cmeasure c len s ptr .outer := by
  have h1 := Nat.zero_add _ ▸ c.pot_input s 0 win.length
  simp only [cmeasure, ← h, Nat.add_mul]
  omega

theorem cmeasure_inner_again {σ} {o : DOracle σ} (c : DContract o) (len : Nat) {s s' : σ} (ptr : Nat)
    {win : Bytes} (flush : Flush) {consumed produced : Nat}
    (hpot : c.pot s' (win.length - consumed) + produced ≤ c.pot s win.length) (hp : 0 < produced) :
    cmeasure c len s' ptr (.inner (win.drop consumed) flush) < cmeasure c len s ptr (.inner win flush) := by
  cases flush <;> simp only [cmeasure, List.length_drop] <;> omega

theorem cmeasure_inner_outer {σ} {o : DOracle σ} (c : DContract o) (len : Nat) {s s' : σ} (ptr : Nat)
    {win : Bytes} {consumed produced : Nat}
    (hpot : c.pot s' (win.length - consumed) + produced ≤ c.pot s win.length) :
    cmeasure c len s' ptr .outer < cmeasure c len s ptr (.inner win .noFlush) := by
  have := Nat.zero_add _ ▸ c.pot_mono s' 0 (win.length - consumed)
  simp only [cmeasure]
  omega

theorem CInv.again {σ} {o : DOracle σ} {c : DContract o} {len : Nat} {s : σ} {ptr : Nat} {win : Bytes}
    {flush : Flush} (hinv : CInv c len s ptr (.inner win flush)) (n : Nat) :
    CInv c len (o.step s win n flush).2.2.2 ptr (.inner (win.drop (o.step s win n flush).2.1) flush) := by
  cases flush with
  | noFlush => exact c.live_noFlush s win n hinv
  | finish =>
    refine ⟨?_, hinv.2⟩
    by_cases hlt : (o.step s win n .finish).2.1 < win.length
    · rcases hinv.1 with hl | rfl
      · exact Or.inl (c.live_finish s win n hl hlt)
      · exact absurd hlt (Nat.not_lt_zero _)
    · exact Or.inr (List.drop_eq_nil_iff.mpr (Nat.le_of_not_lt hlt))

/-- the record of the call `deflate(&strm, flush)` on window `win` from state `s` -/
def callOf {σ} (o : DOracle σ) (s : σ) (win : Bytes) (f : Flush) : DCall :=
  ⟨f, win.length, (o.step s win chunk f).2.1, (o.step s win chunk f).2.2.1, (o.step s win chunk f).1⟩

theorem cloop_inner {σ} (o : DOracle σ) (buf : Bytes) (fuel : Nat) (s : σ) (ptr : Nat) (win : Bytes)
    (f : Flush) (acc : Bytes) (log : List DCall) :
    cloop o buf (fuel + 1) s ptr (.inner win f) acc log
      = if (callOf o s win f).out.length = chunk then
          cloop o buf fuel (o.step s win chunk f).2.2.2 ptr (.inner (win.drop (callOf o s win f).consumed) f)
            (acc ++ (callOf o s win f).out) (callOf o s win f :: log)
        else if f = .finish then .ok (acc ++ (callOf o s win f).out, (callOf o s win f :: log).reverse)
        else cloop o buf fuel (o.step s win chunk f).2.2.2 ptr .outer (acc ++ (callOf o s win f).out)
          (callOf o s win f :: log) := by
  rw [cloop]; rfl

/-- `CRun o buf s ptr ph calls`: from position `(s, ptr, ph)` the loops make exactly `calls` and return.  One rule per
way through one unfolding of `cloop`: the head of the outer loop opens a full `Z_NO_FLUSH` window or the last,
`Z_FINISH`, window; a call that filled the output buffer is repeated on what it left of the window; one that did
not ends the run (`Z_FINISH`) or goes back to the outer loop. -/
inductive CRun {σ} (o : DOracle σ) (buf : Bytes) : σ → Nat → CPhase → List DCall → Prop
  | more {s ptr calls} : ptr + chunk < buf.length →
      CRun o buf s (ptr + chunk) (.inner ((buf.drop ptr).take chunk) .noFlush) calls → CRun o buf s ptr .outer calls
  | final {s ptr calls} : ¬ ptr + chunk < buf.length →
      CRun o buf s (ptr + (buf.length - ptr)) (.inner ((buf.drop ptr).take (buf.length - ptr)) .finish) calls →
      CRun o buf s ptr .outer calls
  | again {s ptr win f calls} : (callOf o s win f).out.length = chunk →
      CRun o buf (o.step s win chunk f).2.2.2 ptr (.inner (win.drop (callOf o s win f).consumed) f) calls →
      CRun o buf s ptr (.inner win f) (callOf o s win f :: calls)
  | last {s ptr win} : (callOf o s win .finish).out.length ≠ chunk →
      CRun o buf s ptr (.inner win .finish) [callOf o s win .finish]
  | back {s ptr win calls} : (callOf o s win .noFlush).out.length ≠ chunk →
      CRun o buf (o.step s win chunk .noFlush).2.2.2 ptr .outer calls →
      CRun o buf s ptr (.inner win .noFlush) (callOf o s win .noFlush :: calls)

/-- Control flow only: no contract is used. -/
theorem cloop_run {σ} (o : DOracle σ) (buf : Bytes) :
    ∀ (fuel : Nat) (s : σ) (ptr : Nat) (ph : CPhase) (acc : Bytes) (log : List DCall) (acc' : Bytes)
      (log' : List DCall), cloop o buf fuel s ptr ph acc log = .ok (acc', log') →
      ∃ calls, CRun o buf s ptr ph calls ∧ acc' = acc ++ calls.flatMap (·.out) ∧ log' = log.reverse ++ calls := by
  intro fuel
  induction fuel with
  | zero => intro s ptr ph acc log acc' log' h; cases ph <;> cases h
  | succ fuel ih =>
    intro s ptr ph acc log acc' log' h
    have cons : ∀ {d : DCall} {calls}, acc' = acc ++ d.out ++ calls.flatMap (·.out) ∧
        log' = (d :: log).reverse ++ calls →
        acc' = acc ++ (d :: calls).flatMap (·.out) ∧ log' = log.reverse ++ d :: calls :=
      fun h => ⟨by rw [h.1, List.flatMap_cons, List.append_assoc],
        by rw [h.2, List.reverse_cons, List.append_assoc]; rfl⟩
    cases ph with
    | outer =>
      simp only [cloop] at h
      obtain ⟨calls, hr, ha⟩ := ih _ _ _ _ _ _ _ h
      by_cases hmore : ptr + chunk < buf.length
      · exact ⟨calls, .more hmore (by simpa only [hmore, decide_true, if_true] using hr), ha⟩
      · exact ⟨calls, .final hmore (by simpa only [hmore, decide_false, if_false, Bool.false_eq_true] using hr), ha⟩
    | inner win f =>
      rw [cloop_inner] at h
      by_cases hfull : (callOf o s win f).out.length = chunk
      · rw [if_pos hfull] at h
        obtain ⟨calls, hr, ha⟩ := ih _ _ _ _ _ _ _ h
        exact ⟨_, .again hfull hr, cons ha⟩
      · rw [if_neg hfull] at h
        cases f with
        | finish =>
          cases h
          exact ⟨_, .last hfull, cons (calls := []) ⟨(List.append_nil _).symm, (List.append_nil _).symm⟩⟩
        | noFlush =>
          rw [if_neg (by decide)] at h
          obtain ⟨calls, hr, ha⟩ := ih _ _ _ _ _ _ _ h
          exact ⟨_, .back hfull hr, cons ha⟩

/-- The output equation needs neither the contract nor a fuel bound. -/
theorem compress_run {σ} {o : DOracle σ} {s0 : σ} {fuel : Nat} {buf blob : Bytes} {log : List DCall}
    (h : compress o s0 fuel buf = .ok (blob, log)) :
    buf ≠ [] ∧ blob = lenPrefix buf.length ++ log.flatMap (·.out) ∧ CRun o buf s0 0 .outer log := by
  unfold compress at h
  split at h
  · cases h
  · rename_i hne
    cases hc : cloop o buf fuel s0 0 .outer [] [] with
    | ok p =>
      rw [hc] at h
      cases h
      obtain ⟨calls, hr, ha, hl⟩ := cloop_run o buf fuel s0 0 .outer [] [] _ _ hc
      cases hl
      exact ⟨fun e => hne (e ▸ rfl), by rw [ha]; rfl, hr⟩
    | throw e => rw [hc] at h; cases h
    | ub u => rw [hc] at h; cases h

/-- What the contract adds along a run: the calls consume the rest of the current window and of the buffer, and the
last one is a `Z_FINISH` call answering `Z_STREAM_END`. -/
theorem CRun.finishes {σ} {o : DOracle σ} (c : DContract o) {buf : Bytes} {s : σ} {ptr : Nat} {ph : CPhase}
    {calls : List DCall} (h : CRun o buf s ptr ph calls) (hp : ptr ≤ buf.length)
    (hinv : CInv c buf.length s ptr ph) :
    (calls.map (·.consumed)).sum = winLen ph + (buf.length - ptr) ∧
      ∃ d, calls.getLast? = some d ∧ d.flush = .finish ∧ d.ret = .streamEnd := by
  induction h with
  | more hmore _ ih =>
    have := ih (Nat.le_of_lt hmore) hinv
    rw [winLen, window_length buf (Nat.le_sub_of_add_le' (Nat.le_of_lt hmore))] at this
    exact ⟨by rw [this.1, winLen]; omega, this.2⟩
  | final hmore _ ih =>
    have := ih (Nat.le_of_eq (Nat.add_sub_cancel' hp)) ⟨Or.inl hinv, Nat.add_sub_cancel' hp⟩
    rw [winLen, window_length buf (Nat.le_refl _)] at this
    exact ⟨by rw [this.1, winLen]; omega, this.2⟩
  | @again s ptr win f calls hfull _ ih =>
    obtain ⟨h1, d, hd, hfd⟩ := ih hp (hinv.again chunk)
    have hc := (c.step_ok s win chunk f).1
    refine ⟨?_, d, by rw [List.getLast?_cons, hd]; rfl, hfd⟩
    simp only [List.map_cons, List.sum_cons, h1, winLen, List.length_drop, callOf]
    omega
  | @last s ptr win hfull =>
    obtain ⟨hc, ho, -⟩ := c.step_ok s win chunk .finish
    have hlt := Nat.lt_of_le_of_ne ho hfull
    refine ⟨?_, _, rfl, rfl, c.finish_end s win chunk hinv.1 hlt⟩
    rw [List.map_cons, List.map_nil, List.sum_cons, List.sum_nil, winLen, hinv.2, Nat.sub_self]
    rcases hinv.1 with hl | rfl
    · exact c.consume_all _ _ _ _ hl hlt
    · exact Nat.le_zero.mp hc
  | @back s ptr win calls hfull _ ih =>
    have hlt := Nat.lt_of_le_of_ne (c.step_ok s win chunk .noFlush).2.1 hfull
    obtain ⟨h1, d, hd, hfd⟩ := ih hp (c.live_noFlush s win chunk hinv)
    refine ⟨?_, d, by rw [List.getLast?_cons, hd]; rfl, hfd⟩
    simp only [List.map_cons, List.sum_cons, h1, winLen, Nat.zero_add, callOf,
      c.consume_all s win chunk .noFlush hinv hlt]

theorem compress_run_finishes {σ} {o : DOracle σ} (c : DContract o) {s0 : σ} (hs0 : c.live s0) {fuel : Nat}
    {buf blob : Bytes} {log : List DCall} (h : compress o s0 fuel buf = .ok (blob, log)) :
    (log.map (·.consumed)).sum = buf.length ∧
      ∃ d, log.getLast? = some d ∧ d.flush = .finish ∧ d.ret = .streamEnd := by
  simpa only [winLen, Nat.zero_add, Nat.sub_zero] using (compress_run h).2.2.finishes c (Nat.zero_le _) hs0

/-- Termination rests on the potential alone (`pot_mono`, `pot_input`, `step_ok`). -/
theorem cloop_returns {σ} (o : DOracle σ) (c : DContract o) (buf : Bytes) :
    ∀ (fuel : Nat) (s : σ) (ptr : Nat) (ph : CPhase) (acc : Bytes) (log : List DCall),
      cmeasure c buf.length s ptr ph ≤ fuel → ∃ r, cloop o buf fuel s ptr ph acc log = .ok r := by
  intro fuel
  induction fuel with
  | zero =>
    intro s ptr ph acc log hm
    cases ph with
    | outer => cases hm
    | inner win f => cases f <;> cases hm
  | succ fuel ih =>
    intro s ptr ph acc log hm
    have hchunk : 0 < chunk := by decide
    have dec : ∀ {m}, m < cmeasure c buf.length s ptr ph → m ≤ fuel :=
      fun h => Nat.le_of_lt_succ (Nat.lt_of_lt_of_le h hm)
    cases ph with
    | outer =>
      simp only [cloop]
      by_cases hmore : ptr + chunk < buf.length
      · simp only [hmore, decide_true, if_true]
        exact ih _ _ _ _ _ (dec (cmeasure_outer_noFlush c buf.length s ptr _
          (window_length buf (Nat.le_sub_of_add_le' (Nat.le_of_lt hmore))) hchunk (Nat.le_of_lt hmore)))
      · simp only [hmore, decide_false, if_false, Bool.false_eq_true]
        exact ih _ _ _ _ _ (dec (cmeasure_outer_finish c buf.length s ptr _ _ (window_length buf (Nat.le_refl _))))
    | inner win f =>
      rw [cloop_inner]
      have hpot := (c.step_ok s win chunk f).2.2
      by_cases hfull : (callOf o s win f).out.length = chunk
      · rw [if_pos hfull]
        exact ih _ _ _ _ _ (dec (cmeasure_inner_again c buf.length ptr f hpot (Nat.lt_of_lt_of_eq hchunk hfull.symm)))
      · rw [if_neg hfull]
        cases f with
        | finish => exact ⟨_, rfl⟩
        | noFlush =>
          rw [if_neg (by decide)]
          exact ih _ _ _ _ _ (dec (cmeasure_inner_outer c buf.length ptr hpot))

/-- `cmeasure` at the start of the outer loop: linear in the payload length. -/
def cFuelBound {σ} {o : DOracle σ} (c : DContract o) (s0 : σ) (n : Nat) : Nat :=
  c.pot s0 0 + (c.ratio + 3) * n + 2

theorem compress_ok {σ} (o : DOracle σ) (c : DContract o) (s0 : σ) (hs0 : c.live s0)
    (buf : Bytes) (hne : buf ≠ []) (fuel : Nat) (hf : cFuelBound c s0 buf.length ≤ fuel) :
    ∃ blob log, compress o s0 fuel buf = .ok (blob, log) := by
  obtain ⟨⟨acc, log⟩, hr⟩ := cloop_returns o c buf fuel s0 0 .outer [] [] (by simpa [cmeasure, cFuelBound] using hf)
  unfold compress
  rw [if_neg (by simpa [List.length_eq_zero_iff] using hne), hr]
  exact ⟨_, _, rfl⟩

theorem compress_complete {σ} (o : DOracle σ) (c : DContract o) (s0 : σ) (hs0 : c.live s0)
    (buf : Bytes) (hne : buf ≠ []) (fuel : Nat) (hf : cFuelBound c s0 buf.length ≤ fuel) :
    ∃ blob log, compress o s0 fuel buf = .ok (blob, log) ∧
      blob = lenPrefix buf.length ++ log.flatMap (·.out) ∧
      (log.map (·.consumed)).sum = buf.length ∧
      ∃ d, log.getLast? = some d ∧ d.flush = .finish ∧ d.ret = .streamEnd := by
  obtain ⟨blob, log, h⟩ := compress_ok o c s0 hs0 buf hne fuel hf
  exact ⟨blob, log, h, (compress_run h).2.1, compress_run_finishes c hs0 h⟩

theorem compress_output {σ} (o : DOracle σ) (c : DContract o) (s0 : σ) (hs0 : c.live s0)
    (buf : Bytes) (hne : buf ≠ []) (fuel : Nat) (hf : cFuelBound c s0 buf.length ≤ fuel)
    (blob : Bytes) (log : List DCall) (h : compress o s0 fuel buf = .ok (blob, log)) :
    blob = lenPrefix buf.length ++ log.flatMap (·.out) := (compress_run h).2.1

theorem compress_consumed {σ} (o : DOracle σ) (c : DContract o) (s0 : σ) (hs0 : c.live s0)
    (buf : Bytes) (hne : buf ≠ []) (fuel : Nat) (hf : cFuelBound c s0 buf.length ≤ fuel)
    (blob : Bytes) (log : List DCall) (h : compress o s0 fuel buf = .ok (blob, log)) :
    (log.map (·.consumed)).sum = buf.length := (compress_run_finishes c hs0 h).1

theorem compress_finished {σ} (o : DOracle σ) (c : DContract o) (s0 : σ) (hs0 : c.live s0)
    (buf : Bytes) (hne : buf ≠ []) (fuel : Nat) (hf : cFuelBound c s0 buf.length ≤ fuel)
    (blob : Bytes) (log : List DCall) (h : compress o s0 fuel buf = .ok (blob, log)) :
    ∃ d, log.getLast? = some d ∧ d.flush = .finish ∧ d.ret = .streamEnd := (compress_run_finishes c hs0 h).2

/-- The empty payload: `&uncompressed[0]` on an empty vector (see `compress`). -/
theorem compress_empty {σ} (o : DOracle σ) (s0 : σ) (fuel : Nat) : compress o s0 fuel [] = .ub .oob_index := rfl

/-- A stored-like pass-through stream: it buffers nothing, every call copies as
much of the window as fits into the output buffer, and a `Z_FINISH` call
answers `Z_STREAM_END` exactly when it empties the window with room to spare. -/
def storeOracle : DOracle Unit where
  step _ win n f :=
    (if f = .finish ∧ win.length < n then .streamEnd else .ok,
     min win.length n, win.take (min win.length n), ())

def storeContract : DContract storeOracle where
  live _ := True
  pot _ a := a
  ratio := 1
  pot_mono := by intros; omega
  pot_input := by intros; omega
  step_ok := by
    intro s win n f
    simp only [storeOracle, List.length_take]
    omega
  consume_all := by
    intro s win n f _ h
    simp only [storeOracle, List.length_take] at h ⊢
    omega
  finish_end := by
    intro s win n _ h
    simp only [storeOracle, List.length_take] at h ⊢
    have : win.length < n := by omega
    simp only [this, and_self, if_true]
  live_noFlush := by intros; trivial
  live_finish := by intros; trivial

example : cFuelBound storeContract () 100000 = 400002 := by decide

/-- The theorems above instantiated: compressing through the pass-through
stream with the explicit fuel always succeeds and ends the stream. -/
example (buf : Bytes) (hne : buf ≠ []) :
    ∃ blob log, compress storeOracle () (4 * buf.length + 2) buf = .ok (blob, log) ∧
      blob = lenPrefix buf.length ++ log.flatMap (·.out) ∧
      (log.map (·.consumed)).sum = buf.length ∧
      ∃ d, log.getLast? = some d ∧ d.flush = .finish ∧ d.ret = .streamEnd :=
  compress_complete storeOracle storeContract () trivial buf hne _
    (by simp only [cFuelBound, storeContract]; omega)

/-- `cloop` with the inner loop repeating `while (strm.avail_in != 0)` — i.e.
iff the call left input behind — instead of `while (strm.avail_out == 0)`. -/
def cloopBad {σ} (o : DOracle σ) (buf : Bytes) :
    Nat → σ → Nat → CPhase → Bytes → List DCall → Res (Bytes × List DCall)
  | 0, _, _, _, _, _ => .ub .nontermination
  | fuel + 1, s, ptr, .outer, acc, log =>
    let more := decide (ptr + chunk < buf.length)
    let avail := if more then chunk else buf.length - ptr
    let flush := if more then Flush.noFlush else Flush.finish
    cloopBad o buf fuel s (ptr + avail) (.inner ((buf.drop ptr).take avail) flush) acc log
  | fuel + 1, s, ptr, .inner win flush, acc, log =>
    match o.step s win chunk flush with
    | (ret, consumed, out, s') =>
      let acc' := acc ++ out
      let log' := (⟨flush, win.length, consumed, out, ret⟩ : DCall) :: log
      if consumed < win.length then cloopBad o buf fuel s' ptr (.inner (win.drop consumed) flush) acc' log'   -- avail_in != 0
      else if flush = .finish then .ok (acc', log'.reverse)
      else cloopBad o buf fuel s' ptr .outer acc' log'

/-- With the `avail_in` condition the loops can stop before the stream is
finished, for an oracle that honours the whole contract (`storeContract`): on a
payload of exactly one chunk the single `Z_FINISH` call takes all input and
fills the output buffer, so it answers `Z_OK` (the end of the stream is still
pending) — and the changed loop leaves, never asking for the rest. -/
theorem compress_avail_in_condition_counterexample (fuel : Nat) :
    ∃ d, cloopBad storeOracle (List.replicate chunk 0) (fuel + 2) () 0 .outer [] []
        = .ok (List.replicate chunk 0, [d]) ∧
      d.flush = .finish ∧ d.consumed = chunk ∧ d.ret = .ok ∧ d.ret ≠ .streamEnd := by
  refine ⟨⟨.finish, chunk, chunk, List.replicate chunk 0, .ok⟩, ?_, rfl, rfl, rfl, by decide⟩
  simp [cloopBad, storeOracle]

/-- State of `bufOracle`: the bytes taken in and not yet written out, and
whether a `Z_FINISH` call has been made (zlib's `FINISH_STATE`). -/
structure BufState where
  pending : Bytes
  fin : Bool

/-- A buffering pass-through stream: `Z_NO_FLUSH` calls take the whole window
and write nothing; a `Z_FINISH` call takes the whole window and writes as much
of the buffered data as fits, answering `Z_STREAM_END` when it all fitted with
room to spare.  Like zlib, a finished stream refuses further input
(`Z_BUF_ERROR`) and non-`Z_FINISH` calls (`Z_STREAM_ERROR`), consuming and
producing nothing. -/
def bufOracle : DOracle BufState where
  step s win n f :=
    if s.fin = true ∧ (win ≠ [] ∨ f = .noFlush) then
      (if f = .noFlush then .streamError else .bufError, 0, [], s)
    else match f with
      | .noFlush => (.ok, win.length, [], ⟨s.pending ++ win, false⟩)
      | .finish =>
        (if (s.pending ++ win).length < n then .streamEnd else .ok, win.length,
         (s.pending ++ win).take n, ⟨(s.pending ++ win).drop n, true⟩)

def bufContract : DContract bufOracle where
  live s := s.fin = false
  pot s a := s.pending.length + a
  ratio := 1
  pot_mono := by intros; omega
  pot_input := by intros; omega
  step_ok := by
    intro s win n f
    unfold bufOracle
    dsimp only
    split
    · simp
    · cases f <;> simp <;> omega
  consume_all := by
    intro s win n f hl h
    unfold bufOracle at h ⊢
    dsimp only at h ⊢
    simp only [hl, Bool.false_eq_true, false_and, if_false] at h ⊢
    cases f <;> rfl
  finish_end := by
    intro s win n hl h
    unfold bufOracle at h ⊢
    dsimp only at h ⊢
    have hc : ¬ (s.fin = true ∧ (win ≠ [] ∨ Flush.finish = Flush.noFlush)) := by
      rcases hl with hl | hl
      · simp [hl]
      · simp [hl]
    simp only [hc, if_false, List.length_take] at h ⊢
    have : (s.pending ++ win).length < n := by omega
    simp only [this, if_true]
  live_noFlush := by
    intro s win n hl
    unfold bufOracle
    dsimp only
    simp only [hl, Bool.false_eq_true, false_and, if_false]
  live_finish := by
    intro s win n hl h
    unfold bufOracle at h
    dsimp only at h
    simp only [hl, Bool.false_eq_true, false_and, if_false] at h
    omega

theorem cloopBad_outer {σ} (o : DOracle σ) (buf : Bytes) (fuel : Nat) (s : σ) (ptr : Nat) (acc : Bytes)
    (log : List DCall) (avail : Nat) (flush : Flush)
    (h : (if ptr + chunk < buf.length then (chunk, Flush.noFlush) else (buf.length - ptr, Flush.finish))
      = (avail, flush)) :
    cloopBad o buf (fuel + 1) s ptr .outer acc log
      = cloopBad o buf fuel s (ptr + avail) (.inner ((buf.drop ptr).take avail) flush) acc log := by
  simp only [cloopBad]
  split at h <;> cases h <;> simp only [*, decide_true, decide_false, if_true, if_false, Bool.false_eq_true]

theorem cloopBad_inner {σ} (o : DOracle σ) (buf : Bytes) (fuel : Nat) (s : σ) (ptr : Nat) (win : Bytes)
    (flush : Flush) (acc : Bytes) (log : List DCall) {ret consumed out s'}
    (h : o.step s win chunk flush = (ret, consumed, out, s')) :
    cloopBad o buf (fuel + 1) s ptr (.inner win flush) acc log
      = if consumed < win.length then
          cloopBad o buf fuel s' ptr (.inner (win.drop consumed) flush) (acc ++ out)
            (⟨flush, win.length, consumed, out, ret⟩ :: log)
        else if flush = .finish then .ok (acc ++ out, (⟨flush, win.length, consumed, out, ret⟩ :: log).reverse)
        else cloopBad o buf fuel s' ptr .outer (acc ++ out) (⟨flush, win.length, consumed, out, ret⟩ :: log) := by
  rw [cloopBad, h]

/-- With the `avail_in` condition and the buffering stream (which honours the
whole contract, `bufContract`), any payload of one chunk plus one byte: the
`Z_NO_FLUSH` call buffers the first chunk; the `Z_FINISH` call takes its one
input byte, fills the output buffer with the `chunk` buffered bytes and answers
`Z_OK`; neither call left input behind, so the changed loop leaves. -/
theorem cloopBad_bufOracle_chunk_succ (buf : Bytes) (hlen : buf.length = chunk + 1) (fuel : Nat) :
    cloopBad bufOracle buf (fuel + 4) ⟨[], false⟩ 0 .outer [] []
      = .ok (buf.take chunk, [⟨.noFlush, chunk, chunk, [], .ok⟩, ⟨.finish, 1, 1, buf.take chunk, .ok⟩]) := by
  have h0 : 0 < chunk := by decide
  have hw : (buf.take chunk).length = chunk := by rw [List.length_take, hlen]; omega
  have hw2 : ((buf.drop chunk).take 1).length = 1 := window_length buf (by omega)
  have hl : buf.length - (0 + chunk) = 1 := by omega
  rw [cloopBad_outer _ _ _ _ _ _ _ chunk .noFlush (by rw [if_pos (by omega)]),
    cloopBad_inner (h := show bufOracle.step ⟨[], false⟩ _ chunk .noFlush = (.ok, _, [], _) from rfl),
    if_neg (Nat.lt_irrefl _), if_neg (by decide),
    cloopBad_outer _ _ _ _ _ _ _ 1 .finish (by rw [if_neg (by omega), hl]),
    cloopBad_inner (h := show bufOracle.step ⟨_, false⟩ _ chunk .finish = (_, _, _, _) from rfl),
    if_neg (Nat.lt_irrefl _), if_pos rfl]
  simp only [List.drop_zero, Nat.zero_add, List.nil_append, List.append_nil, List.length_append, hw, hw2,
    List.take_left' hw, List.reverse_cons, List.reverse_nil, List.singleton_append,
    if_neg (Nat.not_lt.mpr (Nat.le_add_right chunk 1))]

/-- For contrast: the unchanged loops on the same stream and payload finish. -/
example (fuel : Nat) (hf : cFuelBound bufContract ⟨[], false⟩ (chunk + 1) ≤ fuel) :
    ∃ blob log, compress bufOracle ⟨[], false⟩ fuel (List.replicate (chunk + 1) 0) = .ok (blob, log) ∧
      blob = lenPrefix (chunk + 1) ++ log.flatMap (·.out) ∧
      (log.map (·.consumed)).sum = chunk + 1 ∧
      ∃ d, log.getLast? = some d ∧ d.flush = .finish ∧ d.ret = .streamEnd := by
  have := compress_complete bufOracle bufContract ⟨[], false⟩ rfl (List.replicate (chunk + 1) 0)
    (List.ne_nil_of_length_pos (List.length_replicate ▸ Nat.succ_pos _)) fuel (by rwa [List.length_replicate])
  rwa [List.length_replicate] at this

end EngineModel.Impl.Zlib
