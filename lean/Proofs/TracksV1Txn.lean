/-
C01 1.x, database level at statement granularity: the value-level `dbCreate` / `dbUpdate` of
Accessors.lean are the fault-free run of the statement sequence of Txn.lean; a run that raises — a
statement failing by itself or a fault injected at any position — leaves the committed database as it was.
-/
import EngineModel.TracksV1.Txn
import Proofs.TracksV1Table
import Proofs.TracksV1AcceptHist
import Proofs.Stmts

namespace EngineModel.TracksV1

open Impl.V1 (GMarker HotCue LoopV Entry Wave Beat Cues Loops)
open Fl (FOps)
open Spec.Txn


theorem modRows_some (d : Db) (id : Int) (g : TrackRows → Option TrackRows) (r : TrackRows) (hr : d.rows id = some r) :
    modRows d id g = (g r).map fun r' => { d with tracks := aset id r' d.tracks } := by
  unfold modRows; rw [hr]

theorem modRows_none (d : Db) (id : Int) (g : TrackRows → Option TrackRows) (hr : d.rows id = none) :
    modRows d id g = none := by
  unfold modRows; rw [hr]

/-- The rows that the four statements leave for the track, when the encoders succeed. -/
def finalRows (s : Schema) (x : Snap) (prior : Option TrackRows) (pr : Prep) (c : Beat × Cues × Loops) : TrackRows :=
  assemble s x prior pr.path pr.lenCalc pr.bpmI pr.ovw pr.hires c.1 c.2.1 c.2.2

theorem modRows_fresh (s : Schema) (l : List (Int × TrackRows)) (id : Int) (r : TrackRows)
    (g : TrackRows → Option TrackRows) (h : aget id l = none) :
    modRows ⟨s, l ++ [(id, r)]⟩ id g = (g r).map fun r' => ⟨s, l ++ [(id, r')]⟩ := by
  have hr : (Db.mk s (l ++ [(id, r)])).rows id = some r := aget_append_fresh _ _ _ h
  rw [modRows_some _ _ _ r hr]
  simp only [aset_append_fresh _ _ _ _ h]

theorem modRows_aset (s : Schema) (l : List (Int × TrackRows)) (id : Int) (r : TrackRows)
    (g : TrackRows → Option TrackRows) :
    modRows ⟨s, aset id r l⟩ id g = (g r).map fun r' => ⟨s, aset id r' l⟩ := by
  have hr : (Db.mk s (aset id r l)).rows id = some r := aget_aset_same _ _ _
  rw [modRows_some _ _ _ r hr]
  simp only [aset_aset]

theorem applyAll_create (o : FOps) (d : Db) (x : Snap) (pr : Prep) (id : Int) (hfresh : aget id d.tracks = none) :
    applyAll (writesOf (writeCmds o d.schema x pr id false)) d =
      if pathTaken d id pr.path = true then none else
      match perfCols o x pr with
      | .ok c => some { d with tracks := d.tracks ++ [(id, finalRows d.schema x none pr c)] }
      | _ => none := by
  simp only [writeCmds, writesOf, applyAll, Bool.false_eq_true, if_false]
  unfold stTrackInsert
  by_cases hpt : pathTaken d id pr.path = true
  · simp [hpt]
  · simp only [hpt, Bool.false_eq_true, if_false, Option.bind_some]
    unfold stMeta
    simp only
    rw [modRows_fresh _ _ _ _ _ hfresh]
    simp only [Option.map_some, Option.bind_some]
    unfold stMetaInt
    simp only
    rw [modRows_fresh _ _ _ _ _ hfresh]
    simp only [Option.map_some, Option.bind_some]
    unfold stPerf
    rw [modRows_fresh _ _ _ _ _ hfresh]
    cases hc : perfCols o x pr with
    | ok c => simp only [Option.map_some, Option.bind_some]; rfl
    | throw e => rfl
    | ub u => rfl

theorem applyAll_update (o : FOps) (d : Db) (x : Snap) (pr : Prep) (id : Int) :
    applyAll (writesOf (writeCmds o d.schema x pr id true)) d =
      if pathTaken d id pr.path = true then none else
      match d.rows id with
      | none => none
      | some prior =>
        match perfCols o x pr with
        | .ok c => some { d with tracks := aset id (finalRows d.schema x (some prior) pr c) d.tracks }
        | _ => none := by
  simp only [writeCmds, writesOf, applyAll, if_true]
  unfold stTrackUpdate
  by_cases hpt : pathTaken d id pr.path = true
  · simp [hpt]
  · simp only [hpt, Bool.false_eq_true, if_false]
    cases hr : d.rows id with
    | none => rw [modRows_none _ _ _ hr]; rfl
    | some prior =>
      rw [modRows_some _ _ _ _ hr]
      simp only [Option.map_some, Option.bind_some]
      unfold stMeta
      simp only
      rw [modRows_aset]
      simp only [Option.map_some, Option.bind_some]
      unfold stMetaInt
      simp only
      rw [modRows_aset]
      simp only [Option.map_some, Option.bind_some]
      unfold stPerf
      rw [modRows_aset]
      cases hc : perfCols o x pr with
      | ok c => simp only [Option.map_some, Option.bind_some]; rfl
      | throw e => rfl
      | ub u => rfl

theorem finalRows_path (s : Schema) (x : Snap) (prior : Option TrackRows) (pr : Prep) (c : Beat × Cues × Loops) :
    (finalRows s x prior pr c).track.path.getD [] = pr.path := rfl

/-- The four writes succeed exactly when the value-level call returns normally, with the same database; they
fail exactly when it throws. -/
theorem commitRows_statements {β} (o : FOps) (d : Db) (id : Int) (x : Snap) (pr : Prep) (s : Schema)
    (prior : Option TrackRows) (g : TrackRows → Db) (K : Db → β) (hK : ∀ a b, K a = K b → a = b)
    (h : prepare o x = .ok pr) :
    (∀ d', (if pathTaken d id pr.path = true then none else
        match perfCols o x pr with
        | .ok c => some (g (finalRows s x prior pr c))
        | _ => none) = some d' ↔
      commitRows d id x (fun rows => K (g rows)) (writeSnap o s x prior) = .ok (K d')) ∧
    ((if pathTaken d id pr.path = true then none else
        match perfCols o x pr with
        | .ok c => some (g (finalRows s x prior pr c))
        | _ => none) = none ↔
      ∃ e, commitRows d id x (fun rows => K (g rows)) (writeSnap o s x prior) = .throw e) := by
  have hpath := prepare_path o x pr h
  rw [writeSnap_eq, h]
  simp only [Res.bind]
  cases hc : perfCols o x pr with
  | ub u => exact absurd hc (perfCols_defined o x pr u)
  | ok c =>
    simp only [commitRows]
    change _ ∧ _
    rw [show ((assemble s x prior pr.path pr.lenCalc pr.bpmI pr.ovw pr.hires c.1 c.2.1 c.2.2).track.path.getD []) =
      pr.path from rfl]
    by_cases hpt : pathTaken d id pr.path = true
    · simp [hpt]
    · simp only [hpt, Bool.false_eq_true, if_false]
      constructor
      · intro d'
        constructor
        · intro hh; cases hh; rfl
        · intro hh; exact congrArg some (hK _ _ (Res.ok.inj hh))
      · constructor
        · intro hh; cases hh
        · intro ⟨e, he⟩; cases he
  | throw e =>
    simp only [commitRows, hpath]
    constructor
    · intro d'
      constructor
      · intro hh; split at hh <;> cases hh
      · intro hh
        split at hh
        · cases hh
        · split at hh <;> cases hh
    · constructor
      · intro _
        split
        · exact ⟨_, rfl⟩
        · split <;> exact ⟨_, rfl⟩
      · intro _; split <;> rfl

theorem dbCreate_statements (o : FOps) (d : Db) (x : Snap) (pr : Prep) (h : prepare o x = .ok pr) :
    (∀ d', applyAll (writesOf (writeCmds o d.schema x pr (nextId d) false)) d = some d' ↔
      dbCreate o d x = .ok (d', nextId d)) ∧
    (applyAll (writesOf (writeCmds o d.schema x pr (nextId d) false)) d = none ↔ ∃ e, dbCreate o d x = .throw e) := by
  rw [applyAll_create o d x pr (nextId d) (aget_nextId d), dbCreate_commit]
  exact commitRows_statements o d (nextId d) x pr d.schema none
    (fun rows => { d with tracks := d.tracks ++ [(nextId d, rows)] }) (fun d' => (d', nextId d))
    (fun a b e => congrArg Prod.fst e) h

theorem dbUpdate_statements (o : FOps) (d : Db) (id : Int) (x : Snap) (pr : Prep) (h : prepare o x = .ok pr) :
    (∀ d', applyAll (writesOf (writeCmds o d.schema x pr id true)) d = some d' ↔ dbUpdate o d id x = .ok d') ∧
    (applyAll (writesOf (writeCmds o d.schema x pr id true)) d = none ↔ ∃ e, dbUpdate o d id x = .throw e) := by
  rw [applyAll_update o d x pr id]
  cases hr : d.rows id with
  | none =>
    obtain ⟨e, he⟩ := dbUpdate_absent o d id x hr
    rw [he]
    simp only [ite_self]
    exact ⟨fun d' => ⟨nofun, nofun⟩, fun _ => ⟨e, rfl⟩, fun _ => trivial⟩
  | some prior =>
    rw [dbUpdate_commit o d id x prior hr]
    exact commitRows_statements o d id x pr d.schema (some prior)
      (fun rows => { d with tracks := aset id rows d.tracks }) (fun d' => d') (fun a b e => e) h

theorem writeCmds_shape (o : FOps) (s : Schema) (x : Snap) (pr : Prep) (id : Int) (upd : Bool) :
    atomicShape ((writeCmds o s x pr id upd).map Cmd.kind) = true := by
  simp only [writeCmds, List.map, Cmd.kind]
  decide

/-- **All or nothing for the statement run of `create_track` (`upd = false`) / `update` (`upd = true`)**, at any
fault position: stated against whatever the four writes in sequence were shown to be (`R`: they yield `d'`, `T`:
one of them fails), which `dbCreate_statements` / `dbUpdate_statements` identify with the value-level call. -/
theorem txn_outcome (o : FOps) (d : Db) (x : Snap) (pr : Prep) (id : Int) (upd : Bool) (fault : Option Nat) (auto : Bool)
    {R : Db → Prop} {T : Prop}
    (hst : (∀ d', applyAll (writesOf (writeCmds o d.schema x pr id upd)) d = some d' ↔ R d') ∧
      (applyAll (writesOf (writeCmds o d.schema x pr id upd)) d = none ↔ T)) :
    let out := call fault auto (writeCmds o d.schema x pr id upd) d
    (out.raised = true → out.conn = Conn.idle d) ∧
    (out.raised = false → out.conn.working = none ∧ R out.conn.committed) ∧
    (fault = none → (out.raised = true ↔ T)) := by
  intro out
  -- `writeCmds` is, by unfolding, `Stmts.txn` of its four writes
  obtain ⟨h1, h2, h3, _⟩ := EngineModel.Proofs.Stmts.form_outcome true auto fault
    (List.map Cmd.write (writesOf (writeCmds o d.schema x pr id upd))) (fun _ h => by
      obtain ⟨_, _, rfl⟩ := List.mem_map.1 h; rfl) nofun d
  refine ⟨h1, fun hr => ?_, fun hf => (h3 hf).trans hst.2⟩
  obtain ⟨d', hd, hc⟩ := h2 hr
  exact ⟨congrArg Conn.working hc, (hst.1 _).mp (hd.trans (congrArg (some ∘ Conn.committed) hc).symm)⟩

end EngineModel.TracksV1
