/-
The schema-1.x storage bindings REGENERATED from the working tree of /repo
(`Gen/BindingsV1.lean`, tools/tr_v1bindings.py) are aligned, and equal to the tables the hand
model uses (`TracksV1/Bindings.lean`).  Everything here is decided by the kernel on the regenerated
data (`aligned`, at the end): a transposed operand, a getter reading the neighbouring enumerator, a
swapped SELECT column or a changed enumerator value in the source makes this file fail to build.

"Resolution" composes the chain the C++ goes through:
   `?` of the SQL text  →  operand of the `<<` chain (parameter by INDEX)  →  argument of the call in
   engine_track_impl.cpp  →  snapshot member / helper result / constant.
Parameter and lambda-parameter NAMES are never looked at.
-/
import EngineModel.Gen.BindingsV1
import EngineModel.TracksV1.Bindings

namespace EngineModel.Proofs.BindingsV1
open EngineModel EngineModel.TracksV1 EngineModel.TracksV1.Bind

abbrev Locals := List (String × String × List String × Option Int)
abbrev Consts := List (String × Option Int)

def resolveSrc (locals : Locals) (consts : Consts) : Src → Option RVal
  | .id => some .id
  | .snap m => some (.snap m)
  | .loc n mem =>
    (locals.lookup n).map fun e =>
      match e.2.2, mem with
      | some v, none => .const (some v)
      | _, _ => .derived e.1 mem e.2.1
  | .const n => (consts.lookup n).map .const

def resolveOpnd (args : List Src) (locals : Locals) (consts : Consts) : Opnd → Option RVal
  | .param i _ => (args[i]?).bind (resolveSrc locals consts)
  | .encode i _ => (args[i]?).bind (resolveSrc locals consts)
  | .localNull _ => some (.const none)
  | .null => some (.const none)
  | .text t => some (.text t)
  | .int n => some (.const (some n))
  | _ => none

def enumVal : Opnd → Option Int
  | .enumStr e => Gen.BindingsV1.strEnum.lookup e
  | .enumInt e => Gen.BindingsV1.intEnum.lookup e
  | _ => none

def optAll {α β} (f : α → Option β) : List α → Option (List β)
  | [] => some []
  | a :: l => match f a, optAll f l with
    | some b, some r => some (b :: r)
    | _, _ => none

/-- one bulk statement: every tuple is `(the track id, an enumerator, a value)` → `(type number, value source)` -/
def bulkResolved (args : List Src) (locals : Locals) (rows : List (Opnd × Opnd × Opnd)) : Option (List (Int × RVal)) :=
  optAll (fun row =>
    match resolveOpnd args locals Gen.BindingsV1.constants row.1, enumVal row.2.1,
          resolveOpnd args locals Gen.BindingsV1.constants row.2.2 with
    | some .id, some n, some v => some (n, v)
    | _, _, _ => none) rows

/-- a single-row statement: `(column, value source)` -/
def rowResolved (args : List Src) (locals : Locals) (row : List (String × Opnd)) : Option (List (String × RVal)) :=
  optAll (fun cv => (resolveOpnd args locals Gen.BindingsV1.constants cv.2).map fun v => (cv.1, v)) row

def sameSet {α} [DecidableEq α] (a b : List α) : Bool :=
  a.length == b.length && a.all (fun x => b.contains x) && b.all (fun x => a.contains x)

def forS {α} (tbl : List (String × α)) (s : Schema) : Option α := tbl.lookup s.name

def bulkStrOk (s : Schema) : Bool :=
  ((forS Gen.BindingsV1.metaBulk s).bind
      (bulkResolved Gen.BindingsV1.createTrackMetaArgs Gen.BindingsV1.createTrackLocals) == some (bulkStr s)) &&
  ((forS Gen.BindingsV1.metaBulk s).bind
      (bulkResolved Gen.BindingsV1.updateMetaArgs Gen.BindingsV1.updateLocals) == some (bulkStr s))

def bulkIntOk (s : Schema) : Bool :=
  ((forS Gen.BindingsV1.metaIntBulk s).bind
      (bulkResolved Gen.BindingsV1.createTrackMetaIntArgs Gen.BindingsV1.createTrackLocals) == some (bulkInt s)) &&
  ((forS Gen.BindingsV1.metaIntBulk s).bind
      (bulkResolved Gen.BindingsV1.updateMetaIntArgs Gen.BindingsV1.updateLocals) == some (bulkInt s))

/-- column `c` is bound to the parameter at `idx`, and the struct member at that position (shifted by
`shift` for the leading `id` of update_track) is the member the naming table gives for `c` -/
def positional (members : List String) (naming : List (String × String)) (shift : Nat) (cv : String × Opnd) : Bool :=
  match cv.2 with
  | .param i _ => decide (shift ≤ i) && (members[i - shift]? == naming.lookup cv.1)
  | .encode i _ => decide (shift ≤ i) && (members[i - shift]? == naming.lookup cv.1)
  | _ => false

def isIdWhere (w : List (String × Opnd)) : Bool :=
  match w with
  | [("id", .param 0 _)] => true
  | _ => false

def trackWriteOk (s : Schema) : Bool :=
  match forS Gen.BindingsV1.trackInsert s, forS Gen.BindingsV1.trackUpdate s, forS Gen.BindingsV1.trackUpdateWhere s with
  | some ins, some upd, some w =>
    -- end to end: every column gets the source the hand model gives it, from both callers
    ((rowResolved Gen.BindingsV1.createTrackTrackArgs Gen.BindingsV1.createTrackLocals ins).map
        (sameSet (trackCols s)) == some true) &&
    ((rowResolved Gen.BindingsV1.updateTrackArgs Gen.BindingsV1.updateLocals upd).map
        (sameSet (trackCols s)) == some true) &&
    -- each column once; parameter position = position of the struct member of that column
    decide ((ins.map (·.1)).Nodup) && decide ((upd.map (·.1)).Nodup) &&
    ins.all (positional Gen.BindingsV1.trackRowMembers trackColMember 0) &&
    upd.all (positional Gen.BindingsV1.trackRowMembers trackColMember 1) &&
    isIdWhere w
  | _, _, _ => false

def trackSelectOk (s : Schema) : Bool :=
  match forS Gen.BindingsV1.trackSelect s, forS Gen.BindingsV1.trackSelectDefaults s,
        forS Gen.BindingsV1.trackSelectWhere s with
  | some sel, some dflt, some w =>
    -- every column lands in the member of its own name, unconverted; the columns are exactly the written ones;
    -- the members without a column are exactly the remaining ones
    sel.all (fun e => trackColMember.contains (e.1, e.2.1) && e.2.2 == "direct") &&
    sameSet (sel.map (·.1)) ((trackCols s).map (·.1)) &&
    sameSet (sel.map (·.2.1) ++ dflt) Gen.BindingsV1.trackRowMembers &&
    isIdWhere w
  | _, _, _ => false

def blobCols : List String :=
  ["trackData", "highResolutionWaveFormData", "overviewWaveFormData", "beatData", "quickCues", "loops"]

def isEncode : Opnd → Bool
  | .encode _ _ => true
  | _ => false

def perfWriteOk (s : Schema) : Bool :=
  match forS Gen.BindingsV1.perfInsert s with
  | some ins =>
    ((rowResolved Gen.BindingsV1.createTrackPerfArgs Gen.BindingsV1.createTrackLocals ins).map
        (sameSet (perfCols s)) == some true) &&
    ((rowResolved Gen.BindingsV1.updatePerfArgs Gen.BindingsV1.updateLocals ins).map
        (sameSet (perfCols s)) == some true) &&
    decide ((ins.map (·.1)).Nodup) &&
    ins.all (positional Gen.BindingsV1.perfRowMembers perfColMember 0) &&
    -- exactly the six blob columns go through `encode()`
    ins.all (fun cv => isEncode cv.2 == blobCols.contains cv.1)
  | none => false

def perfSelectOk (s : Schema) : Bool :=
  match forS Gen.BindingsV1.perfSelect s, forS Gen.BindingsV1.perfSelectDefaults s with
  | some sel, some dflt =>
    sel.all (fun e => perfColMember.contains (e.1, e.2.1) &&
      e.2.2 == (if blobCols.contains e.1 then "decode" else "direct")) &&
    sameSet (sel.map (·.1)) ((perfCols s).map (·.1)) &&
    sameSet (sel.map (·.2.1) ++ dflt) Gen.BindingsV1.perfRowMembers
  | _, _ => false

theorem perf_clear_aligned :
    (match Gen.BindingsV1.perfClear with
     | ("delete", "PerformanceData", [("id", .param 0 _)]) => true
     | _ => false) = true := by decide +kernel

/-- every single-row statement binds `(id, type, value)` to its parameters 0, 1, 2 (or NULL for the value)
and every query selects on `(id, type)` bound to parameters 0, 1 -/
def singleOk (e : String × String × String × List (String × Opnd) × List (String × Opnd)) : Bool :=
  let val := if e.2.1 == "MetaData" then "text" else "value"
  match e.2.2.1, e.2.2.2.1, e.2.2.2.2 with
  | "replace", [("id", .param 0 _), ("type", .param 1 _), (v, .param 2 _)], [] => v == val
  | "replace", [("id", .param 0 _), ("type", .param 1 _), (v, .null)], [] => v == val
  | "select", [], [("id", .param 0 _), ("type", .param 1 _), (v, .sql "IS NOT NULL")] => v == val
  | _, _, _ => false

def isWrite : Acc → Bool
  | .setStr _ | .setInt _ | .setCol _ | .setPerf _ => true
  | _ => false

def subset {α} [DecidableEq α] (a b : List α) : Bool := a.all fun x => b.contains x

/-- the getter reads exactly the locations of the hand model's getter; the setter writes exactly the
locations of the hand model's setter (order and repetition do not matter) -/
def accessorOk (f : Field) : Bool :=
  match Gen.BindingsV1.accessors.lookup (cxxName f), Gen.BindingsV1.accessors.lookup ("set_" ++ cxxName f) with
  | some g, some st =>
    subset g (fieldReads f) && subset (fieldReads f) g &&
    subset (st.filter isWrite) (fieldWrites f) && subset (fieldWrites f) (st.filter isWrite)
  | _, _ => false

/-- every field is written and read under the SAME type number: the bulk statement, the single-field setter,
the single-field getter and `snapshot()` name the same enumerator for it -/
def sameTypeStr (f : StrField) : Bool :=
  Gen.BindingsV1.snapshotStr.contains (f.name, f.name, ["value"]) &&
  (Gen.BindingsV1.accessors.lookup f.name == some [.getStr f.name]) &&
  (Gen.BindingsV1.accessors.lookup ("set_" ++ f.name) == some [.setStr f.name]) &&
  Schema.all.all fun s => (bulkStr s).contains (f.code, .snap f.name)

def sameTypeInt (f : IntField) : Bool :=
  Gen.BindingsV1.snapshotInt.contains (f.enumerator, f.name, ["value"]) &&
  (Gen.BindingsV1.accessors.lookup f.name == some [.getInt f.enumerator]) &&
  ((Gen.BindingsV1.accessors.lookup ("set_" ++ f.name)).any fun l => l.contains (.setInt f.enumerator))

/-- `snapshot()`: the members assigned from `Track` columns read the `track_row` member of that column;
those assigned from PerformanceData read the blob of the hand model's column and the named member of it -/
def snapTrackPairs : List (String × String) :=
  Gen.BindingsV1.snapshotReads.flatMap fun e => (e.2.filter fun p => p.1 == "track_row").map fun p => (p.2, e.1)

def snapPerfTriples : List (String × String × String) :=
  Gen.BindingsV1.snapshotReads.filterMap fun e =>
    match e.2 with
    | [("performance_data_row", m), (_, sub)] => some (e.1, m, sub)
    | _ => none

/-- snapshot member ← (PerformanceData column, member of the decoded blob) in the hand model's `readSnap` -/
def perfReadsH : List (String × PCol × String) :=
  [("beatgrid", .beatData, "adjusted_beatgrid"), ("main_cue", .quickCues, "adjusted_main_cue"),
   ("average_loudness", .trackData, "average_loudness"), ("hot_cues", .quickCues, "hot_cues"),
   ("key", .trackData, "key"), ("loops", .loops, "loops"), ("sample_count", .trackData, "sample_count"),
   ("sample_rate", .trackData, "sample_rate"), ("waveform", .hires, "waveform")]

/-! ### the regenerated tables pass every check

One evaluation for all of them: the kernel re-encodes a string literal to bytes in every declaration that
compares it, and the tables share their column, member and enumerator names.  When a change to the source
makes `aligned` false, `#eval` of the components (`trackWriteOk .s1_6_0`, `accessorOk .title`, …) shows
which one. -/

theorem aligned :
    (∀ s ∈ Schema.all,
      (bulkStrOk s = true ∧ bulkIntOk s = true) ∧
      (((bulkStr s).map (·.1)).Nodup ∧ ((bulkInt s).map (·.1)).Nodup) ∧
      (trackWriteOk s = true ∧ trackSelectOk s = true) ∧ perfWriteOk s = true ∧ perfSelectOk s = true) ∧
    ((Gen.BindingsV1.strEnum.map (·.2)).Nodup ∧ (Gen.BindingsV1.strEnum.map (·.1)).Nodup ∧
     (Gen.BindingsV1.intEnum.map (·.2)).Nodup ∧ (Gen.BindingsV1.intEnum.map (·.1)).Nodup) ∧
    ((∀ f ∈ StrField.all, Gen.BindingsV1.strEnum.lookup f.name = some f.code) ∧
     (∀ f ∈ IntField.all, Gen.BindingsV1.intEnum.lookup f.enumerator = some f.code)) ∧
    (Gen.BindingsV1.metaSingles.all singleOk = true ∧
     sameSet (Gen.BindingsV1.metaSingles.map fun e => (e.1, e.2.1))
       [("set_meta_data", "MetaData"), ("set_meta_data", "MetaData"), ("set_meta_data_integer", "MetaDataInteger"),
        ("get_meta_data", "MetaData"), ("get_meta_data_integer", "MetaDataInteger")] = true) ∧
    Field.reps.all accessorOk = true ∧
    (Gen.BindingsV1.accessors.lookup "filename" = some [.getCol "path"] ∧
     Gen.BindingsV1.accessors.lookup "file_extension" = some [.getCol "path"]) ∧
    (StrField.all.all sameTypeStr = true ∧ IntField.all.all sameTypeInt = true ∧
     Gen.BindingsV1.snapshotStr.length = 7 ∧ Gen.BindingsV1.snapshotInt.length = 3) ∧
    (sameSet snapTrackPairs ((trackReadsH .s1_18_0_os).map fun p => (p.1.member, p.2)) = true ∧
     sameSet snapPerfTriples (perfReadsH.map fun p => (p.1, p.2.1.member, p.2.2)) = true ∧
     snapTrackPairs.length + snapPerfTriples.length =
       (Gen.BindingsV1.snapshotReads.map (·.2.length)).sum - snapPerfTriples.length ∧
     Gen.BindingsV1.snapshotCalls =
       ["get_track", "get_all_meta_data", "get_all_meta_data_integer", "get_performance_data"]) := by
  decide +kernel

/-- `filename()` / `file_extension()` derive from the `path` column only -/
theorem derived_getters :
    Gen.BindingsV1.accessors.lookup "filename" = some [.getCol "path"] ∧
    Gen.BindingsV1.accessors.lookup "file_extension" = some [.getCol "path"] := aligned.2.2.2.2.2.1

end EngineModel.Proofs.BindingsV1
