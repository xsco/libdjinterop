/-
C15, schema 2.x tracks: no getter, setter, create / update / snapshot of the
2.x track model ends in `ub`, for any argument values, on rows whose `length`
column is readable (`rowOk`); and every operation keeps `rowOk`: by `step_ran` a call leaves the table alone or
is one of the writes `Eff` of `TracksV2Eff`, so what those writes keep is kept (`step_dbOk`; `tgone_step` and
`idInv_step` in `NoUbStaleTracksV2`).
-/
import Proofs.TracksV2RoundTrip
import Proofs.TracksV2Lens
import Proofs.TracksV2Eff
import EngineModel.Api.C15TracksV2
import Proofs.Machine

namespace EngineModel.Api.C15TracksV2
open EngineModel EngineModel.TracksV2

def Defined {α} (r : Res α) : Prop := ∀ u, r ≠ .ub u

theorem Defined.ok {α} (a : α) : Defined (Res.ok a) := Res.Defined.ok a
theorem Defined.throw {α} (e : Exn) : Defined (Res.throw e : Res α) := Res.Defined.throw e

theorem Defined.bind {α β} {r : Res α} {f : α → Res β} (h : Defined r) (hf : ∀ a, r = .ok a → Defined (f a)) :
    Defined (r.bind f) :=
  Res.Defined.bind h hf

theorem rowOk_iff (r : Row) : rowOk r = true ↔ Defined (readDuration r.length) := by
  unfold rowOk Defined
  cases readDuration r.length with
  | ok a => simp [Res.isUb]
  | throw e => simp [Res.isUb]
  | ub u => simp [Res.isUb]

theorem rowOk_of_length {r r' : Row} (h : r'.length = r.length) (hr : rowOk r = true) : rowOk r' = true := by
  unfold rowOk at *; rw [h]; exact hr

theorem rowOk_writeDuration {r : Row} (d : Option UInt64) (h : r.length = writeDuration d) : rowOk r = true := by
  unfold rowOk; rw [h, read_write_duration]; rfl

theorem slotIndex_lt {i : UInt32} {n k : Nat} (h : slotIndex i n = .ok k) : k < n := by
  rw [slotIndex_eq] at h
  cases hs : Spec.slot i n with
  | none => rw [hs] at h; cases h
  | some k' => rw [hs] at h; cases h; exact slot_lt _ _ _ hs

theorem Defined.ite {α} {c : Prop} [Decidable c] {x y : Res α} (hx : Defined x) (hy : Defined y) :
    Defined (if c then x else y) := by
  split <;> assumption

theorem slotIndex_defined (i : UInt32) (n : Nat) : Defined (slotIndex i n) :=
  Defined.ite (Defined.throw _) (Defined.ok _)

theorem getHotCueAt_defined (r : Row) (i : UInt32) : Defined (getHotCueAt r i) := by
  unfold getHotCueAt
  refine Defined.bind (slotIndex_defined _ _) fun k hk => ?_
  rw [List.getElem?_eq_getElem (slotIndex_lt hk)]
  exact Defined.ok _

theorem getLoopAt_defined (r : Row) (i : UInt32) : Defined (getLoopAt r i) := by
  unfold getLoopAt
  refine Defined.bind (slotIndex_defined _ _) fun k hk => ?_
  rw [List.getElem?_eq_getElem (slotIndex_lt hk)]
  exact Defined.ok _

theorem getRow_defined (ops : FOps) (r : Row) (h : rowOk r = true) (g : Getter) : Defined (getRow ops r g) := by
  cases g
  case duration => exact Defined.bind ((rowOk_iff r).mp h) fun _ _ => Defined.ok _
  case hotCueAt i => exact Defined.bind (getHotCueAt_defined _ _) fun _ _ => Defined.ok _
  case loopAt i => exact Defined.bind (getLoopAt_defined _ _) fun _ _ => Defined.ok _
  all_goals exact Defined.ok _

theorem writeWaveform_defined (ops : FOps) (w : List WEntry) (c : Option UInt64) (r : Option F) :
    Defined (writeWaveform ops w c r) := by
  have := read_write_waveform ops w c r
  split at this
  · obtain ⟨o, ho, _⟩ := this; rw [ho]; exact Defined.ok _
  · rw [this]; exact Defined.throw _

theorem putCues_defined (q : V2.Cues × Bytes) : Defined (putCues q) :=
  Defined.ite (Defined.ok _) (Defined.throw _)

theorem putLoops_defined (q : V2.Loops × Bytes) : Defined (putLoops q) :=
  Defined.ite (Defined.ok _) (Defined.throw _)

theorem writeHotCues_defined (v : List (Option HotCue)) : Defined (writeHotCues v) :=
  Defined.ite (Defined.throw _) (Defined.ok _)

theorem writeLoops_defined (v : List (Option LoopV)) : Defined (writeLoops v) :=
  Defined.ite (Defined.throw _) (Defined.ok _)

theorem applySetter_defined (ops : FOps) (σ : Setter) (r : Row) : Defined (applySetter ops σ r) := by
  cases σ
  case hotCueAt i v =>
    exact Defined.bind (slotIndex_defined _ _) fun _ _ => Defined.bind (putCues_defined _) fun _ _ => Defined.ok _
  case loopAt i v =>
    exact Defined.bind (slotIndex_defined _ _) fun _ _ => Defined.bind (putLoops_defined _) fun _ _ => Defined.ok _
  case hotCues v =>
    exact Defined.bind (writeHotCues_defined _) fun _ _ => Defined.bind (putCues_defined _) fun _ _ => Defined.ok _
  case loops v =>
    exact Defined.bind (writeLoops_defined _) fun _ _ => Defined.bind (putLoops_defined _) fun _ _ => Defined.ok _
  case waveform w => exact Defined.bind (writeWaveform_defined _ _ _ _) fun _ _ => Defined.ok _
  all_goals exact Defined.ok _

theorem applySetter_rowOk (ops : FOps) (σ : Setter) (r r' : Row) (h : rowOk r = true)
    (hs : applySetter ops σ r = .ok r') : rowOk r' = true := by
  rcases (applySetter_frame ops σ r r' hs).2.1 with ⟨v, _, hv⟩ | hl
  · exact rowOk_writeDuration v hv
  · exact rowOk_of_length hl h

theorem writeStore_defined (ops : FOps) (s : Schema) (x : Snap) : Defined (writeStore ops s x) :=
  Res.Defined.of_total (writeStore_total ops s x)

theorem writeStore_rowOk (ops : FOps) (s : Schema) (x : Snap) (r : Row) (h : writeStore ops s x = .ok r) :
    rowOk r = true := by
  cases hn : Spec.normalize s x with
  | none =>
    obtain ⟨e, he⟩ := writeStore_throw_of_reject ops s x hn
    rw [he] at h; cases h
  | some y =>
    have := writeRead_of_normalize ops s x y hn
    unfold writeRead at this
    rw [h] at this
    obtain ⟨d, hd, _⟩ := readSnap_ok ops r y this
    unfold rowOk; rw [hd]; rfl

theorem dbOk_iff (db : Db) : dbOk db = true ↔ ∀ e ∈ db.rows, rowOk e.2 = true := by
  unfold dbOk; rw [List.all_eq_true]

theorem dbOk_get {db : Db} (hd : dbOk db = true) {id : Nat} {r : Row} (h : db.get id = some r) :
    rowOk r = true := by
  exact (dbOk_iff db).mp hd _ (get_mem db id r h)

theorem create_defined (ops : FOps) (s : Schema) (db : Db) (x : Snap) : Defined (db.create ops s x).2 := by
  unfold Db.create
  cases hw : writeStore ops s x with
  -- the row written: a path another track has throws, the INSERT returns
  | ok r => simp only; split <;> first | exact Defined.throw _ | exact Defined.ok _
  | throw e => exact Defined.throw _
  | ub u => exact absurd hw (writeStore_defined ops s x u)

theorem update_defined (ops : FOps) (s : Schema) (db : Db) (id : Nat) (x : Snap) :
    Defined (db.update ops s id x).2 := by
  unfold Db.update
  cases hw : writeStore ops s x with
  -- the row written: a track that is not there and a path another track has throw, the UPDATE returns
  | ok r => simp only; split <;> (try split) <;> first | exact Defined.throw _ | exact Defined.ok _
  | throw e => exact Defined.throw _
  | ub u => exact absurd hw (writeStore_defined ops s x u)

theorem set_defined (ops : FOps) (db : Db) (id : Nat) (σ : Setter) : Defined (db.set ops id σ).2 := by
  unfold Db.set
  cases db.get id with
  | none => exact Defined.throw _
  | some r =>
    simp only
    cases hs : applySetter ops σ r with
    -- the columns set: a path another track has throws, the UPDATE returns
    | ok r' => simp only; split <;> first | exact Defined.throw _ | exact Defined.ok _
    | throw e => exact Defined.throw _
    | ub u => exact absurd hs (applySetter_defined ops σ r u)

theorem snapshot_defined (ops : FOps) (db : Db) (hd : dbOk db = true) (id : Nat) :
    Defined (db.snapshot ops id) := by
  unfold Db.snapshot
  cases hg : db.get id with
  | none => exact Defined.throw _
  | some r =>
    simp only
    rw [readSnap_eq]
    exact Defined.bind ((rowOk_iff r).mp (dbOk_get hd hg)) fun _ _ => Defined.ok _

theorem lift_defined {α} (db : Db) (r : Res α) (f : α → Out) (h : Defined r) : Defined (lift db r f).2 := by
  unfold lift
  cases hr : r with
  | ok a => exact Defined.ok _
  | throw e => exact Defined.throw _
  | ub u => exact absurd hr (h u)

theorem lift_fst {α} (db : Db) (r : Res α) (f : α → Out) : (lift db r f).1 = db := by
  unfold lift; cases r <;> rfl

theorem remove_defined (db : Db) (id : Nat) : Defined (remove db id).2 := by
  unfold remove; split
  · exact Defined.ok _
  · exact Defined.throw _

theorem step_defined (ops : FOps) (s : Schema) (db : Db) (hd : dbOk db = true) (op : Op) :
    Defined (step ops s db op).2 := by
  cases op with
  | create x => exact lift_defined _ _ _ (create_defined ops s db x)
  | update id x =>
    simp only [step]
    split <;> exact lift_defined _ _ _ (update_defined ops s db id x)
  | snapshot id => exact lift_defined _ _ _ (snapshot_defined ops db hd id)
  | get id g =>
    simp only [step]
    cases hg : db.get id with
    | some r => exact lift_defined _ _ _ (getRow_defined ops r (dbOk_get hd hg) g)
    | none => exact Defined.throw _
  | set id σ => exact lift_defined _ _ _ (set_defined ops db id σ)
  | remove id => exact lift_defined _ _ _ (remove_defined db id)
  | isValid id => exact Defined.ok _
  | handleId id => exact Defined.ok _
  | handleCopy id => exact Defined.ok _

theorem _root_.EngineModel.TracksV2.Ran.lift {α} {db : Db} {p : Db × Res α} (h : Ran ops db p) (f : α → Out) : Ran ops db (lift p.1 p.2 f) := by
  rcases h with h | ⟨⟨a, ha⟩, h⟩
  · exact .inl (by rw [lift_fst]; exact h)
  · exact .inr ⟨⟨f a, by rw [ha]; rfl⟩, by rw [lift_fst]; exact h⟩

theorem step_ran (ops : FOps) (s : Schema) (db : Db) (op : Op) : Ran ops db (step ops s db op) := by
  cases op with
  | create x => exact (create_ran ops s db x).lift _
  | update id x => simp only [step]; split <;> exact (update_ran ops s db id x).lift _
  | set id σ => exact (set_ran ops db id σ).lift _
  | remove id => exact (remove_ran ops db id).lift _
  | get id g => simp only [step]; split <;> first | exact .inl (lift_fst _ _ _) | exact .inl rfl
  | snapshot id => exact .inl (lift_fst _ _ _)
  | isValid id => exact .inl rfl
  | handleId id => exact .inl rfl
  | handleCopy id => exact .inl rfl

theorem rowOk_inv (ops : FOps) : RowInv ops (fun r => rowOk r = true) :=
  ⟨fun h ha => applySetter_rowOk ops _ _ _ h ha, fun hw => writeStore_rowOk ops _ _ _ hw⟩

theorem step_dbOk (ops : FOps) (s : Schema) (db : Db) (hd : dbOk db = true) (op : Op) :
    dbOk (step ops s db op).1 = true :=
  (dbOk_iff _).mpr ((step_ran ops s db op).eff.rows (rowOk_inv ops) ((dbOk_iff db).mp hd))

theorem outcomes_defined (ops : FOps) (s : Schema) (l : List Op) :
    ∀ db, dbOk db = true → ∀ r ∈ outcomes ops s db l, Defined r :=
  Machine.IsOutcomes.forall (step := step ops s) ⟨fun _ => rfl, fun _ _ _ => rfl⟩
    (fun db op h => ⟨step_dbOk ops s db h op, step_defined ops s db h op⟩) l

theorem get_after_remove (db : Db) (id : Nat) : (remove db id).1.get id = none := by
  unfold remove
  split
  · unfold Db.get
    rw [List.find?_filter]
    have : ∀ (p : Nat × Row → Bool), (∀ e, p e = false) → db.rows.find? p = none := by
      intro p hp
      apply List.find?_eq_none.mpr
      intro e _
      rw [hp e]; exact Bool.false_ne_true
    rw [this]
    · rfl
    · intro e
      cases e.1 == id <;> simp
  · rename_i h
    unfold isValid at h
    cases hg : db.get id with
    | none => rfl
    | some r => rw [hg] at h; simp at h

end EngineModel.Api.C15TracksV2
