/-
Refinement of `Spec.Members` (C08) by the schema-1.x model: the representation
relation `MemRel m db` (the Spec's live crates / live tracks / membership pairs
are, as sets, the rows of Crate / Track-with-path / CrateTrackList, all
duplicate-free) is preserved by every operation, with the outcome class the
Spec's verdict allows; the queries on crate contents agree with the Spec's; an
operation changes only the membership rows it is about (`frame_ctl`, `frame_queries`).
-/
import Proofs.CratesV1Ids

namespace EngineModel.Api.CratesV1
open EngineModel.Pure.Detect EngineModel.Spec

variable {db : Db}

structure MemRel (m : Members.State) (db : Db) : Prop where
  crates : ∀ c, c ∈ m.crates ↔ c ∈ ids db
  tracks : ∀ t, t ∈ m.tracks ↔ liveTrack db t
  pairs : ∀ p, p ∈ m.pairs ↔ p ∈ db.ctl
  pairsNodup : m.pairs.Nodup
  tracksNodup : m.tracks.Nodup
  cratesNodup : m.crates.Nodup

theorem memRel_empty : MemRel Members.empty Db.empty := by
  constructor <;> simp [Members.empty, Db.empty, ids, liveTrack]

def MemStepOk (s : Schema) (m : Members.State) (db : Db) (op : Op) : Prop :=
  ∃ m', membersNext m op (step s db op).2 (dbCrates db) (dbCrates (step s db op).1) = some m' ∧
    MemRel m' (step s db op).1

theorem MemRel.congr {m : Members.State} {db db' : Db} (h : MemRel m db) (h1 : ids db' = ids db)
    (h2 : db'.ctl = db.ctl) (h3 : db'.track = db.track) : MemRel m db' := by
  refine ⟨?_, ?_, ?_, h.pairsNodup, h.tracksNodup, h.cratesNodup⟩
  · rw [h1]; exact h.crates
  · intro t; rw [liveTrack_congr h3]; exact h.tracks t
  · rw [h2]; exact h.pairs

theorem not_pair_iff (p : Id × Id) (c t : Id) : (!(p.1 == c && p.2 == t)) = true ↔ p ≠ (c, t) := by
  rcases p with ⟨a, b⟩
  by_cases h1 : a = c <;> by_cases h2 : b = t <;> simp [h1, h2]

theorem pair_bne (p : Id × Id) (c t : Id) : (p != (c, t)) = !(p.1 == c && p.2 == t) := by
  by_cases he : p = (c, t)
  · subst he; simp
  · have h1 : (p != (c, t)) = true := bne_iff_ne.mpr he
    rw [h1, (not_pair_iff p c t).mpr he]

theorem mem_dbCrates (db : Db) (c : Id) : c ∈ dbCrates db ↔ c ∈ ids db := mem_sortIds

theorem mem_newCrate {m : Members.State} (hm : MemRel m db) {db' : Db} {i : Id} (hi : i ∉ ids db)
    (h1 : ids db' = ids db ++ [i]) (h2 : db'.ctl = db.ctl) (h3 : db'.track = db.track) :
    MemRel (membersTell m (.newCrate i)) db' := by
  show MemRel { m with crates := m.crates ++ [i] } db'
  refine ⟨?_, ?_, ?_, hm.pairsNodup, hm.tracksNodup, ?_⟩
  · intro c
    rw [h1, List.mem_append, List.mem_append, hm.crates]
  · intro t; rw [liveTrack_congr h3]; exact hm.tracks t
  · rw [h2]; exact hm.pairs
  · exact nodup_snoc hm.cratesNodup fun ha => hi ((hm.crates i).mp ha)

theorem memsim_create (s : Schema) (h : Inv db) {m : Members.State} (hm : MemRel m db) {op : Op}
    (hop : isCreate op = true) : MemStepOk s m db op := by
  unfold MemStepOk
  have hnext : ∀ r b a, membersNext m op r b a = if r.isOk then
      (if m.crates.contains (outId r) then none else some (membersTell m (.newCrate (outId r)))) else some m := by
    cases op with
    | createRoot _ | createSub _ _ => exact fun _ _ _ => rfl
    | _ => cases hop
  rcases step_cases s h op with ⟨_, e, he⟩ | ⟨_, d, o, he, hr⟩ <;> rw [he, hnext]
  · exact ⟨m, rfl, hm⟩
  · have hd : o = .id (newCrateId s db) ∧ ids d = ids db ++ [newCrateId s db] ∧ d.ctl = db.ctl ∧ d.track = db.track := by
      cases op with
      | createRoot n => obtain ⟨rfl, rfl⟩ := hr; exact ⟨rfl, ids_afterCreate s _ _ _, rfl, rfl⟩
      | createSub c n => obtain ⟨rfl, rfl⟩ := hr; exact ⟨rfl, ids_afterCreate s _ _ _, rfl, rfl⟩
      | _ => cases hop
    obtain ⟨rfl, h1, h2, h3⟩ := hd
    have hfr : newCrateId s db ∉ m.crates := fun hc => newCrateId_fresh s db ((hm.crates _).mp hc)
    exact ⟨_, by simp [Res.isOk, outId, hfr], mem_newCrate hm (newCrateId_fresh s db) h1 h2 h3⟩

theorem memsim_removeCrate (s : Schema) (h : Inv db) {m : Members.State} (hm : MemRel m db) (c : Id) :
    MemStepOk s m db (.removeCrate c) := by
  unfold MemStepOk
  show ∃ m', membersNext m (.removeCrate c) (removeCrate s db c).2 (dbCrates db) (dbCrates (removeCrate s db c).1) = some m' ∧
    MemRel m' (removeCrate s db c).1
  rw [removeCrate_eq s h c]
  refine ⟨_, rfl, ?_⟩
  -- the crates that drop out of the listing
  have hgone : ∀ x, ((dbCrates db).filter fun i => !(dbCrates (afterRemove db c)).contains i).contains x = true ↔
      (x ∈ ids db ∧ Sub db c x) := by
    intro x
    rw [List.contains_iff_mem, List.mem_filter, mem_dbCrates]
    simp only [Bool.not_eq_eq_eq_not, Bool.not_true]
    rw [← Bool.not_eq_true, List.contains_iff_mem, mem_dbCrates, mem_ids_afterRemove]
    constructor
    · rintro ⟨h1, h2⟩
      refine ⟨h1, ?_⟩
      by_cases hs : Sub db c x
      · exact hs
      · exact absurd ⟨h1, hs⟩ h2
    · rintro ⟨h1, h2⟩
      exact ⟨h1, fun hh => hh.2 h2⟩
  show MemRel { m with crates := m.crates.filter (fun x => !(List.filter _ (dbCrates db)).contains x),
                       pairs := m.pairs.filter (fun p => !(List.filter _ (dbCrates db)).contains p.1) } (afterRemove db c)
  refine ⟨?_, ?_, ?_, hm.pairsNodup.sublist List.filter_sublist, hm.tracksNodup, hm.cratesNodup.sublist List.filter_sublist⟩
  · intro x
    rw [List.mem_filter, hm.crates, mem_ids_afterRemove]
    simp only [Bool.not_eq_eq_eq_not, Bool.not_true]
    rw [← Bool.not_eq_true, hgone]
    constructor
    · rintro ⟨h1, h2⟩; exact ⟨h1, fun hs => h2 ⟨h1, hs⟩⟩
    · rintro ⟨h1, h2⟩; exact ⟨h1, fun hh => h2 hh.2⟩
  · intro t
    rw [liveTrack_congr (db := db) (db' := afterRemove db c) rfl]; exact hm.tracks t
  · intro p
    rw [List.mem_filter, hm.pairs, mem_ctl_afterRemove]
    simp only [Bool.not_eq_eq_eq_not, Bool.not_true]
    rw [← Bool.not_eq_true, hgone]
    constructor
    · rintro ⟨h1, h2⟩; exact ⟨h1, fun hs => h2 ⟨(h.ctlLive p h1).1, hs⟩⟩
    · rintro ⟨h1, h2⟩; exact ⟨h1, fun hh => h2 hh.2⟩

theorem not_contains_iff {α} [BEq α] [LawfulBEq α] (l : List α) (a : α) : (!l.contains a) = true ↔ a ∉ l := by simp

/-- add_track deletes the row and inserts it again: as a set, the table gains the pair. -/
theorem mem_afterAddTrack (db : Db) (c t : Id) (p : Id × Id) : p ∈ (afterAddTrack db c t).ctl ↔ (p ∈ db.ctl ∨ p = (c, t)) := by
  show p ∈ db.ctl.filter (fun r => !(r.1 == c && r.2 == t)) ++ [(c, t)] ↔ _
  rw [List.mem_append, List.mem_filter, List.mem_singleton, not_pair_iff]
  by_cases he : p = (c, t) <;> simp [he]

theorem memsim_addTrack (s : Schema) (h : Inv db) {m : Members.State} (hm : MemRel m db) (c t : Id) :
    MemStepOk s m db (.addTrack c t) := by
  unfold MemStepOk
  show ∃ m', (Members.step m (.add c t)).next m (step s db (.addTrack c t)).2.isOk = some m' ∧
    MemRel m' (step s db (.addTrack c t)).1
  rcases step_cases s h (.addTrack c t) with ⟨hna, e, he⟩ | ⟨⟨hc, ht⟩, d, o, he, rfl, rfl⟩ <;> rw [he]
  · -- thrown: the crate is not live (the Spec rejects) or the track is not (the Spec leaves it open)
    refine ⟨m, ?_, hm⟩
    by_cases hc' : c ∈ m.crates
    · have ht' : t ∉ m.tracks := fun ht' => hna ⟨(hm.crates c).mp hc', (hm.tracks t).mp ht'⟩
      simp [Members.step, hc', ht', Members.Verdict.next, Res.isOk]
    · simp [Members.step, hc', Members.Verdict.next, Res.isOk]
  · have hc' : c ∈ m.crates := (hm.crates c).mpr hc
    have ht' : t ∈ m.tracks := (hm.tracks t).mpr ht
    -- present already: the Spec says no-op (the code deletes and re-inserts the row); else the pair is appended
    have key : ∀ m' : Members.State, m'.crates = m.crates → m'.tracks = m.tracks → m'.pairs.Nodup →
        (∀ p, p ∈ m'.pairs ↔ (p ∈ m.pairs ∨ p = (c, t))) → MemRel m' (afterAddTrack db c t) := by
      intro m' e1 e2 hn hp
      refine ⟨e1 ▸ hm.crates, fun x => ?_, fun p => ?_, hn, e2 ▸ hm.tracksNodup, e1 ▸ hm.cratesNodup⟩
      · rw [e2, liveTrack_congr (db := db) (db' := afterAddTrack db c t) rfl]; exact hm.tracks x
      · rw [hp, mem_afterAddTrack, hm.pairs]
    by_cases hp : (c, t) ∈ m.pairs
    · exact ⟨m, by simp [Members.step, hc', ht', hp, Members.Verdict.next, Res.isOk],
        key m rfl rfl hm.pairsNodup fun p => ⟨Or.inl, fun hh => hh.elim id (fun e => e ▸ hp)⟩⟩
    · exact ⟨{ m with pairs := m.pairs ++ [(c, t)] },
        by simp [Members.step, hc', ht', hp, Members.Verdict.next, Res.isOk],
        key _ rfl rfl (nodup_snoc hm.pairsNodup hp) fun p => by simp⟩

theorem memRel_filterCtl {m : Members.State} (hm : MemRel m db) (p : Id × Id → Bool) (q : Id × Id → Bool)
    (hpq : ∀ r ∈ db.ctl, q r = !p r) :
    MemRel { m with pairs := m.pairs.filter q } (filterCtl db p) := by
  refine ⟨hm.crates, ?_, ?_, hm.pairsNodup.sublist List.filter_sublist, hm.tracksNodup, hm.cratesNodup⟩
  · intro x; rw [liveTrack_congr (db := db) (db' := filterCtl db p) rfl]; exact hm.tracks x
  · intro r
    show r ∈ m.pairs.filter q ↔ r ∈ db.ctl.filter (fun r => !p r)
    rw [List.mem_filter, List.mem_filter, hm.pairs]
    constructor
    · rintro ⟨h1, h2⟩; exact ⟨h1, by rw [← hpq r h1]; exact h2⟩
    · rintro ⟨h1, h2⟩; exact ⟨h1, by rw [hpq r h1]; exact h2⟩

theorem memRel_filterCtl_noop {m : Members.State} (hm : MemRel m db) (p : Id × Id → Bool)
    (hp : ∀ r ∈ db.ctl, p r = false) : MemRel m (filterCtl db p) := by
  have : filterCtl db p = db := by
    refine Db.ext_tables (a := filterCtl db p) (b := db) rfl rfl rfl ?_ rfl rfl
    show db.ctl.filter (fun r => !p r) = db.ctl
    rw [List.filter_eq_self]
    intro r hr
    rw [hp r hr]; rfl
  rw [this]; exact hm

/-- remove_track (from a crate) and clear_tracks: a DELETE of rows of the one crate `c`; the Spec filters its pairs
when `c` is live and otherwise leaves them, and then there is nothing to delete. -/
theorem memRel_deleteOf (h : Inv db) {m : Members.State} (hm : MemRel m db) (c : Id) (p q : Id × Id → Bool)
    (hpq : ∀ r, q r = !p r) (hpc : ∀ r, p r = true → r.1 = c) :
    MemRel (if c ∈ m.crates then { m with pairs := m.pairs.filter q } else m) (filterCtl db p) := by
  by_cases hc : c ∈ m.crates
  · rw [if_pos hc]; exact memRel_filterCtl hm p q fun r _ => hpq r
  · rw [if_neg hc]
    apply memRel_filterCtl_noop hm
    intro r hr
    cases hp : p r with
    | false => rfl
    | true => exact absurd ((hm.crates c).mpr (hpc r hp ▸ (h.ctlLive r hr).1)) hc

theorem memsim_removeTrackFrom (s : Schema) (h : Inv db) {m : Members.State} (hm : MemRel m db) (c t : Id) :
    MemStepOk s m db (.removeTrackFrom c t) := by
  unfold MemStepOk
  show ∃ m', (Members.step m (.remove c t)).next m (removeTrackFrom s db c t).2.isOk = some m' ∧
    MemRel m' (removeTrackFrom s db c t).1
  rw [removeTrackFrom_eq s h]
  refine ⟨_, ?_, memRel_deleteOf h hm c _ (· != (c, t)) (fun r => pair_bne r c t) (fun r hr => by simp_all)⟩
  by_cases hc : c ∈ m.crates <;> simp [Members.step, hc, Members.Verdict.next, Res.isOk]

theorem memsim_clearTracks (s : Schema) (h : Inv db) {m : Members.State} (hm : MemRel m db) (c : Id) :
    MemStepOk s m db (.clearTracks c) := by
  unfold MemStepOk
  show ∃ m', (Members.step m (.clear c)).next m (clearTracks s db c).2.isOk = some m' ∧ MemRel m' (clearTracks s db c).1
  rw [clearTracks_eq s h]
  refine ⟨_, ?_, memRel_deleteOf h hm c _ (·.1 != c) (fun _ => rfl) (fun r hr => by simpa using hr)⟩
  by_cases hc : c ∈ m.crates <;> simp [Members.step, hc, Members.Verdict.next, Res.isOk]

theorem memsim_createTrack (s : Schema) {m : Members.State} (hm : MemRel m db) :
    MemStepOk s m db .createTrack := by
  unfold MemStepOk
  show ∃ m', membersNext m .createTrack (createTrack s db).2 _ _ = some m' ∧ MemRel m' (createTrack s db).1
  obtain ⟨id, seq, e, hid⟩ := createTrack_spec s db
  rw [e]
  have hfresh : ¬ liveTrack db id := by
    rintro ⟨r, hr, h1, _⟩
    have hm : r.id ∈ db.track.map (·.id) := List.mem_map_of_mem hr
    exact maxId_lt_fresh hm hid h1
  have hfr : m.tracks.contains id = false := by
    rw [← Bool.not_eq_true, List.contains_iff_mem, hm.tracks]; exact hfresh
  refine ⟨membersTell m (.newTrack id), by simp only [membersNext, Res.isOk, outId, hfr, if_true, Bool.false_eq_true, if_false], ?_⟩
  show MemRel { m with tracks := m.tracks ++ [id] } _
  refine ⟨hm.crates, ?_, hm.pairs, hm.pairsNodup, ?_, hm.cratesNodup⟩
  · intro t
    rw [List.mem_append, List.mem_singleton, hm.tracks]
    unfold liveTrack
    simp only [List.mem_append, List.mem_singleton]
    constructor
    · rintro (⟨r, hr, h1, h2⟩ | rfl)
      · exact ⟨r, Or.inl hr, h1, h2⟩
      · exact ⟨⟨t, true⟩, Or.inr rfl, rfl, rfl⟩
    · rintro ⟨r, hr | rfl, h1, h2⟩
      · exact Or.inl ⟨r, hr, h1, h2⟩
      · exact Or.inr h1.symm
  · exact nodup_snoc hm.tracksNodup fun ha => hfresh ((hm.tracks id).mp ha)

theorem memsim_removeTrack (s : Schema) (h : Inv db) {m : Members.State} (hm : MemRel m db) (t : Id) :
    MemStepOk s m db (.removeTrack t) := by
  unfold MemStepOk
  show ∃ m', (Members.step m (.dropTrack t)).next m (removeTrack s db t).2.isOk = some m' ∧ MemRel m' (removeTrack s db t).1
  obtain ⟨e0, e1, e2, e3, e4, e5, e6⟩ := removeTrack_spec s h t
  have hids : ids (removeTrack s db t).1 = ids db := by unfold ids; rw [e1]
  rw [e0]
  by_cases ht : liveTrack db t
  · have ht' : t ∈ m.tracks := (hm.tracks t).mpr ht
    refine ⟨{ m with tracks := m.tracks.filter (· != t), pairs := m.pairs.filter (·.2 != t) },
      by simp [Members.step, ht', Members.Verdict.next, Res.isOk], ?_⟩
    refine ⟨?_, ?_, ?_, hm.pairsNodup.sublist List.filter_sublist, hm.tracksNodup.sublist List.filter_sublist, hm.cratesNodup⟩
    · rw [hids]; exact hm.crates
    · intro x
      show x ∈ m.tracks.filter (· != t) ↔ _
      rw [e6, List.mem_filter, hm.tracks]
      simp
    · intro p
      show p ∈ m.pairs.filter (·.2 != t) ↔ _
      rw [e4, List.mem_filter, List.mem_filter, hm.pairs]
      simp
  · have ht' : t ∉ m.tracks := by
      rw [hm.tracks]; exact ht
    refine ⟨m, by simp [Members.step, ht', Members.Verdict.next, Res.isOk], ?_⟩
    refine ⟨?_, ?_, ?_, hm.pairsNodup, hm.tracksNodup, hm.cratesNodup⟩
    · rw [hids]; exact hm.crates
    · intro x
      rw [e6, hm.tracks]
      constructor
      · intro hx; exact ⟨hx, fun e => ht (e ▸ hx)⟩
      · exact fun hx => hx.1
    · intro p
      rw [e4, List.mem_filter, hm.pairs]
      constructor
      · intro hp
        refine ⟨hp, ?_⟩
        have : p.2 ≠ t := fun e => ht (e ▸ (h.ctlLive p hp).2)
        simpa using this
      · exact fun hp => hp.1

theorem memstep_ok (s : Schema) (h : Inv db) {m : Members.State} (hm : MemRel m db) (op : Op) : MemStepOk s m db op := by
  cases op with
  | createRoot n | createSub c n => exact memsim_create s h hm rfl
  | rename c n =>
    refine ⟨m, rfl, ?_⟩
    rcases step_cases s h (.rename c n) with ⟨_, e, he⟩ | ⟨_, d, o, he, rfl, _⟩ <;> rw [he]
    · exact hm
    · exact hm.congr (ids_afterSetName db c n) rfl rfl
  | setParent c p =>
    refine ⟨m, rfl, ?_⟩
    rcases step_cases s h (.setParent c p) with ⟨_, e, he⟩ | ⟨_, d, o, he, rfl, _⟩ <;> rw [he]
    · exact hm
    · exact hm.congr (ids_afterSetParent db c p) rfl rfl
  | removeCrate c => exact memsim_removeCrate s h hm c
  | addTrack c t => exact memsim_addTrack s h hm c t
  | removeTrackFrom c t => exact memsim_removeTrackFrom s h hm c t
  | clearTracks c => exact memsim_clearTracks s h hm c
  | createTrack => exact memsim_createTrack s hm
  | removeTrack t => exact memsim_removeTrack s h hm t

theorem membersTrace_run (s : Schema) : ∀ (ops : List Op) {db : Db} {m : Members.State}, Inv db → MemRel m db →
    ∃ m', membersTrace s db m ops = some m' ∧ MemRel m' (run s db ops) := by
  intro ops
  induction ops with
  | nil => intro db m _ hm; exact ⟨m, rfl, hm⟩
  | cons op ops ih =>
    intro db m h hm
    obtain ⟨m1, e1, hm1⟩ := memstep_ok s h hm op
    obtain ⟨m2, e2, hm2⟩ := ih (step_ok s h op).1 hm1
    refine ⟨m2, ?_, by rw [run_cons]; exact hm2⟩
    unfold membersTrace
    rw [e1]
    exact e2

theorem mem_crateTracks (s : Schema) (h : Inv db) (c t : Id) : t ∈ crateTracks s db c ↔ (c, t) ∈ db.ctl := by
  unfold crateTracks; rw [ctlView_inv s h]; exact ListAux.mem_snd_of_fst

theorem mem_containing (s : Schema) (h : Inv db) (t c : Id) : c ∈ trackContainingCrates s db t ↔ (c, t) ∈ db.ctl := by
  unfold trackContainingCrates; rw [ctlView_inv s h]; exact ListAux.mem_fst_of_snd

theorem crateTracks_nodup (s : Schema) (h : Inv db) (c : Id) : (crateTracks s db c).Nodup := by
  unfold crateTracks; rw [ctlView_inv s h]; exact nodup_snd_of_fst h.ctlNodup c

theorem containing_nodup (s : Schema) (h : Inv db) (t : Id) : (trackContainingCrates s db t).Nodup := by
  unfold trackContainingCrates; rw [ctlView_inv s h]; exact nodup_fst_of_snd h.ctlNodup t

theorem q_tracks (s : Schema) (h : Inv db) {m : Members.State} (hm : MemRel m db) (c : Id) :
    sortIds (crateTracks s db c) = sortIds (Members.tracksOf m c) := by
  apply sortIds_eq_of_mem (crateTracks_nodup s h c) (nodup_snd_of_fst hm.pairsNodup c)
  exact fun t => (mem_crateTracks s h c t).trans ((Members.mem_tracksOf.trans (hm.pairs _)).symm)

theorem q_containing (s : Schema) (h : Inv db) {m : Members.State} (hm : MemRel m db) (t : Id) :
    sortIds (trackContainingCrates s db t) = sortIds (Members.cratesOf m t) := by
  apply sortIds_eq_of_mem (containing_nodup s h t) (nodup_fst_of_snd hm.pairsNodup t)
  exact fun c => (mem_containing s h t c).trans ((Members.mem_cratesOf.trans (hm.pairs _)).symm)

theorem mem_liveIds (db : Db) (t : Id) : t ∈ (db.track.filter (·.hasPath)).map (·.id) ↔ liveTrack db t := by
  unfold liveTrack
  simp only [List.mem_map, List.mem_filter]
  constructor
  · rintro ⟨r, ⟨hr, h2⟩, h1⟩; exact ⟨r, hr, h1, h2⟩
  · rintro ⟨r, hr, h1, h2⟩; exact ⟨r, ⟨hr, h2⟩, h1⟩

theorem mem_dbTracks (db : Db) (t : Id) : t ∈ dbTracks db ↔ liveTrack db t := mem_sortIds.trans (mem_liveIds db t)

theorem q_dbTracks (h : Inv db) {m : Members.State} (hm : MemRel m db) : dbTracks db = sortIds m.tracks := by
  unfold dbTracks
  apply sortIds_eq_of_mem _ hm.tracksNodup
  · intro t; rw [mem_liveIds, hm.tracks]
  · exact h.trackNodup.sublist (List.Sublist.map _ List.filter_sublist)

theorem q_dbCrates (h : Inv db) {m : Members.State} (hm : MemRel m db) : dbCrates db = sortIds m.crates :=
  sortIds_eq_of_mem h.idsNodup hm.cratesNodup fun c => (hm.crates c).symm

theorem mem_filter_not {α} {q : α → Bool} {p : α} (l : List α) (hq : q p = false) :
    p ∈ l.filter (fun r => !q r) ↔ p ∈ l := by
  rw [List.mem_filter, hq]; exact and_iff_left rfl

theorem frame_ctl (s : Schema) (h : Inv db) (op : Op) (p : Id × Id) (hp : touches (absForest db) op p = false) :
    p ∈ (step s db op).1.ctl ↔ p ∈ db.ctl := by
  rcases step_cases s h op with ⟨_, e, he⟩ | ⟨_, d, o, he, hr⟩
  · rw [he]  -- thrown: the tables are as before, `rw` closes the goal by `Iff.rfl`
  rw [he]
  cases op with
  | addTrack c t =>
    have hp' : (p.1 == c && p.2 == t) = false := hp
    have hne : p ≠ (c, t) := by rw [← not_pair_iff, hp']; rfl
    rw [hr.1, mem_afterAddTrack, or_iff_left hne]
  | removeTrackFrom c t =>
    have hp' : (p.1 == c && p.2 == t) = false := hp
    rw [hr.1]
    exact mem_filter_not (q := fun r : Id × Id => r.1 == c && r.2 == t) _ hp'
  | clearTracks c =>
    have hp' : (p.1 == c) = false := hp
    rw [hr.1]
    exact mem_filter_not (q := fun r : Id × Id => r.1 == c) _ hp'
  | removeTrack t =>
    have hp' : (p.2 == t) = false := hp
    rw [hr.1, (removeTrack_spec s h t).2.2.2.2.1]
    exact mem_filter_not (q := fun r : Id × Id => r.2 == t) _ hp'
  | removeCrate c =>
    have hns : ¬ Sub db c p.1 := by
      rw [sub_iff_abs h.toFInv]
      simp only [touches, Bool.or_eq_false_iff, beq_eq_false_iff_ne, ne_eq] at hp
      rintro (e | e)
      · exact hp.1 e
      · rw [hp.2] at e; cases e
    rw [hr.1, mem_ctl_afterRemove]
    exact ⟨fun hm => hm.1, fun hm => ⟨hm, hns⟩⟩
  | createTrack => obtain ⟨id, seq, rfl, _⟩ := hr; exact Iff.rfl
  | _ => rw [hr.1]; exact Iff.rfl

theorem frame_queries (s : Schema) (h : Inv db) (op : Op) (c t : Id) (hp : touches (absForest db) op (c, t) = false) :
    (t ∈ crateTracks s (step s db op).1 c ↔ t ∈ crateTracks s db c) ∧
    (c ∈ trackContainingCrates s (step s db op).1 t ↔ c ∈ trackContainingCrates s db t) := by
  have h' := inv_step s h op
  rw [mem_crateTracks s h, mem_crateTracks s h', mem_containing s h, mem_containing s h']
  exact ⟨frame_ctl s h op (c, t) hp, frame_ctl s h op (c, t) hp⟩

end EngineModel.Api.CratesV1
