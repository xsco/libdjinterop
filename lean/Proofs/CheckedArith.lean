/-
"Never overflow signed arithmetic" (C05): the decoders / encoders of Impl/V2.lean and
Impl/V1.lean compute every `int64_t` / `int` sum, difference and product the C++ computes with
CHECKED operations (`Chk.add64`, `Chk.mul64`, `Chk.sub32`: `ub signed_overflow` when the exact
result leaves the type).  This file proves that the guards in front of those operations keep
them in range, by showing each checked definition equal to its reading in unbounded `Int`
(`…Z`), under the one side condition the C++ type itself guarantees: a byte vector has fewer
than 2^63 elements (`std::vector<std::byte>::max_size()` = PTRDIFF_MAX), so that `end - ptr` plus
one waveform record still fits `int64_t`.  All later proofs go through the `…Z` forms.

Sites (the only signed arithmetic of the eleven codecs whose operands are not bounded by their
types alone):
  2.x overview waveform  `end - ptr < 3 * (num_entries_1 + 1)`            (sum, product)
  1.x waveforms          `end - ptr != w * (num_entries_1 + 1)`, w = 3, 6 (sum, product)
  1.x beat grid          `end - ptr < 24 * count`                          (product)
  1.x encode_beatgrid    `diff = beatgrid[i + 1].index - beatgrid[i].index` (`int` difference)
Elsewhere the operand types bound the result: `29 + label_length` / `22 + label_length` add a
`uint8_t` to a constant in `int`; `static_cast<int64_t>(a.index) - b.index` subtracts two `int`
values in `int64_t` (`sub64_s32`, `add32_u8` below); sizes are computed in `size_t` (unsigned).
-/
import EngineModel.Impl.V1

namespace EngineModel
namespace ArithZ
open Codec Cur

/-- the `int64_t` difference of two `int` values is always in range -/
theorem sub64_s32 (a b : UInt32) : Chk.sub64 (Prim.s32 a) (Prim.s32 b) = .ok (Prim.s32 a - Prim.s32 b) := by
  apply Chk.sub64_ok
  have ha := a.toNat_lt; have hb := b.toNat_lt
  unfold Chk.in64 Prim.s32
  split <;> split <;> omega

/-- the `int` sum of a small constant and a `uint8_t` is always in range -/
theorem add32_u8 (k : Nat) (hk : k ≤ 1000) (b : UInt8) : Chk.add32 k b.toNat = .ok ((k : Int) + b.toNat) := by
  apply Chk.add32_ok
  have hb := b.toNat_lt
  unfold Chk.in32
  omega

/-- After `n < 0 || n > rem / w` were both false, `n + 1` and `w * (n + 1)` are in `int64_t`. -/
theorem wave_guard (w : Nat) (hw : 0 < w) (hw6 : w ≤ 6) (rem : Nat) (hrem : rem + 24 < maxCount) (s : Int)
    (h0 : ¬ s < 0) (h1 : ¬ ((rem : Int) / (w : Int) < s)) :
    Chk.add64 s 1 = .ok (s + 1) ∧ Chk.mul64 (w : Int) (s + 1) = .ok ((w : Int) * (s + 1)) := by
  have hmc : maxCount = 9223372036854775808 := rfl
  have hs : s ≤ (rem : Int) / (w : Int) := by omega
  have hw' : (0 : Int) < (w : Int) := by omega
  have hmul : (w : Int) * ((rem : Int) / (w : Int)) ≤ (rem : Int) := Int.mul_ediv_self_le (by omega)
  have hws : (w : Int) * s ≤ (rem : Int) := by
    have := Int.mul_le_mul_of_nonneg_left hs (Int.le_of_lt hw')
    omega
  have hsr : s ≤ (rem : Int) := by
    have : (1 : Int) * s ≤ (w : Int) * s := Int.mul_le_mul_of_nonneg_right (by omega) (by omega)
    omega
  constructor
  · apply Chk.add64_ok; unfold Chk.in64; omega
  · apply Chk.mul64_ok
    unfold Chk.in64
    have e : (w : Int) * (s + 1) = (w : Int) * s + (w : Int) := by rw [Int.mul_add, Int.mul_one]
    have hnn : 0 ≤ (w : Int) * s := Int.mul_nonneg (by omega) (by omega)
    omega

/-- The tail of the waveform decoders' length test, run on the `r.length` bytes left after the
24-byte header: with the checked sum and product, and with both read in `Int`.  `R` compares
the remaining length with the product (`<` in 2.x, `≠` in 1.x). -/
theorem wave_guard_run {α} (w : Nat) (hw : 0 < w) (hw6 : w ≤ 6) (s : Int) (R : Nat → Int → Prop)
    [∀ n i, Decidable (R n i)] (K : Nat → Cur α) (r : Bytes) (hr : r.length + 24 < maxCount) :
    (do let rem ← remaining
        if s < 0 ∨ (rem / w : Int) < s then throwC .invalid_argument else
        let n1p ← lift (Chk.add64 s 1)
        let need ← lift (Chk.mul64 (w : Int) n1p)
        if R rem need then throwC .invalid_argument else K rem : Cur α) r =
    (do let rem ← remaining
        if s < 0 ∨ (rem / w : Int) < s ∨ R rem ((w : Int) * (s + 1)) then throwC .invalid_argument
        else K rem : Cur α) r := by
  simp only [bind_run, remaining_run]
  by_cases hg : s < 0 ∨ (r.length / w : Int) < s
  · rw [if_pos hg, if_pos (hg.elim Or.inl fun h => Or.inr (Or.inl h))]
  · obtain ⟨ha, hm⟩ := wave_guard w hw hw6 r.length hr s (fun h => hg (Or.inl h)) (fun h => hg (Or.inr h))
    rw [if_neg hg]
    simp only [ha, hm, lift_ok_run, bind_run]
    by_cases hc : R r.length ((w : Int) * (s + 1))
    · rw [if_pos hc, if_pos (Or.inr (Or.inr hc))]
    · rw [if_neg hc, if_neg fun h => h.elim (fun h => hg (Or.inl h)) fun h => h.elim (fun h => hg (Or.inr h)) hc]

/-- `Impl.V2.decodeOvw` with the arithmetic of its length test read in unbounded `Int`. -/
def decodeOvwZ (bs : Bytes) : Res (V2.Ovw × Bytes) :=
  if bs.length < 27 then .throw .invalid_argument else
  (do
    let n1 ← rd u64be
    let n2 ← rd u64be
    let spp ← rd u64be
    if n1 ≠ n2 then throwC .invalid_argument else
    let rem ← remaining
    if Prim.s64 n1 < 0 ∨ (rem / 3 : Int) < Prim.s64 n1 ∨ (rem : Int) < 3 * (Prim.s64 n1 + 1)
      then throwC .invalid_argument else
    let pts ← takeN (3 * n1.toNat)
    let mx ← takeN 3
    let extra ← rest
    pure (⟨spp, pts, mx⟩, extra) : Cur (V2.Ovw × Bytes)) bs |>.bind (fun p => .ok p.1)

theorem decodeOvw_eq_Z (bs : Bytes) (hlen : bs.length < maxCount) : Impl.V2.decodeOvw bs = decodeOvwZ bs := by
  unfold Impl.V2.decodeOvw decodeOvwZ
  by_cases h27 : bs.length < 27
  · rw [if_pos h27, if_pos h27]
  · rw [if_neg h27, if_neg h27]
    refine congrArg (fun x => Res.bind x _) ?_
    rw [rd_u64be3_run _ (by omega), rd_u64be3_run _ (by omega)]
    by_cases hn : u64be.get bs ≠ u64be.get (bs.drop 8)
    · rw [if_pos hn, if_pos hn]
    · rw [if_neg hn, if_neg hn]
      exact wave_guard_run 3 (by omega) (by omega) _ (fun rem need => (rem : Int) < need) _ _
        (by rw [List.length_drop]; omega)

/-- `Impl.V1.decodeWave` with the arithmetic of its length test read in unbounded `Int`. -/
def decodeWaveZ (minLen w : Nat) (entry : Cur Impl.V1.Entry) (bs : Bytes) : Res Impl.V1.Wave :=
  if bs.length < minLen then .throw .invalid_argument else
  (do
    let n1 ← rd u64be
    let n2 ← rd u64be
    let spe ← rd u64be
    if n1 ≠ n2 then throwC .invalid_argument else
    let rem ← remaining
    if Prim.s64 n1 < 0 ∨ (rem / w : Int) < Prim.s64 n1 ∨ (rem : Int) ≠ (w : Int) * (Prim.s64 n1 + 1)
      then throwC .invalid_argument else
    let es ← forN entry n1.toNat
    let _ ← takeN w
    let rem ← remaining
    if rem ≠ 0 then throwC .runtime_error else
    pure (⟨spe, es⟩ : Impl.V1.Wave)) bs |>.bind (fun p => .ok p.1)

theorem decodeWave_eq_Z (minLen w : Nat) (hm : 24 ≤ minLen) (hw : 0 < w) (hw6 : w ≤ 6)
    (entry : Cur Impl.V1.Entry) (bs : Bytes) (hlen : bs.length < maxCount) :
    Impl.V1.decodeWave minLen w entry bs = decodeWaveZ minLen w entry bs := by
  unfold Impl.V1.decodeWave decodeWaveZ
  by_cases hmin : bs.length < minLen
  · rw [if_pos hmin, if_pos hmin]
  · rw [if_neg hmin, if_neg hmin]
    refine congrArg (fun x => Res.bind x _) ?_
    rw [rd_u64be3_run _ (by omega), rd_u64be3_run _ (by omega)]
    by_cases hn : u64be.get bs ≠ u64be.get (bs.drop 8)
    · rw [if_pos hn, if_pos hn]
    · rw [if_neg hn, if_neg hn]
      exact wave_guard_run w hw hw6 _ (fun rem need => (rem : Int) ≠ need) _ _
        (by rw [List.length_drop]; omega)

/-! 1.x beat grid: `24 * count` is computed only for `2 ≤ count ≤ 32768`. -/

def decodeGrid1Z : Cur (List Impl.V1.GMarker) := do
  let rem ← remaining
  if rem < 8 then throwC .invalid_argument else
  let count ← rd u64be
  if Prim.s64 count = 0 then pure [] else
  if Prim.s64 count < 2 then throwC .invalid_argument else
  if Prim.s64 count > 32768 then throwC .invalid_argument else
  let rem ← remaining
  if (rem : Int) < 24 * Prim.s64 count then throwC .invalid_argument else
  let wire ← forN (rd EngineModel.V2.marker) count.toNat
  fun bs => match Impl.V1.checkWire none wire with
    | .ok g => .ok (g, bs)
    | .throw e => .throw e
    | .ub u => .ub u

theorem decodeGrid1_eq_Z : Impl.V1.decodeGrid = decodeGrid1Z := by
  funext bs
  unfold Impl.V1.decodeGrid decodeGrid1Z
  simp only [bind_run, remaining_run]
  by_cases h8 : bs.length < 8
  · simp only [h8, if_true]
  · simp only [h8, if_false, bind_run]
    cases hr : rd u64be bs with
    | ok p =>
      obtain ⟨count, r⟩ := p
      simp only []
      by_cases h0 : Prim.s64 count = 0
      · simp only [h0, if_true]
      · by_cases h2 : Prim.s64 count < 2
        · simp only [h0, if_false, h2, if_true]
        · by_cases hb : Prim.s64 count > 32768
          · simp only [h0, if_false, h2, hb, if_true]
          · have hm : Chk.mul64 24 (Prim.s64 count) = .ok (24 * Prim.s64 count) := by
              apply Chk.mul64_ok; unfold Chk.in64; omega
            simp only [h0, if_false, h2, hb, bind_run, remaining_run, hm, lift_ok_run]
            rfl
    | throw e => rfl
    | ub u => rfl

/-- `Impl.V1.encodeBeat` with the index differences read in unbounded `Int` (`toWire`). -/
def encodeBeatZ (v : Impl.V1.Beat) : Res Bytes :=
  if !Impl.V1.validGrid v.dflt || !Impl.V1.validGrid v.adj then .throw .invalid_argument else
  let w : EngineModel.V2.Beat :=
    ⟨v.sampleRate.getD 0, v.sampleCount.getD 0, 1, Impl.V1.toWire v.dflt, Impl.V1.toWire v.adj⟩
  Impl.V2.writeInto (33 + 24 * (v.dflt.length + v.adj.length)) (EngineModel.V2.beat.enc w)

theorem validGrid_go_toWireC : ∀ (g : List Impl.V1.GMarker), Impl.V1.validGrid.go g = true →
    Impl.V1.toWireC g = .ok (Impl.V1.toWire g)
  | [], _ => rfl
  | [a], _ => rfl
  | a :: b :: rest, h => by
    simp only [Impl.V1.validGrid.go, Bool.and_eq_true, decide_eq_true_eq] at h
    obtain ⟨⟨⟨h1, h2⟩, _⟩, h4⟩ := h
    have hs : Chk.sub32 (Prim.s32 b.index) (Prim.s32 a.index) = .ok (Prim.s32 b.index - Prim.s32 a.index) := by
      apply Chk.sub32_ok; unfold Chk.in32; omega
    simp only [Impl.V1.toWireC, hs, validGrid_go_toWireC (b :: rest) h4, Impl.V1.toWire]

theorem validGrid_toWireC (g : List Impl.V1.GMarker) (h : Impl.V1.validGrid g = true) :
    Impl.V1.toWireC g = .ok (Impl.V1.toWire g) := by
  match g, h with
  | [], _ => rfl
  | [a], h => simp [Impl.V1.validGrid] at h
  | a :: b :: rest, h =>
    simp only [Impl.V1.validGrid, Bool.and_eq_true] at h
    exact validGrid_go_toWireC _ h.2

/-- `validate_beatgrid` keeps every `int` difference of `encode_beatgrid` in range. -/
theorem encodeBeat_eq_Z (v : Impl.V1.Beat) : Impl.V1.encodeBeat v = encodeBeatZ v := by
  unfold Impl.V1.encodeBeat encodeBeatZ
  by_cases h : (!Impl.V1.validGrid v.dflt || !Impl.V1.validGrid v.adj) = true
  · simp only [h, if_true]
  · simp only [h]
    simp only [Bool.or_eq_true, Bool.not_eq_true', not_or, Bool.not_eq_false] at h
    rw [validGrid_toWireC _ h.1, validGrid_toWireC _ h.2]

/-- Without `validate_beatgrid` the difference does overflow: indices `−2^31` and `2^31 − 1`. -/
theorem toWireC_overflow_counterexample :
    Impl.V1.toWireC [⟨2147483648, 0⟩, ⟨2147483647, 0x3ff0000000000000⟩] = .ub .signed_overflow := by decide

/-- Without the `count > 32768` test the product overflows: `24 * 2^59`. -/
example : Chk.mul64 24 (Prim.s64 576460752303423488) = .ub .signed_overflow := by decide
/-- Without the `n > rem / w` test the sum overflows: `(2^63 − 1) + 1`. -/
example : Chk.add64 (Prim.s64 9223372036854775807) 1 = .ub .signed_overflow := by decide

end ArithZ
end EngineModel
