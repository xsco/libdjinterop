/-
Transfer of the C02 / C03 / C05 statements about the schema-1.x *encoders* (and the pairs encoder / decoder)
from the hand model `Impl.V1.*` to the model regenerated from the C++ sources (`Gen.ImplV1.*`,
tools/tr_blobs_v1.py), through the equalities of Proofs/ImplV1GenEnc.lean, ImplV1GenBeat.lean,
ImplV1GenLists.lean (encoders) and Proofs/ImplV1Gen.lean (decoders):

* `gen_v1_*_encode_spec*` (C02): the regenerated encoder returns `ok b` exactly when the independent Spec
  encoder of Format/V1.lean returns `some b` — same bytes, same rejections;
* `gen_v1_*_readback*` / `_roundtrip*` / `_reject*` (C03): on the *regenerated pair*, decode (encode v) is the
  format's reading of `v`; values outside the encodable domain end in an exception;
* `gen_v1_*_encode_safe*` (C05): the regenerated encoder never produces an undefined-behaviour outcome
  (no write past the buffer, no overflowing `int` / `int64_t` arithmetic, no out-of-range `v[i]`).

Size hypotheses: those of the equalities (payload below 2^63 bytes, resp. the decoder's bound).
-/
import Proofs.ImplV1GenTransfer
import Proofs.ImplV1GenEnc
import Proofs.ImplV1GenBeat
import Proofs.ImplV1GenLists
import Proofs.ImplV1Beat
import Proofs.PayloadNonempty
import Properties.C02

namespace EngineModel.Gen.ImplV1
open Codec Cur EngineModel.V1Proofs EngineModel.Properties.C02

theorem gen_v1_ovw_encode_spec_partial (v : Impl.V1.Wave) (h : 27 + 3 * v.entries.length < 9223372036854775808)
    (b : Bytes) : encodeOvw v = .ok b ↔ V1.encodeOvw v = some b := by
  rw [encodeOvw_eq_partial v h]; exact C02_v1_ovw_encode_agrees v b

theorem gen_v1_hires_encode_spec_partial (v : Impl.V1.Wave) (h : 30 + 6 * v.entries.length < 9223372036854775808)
    (b : Bytes) : encodeHires v = .ok b ↔ V1.encodeHires v = some b := by
  rw [encodeHires_eq_partial v h]; exact C02_v1_hires_encode_agrees v b

/-- C03 on the regenerated pair of `overview_waveform_data`: the three value channels come back, the opacity is 255. -/
theorem gen_v1_ovw_readback_partial (v : Impl.V1.Wave) (h : 27 + 3 * v.entries.length < 4611686018427387904) :
    ∃ b, encodeOvw v = .ok b ∧ decodeOvw b = .ok ⟨v.spe, v.entries.map opaq⟩ := by
  obtain ⟨b, hs, hi⟩ := encodeOvw_ok v
  have hb : b.length = 27 + 3 * v.entries.length := Impl.V2.writeInto_length hi
  refine ⟨b, by rw [encodeOvw_eq_partial v (by omega)]; exact hi, ?_⟩
  rw [gen_v1_ovw_spec_partial b (by omega), spec_ovw_roundtrip v (by unfold maxCount; omega) b hs]; rfl

/-- C03 on the regenerated pair of `high_res_waveform_data`. -/
theorem gen_v1_hires_roundtrip_partial (v : Impl.V1.Wave) (h : 30 + 6 * v.entries.length < 9223372036854775808) :
    ∃ b, encodeHires v = .ok b ∧ decodeHires b = .ok v := by
  obtain ⟨b, hs, hi⟩ := encodeHires_ok v
  have hb : b.length = 30 + 6 * v.entries.length := Impl.V2.writeInto_length hi
  refine ⟨b, by rw [encodeHires_eq_partial v h]; exact hi, ?_⟩
  rw [gen_v1_hires_spec_partial b (by omega), spec_hires_roundtrip v (by unfold maxCount; omega) b hs]; rfl

theorem gen_v1_ovw_encode_safe_partial (v : Impl.V1.Wave) (h : 27 + 3 * v.entries.length < 9223372036854775808)
    (u : Ub) : encodeOvw v ≠ .ub u :=
  encodeOvw_eq_partial v h ▸ (encodeOvw_follows v).never_ub u

theorem gen_v1_hires_encode_safe_partial (v : Impl.V1.Wave) (h : 30 + 6 * v.entries.length < 9223372036854775808)
    (u : Ub) : encodeHires v ≠ .ub u :=
  encodeHires_eq_partial v h ▸ (encodeHires_follows v).never_ub u

theorem cueLen_le (s : Option Impl.V1.HotCue) (h : V1.cueSlotOk s = true) : cueLen s ≤ 255 := by
  cases s with
  | none => simp [cueLen]
  | some q => simp only [V1.cueSlotOk, decide_eq_true_eq] at h; exact h.2

theorem loopLen_le (s : Option Impl.V1.LoopV) (h : V1.loopSlotOk s = true) : loopLen s ≤ 255 := by
  cases s with
  | none => simp [loopLen]
  | some q => simp only [V1.loopSlotOk, decide_eq_true_eq] at h; exact h.2

theorem sum_le_of_all {α} (f : α → Nat) (ok : α → Bool) (hf : ∀ a, ok a = true → f a ≤ 255) :
    ∀ l : List α, l.all ok = true → (l.map f).sum ≤ 255 * l.length := by
  intro l
  induction l with
  | nil => intro _; simp
  | cons a l ih =>
    intro h
    simp only [List.all_cons, Bool.and_eq_true] at h
    have := hf a h.1
    have := ih h.2
    simp only [List.map_cons, List.sum_cons, List.length_cons]
    omega

theorem gen_v1_cues_encode_spec_partial (v : Impl.V1.Cues)
    (h : 129 + Impl.V2.labelsLen (Impl.V1.cueLabels v.cues) < 9223372036854775808) (b : Bytes) :
    encodeCues v = .ok b ↔ V1.encodeCues v = some b := by
  rw [encodeCues_eq_partial v h]; exact C02_v1_cues_encode_agrees v b

theorem cues_size_ok (v : Impl.V1.Cues) (h8 : v.cues.length = 8) (h : v.cues.all V1.cueSlotOk = true) :
    129 + Impl.V2.labelsLen (Impl.V1.cueLabels v.cues) ≤ 129 + 2040 := by
  rw [cueLabels_sum]
  have := sum_le_of_all cueLen V1.cueSlotOk cueLen_le v.cues h
  omega

/-- C03 on the regenerated pair of `quick_cues_data` (exactly 8 slots, labels of 1..255 bytes). -/
theorem gen_v1_cues_readback (v : Impl.V1.Cues) (h8 : v.cues.length = 8) (h : v.cues.all V1.cueSlotOk = true) :
    ∃ b, encodeCues v = .ok b ∧ decodeCues b = .ok ⟨v.cues.map normCue, v.adjMain, v.defMain⟩ := by
  have hsz := cues_size_ok v h8 h
  have hi := encodeCues_ok v h8 h
  have hb : (V2.cuesRaw.enc (cuesWire v)).length = 129 + Impl.V2.labelsLen (Impl.V1.cueLabels v.cues) := by
    rw [Impl.V2.cuesRaw_enc_length, cueLabels_len]; simp [cuesWire, h8]
  refine ⟨_, by rw [encodeCues_eq_partial v (by omega)]; exact hi, ?_⟩
  rw [gen_v1_cues_spec_partial _ (by omega), spec_cues_roundtrip v h8 h]; rfl

/-- more or fewer than 8 slots, an empty label, a label over 255 bytes: an exception — never other bytes, never a
write past the buffer -/
theorem gen_v1_cues_reject_partial (v : Impl.V1.Cues)
    (hs : 129 + Impl.V2.labelsLen (Impl.V1.cueLabels v.cues) < 9223372036854775808)
    (h : ¬ (v.cues.length = 8 ∧ v.cues.all V1.cueSlotOk = true)) : ∃ e, encodeCues v = .throw e := by
  rw [encodeCues_eq_partial v hs]; exact encodeCues_reject v h

theorem gen_v1_cues_encode_safe_partial (v : Impl.V1.Cues)
    (hs : 129 + Impl.V2.labelsLen (Impl.V1.cueLabels v.cues) < 9223372036854775808) (u : Ub) :
    encodeCues v ≠ .ub u :=
  encodeCues_eq_partial v hs ▸ (encodeCues_follows v).never_ub u

theorem gen_v1_loops_encode_spec_partial (v : Impl.V1.Loops)
    (h : 8 + 23 * v.length + Impl.V2.labelsLen (Impl.V1.loopLabels v) < 9223372036854775808) (b : Bytes) :
    encodeLoops v = .ok b ↔ V1.encodeLoops v = some b := by
  rw [encodeLoops_eq_partial v h]; exact C02_v1_loops_encode_agrees v b

/-- C03 on the regenerated pair of `loops_data` (labels of 1..255 bytes; fewer than 2^52 slots). -/
theorem gen_v1_loops_readback_partial (v : Impl.V1.Loops) (hrep : v.length < 4503599627370496)
    (h : v.all V1.loopSlotOk = true) :
    ∃ b, encodeLoops v = .ok b ∧ decodeLoops b = .ok (v.map normLoop) := by
  have hsum := sum_le_of_all loopLen V1.loopSlotOk loopLen_le v h
  have hi := encodeLoops_ok v h
  have hb : (V2.loops.enc (v.map V1.loopToWire)).length =
      8 + 23 * v.length + Impl.V2.labelsLen (Impl.V1.loopLabels v) := by
    rw [Impl.V2.loops_enc_length, loopLabels_len]; simp
  have hsz : 8 + 23 * v.length + Impl.V2.labelsLen (Impl.V1.loopLabels v) < 2305843009213693952 := by
    rw [loopLabels_sum]; omega
  refine ⟨_, by rw [encodeLoops_eq_partial v (by omega)]; exact hi, ?_⟩
  rw [gen_v1_loops_spec_partial _ (by omega), spec_loops_roundtrip v (by unfold maxCount; omega) h]; rfl

theorem gen_v1_loops_reject_partial (v : Impl.V1.Loops)
    (hs : 8 + 23 * v.length + Impl.V2.labelsLen (Impl.V1.loopLabels v) < 9223372036854775808)
    (h : v.all V1.loopSlotOk = false) : ∃ e, encodeLoops v = .throw e := by
  rw [encodeLoops_eq_partial v hs]; exact encodeLoops_reject v h

theorem gen_v1_loops_encode_safe_partial (v : Impl.V1.Loops)
    (hs : 8 + 23 * v.length + Impl.V2.labelsLen (Impl.V1.loopLabels v) < 9223372036854775808) (u : Ub) :
    encodeLoops v ≠ .ub u :=
  encodeLoops_eq_partial v hs ▸ (encodeLoops_follows v).never_ub u

theorem gen_v1_beat_encode_spec (v : Impl.V1.Beat) (b : Bytes) :
    encodeBeat v = .ok b ↔ V1.encodeBeat v = some b := by
  rw [encodeBeat_eq]; exact C02_v1_beat_encode_agrees v b

/-- a grid outside the domain (one marker, more than 32768, not strictly increasing) is rejected -/
theorem gen_v1_beat_encode_reject (v : Impl.V1.Beat) (h : ¬ (V1.gridOk v.dflt = true ∧ V1.gridOk v.adj = true)) :
    encodeBeat v = .throw .invalid_argument := by
  rw [encodeBeat_eq]; exact encodeBeat_reject v h

/-- the regenerated 1.x beat-data encoder never overflows (`v[i + 1].index - v[i].index` in `int`), never indexes
out of range, never writes past the buffer -/
theorem gen_v1_beat_encode_safe (v : Impl.V1.Beat) (u : Ub) : encodeBeat v ≠ .ub u :=
  encodeBeat_eq ▸ (encodeBeat_follows v).never_ub u

/-! ### non-vacuity of the hypotheses -/

example : 27 + 3 * (⟨0, [⟨1, 2, 3, 255, 255, 255⟩]⟩ : Impl.V1.Wave).entries.length < 4611686018427387904 := by decide
example : encodeOvw ⟨0, [⟨1, 2, 3, 255, 255, 255⟩]⟩ =
    .ok ([0,0,0,0,0,0,0,1, 0,0,0,0,0,0,0,1, 0,0,0,0,0,0,0,0, 1,2,3, 1,2,3]) := by decide
example : encodeHires ⟨0, [⟨1, 2, 3, 4, 5, 6⟩, ⟨9, 1, 1, 1, 1, 7⟩]⟩ =
    .ok ([0,0,0,0,0,0,0,2, 0,0,0,0,0,0,0,2, 0,0,0,0,0,0,0,0, 1,2,3,4,5,6, 9,1,1,1,1,7, 9,2,3,4,5,7]) := by decide
example : (([some ⟨[76], 0, 0, ⟨255, 9, 8, 7⟩⟩, none] : Impl.V1.Loops).all V1.loopSlotOk = true) := by decide
example : ([some ⟨[], 0, 0, ⟨0, 0, 0, 0⟩⟩] : Impl.V1.Loops).all V1.loopSlotOk = false := by decide
example : ¬ (V1.gridOk [⟨0, 0⟩] = true ∧ V1.gridOk ([] : List Impl.V1.GMarker) = true) := by decide
example : encodeBeat ⟨none, none, [⟨0, 0⟩], []⟩ = .throw .invalid_argument := by decide
example : ¬ ((⟨[none, none, none], 0, 0⟩ : Impl.V1.Cues).cues.length = 8 ∧
    (⟨[none, none, none], 0, 0⟩ : Impl.V1.Cues).cues.all V1.cueSlotOk = true) := by decide
example : encodeCues ⟨[none, none, none], 0, 0⟩ = .throw .runtime_error := by decide

end EngineModel.Gen.ImplV1
