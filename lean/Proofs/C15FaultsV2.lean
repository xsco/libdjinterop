/-
Lemmas for Properties/C15Faults.lean, schema 2.x crates: a call executed as its statement program under
any fault plan ends on the prior state or on `step`'s state (C14's all-or-nothing + the program refinement), so
the invariant of the crates-2.x package survives every history with failures.
-/
import EngineModel.Api.FaultsV2
import Proofs.V2CratesStmts
import Proofs.NoUbCratesV2
import Proofs.CratesV2Members
import Proofs.Machine

namespace EngineModel.Proofs.C15FaultsV2
open EngineModel EngineModel.Db.Chain EngineModel.Db.V2 EngineModel.Api.GuardedV2 EngineModel.Api.FaultsV2
open EngineModel.Spec.Txn EngineModel.Spec.Stmts EngineModel.Machine

theorem stmts_no_rollback (d : Db) (op : Op) : ∀ x ∈ stmts d op, x.kind ≠ .rollback :=
  Proofs.Stmts.form_no_rollback _ _ (V2CratesStmts.body_rw d op)

/-- **a raised run restores the prior state**, whatever made it raise (an injected fault at any position, or a
statement refusing by itself), with or without SQLite's own rollback -/
theorem raised_restores (d : Db) (op : Op) (fault : Option Nat) (auto : Bool)
    (hr : (call fault auto (stmts d op) d).raised = true) : (call fault auto (stmts d op) d).conn = Conn.idle d :=
  (Proofs.Txn.shape_sound (stmts d op) (V2CratesStmts.stmts_atomic d op) fault auto d).1 hr

/-- a run that does not raise has made exactly `step`'s tables durable (when `step` returns normally), whatever
the plan -/
theorem completed_is_step (d : Db) (op : Op) (out : Out) (h : (step d op).2 = .ok out) (fault : Option Nat) (auto : Bool)
    (hr : (call fault auto (stmts d op) d).raised = false) :
    (call fault auto (stmts d op) d).conn = Conn.idle (step d op).1 := by
  obtain ⟨d', hd, hc⟩ := (Proofs.Stmts.form_outcome (scopedAt d op) auto fault _ (V2CratesStmts.body_rw d op)
    (V2CratesStmts.flat_one_write d op) d).2.1 hr
  rw [V2CratesStmts.body_replay d op out h] at hd
  cases hd; exact hc

theorem view_idle (d : Db) : (Conn.idle d).view = d := rfl

theorem callF_some (d : Db) (op : Op) (p : Plan) :
    callF d op (some p) = Proofs.Stmts.faulted (stepG d op) (call (some p.k) p.auto (stmts d op) d) := by
  show (match (stepG d op).2 with | .ub _ => _ | _ => _) = _
  unfold Proofs.Stmts.faulted; cases (stepG d op).2 <;> rfl

theorem callF_cases (d : Db) (op : Op) (plan : Option Plan) :
    callF d op plan = step d op ∨ callF d op plan = (d, .throw .sqlite_error) := by
  rw [← stepG_eq d op]
  cases plan with
  | none => exact .inl rfl
  | some p => exact callF_some d op p ▸ Proofs.Stmts.faulted_atomic _ _ (V2CratesStmts.stmts_atomic d op) _ _ d

theorem callF_state (d : Db) (op : Op) (plan : Option Plan) :
    (callF d op plan).1 = d ∨ (callF d op plan).1 = (step d op).1 :=
  (callF_cases d op plan).symm.imp (congrArg Prod.fst) (congrArg Prod.fst)

theorem callF_outcome (d : Db) (op : Op) (plan : Option Plan) :
    (callF d op plan).2 = (step d op).2 ∨ (callF d op plan).2 = .throw .sqlite_error :=
  (callF_cases d op plan).imp (congrArg Prod.snd) (congrArg Prod.snd)

theorem callF_fault_inside (d : Db) (op : Op) (p : Plan) (hk : p.k < positions d op)
    (hu : ∀ u, (stepG d op).2 ≠ .ub u) : callF d op (some p) = (d, .throw .sqlite_error) :=
  callF_some d op p ▸ Proofs.Stmts.faulted_inside _ _ (V2CratesStmts.stmts_atomic d op) p.k p.auto d hk hu

theorem callF_defined {S : Ord} {d : Db} (hI : Inv S d) (op : Op) (plan : Option Plan) (u : Ub) :
    (callF d op plan).2 ≠ .ub u :=
  (keeps_of_fails (Inv := fun _ => True) (P := fun r => ∀ u, r ≠ .ub u) (callF_cases d op plan) trivial
    (fun _ h => nomatch h) ⟨trivial, step_defined d hI.pl.wf op⟩).2 u

/-- The invariant (for some Spec lists `S'`) survives every history with failures of the calls the membership
simulation covers, and no call of such a history is undefined. -/
theorem after_faults (hist : List FCall) {S : Ord} {d : Db} (hI : Inv S d) (hm : (hist.all fun c => memOp c.1) = true) :
    (∃ S', Inv S' (runF d hist)) ∧ ∀ r ∈ outcomesF d hist, ∀ u, r ≠ .ub u :=
  after_failures (step := step) (stepF := fun d c => callF d c.1 c.2) (e := Prod.fst) (Inv := fun d => ∃ S, Inv S d)
    (A := fun op => memOp op = true) (fun d c _ => callF_cases d c.1 c.2) (fun _ h => nomatch h)
    (fun d op ⟨_, h⟩ hm => ⟨⟨_, inv_step h op hm⟩, step_defined d h.pl.wf op⟩)
    ⟨fun _ => rfl, fun _ _ _ => rfl⟩ ⟨fun _ => rfl, fun _ _ _ => rfl⟩ hist d ⟨S, hI⟩ (List.all_eq_true.mp hm)

theorem inv_runF (hist : List FCall) {S : Ord} {d : Db} (hI : Inv S d) (hm : (hist.all fun c => memOp c.1) = true) :
    ∃ S', Inv S' (runF d hist) :=
  (after_faults hist hI hm).1

theorem outcomesF_defined (hist : List FCall) {S : Ord} {d : Db} (hI : Inv S d)
    (hm : (hist.all fun c => memOp c.1) = true) : ∀ r ∈ outcomesF d hist, ∀ u, r ≠ .ub u :=
  (after_faults hist hI hm).2

end EngineModel.Proofs.C15FaultsV2
