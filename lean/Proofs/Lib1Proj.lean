/-
Projections of the composite run on its components, and closing + loading again.

* `crOps`: the crates-package operations a history of composite calls performs on `L.cr` (a `create_track` that
  throws performs none; `update`, setters and observers perform none).  `run_cr`: the crate tables + Track key table
  of the composite run ARE the crates package's run over `crOps` — so every theorem of C07 / C08 / C11 (1.x), proved
  there for all operation lists, holds of the composite for all histories of calls.
* `reload_eq`: `reload s L = some (s, L)` as soon as m.db carries the version stamp of `s`, the rows are of schema `s` and
  the Track ids are distinct: the schema is re-detected from the stamp, and each PerformanceData row is found again under
  its track's id (the primary key of Track is what makes the lookup by id return the row that was stored).
-/
import Proofs.Lib1Inv

namespace EngineModel.Lib.V1
open EngineModel.Api
open EngineModel.Api.CratesV1 (liveTrack trackAutoinc)
open EngineModel.TracksV1 (Snap Field TrackRows PerfRow aget aset TableOk DbInv KeysDistinct dbCreate)
open EngineModel.TracksV1.Fl (FOps)

def crOps (o : FOps) (s : VSchema) : Lib1 → List Call → List CratesV1.Op
  | _, [] => []
  | L, c :: cs => (crOp o L c).toList ++ crOps o s (step o s L c).1 cs

theorem viaTracks_cr (L : Lib1) (r : Res TracksV1.Db) : (viaTracks L r).1.cr = L.cr := by
  cases r <;> rfl

theorem step_cr (o : FOps) (s : VSchema) (L : Lib1) (c : Call) :
    (step o s L c).1.cr = match crOp o L c with
      | some op => (CratesV1.step (toDetect s) L.cr op).1
      | none => L.cr := by
  cases step_eff o s L c with
  | idle e h0 _ =>
    rw [e, h0]
  | crate op hop _ e _ =>
    rw [e, hop]; rfl
  | create x id seq rows _ _ hd hc e =>
    rw [e, show crOp o L (.createTrack x) = if (dbCreate o L.tr x).isOk then some CratesV1.Op.createTrack else none from rfl, hd]
    exact (congrArg Prod.fst hc).symm
  | remove t =>
    rfl
  | write t r r' _ hk _ e =>
    rw [e]
    rcases hk with ⟨x, rfl, _⟩ | ⟨f, v, rfl, _⟩ <;> rfl

theorem run_cr (o : FOps) (s : VSchema) : ∀ (cs : List Call) (L : Lib1),
    (run o s L cs).cr = CratesV1.run (toDetect s) L.cr (crOps o s L cs) := by
  intro cs
  induction cs with
  | nil => intro L; rfl
  | cons c cs ih =>
    intro L
    rw [run_cons, ih, step_cr, crOps]
    cases crOp o L c with
    | none => rfl
    | some op => rfl

theorem aget_filterMap_none (l : List (Int × TrackRows)) (k : Int) (h : k ∉ l.map (·.1)) :
    aget k (l.filterMap fun e => e.2.perf.map fun p => (e.1, p)) = none := by
  induction l with
  | nil => rfl
  | cons a t ih =>
    simp only [List.map_cons, List.mem_cons, not_or] at h
    cases hp : a.2.perf with
    | none => simp only [List.filterMap_cons, hp, Option.map_none]; exact ih h.2
    | some p =>
      simp only [List.filterMap_cons, hp, Option.map_some, aget]
      rw [if_neg (fun e => h.1 e.symm)]
      exact ih h.2

theorem aget_filterMap_perf (l : List (Int × TrackRows)) (hk : (l.map (·.1)).Nodup) (e : Int × TrackRows) (he : e ∈ l) :
    aget e.1 (l.filterMap fun e => e.2.perf.map fun p => (e.1, p)) = e.2.perf := by
  induction l with
  | nil => cases he
  | cons a t ih =>
    simp only [List.map_cons, List.nodup_cons] at hk
    rcases List.mem_cons.mp he with rfl | ht
    · cases hp : e.2.perf with
      | none => simp only [List.filterMap_cons, hp, Option.map_none]; exact aget_filterMap_none t e.1 hk.1
      | some p => simp only [List.filterMap_cons, hp, Option.map_some, aget, if_true]
    · have hne : a.1 ≠ e.1 := fun heq => hk.1 (heq ▸ List.mem_map.mpr ⟨e, ht, rfl⟩)
      cases hp : a.2.perf with
      | none => simp only [List.filterMap_cons, hp, Option.map_none]; exact ih hk.2 ht
      | some p =>
        simp only [List.filterMap_cons, hp, Option.map_some, aget]
        rw [if_neg hne]
        exact ih hk.2 ht

theorem detect_stamp (s : VSchema) :
    Pure.Detect.specDetect (toDetect s).version.1 (toDetect s).version.2.1 (toDetect s).version.2.2 (markerOf s)
      = .schema (toDetect s) := by
  cases s <;> rfl

theorem ofDetect_toDetect (s : VSchema) : ofDetect (toDetect s) = some s := by
  cases s <;> rfl

theorem reload_eq {s : VSchema} {L : Lib1} (hM : L.infoM.version = (toDetect s).version) (hs : L.tr.schema = s)
    (hk : KeysDistinct L.tr) : reload s L = some (s, L) := by
  unfold reload load store
  simp only
  rw [hM, detect_stamp s]
  simp only [ofDetect_toDetect, Option.map_some, Option.some.injEq, Prod.mk.injEq, true_and]
  have htr : (L.tr.tracks.map (fun e => (e.1, { e.2 with perf := (none : Option PerfRow) }))).map
      (fun e => (e.1, { e.2 with perf := aget e.1 (L.tr.tracks.filterMap fun e => e.2.perf.map fun p => (e.1, p)) }))
      = L.tr.tracks := by
    rw [List.map_map]
    conv => rhs; rw [← List.map_id L.tr.tracks]
    apply List.map_congr_left
    intro e he
    simp only [Function.comp, id]
    rw [aget_filterMap_perf _ hk e he]
  rw [htr]
  obtain ⟨tr, cr, aa, im, ip, dir⟩ := L
  obtain ⟨sch, tracks⟩ := tr
  simp only at hs
  subst hs
  rfl

end EngineModel.Lib.V1
