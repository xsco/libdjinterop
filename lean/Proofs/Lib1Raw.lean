/-
`LibInv s L → libInvRaw s (raw L) = true`: the executable whole-library check that the driver evaluates on the
REAL dump holds of the raw projection of every model state satisfying the invariant — conjunct by conjunct,
among them `fkViolationsAll (raw L) = []` (what `PRAGMA foreign_key_check` reports over all declared keys).
-/
import Proofs.Lib1Members
import Proofs.CratesV1WfConv

namespace EngineModel.Lib.V1
open EngineModel.Api
open EngineModel.Api.CratesV1 (liveTrack trackAutoinc)
open EngineModel.TracksV1 (Snap Field TrackRows aget aset TableOk DbInv KeysDistinct)

theorem live_of_key {s : VSchema} {L : Lib1} (h : LibInv s L) {e : Int × TrackRows} (he : e ∈ L.tr.tracks) :
    liveTrack L.cr e.1 := (h.coupled e.1).mpr (TracksV1.mem_rows_isSome _ e he)

theorem key_in_tids {s : VSchema} {L : Lib1} (h : LibInv s L) {e : Int × TrackRows} (he : e ∈ L.tr.tracks) :
    e.1 ∈ L.cr.track.map (·.id) := by
  obtain ⟨r, hr, hre, _⟩ := live_of_key h he
  exact List.mem_map.mpr ⟨r, hr, hre⟩

/-- The album-art cell the dump shows for a Track row: NULL when the row has no track (the placeholder), else row 1. -/
theorem trackArt_cell {s : VSchema} {L : Lib1} (h : LibInv s L) (x : Id) :
    ((L.tr.rows x).bind fun r => r.track.idAlbumArt) = if (L.tr.rows x).isSome then some 1 else none := by
  cases hrow : L.tr.rows x with
  | none => rfl
  | some r => exact h.art x r hrow

theorem fkViolationsAll_eq_nil (r : Raw1) : fkViolationsAll r = [] ↔
    CratesV1.fkViolations r.cr = [] ∧ (∀ m ∈ r.metaStr, m.1 ∈ r.cr.track.map (·.id)) ∧
    (∀ m ∈ r.metaInt, m.1 ∈ r.cr.track.map (·.id)) ∧ (∀ t ∈ r.trackArt, ∀ a, t.2 = some a → a ∈ r.albumArt) ∧
    ∀ x ∈ r.otherTrackRefs, x.2 ∈ r.cr.track.map (·.id) := by
  unfold fkViolationsAll
  simp only [List.append_eq_nil_iff, List.map_eq_nil_iff, List.filter_eq_nil_iff, List.filterMap_eq_nil_iff,
    Bool.not_eq_true', Bool.not_eq_false, List.contains_iff_mem, and_assoc]
  refine and_congr_right fun _ => and_congr_right fun _ => and_congr_right fun _ => and_congr_left fun _ => ?_
  refine forall₂_congr fun t _ => ?_
  cases t.2 with
  | none => simp
  | some a => simp

/-- **`PRAGMA foreign_key_check` over every declared key of the 1.x schemas reports nothing.** -/
theorem fkAll_clean {s : VSchema} {L : Lib1} (h : LibInv s L) : fkViolationsAll (raw L) = [] := by
  obtain ⟨kS, kI, _⟩ := raw_keys L
  refine (fkViolationsAll_eq_nil _).mpr ⟨CratesV1.fk_clean h.crates, fun m hm => ?_, fun m hm => ?_, fun t ht a ha => ?_,
    fun _ hx => by cases hx⟩
  · obtain ⟨e, he, hk⟩ := kS m hm; exact hk ▸ key_in_tids h he
  · obtain ⟨e, he, hk⟩ := kI m hm; exact hk ▸ key_in_tids h he
  · obtain ⟨r, hr, rfl⟩ := List.mem_map.mp ht
    have ha : ((L.tr.rows r.id).bind fun x => x.track.idAlbumArt) = some a := ha
    rw [trackArt_cell h] at ha
    rw [show (raw L).albumArt = [1] from h.albumArt]
    split at ha <;> cases ha
    exact List.mem_singleton.mpr rfl

theorem libInvRaw_iff (s : VSchema) (r : Raw1) : libInvRaw s r = true ↔
    CratesV1.WfRaw r.cr = true ∧ fkViolationsAll r = [] ∧ (∀ m ∈ r.metaStr, m.1 ∈ liveIds r) ∧
    (∀ m ∈ r.metaInt, m.1 ∈ liveIds r) ∧ (∀ i ∈ r.perf, i ∈ liveIds r) ∧ r.perf.Nodup ∧
    r.trackArt.map (·.1) = r.cr.track.map (·.id) ∧
    (∀ t ∈ r.trackArt, t.1 ∈ liveIds r → ∃ a, t.2 = some a ∧ a ∈ r.albumArt) ∧
    (trackAutoinc (toDetect s) = false → ∀ x ∈ r.cr.track, x.hasPath = true) ∧
    (∀ x ∈ r.otherTrackRefs, x.2 ∈ liveIds r) ∧
    (r.infoM.length = 1 ∧ ∀ i ∈ r.infoM, i.version = (toDetect s).version) ∧
    (r.infoP.length = 1 ∧ ∀ i ∈ r.infoP, i.version = (toDetect s).version) := by
  unfold libInvRaw libChecks
  simp only [List.all_cons, List.all_nil, Bool.and_true, Bool.and_eq_true, List.all_eq_true, List.contains_iff_mem, beq_iff_eq,
    CratesV1.nodupB_iff, Bool.or_eq_true, Bool.not_eq_true']
  refine and_congr_right fun _ => and_congr_right fun _ => and_congr_right fun _ => and_congr_right fun _ =>
    and_congr_right fun _ => and_congr_right fun _ => and_congr_right fun _ => and_congr ?_ (and_congr_left fun _ => ?_)
  · refine forall₂_congr fun t _ => ?_
    cases t.2 <;> simp [imp_iff_not_or]
  · cases trackAutoinc (toDetect s) <;> simp

theorem mem_liveIds_raw (L : Lib1) (x : Id) : x ∈ liveIds (raw L) ↔ liveTrack L.cr x := CratesV1.mem_liveIds L.cr x

theorem libInvRaw_of_libInv {s : VSchema} {L : Lib1} (h : LibInv s L) : libInvRaw s (raw L) = true := by
  obtain ⟨kS, kI, kP⟩ := raw_keys L
  have key : ∀ e ∈ L.tr.tracks, e.1 ∈ liveIds (raw L) := fun e he => (mem_liveIds_raw L _).mpr (live_of_key h he)
  refine (libInvRaw_iff s _).mpr ⟨CratesV1.wfRaw_of_inv h.crates, fkAll_clean h, fun m hm => ?_, fun m hm => ?_,
    fun i hi => ?_, ?_, ?_, fun t ht hl => ?_, h.noPlaceholder, (fun _ hx => by cases hx), ⟨rfl, fun i hi => ?_⟩,
    ⟨rfl, fun i hi => ?_⟩⟩
  · obtain ⟨e, he, hk⟩ := kS m hm; exact hk ▸ key e he
  · obtain ⟨e, he, hk⟩ := kI m hm; exact hk ▸ key e he
  · obtain ⟨e, he, hk⟩ := kP i hi; exact hk ▸ key e he
  · -- the PerformanceData ids are a sublist of the (distinct) Track ids
    have hsub : ((raw L).perf).Sublist (L.tr.tracks.map (·.1)) := by
      show (L.tr.tracks.filterMap fun e => e.2.perf.map fun _ => e.1).Sublist _
      generalize L.tr.tracks = l
      induction l with
      | nil => exact List.Sublist.slnil
      | cons a t ih =>
        cases hp : a.2.perf with
        | none => simp only [List.filterMap_cons, hp, Option.map_none, List.map_cons]; exact ih.cons _
        | some p => simp only [List.filterMap_cons, hp, Option.map_some, List.map_cons]; exact ih.cons_cons _
    exact h.table.keys.sublist hsub
  · exact List.map_map
  · obtain ⟨r, hr, rfl⟩ := List.mem_map.mp ht
    refine ⟨1, ?_, by rw [show (raw L).albumArt = [1] from h.albumArt]; exact List.mem_singleton.mpr rfl⟩
    show ((L.tr.rows r.id).bind fun x => x.track.idAlbumArt) = some 1
    rw [trackArt_cell h, (h.coupled r.id).mp ((mem_liveIds_raw L _).mp hl)]; rfl
  · rw [List.mem_singleton.mp hi]; exact h.infoM
  · rw [List.mem_singleton.mp hi]; exact h.infoP

end EngineModel.Lib.V1
