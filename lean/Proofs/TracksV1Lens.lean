/-
Every 1.x setter is the lens the Spec describes.  The invariant unpacked (`InvP`, `inv_iff`); `snapshot()` as a total
function on rows satisfying it (`snapOf`, `readSnap_of_inv`); `Refines`: on such rows a call that returns normally
(a) was acceptable to the Spec, (b) changes `snapshot()` by exactly `Spec.putField` of the normalised value and
(c) keeps the invariant; and the lemmas that carry the invariant across a row update.
-/
import Proofs.TracksV1Accept
import Proofs.TracksV1Spec

namespace EngineModel.TracksV1

open Impl.V1 (GMarker HotCue LoopV Entry Wave Beat Cues Loops)
open Fl (FOps)


structure InvP (r : TrackRows) : Prop where
  path : ∃ p, r.track.path = some p
  len : ∀ l, r.track.length = some l → -9223372036854775808 ≤ 1000 * l ∧ 1000 * l ≤ 9223372036854775807
  ts : ∀ t, cell 1 r.mint = some t → -9223372036854775808 ≤ 1000000000 * t ∧ 1000000000 * t ≤ 9223372036854775807
  cues : ∀ p, r.perf = some p → p.cues.cues.length = 8
  loops : ∀ p, r.perf = some p → p.loops.length = 8
  key : ∀ p, r.perf = some p → ∀ k, p.trackData.key = some k → cell 4 r.mint = some (Prim.s32 k)

theorem inv_iff (r : TrackRows) : Inv r = true ↔ InvP r := by
  unfold Inv fitsI64
  constructor
  · intro h
    simp only [Bool.and_eq_true, Option.all_eq_true_iff_get, decide_eq_true_eq] at h
    obtain ⟨⟨⟨h1, h2⟩, h3⟩, h4⟩ := h
    refine ⟨?_, ?_, ?_, ?_, ?_, ?_⟩
    · cases hp : r.track.path with
      | none => rw [hp] at h1; cases h1
      | some p => exact ⟨p, rfl⟩
    · intro l hl
      have := h2 (by rw [hl]; rfl)
      simpa [hl] using this
    · intro t ht
      have := h3 (by rw [ht]; rfl)
      simpa [ht] using this
    · intro p hp
      have := h4 (by rw [hp]; rfl)
      simp only [hp, Option.get_some] at this
      exact this.1.1
    · intro p hp
      have := h4 (by rw [hp]; rfl)
      simp only [hp, Option.get_some] at this
      exact this.1.2
    · intro p hp k hk
      have := h4 (by rw [hp]; rfl)
      simp only [hp, Option.get_some] at this
      have h5 := this.2 (by rw [hk]; rfl)
      simpa [hk] using h5
  · intro ⟨⟨p, hp⟩, h2, h3, h4, h5, h6⟩
    simp only [Bool.and_eq_true, Option.all_eq_true_iff_get, decide_eq_true_eq]
    refine ⟨⟨⟨by rw [hp]; rfl, ?_⟩, ?_⟩, ?_⟩
    · intro hs
      exact h2 _ (Option.some_get hs).symm
    · intro hs
      exact h3 _ (Option.some_get hs).symm
    · intro hs
      have hp' := (Option.some_get hs).symm
      refine ⟨⟨h4 _ hp', h5 _ hp'⟩, ?_⟩
      intro hk
      exact h6 _ hp' _ (Option.some_get hk).symm

/-- `readSnap` with the two scalings carried out (they cannot overflow under `Inv`). -/
def snapOf (o : FOps) (s : Schema) (r : TrackRows) : Snap :=
  { album := cell 3 r.mstr
    artist := cell 2 r.mstr
    averageLoudness := r.perf.bind (·.trackData.loudness)
    beatgrid := (r.perf.map (·.beat.adj)).getD []
    bitrate := r.track.bitrate.map Prim.u32OfInt
    bpm := match r.track.bpmAnalyzed with
      | some b => some b
      | none => r.track.bpm.map o.ofI64
    comment := cell 5 r.mstr
    composer := cell 7 r.mstr
    duration := (r.track.length.map fun l => 1000 * l).map Prim.u64OfInt
    fileBytes := (fileBytesCol s r.track).map Prim.u64OfInt
    genre := cell 4 r.mstr
    hotCues := (r.perf.map (·.cues.cues)).getD []
    key := match r.perf.bind (·.trackData.key) with
      | some k => some k
      | none => (cell 4 r.mint).map Prim.u32OfInt
    lastPlayedAt := ((cell 1 r.mint).map fun t => 1000000000 * t).map Prim.u64OfInt
    loops := (r.perf.map (·.loops)).getD []
    mainCue := r.perf.bind fun p => if F64.isZero p.cues.adjMain then none else some p.cues.adjMain
    publisher := cell 6 r.mstr
    rating := (cell 5 r.mint).map Prim.u32OfInt
    relativePath := r.track.path
    sampleCount := r.perf.bind (·.trackData.sampleCount)
    sampleRate := r.perf.bind (·.trackData.sampleRate)
    title := cell 1 r.mstr
    trackNumber := r.track.playOrder.map Prim.u32OfInt
    waveform := (r.perf.map (·.hires.entries)).getD []
    year := r.track.year.map Prim.u32OfInt }

theorem optMul_of_fits (k : Int) (v : Option Int)
    (h : ∀ a, v = some a → -9223372036854775808 ≤ k * a ∧ k * a ≤ 9223372036854775807) :
    optMul k v = .ok (v.map fun a => k * a) := by
  cases v with
  | none => rfl
  | some a => simp [optMul, mulI64_ok k a (h a rfl)]

theorem readSnap_of_inv (o : FOps) (s : Schema) (r : TrackRows) (h : InvP r) :
    readSnap o s r = .ok (snapOf o s r) := by
  unfold readSnap
  simp only [optMul_of_fits 1000 _ h.len, optMul_of_fits 1000000000 _ h.ts, bind, Res.bind, pure]
  rfl

theorem colGuard_defined {α} (norm : α → Res α) (eq : α → α → Bool) (v : α) (h : Defined (norm v)) :
    Defined (colGuard norm eq v) := by
  unfold colGuard
  cases hn : norm v with
  | ok v' => simp only; split <;> first | exact Defined.ok _ | exact Defined.throw _
  | throw e => exact Defined.throw _
  | ub u => exact absurd hn (h u)

theorem setCol_defined {α} (r : TrackRows) (norm : α → Res α) (eq : α → α → Bool) (v : α)
    (put : PerfRow → α → PerfRow) (h : Defined (norm v)) : Defined (setCol r norm eq v put) := by
  unfold setCol
  have hd := colGuard_defined norm eq v h
  cases hg : colGuard norm eq v with
  | ok v' => simp only; cases r.perf <;> first | exact Defined.ok _ | exact Defined.throw _
  | throw e => exact Defined.throw _
  | ub u => exact absurd hg (hd u)

/-!
Lean derives the equations of a definition by cases (`set.eq_1` …, one per field) when a `simp` first
asks for them, and does so again for every declaration that asks unless the module that holds them is
imported.  Asking once here makes every later `simp only [set]` find them. -/

section
attribute [local simp] set get Spec.putField Spec.snapField Spec.normField
end

def Refines (o : FOps) (s : Schema) (r r' : TrackRows) (f : Field) (v : f.ty) : Prop :=
  ∃ w, Spec.normField f v = some w ∧ snapOf o s r' = Spec.putField (snapOf o s r) f w ∧ InvP r'

theorem InvP.of_same {r r' : TrackRows} (h : InvP r) (h1 : r'.track.path = r.track.path)
    (h2 : r'.track.length = r.track.length) (h3 : cell 1 r'.mint = cell 1 r.mint)
    (h4 : cell 4 r'.mint = cell 4 r.mint) (h5 : r'.perf = r.perf) : InvP r' := by
  obtain ⟨a, b, c, d, e, f⟩ := h
  refine ⟨by rw [h1]; exact a, by rw [h2]; exact b, by rw [h3]; exact c, by rw [h5]; exact d,
    by rw [h5]; exact e, by rw [h5, h4]; exact f⟩

theorem InvP.of_perf {r : TrackRows} (h : InvP r) (p p' : PerfRow) (hp : r.perf = some p)
    (hc : p'.cues.cues.length = 8) (hl : p'.loops.length = 8) (hk : p'.trackData.key = p.trackData.key)
    (track' : TrackRow) (h1 : track'.path = r.track.path) (h2 : track'.length = r.track.length) :
    InvP { r with track := track', perf := some p' } := by
  obtain ⟨a, b, c, d, e, f⟩ := h
  refine ⟨by rw [h1]; exact a, by rw [h2]; exact b, c, ?_, ?_, ?_⟩
  · intro q hq; cases hq; exact hc
  · intro q hq; cases hq; exact hl
  · intro q hq k hk'; cases hq; rw [hk] at hk'; exact f p hp k hk'

/-- `of_perf` when the cue and loop blobs are untouched; the equations are read off the new rows (the `by rfl` defaults). -/
theorem InvP.of_perf_cols {r : TrackRows} (h : InvP r) (p p' : PerfRow) (hp : r.perf = some p) (track' : TrackRow)
    (hk : p'.trackData.key = p.trackData.key := by rfl) (hc : p'.cues = p.cues := by rfl)
    (hl : p'.loops = p.loops := by rfl) (h1 : track'.path = r.track.path := by rfl)
    (h2 : track'.length = r.track.length := by rfl) : InvP { r with track := track', perf := some p' } :=
  h.of_perf p p' hp (hc ▸ h.cues p hp) (hl ▸ h.loops p hp) hk track' h1 h2

theorem colTrack_eq {r : TrackRows} {p : PerfRow} (hp : r.perf = some p) : colTrack r = p.trackData := by
  rw [colTrack, hp]; rfl

theorem slotIndex_eq {α} (i : UInt32) (l : List α) :
    slotIndex i l = match Spec.slotOf i l.length with
      | some k => .ok k
      | none => .throw .out_of_range := by
  unfold slotIndex Spec.slotOf
  simp only
  by_cases h : Prim.s32 i < 0 ∨ (l.length : Int) ≤ Prim.s32 i
  · have : ¬ (0 ≤ Prim.s32 i ∧ Prim.s32 i < (l.length : Int)) := by omega
    rw [if_pos h, if_neg this]
  · have : 0 ≤ Prim.s32 i ∧ Prim.s32 i < (l.length : Int) := by omega
    rw [if_neg h, if_pos this]

theorem slotOf_lt (i : UInt32) (n k : Nat) (h : Spec.slotOf i n = some k) : k < n := by
  unfold Spec.slotOf at h
  simp only at h
  split at h
  · cases h; omega
  · cases h

theorem slot_lookup_defined {α} (i : UInt32) (l : List α) :
    Defined ((slotIndex i l).bind fun k => liftUb l[k]? .oob_index) := by
  unfold slotIndex
  simp only
  by_cases h : Prim.s32 i < 0 ∨ (l.length : Int) ≤ Prim.s32 i
  · rw [if_pos h]; exact Defined.throw _
  · rw [if_neg h]
    have hk : (Prim.s32 i).toNat < l.length := by omega
    simp only [Res.bind_ok', List.getElem?_eq_getElem hk, liftUb]
    exact Defined.ok _

theorem slotOf_8 (i : UInt32) (k : Nat) (h : Spec.slotOf i 8 = some k) : Spec.slotInRange i = true := by
  unfold Spec.slotOf at h
  unfold Spec.slotInRange
  simp only at h
  split at h
  · rename_i hh; simp only [decide_eq_true_eq]; omega
  · cases h

theorem loud_eq (v : Option Bits) : (if F64.isZero (v.getD F64.zero) then none else v) = Spec.dropZero v := by
  cases v with
  | none => exact ite_self none
  | some a => exact zeroNoneF_eq_dropZero (some a)

end EngineModel.TracksV1
