/-
C15, schema 1.x crates: on every state that satisfies the forest invariant
`FInv` (Proofs/CratesV1Forest.lean) no operation of `Api.CratesV1.step` ends in
`ub` — the only `ub` of that model is the unbounded recursion of `update_path`
over children(), which needs an acyclic parent list — and every operation keeps
`FInv` (plus the AUTOINCREMENT bound `SeqOk` used for stale track handles).
-/
import Proofs.CratesV1Cases
import Proofs.Machine

namespace EngineModel.Api.CratesV1.C15
open EngineModel EngineModel.Api.CratesV1 EngineModel.Pure.Detect EngineModel.Spec

def Defined {α} (r : Res α) : Prop := ∀ u, r ≠ .ub u

theorem Defined.ok {α} (a : α) : Defined (Res.ok a) := Res.Defined.ok a
theorem Defined.throw {α} (e : Exn) : Defined (Res.throw e : Res α) := Res.Defined.throw e

theorem defined_of_eq {α} {r r' : Res α} (h : r = r') (h' : Defined r') : Defined r := h ▸ h'

theorem transaction_defined {α} (db : Db) (body : Res (Db × α)) (h : Defined body) :
    Defined (transaction db body).2 := by
  unfold transaction
  cases hb : body with
  | ok p => exact Defined.ok _
  | throw e => exact Defined.throw _
  | ub u => exact absurd hb (h u)

/-- From 1.17.0 on `Track.id` is AUTOINCREMENT: no stored id exceeds `sqlite_sequence`. -/
def SeqOk (s : Schema) (db : Db) : Prop := trackAutoinc s = true → ∀ r ∈ db.track, r.id ≤ db.trackSeq

structure CInv (s : Schema) (db : Db) : Prop where
  finv : FInv db
  seq : SeqOk s db

theorem cinv_empty (s : Schema) : CInv s Db.empty :=
  ⟨inv_empty.toFInv, fun _ r hr => by cases hr⟩

theorem SeqOk.congr {s : Schema} {db db' : Db} (h : SeqOk s db) (h1 : db'.track = db.track)
    (h2 : db'.trackSeq = db.trackSeq) : SeqOk s db' := by
  intro ha r hr
  rw [h1] at hr
  rw [h2]
  exact h ha r hr

theorem finv_afterCreate (s : Schema) {db : Db} (h : FInv db) {q : Option Id} (hq : ∀ c, q = some c → c ∈ ids db) (n : Name) :
    FInv (afterCreate s db q n) :=
  h.add q (newCrateId_fresh s db) hq (ids_afterCreate s db q n) rfl (by cases q <;> rfl)

/-- Under `FInv` alone the membership rows of a crate need not be visible through the view, so remove_crate may
leave some of them behind; the three tables of the forest are those of `afterRemove` all the same. -/
theorem finv_removeCrate (s : Schema) {db : Db} (h : FInv db) (c : Id) : FInv (removeCrate s db c).1 := by
  obtain ⟨h1, h2, h3, _, _⟩ := removeLoop_tables s (subtreeList db c) db
  exact (finv_remove h c).congr (congrArg (List.map (fun r : CrateRow => r.id)) h1) h2 h3

theorem removeCrate_tracks (s : Schema) (db : Db) (c : Id) :
    (removeCrate s db c).1.track = db.track ∧ (removeCrate s db c).1.trackSeq = db.trackSeq :=
  (removeLoop_tables s (subtreeList db c) db).2.2.2

theorem removed_not_live (s : Schema) (db : Db) (c : Id) : c ∉ ids (removeCrate s db c).1 := by
  have h1 : ids (removeCrate s db c).1 = ids (afterRemove db c) :=
    congrArg (List.map (fun r : CrateRow => r.id)) (removeLoop_tables s (subtreeList db c) db).1
  rw [h1, mem_ids_afterRemove]
  exact fun h => h.2 (Or.inl rfl)

theorem crateIsValid_defined (db : Db) (c : Id) : Defined (crateIsValid db c) := by
  unfold crateIsValid
  simp only
  split
  · exact Defined.ok _
  · split
    · exact Defined.throw _
    · exact Defined.ok _

theorem requireValid_defined (db : Db) (c : Id) : Defined (requireValid db c) :=
  Res.Defined.bind (crateIsValid_defined db c) fun v _ => by
    cases v
    · exact Defined.throw _
    · exact Defined.ok _

theorem addTrack_defined (s : Schema) (db : Db) (c t : Id) : Defined (addTrack s db c t).2 := by
  unfold addTrack
  apply transaction_defined
  refine Res.Defined.bind (requireValid_defined db c) fun _ _ => ?_
  split
  · exact Defined.ok _
  · exact Defined.throw _

theorem addTrack_fst (s : Schema) (db : Db) (c t : Id) :
    (addTrack s db c t).1 = db ∨
    (addTrack s db c t).1 = { deleteCtl s db (fun r => r.1 == c && r.2 == t) with
      ctl := (deleteCtl s db (fun r => r.1 == c && r.2 == t)).ctl ++ [(c, t)] } := by
  unfold addTrack transaction
  cases hr : requireValid db c with
  | ub u => left; rfl
  | throw e => left; rfl
  | ok _ =>
    by_cases hlen : (db.track.filter (fun r => r.id == t && r.hasPath)).length > 0
    · right; simp only [Res.bind_ok, hlen, if_true, Res.pure_eq]
    · left; simp only [Res.bind_ok, hlen, if_false, Res.bind_throw]

theorem addTrack_frame (s : Schema) (db : Db) (c t : Id) :
    (addTrack s db c t).1.crate = db.crate ∧ (addTrack s db c t).1.cpl = db.cpl ∧ (addTrack s db c t).1.ch = db.ch ∧
    (addTrack s db c t).1.track = db.track ∧ (addTrack s db c t).1.trackSeq = db.trackSeq := by
  obtain ⟨h1, h2, h3, h4, h5⟩ := deleteCtl_other s db (fun r => r.1 == c && r.2 == t)
  rcases addTrack_fst s db c t with e | e <;> rw [e]
  · exact ⟨rfl, rfl, rfl, rfl, rfl⟩
  · exact ⟨h1, h2, h3, h4, h5⟩

theorem finv_of_frame {db db' : Db} (h : FInv db) (h1 : db'.crate = db.crate) (h2 : db'.cpl = db.cpl)
    (h3 : db'.ch = db.ch) : FInv db' :=
  h.congr (by unfold ids; rw [h1]) h2 h3

theorem createTrack_seq (s : Schema) {db : Db} (h : SeqOk s db) : SeqOk s (createTrack s db).1 := by
  unfold createTrack
  split <;> rename_i ha
  · intro _ r hr
    simp only [List.mem_append, List.mem_singleton] at hr
    rcases hr with hr | hr
    · exact Int.le_add_one (Int.le_trans (h ha r hr) (Int.le_max_left _ _))
    · rw [hr]; exact Int.le_refl _
  · intro ha'
    rw [ha'] at ha
    exact absurd rfl ha

theorem removeTrack_props (s : Schema) {db : Db} (hs : SeqOk s db) (t : Id) :
    (∀ r ∈ (removeTrack s db t).1.track, r.id ≠ t) ∧ SeqOk s (removeTrack s db t).1 ∧
    (removeTrack s db t).1.crate = db.crate ∧ (removeTrack s db t).1.cpl = db.cpl ∧
    (removeTrack s db t).1.ch = db.ch := by
  obtain ⟨c1, c2, c3, c4, c5⟩ := deleteCtl_other s db (fun r => r.2 == t)
  rw [removeTrack_unfold, c4]
  -- the state after the two DELETEs: no row with id `t`, the rows left are rows of `db`, the counter is that of `db`
  generalize hb : ({ deleteCtl s db (fun r => r.2 == t) with track := db.track.filter (fun r => !(r.id == t)) } : Db) = base
  have hne : ∀ r ∈ base.track, r.id ≠ t := by
    subst hb
    intro r hr
    simpa using (List.mem_filter.mp hr).2
  have hsub : ∀ r ∈ base.track, r ∈ db.track := by subst hb; exact fun r hr => (List.mem_filter.mp hr).1
  have hfr : base.crate = db.crate ∧ base.cpl = db.cpl ∧ base.ch = db.ch ∧ base.trackSeq = db.trackSeq := by
    subst hb; exact ⟨c1, c2, c3, c5⟩
  split <;> rename_i ha
  · by_cases hex : ∃ r ∈ db.track, r.id = t
    · obtain ⟨r0, hr0, hr0t⟩ := hex
      -- `t ≤ d.trackSeq`: a stored id is within sqlite_sequence (`SeqOk`), a placeholder's id is above it, so none gets the id `t`
      have := triggerFold_induction
        (fun d => (∀ r ∈ d.track, r.id ≠ t) ∧ (∀ r ∈ d.track, r.id ≤ d.trackSeq) ∧ t ≤ d.trackSeq ∧
          d.crate = db.crate ∧ d.cpl = db.cpl ∧ d.ch = db.ch)
        (fun d id ⟨p1, p2, p3, p4⟩ hid _ => ⟨fun r hr => ?_, fun r hr => ?_, Int.le_of_lt (Int.lt_of_le_of_lt p3 hid), p4⟩)
        (db.track.filter (·.id == t)) base
        ⟨hne, fun r hr => hfr.2.2.2 ▸ hs ha r (hsub r hr), hfr.2.2.2 ▸ hr0t ▸ hs ha r0 hr0, hfr.1, hfr.2.1, hfr.2.2.1⟩
      · exact ⟨this.1, fun _ => this.2.1, this.2.2.2⟩
      · rcases List.mem_append.mp hr with hr | hr
        · exact p1 r (List.mem_filter.mp hr).1
        · rw [List.mem_singleton.mp hr]; exact Int.ne_of_gt (Int.lt_of_le_of_lt p3 hid)
      · rcases List.mem_append.mp hr with hr | hr
        · exact Int.le_of_lt (Int.lt_of_le_of_lt (p2 r (List.mem_filter.mp hr).1) hid)
        · rw [List.mem_singleton.mp hr]; exact Int.le_refl _
    · have hnil : db.track.filter (·.id == t) = [] :=
        List.filter_eq_nil_iff.mpr fun r hr he => hex ⟨r, hr, by simpa using he⟩
      rw [hnil]
      exact ⟨hne, fun _ r hr => hfr.2.2.2 ▸ hs ha r (hsub r hr), hfr.1, hfr.2.1, hfr.2.2.1⟩
  · exact ⟨hne, fun ha' => absurd ha' ha, hfr.1, hfr.2.1, hfr.2.2.1⟩

theorem trackIsValid_absent {db : Db} {t : Id} (h : ∀ r ∈ db.track, r.id ≠ t) : trackIsValid db t = .ok false := by
  unfold trackIsValid
  have : db.track.filter (fun r => r.id == t && r.hasPath) = [] := by
    apply List.filter_eq_nil_iff.mpr
    intro r hr he
    simp only [Bool.and_eq_true, beq_iff_eq] at he
    exact h r hr he.1
  simp [this]

/-- What create_root_crate, create_sub_crate, set_name and set_parent leave of `FInv`, Track and sqlite_sequence. -/
theorem _root_.EngineModel.Api.CratesV1.Returns.finv {s : Schema} {db : Db} (h : FInv db) {op : Op}
    (hop : editsForest op = true) (ha : Accepted db op) {d : Db} {o : Out} (hr : Returns s db op d o) :
    FInv d ∧ d.track = db.track ∧ d.trackSeq = db.trackSeq := by
  cases op with
  | createRoot n => rw [hr.1]; exact ⟨finv_afterCreate s h (q := none) (by simp) n, rfl, rfl⟩
  | createSub c n => rw [hr.1]; exact ⟨finv_afterCreate s h (q := some c) (by simpa using ha.2.2) n, rfl, rfl⟩
  | rename c n => rw [hr.1]; exact ⟨finv_afterSetName h c n, rfl, rfl⟩
  | setParent c p => rw [hr.1]; exact ⟨finv_afterSetParent h ha, rfl, rfl⟩
  | _ => cases hop

theorem step_props (s : Schema) {db : Db} (h : FInv db) (op : Op) :
    Defined (step s db op).2 ∧ (SeqOk s db → CInv s (step s db op).1) := by
  by_cases hop : editsForest op = true
  · rcases step_cases_finv s h hop with ⟨_, e, he⟩ | ⟨ha, d, o, he, hr⟩ <;> rw [he]
    · exact ⟨Defined.throw _, fun hq => ⟨h, hq⟩⟩
    · obtain ⟨h1, h2, h3⟩ := hr.finv h hop ha
      exact ⟨Defined.ok _, fun hq => ⟨h1, hq.congr h2 h3⟩⟩
  cases op with
  | createRoot n | createSub c n | rename c n | setParent c p => exact absurd rfl hop
  | removeCrate c =>
    obtain ⟨t1, t2⟩ := removeCrate_tracks s db c
    exact ⟨Defined.ok _, fun hq => ⟨finv_removeCrate s h c, hq.congr t1 t2⟩⟩
  | addTrack c t =>
    obtain ⟨h1, h2, h3, h4, h5⟩ := addTrack_frame s db c t
    exact ⟨addTrack_defined s db c t, fun hq => ⟨finv_of_frame h h1 h2 h3, hq.congr h4 h5⟩⟩
  | removeTrackFrom c t =>
    obtain ⟨h1, h2, h3, h4, h5⟩ := deleteCtl_other s db (fun r => r.1 == c && r.2 == t)
    exact ⟨Defined.ok _, fun hq => ⟨finv_of_frame h h1 h2 h3, hq.congr h4 h5⟩⟩
  | clearTracks c =>
    obtain ⟨h1, h2, h3, h4, h5⟩ := deleteCtl_other s db (fun r => r.1 == c)
    exact ⟨Defined.ok _, fun hq => ⟨finv_of_frame h h1 h2 h3, hq.congr h4 h5⟩⟩
  | createTrack =>
    refine ⟨?_, fun hq => ⟨?_, createTrack_seq s hq⟩⟩
    · show Defined (createTrack s db).2
      unfold createTrack
      split <;> exact Defined.ok _
    · show FInv (createTrack s db).1
      unfold createTrack
      split <;> exact finv_of_frame h rfl rfl rfl
  | removeTrack t =>
    refine ⟨?_, fun hq => ?_⟩
    · show Defined (removeTrack s db t).2
      rw [removeTrack_unfold]
      split <;> exact Defined.ok _
    · obtain ⟨_, p2, p3, p4, p5⟩ := removeTrack_props s hq t
      exact ⟨finv_of_frame h p3 p4 p5, p2⟩

theorem step_defined (s : Schema) {db : Db} (h : FInv db) (op : Op) : Defined (step s db op).2 :=
  (step_props s h op).1

theorem step_cinv (s : Schema) {db : Db} (h : CInv s db) (op : Op) : CInv s (step s db op).1 :=
  (step_props s h.finv op).2 h.seq

def outcomes (s : Schema) (db : Db) : List Op → List (Res Out)
  | [] => []
  | op :: t => (step s db op).2 :: outcomes s (step s db op).1 t

theorem isOutcomes (s : Schema) : Machine.IsOutcomes (step s) (outcomes s) := ⟨fun _ => rfl, fun _ _ _ => rfl⟩

theorem run_cinv (s : Schema) (l : List Op) : ∀ db, CInv s db → CInv s (run s db l) :=
  (isRun s).inv (fun _ op h => step_cinv s h op) l

theorem outcomes_defined (s : Schema) (l : List Op) : ∀ db, CInv s db → ∀ r ∈ outcomes s db l, Defined r :=
  (isOutcomes s).forall (fun _ op h => ⟨step_cinv s h op, step_defined s h.finv op⟩) l

end EngineModel.Api.CratesV1.C15
