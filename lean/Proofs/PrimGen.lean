/-
The primitive byte codecs regenerated from src/djinterop/engine/encode_decode_utils.hpp
(`EngineModel/Gen/PrimGen.lean`, written by tools/tr_prim.py on every run from
clang's typed AST: shifts, masks, ORs, casts, `ptr[k]`, call order) are equal to
the hand-written primitives every codec theorem is built on: `Prim.encU32BE`,
`Prim.decU32BE`, … (`Basic/Prim.lean`, arithmetic on `Nat`) and the primitive
codecs `Codec.u8/u32le/u32be/u64le/u64be` (`Format/Codec.lean`).

A change of endianness, shift amount, mask, byte index, width or call order in
the header changes the generated definitions and one of these proofs stops
checking.  Core tactics only (`omega` after going to `Nat`); no Mathlib.
-/
import EngineModel.Gen.PrimGen
import EngineModel.Format.Codec
import EngineModel.Impl.PrimCur
-- The simp lists serve the spellings the header may take: either operand order of `|` (`join_hi_lo` and
-- `join_lo_hi` side by side); at `i32_of_sar64_eq_hi32` two `toNat` lemmas the present goal does not need.
set_option linter.unusedSimpArgs false
set_option linter.unusedVariables false

namespace EngineModel
namespace PrimGenProofs
open EngineModel.Gen.Prim

theorem or_eq_add (i x y : Nat) (hx : x % 2 ^ i = 0) (hy : y < 2 ^ i) : x ||| y = x + y := by
  have : x = (x / 2 ^ i) <<< i := by
    rw [Nat.shiftLeft_eq]; have := Nat.div_add_mod x (2 ^ i); rw [hx] at this; rw [Nat.mul_comm]; omega
  rw [this, ← Nat.shiftLeft_add_eq_or_of_lt hy]

theorem and255 (x : UInt32) : (x &&& (255 : UInt32)).toNat = x.toNat % 256 := by
  rw [UInt32.toNat_and]
  exact Nat.and_two_pow_sub_one_eq_mod x.toNat 8

theorem and255' (x : UInt32) : ((255 : UInt32) &&& x).toNat = x.toNat % 256 := by
  rw [UInt32.toNat_and, Nat.and_comm]
  exact Nat.and_two_pow_sub_one_eq_mod x.toNat 8

/-- The byte kept of `s >> k` (`d = 2^k`, `d * q = 2^32`, `256 ∣ q`): the sign only fills bits above it. -/
theorem sar_byte (X d q q' : Nat) (hX : X < 4294967296) (hdq : d * q = 4294967296) (hq : q = 256 * q') :
    (((if X < 2147483648 then (X : Int) else (X : Int) - 4294967296) / (d : Int)) % 4294967296).toNat
      % 4294967296 % 256 = X / d % 256 := by
  have hd : 0 < d := Nat.pos_of_ne_zero fun h => by rw [h] at hdq; omega
  have hA : X / d < q := (Nat.div_lt_iff_lt_mul hd).mpr (by rw [Nat.mul_comm]; omega)
  have hle := Nat.div_le_self X d
  generalize hAdef : X / d = A at hA hle
  split
  · rw [← Int.natCast_ediv, hAdef]; omega
  · have hqd : (q : Int) * (d : Int) = 4294967296 := by rw [← Int.natCast_mul, Nat.mul_comm, hdq]; rfl
    have hmul : (X : Int) - 4294967296 = X + -(q : Int) * d := by rw [Int.neg_mul, hqd]; rfl
    rw [hmul, Int.add_mul_ediv_right _ _ (by omega), ← Int.natCast_ediv, hAdef]
    omega

theorem sar32_toNat_mod (x : UInt32) (k : Nat) (hk : k = 0 ∨ k = 8 ∨ k = 16 ∨ k = 24) :
    (PrimOps.sar32 x k).toNat % 256 = x.toNat / 2 ^ k % 256 := by
  unfold PrimOps.sar32 PrimOps.ofS32 PrimOps.s32
  rw [UInt32.toNat_ofNat']
  rcases hk with rfl | rfl | rfl | rfl
  · exact sar_byte x.toNat _ (2 ^ 32) (2 ^ 24) x.toNat_lt rfl rfl
  · exact sar_byte x.toNat _ (2 ^ 24) (2 ^ 16) x.toNat_lt rfl rfl
  · exact sar_byte x.toNat _ (2 ^ 16) (2 ^ 8) x.toNat_lt rfl rfl
  · exact sar_byte x.toNat _ (2 ^ 8) (2 ^ 0) x.toNat_lt rfl rfl
theorem shr32_toNat (x : UInt32) (k : Nat) (hk : k = 0 ∨ k = 8 ∨ k = 16 ∨ k = 24) :
    (PrimOps.shr32 x k).toNat = x.toNat / 2 ^ k := by
  unfold PrimOps.shr32
  rcases hk with rfl | rfl | rfl | rfl <;> simp [UInt32.toNat_shiftRight, Nat.shiftRight_eq_div_pow]

/-- `static_cast<std::byte>(e)` keeps the low byte of the pattern. -/
theorem byte_of_i32_eq (m : UInt32) : PrimOps.byte_of_i32 m = (m.toNat % 256).toUInt8 := by
  apply UInt8.toNat_inj.mp
  simp only [PrimOps.byte_of_i32, UInt32.toNat_toUInt8, Nat.toUInt8, UInt8.toNat_ofNat', Nat.reducePow, Nat.mod_mod]

theorem byte_of_u32_eq (m : UInt32) : PrimOps.byte_of_u32 m = (m.toNat % 256).toUInt8 := byte_of_i32_eq m

theorem u32_of_i32_eq (m : UInt32) : PrimOps.u32_of_i32 m = m := rfl
theorem i32_of_u32_eq (m : UInt32) : PrimOps.i32_of_u32 m = m := rfl

/-- Normal form of one stored byte: `static_cast<std::byte>((value >> k) & 0xFF)` and its
behaviour-preserving variants (mask on either side or absent, shift done on `uint32_t`). -/
macro "prim_enc32" x:term : tactic =>
  `(tactic| simp only [List.nil_append, byte_of_i32_eq, byte_of_u32_eq, u32_of_i32_eq, i32_of_u32_eq, and255, and255',
      Nat.mod_mod, sar32_toNat_mod $x 0 (by simp), sar32_toNat_mod $x 8 (by simp), sar32_toNat_mod $x 16 (by simp),
      sar32_toNat_mod $x 24 (by simp), shr32_toNat $x 0 (by simp), shr32_toNat $x 8 (by simp),
      shr32_toNat $x 16 (by simp), shr32_toNat $x 24 (by simp), Nat.reducePow, Nat.div_one])

/-- `static_cast<uint8_t>(ptr[i]) << k`, computed in `int`. -/
theorem shl32_u8 (b : UInt8) (k : Nat) (hk : k = 8 ∨ k = 16 ∨ k = 24) :
    (PrimOps.shl32 (PrimOps.i32_of_u8 (PrimOps.u8_of_byte b)) k).toNat = b.toNat * 2 ^ k := by
  have h := b.toNat_lt
  unfold PrimOps.shl32 PrimOps.i32_of_u8 PrimOps.u8_of_byte
  rcases hk with rfl | rfl | rfl <;>
    simp [UInt32.toNat_shiftLeft, UInt8.toNat_toUInt32, Nat.shiftLeft_eq] <;> omega

theorem i32_u8 (b : UInt8) : (PrimOps.i32_of_u8 (PrimOps.u8_of_byte b)).toNat = b.toNat := by
  simp [PrimOps.i32_of_u8, PrimOps.u8_of_byte]

/-- `static_cast<int32_t>(value)` of an `int64_t`: the low half. -/
theorem i32_of_i64_eq_lo32 (x : UInt64) : PrimOps.i32_of_i64 x = Prim.lo32 x := by
  apply UInt32.toNat_inj.mp
  simp [PrimOps.i32_of_i64, Prim.lo32, UInt64.toNat_toUInt32, UInt32.toNat_ofNat']

/-- `static_cast<int32_t>(value >> 32)` of an `int64_t` (arithmetic shift): the high half. -/
theorem i32_of_sar64_eq_hi32 (x : UInt64) : PrimOps.i32_of_i64 (PrimOps.sar64 x 32) = Prim.hi32 x := by
  apply UInt32.toNat_inj.mp
  have h := x.toNat_lt
  unfold PrimOps.sar64 PrimOps.ofS64 PrimOps.s64
  simp [PrimOps.i32_of_i64, Prim.hi32, UInt64.toNat_toUInt32, UInt32.toNat_ofNat', UInt64.toNat_ofNat']
  split <;> omega

theorem lo32_sar64 (x : UInt64) : Prim.lo32 (PrimOps.sar64 x 32) = Prim.hi32 x := by
  rw [← i32_of_i64_eq_lo32, i32_of_sar64_eq_hi32]

/-- `static_cast<int64_t>(static_cast<uint32_t>(e))`: zero extension. -/
theorem i64_u32 (e : UInt32) : (PrimOps.i64_of_u32 (PrimOps.u32_of_i32 e)).toNat = e.toNat := by
  simp [PrimOps.i64_of_u32, PrimOps.u32_of_i32]

/-- `static_cast<int64_t>(static_cast<uint32_t>(e)) << 32`. -/
theorem shl64_u32 (e : UInt32) :
    (PrimOps.shl64 (PrimOps.i64_of_u32 (PrimOps.u32_of_i32 e)) 32).toNat = e.toNat * 4294967296 := by
  have h := e.toNat_lt
  unfold PrimOps.shl64 PrimOps.i64_of_u32 PrimOps.u32_of_i32
  simp [UInt64.toNat_shiftLeft, UInt32.toNat_toUInt64, Nat.shiftLeft_eq]
  omega

theorem decode_uint8_cons (a : UInt8) (r : Bytes) : decode_uint8 (a :: r) = some (a, r) := by
  simp [decode_uint8, PrimOps.rd, PrimOps.adv, PrimOps.u8_of_byte]

theorem decode_uint8_eq (bs : Bytes) : decode_uint8 bs = Codec.u8.dec bs := by
  cases bs with
  | nil => simp [decode_uint8, PrimOps.rd, Codec.u8]
  | cons a r => rw [decode_uint8_cons]; rfl

theorem encode_uint8_eq (v : UInt8) : encode_uint8 v = Codec.u8.enc v := rfl

theorem encode_int32_be_eq (x : UInt32) : encode_int32_be x = Prim.encU32BE x := by
  simp only [encode_int32_be, Prim.encU32BE]
  prim_enc32 x

theorem encode_int32_le_eq (x : UInt32) : encode_int32_le x = Prim.encU32LE x := by
  simp only [encode_int32_le, Prim.encU32LE]
  prim_enc32 x

/-- The canonical operand order, to which `or4_ac` brings the header's. -/
theorem or4 (a b c d : UInt8) :
    (((PrimOps.shl32 (PrimOps.i32_of_u8 (PrimOps.u8_of_byte a)) 24 |||
        PrimOps.shl32 (PrimOps.i32_of_u8 (PrimOps.u8_of_byte b)) 16) |||
        PrimOps.shl32 (PrimOps.i32_of_u8 (PrimOps.u8_of_byte c)) 8) |||
        PrimOps.i32_of_u8 (PrimOps.u8_of_byte d)) = Prim.decU32BE a b c d := by
  apply UInt32.toNat_inj.mp
  have ha := a.toNat_lt; have hb := b.toNat_lt; have hc := c.toNat_lt; have hd := d.toNat_lt
  simp only [UInt32.toNat_or, shl32_u8 _ 8 (by simp), shl32_u8 _ 16 (by simp), shl32_u8 _ 24 (by simp), i32_u8,
    Prim.decU32BE, UInt32.toNat_ofNat']
  rw [or_eq_add 24 (a.toNat * 2 ^ 24) (b.toNat * 2 ^ 16) (by omega) (by omega),
    or_eq_add 16 _ (c.toNat * 2 ^ 8) (by omega) (by omega), or_eq_add 8 _ d.toNat (by omega) (by omega)]
  omega

/-- Equality up to associativity/commutativity of `|||`, with the four shifted bytes made opaque first. -/
macro "or4_ac" a:term:max b:term:max c:term:max d:term:max : tactic =>
  `(tactic| (generalize PrimOps.shl32 (PrimOps.i32_of_u8 (PrimOps.u8_of_byte $a)) 24 = A
             generalize PrimOps.shl32 (PrimOps.i32_of_u8 (PrimOps.u8_of_byte $b)) 16 = B
             generalize PrimOps.shl32 (PrimOps.i32_of_u8 (PrimOps.u8_of_byte $c)) 8 = C
             generalize PrimOps.i32_of_u8 (PrimOps.u8_of_byte $d) = D
             ac_rfl))

/-- Runs the generated decoder on four available bytes: what is left is the equation for the value. -/
macro "prim_dec32_run" f:ident : tactic =>
  `(tactic| simp only [$f:ident, PrimOps.rd, PrimOps.adv, List.getElem?_cons_zero, List.getElem?_cons_succ,
      Option.bind_eq_bind, Option.bind_some, Option.pure_def, List.length_cons, List.drop_succ_cons, List.drop_zero,
      Nat.le_add_left, if_true, Option.some.injEq, Prod.mk.injEq, and_true])

theorem decode_int32_be_cons (a b c d : UInt8) (r : Bytes) :
    decode_int32_be (a :: b :: c :: d :: r) = some (Prim.decU32BE a b c d, r) := by
  prim_dec32_run decode_int32_be
  -- `|` is associative and commutative: the operand order of the C++ does not matter
  refine Eq.trans ?_ (or4 a b c d)
  or4_ac a b c d

theorem decode_int32_le_cons (a b c d : UInt8) (r : Bytes) :
    decode_int32_le (a :: b :: c :: d :: r) = some (Prim.decU32LE a b c d, r) := by
  prim_dec32_run decode_int32_le
  refine Eq.trans ?_ (or4 d c b a)
  or4_ac d c b a

theorem decode_int32_be_short (bs : Bytes) (h : bs.length < 4) : decode_int32_be bs = none := by
  match bs, h with
  | [], _ => rfl
  | [_], _ => rfl
  | [_, _], _ => rfl
  | [_, _, _], _ => rfl

theorem decode_int32_le_short (bs : Bytes) (h : bs.length < 4) : decode_int32_le bs = none := by
  match bs, h with
  | [], _ => rfl
  | [_], _ => rfl
  | [_, _], _ => rfl
  | [_, _, _], _ => rfl

theorem decode_int32_be_eq (bs : Bytes) : decode_int32_be bs = Codec.u32be.dec bs := by
  match bs with
  | a :: b :: c :: d :: r => rw [decode_int32_be_cons]; rfl
  | [] => rfl
  | [_] => rfl
  | [_, _] => rfl
  | [_, _, _] => rfl

theorem decode_int32_le_eq (bs : Bytes) : decode_int32_le bs = Codec.u32le.dec bs := by
  match bs with
  | a :: b :: c :: d :: r => rw [decode_int32_le_cons]; rfl
  | [] => rfl
  | [_] => rfl
  | [_, _] => rfl
  | [_, _, _] => rfl

theorem encode_int64_be_eq (x : UInt64) : encode_int64_be x = Prim.encU64BE x := by
  simp only [encode_int64_be, Prim.encU64BE, List.nil_append, encode_int32_be_eq, i32_of_i64_eq_lo32,
    lo32_sar64]

theorem encode_int64_le_eq (x : UInt64) : encode_int64_le x = Prim.encU64LE x := by
  simp only [encode_int64_le, Prim.encU64LE, List.nil_append, encode_int32_le_eq, i32_of_i64_eq_lo32,
    lo32_sar64]

/-- `static_cast<int64_t>(static_cast<uint32_t>(e1)) << 32 | static_cast<int64_t>(static_cast<uint32_t>(e2))`. -/
theorem join_hi_lo (hi lo : UInt32) :
    (PrimOps.shl64 (PrimOps.i64_of_u32 (PrimOps.u32_of_i32 hi)) 32 ||| PrimOps.i64_of_u32 (PrimOps.u32_of_i32 lo)) =
      Prim.join64 hi lo := by
  apply UInt64.toNat_inj.mp
  have h1 := hi.toNat_lt; have h2 := lo.toNat_lt
  simp only [UInt64.toNat_or, shl64_u32, i64_u32, Prim.join64, UInt64.toNat_ofNat']
  rw [or_eq_add 32 _ _ (by omega) (by omega)]
  omega

/-- `static_cast<int64_t>(static_cast<uint32_t>(e1)) | static_cast<int64_t>(static_cast<uint32_t>(e2)) << 32`. -/
theorem join_lo_hi (lo hi : UInt32) :
    (PrimOps.i64_of_u32 (PrimOps.u32_of_i32 lo) ||| PrimOps.shl64 (PrimOps.i64_of_u32 (PrimOps.u32_of_i32 hi)) 32) =
      Prim.join64 hi lo := by
  rw [UInt64.or_comm, join_hi_lo]

theorem decode_int64_be_eq (bs : Bytes) : decode_int64_be bs = Codec.u64be.dec bs := by
  simp only [decode_int64_be, decode_int32_be_eq, Codec.u64be, Codec.map, Codec.pair, Option.bind_eq_bind,
    Option.pure_def]
  cases h1 : Codec.u32be.dec bs with
  | none => rfl
  | some p1 =>
    obtain ⟨e1, r1⟩ := p1
    simp only [Option.bind_some]
    cases h2 : Codec.u32be.dec r1 with
    | none => rfl
    | some p2 =>
      obtain ⟨e2, r2⟩ := p2
      simp only [Option.bind_some, join_hi_lo, join_lo_hi]

theorem decode_int64_le_eq (bs : Bytes) : decode_int64_le bs = Codec.u64le.dec bs := by
  simp only [decode_int64_le, decode_int32_le_eq, Codec.u64le, Codec.map, Codec.pair, Option.bind_eq_bind,
    Option.pure_def]
  cases h1 : Codec.u32le.dec bs with
  | none => rfl
  | some p1 =>
    obtain ⟨e1, r1⟩ := p1
    simp only [Option.bind_some]
    cases h2 : Codec.u32le.dec r1 with
    | none => rfl
    | some p2 =>
      obtain ⟨e2, r2⟩ := p2
      simp only [Option.bind_some, join_lo_hi, join_hi_lo]

theorem decode_int64_be_cons (a b c d e f g h : UInt8) (r : Bytes) :
    decode_int64_be (a :: b :: c :: d :: e :: f :: g :: h :: r) = some (Prim.decU64BE a b c d e f g h, r) := by
  rw [decode_int64_be_eq]; rfl

theorem decode_int64_le_cons (a b c d e f g h : UInt8) (r : Bytes) :
    decode_int64_le (a :: b :: c :: d :: e :: f :: g :: h :: r) = some (Prim.decU64LE a b c d e f g h, r) := by
  rw [decode_int64_le_eq]; rfl

theorem encode_double_be_eq (x : UInt64) : encode_double_be x = Prim.encU64BE x := by
  simp only [encode_double_be, PrimOps.i64_of_f64_bits, List.nil_append, encode_int64_be_eq]

theorem encode_double_le_eq (x : UInt64) : encode_double_le x = Prim.encU64LE x := by
  simp only [encode_double_le, PrimOps.i64_of_f64_bits, List.nil_append, encode_int64_le_eq]

theorem decode_double_be_eq (bs : Bytes) : decode_double_be bs = Codec.u64be.dec bs := by
  simp only [decode_double_be, PrimOps.f64_of_i64_bits, decode_int64_be_eq, Option.bind_eq_bind, Option.pure_def]
  cases Codec.u64be.dec bs with
  | none => rfl
  | some p => rfl

theorem decode_double_le_eq (bs : Bytes) : decode_double_le bs = Codec.u64le.dec bs := by
  simp only [decode_double_le, PrimOps.f64_of_i64_bits, decode_int64_le_eq, Option.bind_eq_bind, Option.pure_def]
  cases Codec.u64le.dec bs with
  | none => rfl
  | some p => rfl

/-- `decode_extra(ptr, end)` takes everything that is left (`Cur.rest`). -/
theorem decode_extra_eq (bs : Bytes) : decode_extra bs = some (bs, []) := by
  cases bs with
  | nil => rfl
  | cons a r =>
    simp [decode_extra, PrimOps.resize, PrimOps.memcpy, PrimOps.adv]

theorem encode_extra_eq (extra : Bytes) : encode_extra extra = extra := by
  cases extra with
  | nil => rfl
  | cons a r => simp [encode_extra]

end PrimGenProofs

/-! The regenerated primitives as cursor actions / byte writers (`Impl/PrimCur.lean`) ARE the primitives the hand
models read and write through (`Cur.rd Codec.u*`, `Codec.u*.enc`).  Same statement names as Proofs/CxxPrimsLemmas.lean. -/
namespace PrimCur
open Codec Cur EngineModel.PrimGenProofs

theorem ofGen_eq_rd {α} (d : List UInt8 → Option (α × List UInt8)) (c : Codec α) (h : ∀ bs, d bs = c.dec bs) :
    ofGen d = rd c := by
  funext bs
  unfold ofGen rd
  rw [h]
  cases c.dec bs with
  | none => rfl
  | some p => obtain ⟨a, r⟩ := p; rfl

theorem decode_uint8_eq : decode_uint8 = rd u8 := ofGen_eq_rd _ _ PrimGenProofs.decode_uint8_eq
theorem decode_int32_le_eq : decode_int32_le = rd u32le := ofGen_eq_rd _ _ PrimGenProofs.decode_int32_le_eq
theorem decode_int32_be_eq : decode_int32_be = rd u32be := ofGen_eq_rd _ _ PrimGenProofs.decode_int32_be_eq
theorem decode_int64_le_eq : decode_int64_le = rd u64le := ofGen_eq_rd _ _ PrimGenProofs.decode_int64_le_eq
theorem decode_int64_be_eq : decode_int64_be = rd u64be := ofGen_eq_rd _ _ PrimGenProofs.decode_int64_be_eq
theorem decode_double_le_eq : decode_double_le = rd u64le := ofGen_eq_rd _ _ PrimGenProofs.decode_double_le_eq
theorem decode_double_be_eq : decode_double_be = rd u64be := ofGen_eq_rd _ _ PrimGenProofs.decode_double_be_eq

theorem encode_uint8_eq (v : UInt8) : encode_uint8 v = u8.enc v := PrimGenProofs.encode_uint8_eq v
theorem encode_int32_le_eq (v : UInt32) : encode_int32_le v = u32le.enc v := PrimGenProofs.encode_int32_le_eq v
theorem encode_int32_be_eq (v : UInt32) : encode_int32_be v = u32be.enc v := PrimGenProofs.encode_int32_be_eq v
theorem encode_int64_le_eq (v : UInt64) : encode_int64_le v = u64le.enc v := PrimGenProofs.encode_int64_le_eq v
theorem encode_int64_be_eq (v : UInt64) : encode_int64_be v = u64be.enc v := PrimGenProofs.encode_int64_be_eq v
theorem encode_double_le_eq (v : UInt64) : encode_double_le v = u64le.enc v := PrimGenProofs.encode_double_le_eq v
theorem encode_double_be_eq (v : UInt64) : encode_double_be v = u64be.enc v := PrimGenProofs.encode_double_be_eq v

end PrimCur
end EngineModel
