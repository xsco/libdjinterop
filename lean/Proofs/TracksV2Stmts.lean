/-
`TracksV2/Stmts.lean`: the statement programs of the 2.x track calls are what
the statement-level table model (`TracksV2/Table.lean`) computes, and each is
an atomic shape.
-/
import EngineModel.TracksV2.Stmts
import Proofs.Stmts

namespace EngineModel
namespace TracksV2
open EngineModel.Spec.Txn EngineModel.Spec.Stmts EngineModel.Proofs.Stmts

theorem okTable_ok {α} (r : TDb × Res α) (a : α) (h : r.2 = .ok a) : okTable r = some r.1 := by
  unfold okTable; rw [h]

theorem okTable_bind {α β} (m : M α) (f : α → M β) (db : TDb) :
    okTable ((m >>= f) db) = match m db with
      | (d1, .ok a) => okTable (f a d1)
      | _ => none := by
  show okTable (M.bind m f db) = _
  unfold M.bind
  rcases m db with ⟨d1, r⟩
  cases r <;> rfl

theorem okTable_sel_bind {β} (id : Nat) (f : Row → M β) (db : TDb) :
    okTable ((selectRow id >>= f) db) = match db.find id with
      | some t => okTable (f t.row db)
      | none => none := by
  rw [okTable_bind]
  unfold selectRow
  cases db.find id <;> rfl

theorem okTable_txn {α} (body : M α) (db : TDb) : okTable (M.transaction body db) = okTable (body db) := by
  unfold M.transaction
  rcases body db with ⟨d1, r⟩
  cases r <;> rfl

theorem okTable_of_txn {α} {body : M α} {db d' : TDb} (h : okTable (M.transaction body db) = some d') :
    okTable (body db) = some d' :=
  okTable_txn body db ▸ h

/-- a first write followed by the rest of a scope -/
theorem replay_cons {α} (m : M α) (f : α → M Unit) (rest : List (TDb → Option TDb)) (db d' : TDb)
    (hrest : ∀ a d1, okTable (f a d1) = some d' → applyAll rest d1 = some d')
    (h : okTable ((m >>= f) db) = some d') :
    applyAll ((fun d => okTable (m d)) :: rest) db = some d' := by
  rw [okTable_bind] at h
  show (okTable (m db)).bind (applyAll rest) = some d'
  generalize m db = r at h ⊢
  rcases r with ⟨d1, a | e | u⟩
  · exact hrest a d1 h
  · cases h
  · cases h

theorem replay1 {α} (m : M α) (db d' : TDb) (h : okTable (m db) = some d') :
    applyAll [fun d => okTable (m d)] db = some d' := by
  show (okTable (m db)).bind some = some d'
  rw [h]; rfl

/-- Every setter outside the five scoped ones is its SELECTs and one UPDATE: one write. -/
theorem setBody_unscoped (ops : FOps) (db : TDb) (id : Nat) {σ : Setter} (h : σ.scoped = false) :
    setBody ops db id σ = [.read, .write fun d => okTable (callSet ops id σ d)] := by
  cases σ
  case bpm | key | relativePath | sampleCount | sampleRate => cases h
  all_goals rfl

theorem setBody_replay (ops : FOps) (db : TDb) (id : Nat) (σ : Setter) (d' : TDb)
    (h : okTable (callSet ops id σ db) = some d') :
    applyAll (writesOf (setBody ops db id σ)) db = some d' := by
  cases hσ : σ.scoped
  · rw [setBody_unscoped ops db id hσ]
    exact replay1 _ db d' h
  cases σ
  case bpm v => exact replay_cons _ _ _ db d' (fun _ d1 => replay1 _ d1 d') (okTable_of_txn h)
  case key v => exact replay_cons _ _ _ db d' (fun _ d1 => replay1 _ d1 d') (okTable_of_txn h)
  case relativePath p =>
    exact replay_cons _ _ _ db d' (fun _ d1 => replay_cons _ _ _ d1 d' fun _ d2 => replay1 _ d2 d') (okTable_of_txn h)
  case sampleCount v | sampleRate v =>
    -- two SELECTs of the row, then the two UPDATEs
    have h := okTable_of_txn h
    show applyAll (writesOf (match db.find id with | some t => _ | none => _)) db = some d'
    rw [okTable_sel_bind] at h
    cases hf : db.find id with
    | none => rw [hf] at h; cases h
    | some t =>
      simp only [hf, okTable_sel_bind] at h
      exact replay_cons _ _ _ db d' (fun _ d1 => replay1 _ d1 d') h
  all_goals cases hσ

theorem topBody_rw (ops : FOps) (s : Schema) (db : TDb) (op : TOp) : ∀ x ∈ topBody ops s db op, Cmd.rw x = true := by
  refine rw_of_all ?_
  cases op
  case set id σ =>
    show (setBody ops db id σ).all Cmd.rw = true
    cases hσ : σ.scoped
    · rw [setBody_unscoped ops db id hσ]; rfl
    cases σ
    case bpm | key | relativePath => rfl
    case sampleCount | sampleRate =>
      show (match db.find id with | some t => _ | none => _ : TProg).all Cmd.rw = true
      cases db.find id <;> rfl
    all_goals cases hσ
  all_goals rfl

/-- a call of the table model that returns normally: its table is the one its statements return with -/
theorem okTable_of_step {α} (m : M α) (db : TDb) (n : Nat) (h : ((m >>= fun _ => (pure 0 : M Nat)) db).2 = .ok n) :
    okTable (m db) = some ((m >>= fun _ => (pure 0 : M Nat)) db).1 := by
  change (M.bind m (fun _ => (pure 0 : M Nat)) db).2 = .ok n at h
  show _ = some (M.bind m (fun _ => (pure 0 : M Nat)) db).1
  unfold M.bind at h ⊢
  generalize m db = r at h ⊢
  rcases r with ⟨d1, u | e | u⟩
  · rfl
  · cases h
  · cases h

/-- **The statement program is the modelled call**: whenever the call returns normally, applying the writes of the
program in order to the prior table gives exactly the table the statement-level model returns. -/
theorem topBody_replay (ops : FOps) (s : Schema) (db : TDb) (op : TOp) (n : Nat) (h : (db.step ops s op).2 = .ok n) :
    applyAll (writesOf (topBody ops s db op)) db = some (db.step ops s op).1 := by
  cases op with
  | set id σ => exact setBody_replay ops db id σ _ (okTable_of_step (callSet ops id σ) db n h)
  | create x => exact replay1 _ db _ (okTable_ok _ n h)
  | update id x => exact replay1 _ db _ (okTable_of_step (callUpdate ops s id x) db n h)
  | remove id =>
    -- the DELETE, then `rows_modified() == 0` throws
    refine replay_cons _ _ [] db _ (fun a d1 hf => ?_) (okTable_of_txn (okTable_of_step (callRemove id) db n h))
    by_cases ha : a = 0
    · rw [if_pos ha] at hf; cases hf
    · rw [if_neg ha] at hf; cases hf; rfl

theorem topBody_one_write (ops : FOps) (s : Schema) (db : TDb) (op : TOp) (h : op.scoped = false) :
    ((topBody ops s db op).filter (·.kind == .write)).length ≤ 1 := by
  cases op with
  | create x => exact Nat.le_refl 1
  | update id x => exact Nat.le_refl 1
  | remove id => cases h
  | set id σ =>
    show ((setBody ops db id σ).filter _).length ≤ 1
    rw [setBody_unscoped ops db id h]
    exact Nat.le_refl 1

theorem topBody_hasWrite (ops : FOps) (s : Schema) (db : TDb) (op : TOp) (n : Nat) (h : (db.step ops s op).2 = .ok n) :
    hasWrite (topBody ops s db op) = true := by
  cases op with
  | create x => rfl
  | update id x => rfl
  | remove id => rfl
  | set id σ =>
    have hk := okTable_of_step (callSet ops id σ) db n h
    show hasWrite (setBody ops db id σ) = true
    cases hσ : σ.scoped
    · rw [setBody_unscoped ops db id hσ]; rfl
    cases σ
    case bpm | key | relativePath => rfl
    case sampleCount | sampleRate =>
      -- without a row for the track the SELECT throws and the call does not return normally
      have hk := okTable_of_txn hk
      rw [okTable_sel_bind] at hk
      show hasWrite (match db.find id with | some t => _ | none => _ : TProg) = true
      cases hf : db.find id with
      | some t => rfl
      | none => rw [hf] at hk; cases hk
    all_goals cases hσ

/-- every public track call of the 2.x code issues an atomic shape, on every prior table -/
theorem topStmts_atomic (ops : FOps) (s : Schema) (db : TDb) (op : TOp) : atomicShape (topShapeOf ops s op db) = true :=
  atomic_form op.scoped _ (topBody_rw ops s db op) (topBody_one_write ops s db op)

theorem topStmts_run (ops : FOps) (s : Schema) (db : TDb) (op : TOp) (n : Nat) (auto : Bool)
    (h : (db.step ops s op).2 = .ok n) :
    (call none auto (topStmts ops s db op) db).raised = false ∧
    (call none auto (topStmts ops s db op) db).conn = Conn.idle (db.step ops s op).1 :=
  form_run op.scoped auto _ (topBody_rw ops s db op) db _ (topBody_replay ops s db op n h)

theorem topStmts_skeleton (ops : FOps) (s : Schema) (db : TDb) (op : TOp) (n : Nat) (h : (db.step ops s op).2 = .ok n) :
    skeleton (topShapeOf ops s op db) = op.skeleton.kinds := by
  unfold topShapeOf topStmts TOp.skeleton
  cases hs : op.scoped
  · cases op with
    | create x => rfl
    | update id x => rfl
    | remove id => cases hs
    | set id σ =>
      show skeleton ((setBody ops db id σ).map Cmd.kind) = _
      rw [setBody_unscoped ops db id hs]; rfl
  · show skeleton ((txn (topBody ops s db op)).map Cmd.kind) = _
    rw [skeleton_txn _ (topBody_rw ops s db op), topBody_hasWrite ops s db op n h]
    rfl

end TracksV2
end EngineModel
