/-
C12, the three kernel-decided checks (`classesOk`, `tableOk`, `textsCommentFree`, Spec/SchemaFactsCore.lean) in
forms the kernel evaluates with less work, each proved to imply the check as specified.  The kernel pays for a
structural recursion by the list cells it walks, much the same whatever is done at a cell.  In `classesOk` as
specified that is the texts, walked five or six times each (see `canonScan` in Proofs/SqlCanon.lean), and the lists of texts
and classes, indexed from the front for every text; in `tableOk` it is almost only `clsOf cls`, which walks the class
list from the front for every `sqlite_master` row (the catalogs of a pair list their rows in the same order, so
`sameSet` is settled by the comparison of the two lists as they stand); in `textsCommentFree` the pattern two cells deep.
-/
import Proofs.SchemaFacts
import Proofs.SqlCanon

namespace EngineModel.Spec.SchemaFacts
open EngineModel.Spec.SqlCanon EngineModel.Spec.SchemaDump

/-- `Token` derives `DecidableEq`, but `decide (a = b)` has the kernel build the `Decidable` value, proofs included, at
every list cell; `tokBeq` / `toksBeq` are the same comparison as structural functions into `Bool`. -/
def tokBeq : Token → Token → Bool
  | .word a, .word b => a == b
  | .str a, .str b => a == b
  | .sym a, .sym b => a == b
  | .junk a, .junk b => a == b
  | _, _ => false

theorem tokBeq_iff (a b : Token) : tokBeq a b = true ↔ a = b := by
  cases a <;> cases b <;> simp [tokBeq]

def toksBeq : List Token → List Token → Bool
  | [], [] => true
  | a :: as, b :: bs => tokBeq a b && toksBeq as bs
  | _, _ => false

theorem toksBeq_iff : ∀ a b : List Token, toksBeq a b = true ↔ a = b
  | [], [] => by simp [toksBeq]
  | [], _ :: _ => by simp [toksBeq]
  | _ :: _, [] => by simp [toksBeq]
  | a :: as, b :: bs => by simp [toksBeq, tokBeq_iff, toksBeq_iff as bs]

/-- `classesOk` on the tails `cs`, `ts` of the class table and the texts, `i` entries in.  Where one list ends the
walk answers `true`: the lengths are compared apart (`hl` in `classesOk_of_walk`). -/
def classesWalk (texts : List Str) : Nat → List Nat → List Str → Bool
  | i, c :: cs, t :: ts =>
    (c == i || toksBeq (canonScan t) (canonScan (textAt texts c))) && classesWalk texts (i + 1) cs ts
  | _, _, _ => true

theorem classesWalk_getElem (texts : List Str) : ∀ (i : Nat) (cs : List Nat) (ts : List Str),
    classesWalk texts i cs ts = true → ∀ j (hc : j < cs.length) (ht : j < ts.length),
      cs[j] = i + j ∨ canonChars ts[j] = canonChars (textAt texts cs[j])
  | i, c :: cs, t :: ts, h, j, hc, ht => by
    simp only [classesWalk, canonScan_eq, Bool.and_eq_true, Bool.or_eq_true, beq_iff_eq, toksBeq_iff] at h
    cases j with
    | zero => exact h.1
    | succ j =>
      have := classesWalk_getElem texts (i + 1) cs ts h.2 j (by simpa using hc) (by simpa using ht)
      simpa [Nat.add_assoc, Nat.add_comm 1 j] using this

theorem classesOk_of_walk {texts : List Str} {cls : List Nat} (hl : cls.length = texts.length)
    (h : classesWalk texts 0 cls texts = true) : classesOk texts cls = true := by
  simp only [classesOk, hl, beq_self_eq_true, Bool.true_and, List.all_eq_true, List.mem_range,
    Bool.or_eq_true, beq_iff_eq]
  intro i hi
  have hc : i < cls.length := hl ▸ hi
  have e1 : clsOf cls i = cls[i] := by simp [clsOf, List.getD_eq_getElem?_getD, hc]
  have e2 : textAt texts i = texts[i] := by simp [textAt, List.getD_eq_getElem?_getD, hi]
  rw [e1, e2]
  simpa using classesWalk_getElem texts 0 cls texts h i hc hi

def sameSetQ {α : Type} [DecidableEq α] (xs ys : List α) : Bool := xs == ys || sameSet xs ys

theorem sameSetQ_eq {α : Type} [DecidableEq α] (xs ys : List α) : sameSetQ xs ys = sameSet xs ys := by
  by_cases h : xs = ys
  · simp [sameSetQ, h, sameSet_refl]
  · simp [sameSetQ, h]

/-! ### the class of a text in three operations on numerals -/

/-- A list of numbers below `B` as the base-`B` digits of one number. -/
def pack (B : Nat) : List Nat → Nat
  | [] => 0
  | c :: l => pack B l * B + c

def digit (B N i : Nat) : Nat := N / B ^ i % B

theorem digit_pack {B : Nat} : ∀ l : List Nat, (∀ c ∈ l, c < B) → ∀ i, digit B (pack B l) i = l.getD i 0
  | [], _, i => by simp [digit, pack]
  | c :: l, h, 0 => by
    have hc : c < B := h c List.mem_cons_self
    simp [digit, pack, Nat.mul_add_mod_of_lt hc]
  | c :: l, h, i + 1 => by
    have hc : c < B := h c List.mem_cons_self
    have hB : 0 < B := by omega
    have ih := digit_pack l (fun x hx => h x (List.mem_cons_of_mem _ hx)) i
    simp only [digit, pack, List.getD_cons_succ] at ih ⊢
    rw [Nat.pow_succ, Nat.mul_comm (B ^ i) B, ← Nat.div_div_eq_div_mul, Nat.mul_comm (pack B l) B,
      Nat.mul_add_div hB, Nat.div_eq_of_lt hc, Nat.add_zero, ih]

/-- `clsOf cls i`, read off `N = pack B cls` and `n = cls.length`. -/
def clsOfP (B N n i : Nat) : Nat := if i < n then digit B N i else i

theorem clsOfP_eq {B : Nat} {cls : List Nat} (h : cls.all (· < B) = true) (i : Nat) :
    clsOfP B (pack B cls) cls.length i = clsOf cls i := by
  have h' : ∀ c ∈ cls, c < B := by simpa using h
  unfold clsOfP clsOf
  split
  · next hi => rw [digit_pack cls h' i]; simp [List.getD_eq_getElem?_getD, hi]
  · next hi => simp [List.getD_eq_getElem?_getD, List.getElem?_eq_none (Nat.le_of_not_lt hi)]

/-- `classRow` over any way `f` of reading the class of a text. -/
def rowClass (f : Nat → Nat) (r : IRow) : CRowI := ⟨r.db, r.type, r.name, r.tbl, r.sql.map f⟩

theorem rowClass_clsOf (cls : List Nat) : rowClass (clsOf cls) = classRow cls := rfl

/-- `tableOk` with the class read by `f`.  The generated pairs hold `(i, i)` for most dumps: those are settled by
`p.1 == p.2` without a look at the dump. -/
def tableOkF (f : Nat → Nat) (dumps : List IDump) (pairs : List (Nat × Nat)) : Bool :=
  pairs.all fun p =>
    p.1 == p.2 ||
      (sameSetQ ((dumpAt dumps p.1).master.map (rowClass f)) ((dumpAt dumps p.2).master.map (rowClass f)) &&
        sameSetQ (dumpAt dumps p.1).tables (dumpAt dumps p.2).tables &&
        sameSetQ (flatIdx (dumpAt dumps p.1)) (flatIdx (dumpAt dumps p.2)))

theorem tableOkF_clsOf (cls : List Nat) (dumps : List IDump) (pairs : List (Nat × Nat)) :
    tableOkF (clsOf cls) dumps pairs = tableOk cls dumps pairs := by
  unfold tableOkF tableOk
  congr 1
  funext p
  simp only [sameSetQ_eq, rowClass_clsOf]
  by_cases h : p.1 = p.2
  · simp [h, schemaEqIdx, sameSet_refl]
  · simp [h, schemaEqIdx]

/-- `B` is any bound on the classes: they are indices into `cls`, so `cls.length + 1` will do. -/
theorem tableOk_of_packed {B : Nat} {cls : List Nat} {dumps : List IDump} {pairs : List (Nat × Nat)}
    (hB : cls.all (· < B) = true) (h : tableOkF (clsOfP B (pack B cls) cls.length) dumps pairs = true) :
    tableOk cls dumps pairs = true := by
  rw [show clsOfP B (pack B cls) cls.length = clsOf cls from funext (clsOfP_eq hB), tableOkF_clsOf] at h
  exact h

/-! ### comment starts, with the previous character carried along -/

def ncs (p : Char) : List Char → Bool
  | [] => true
  | d :: r => !((p == '-' && d == '-') || (p == '/' && d == '*')) && ncs d r

theorem ncs_eq : ∀ (c : Char) (r : List Char), ncs c r = noCommentStart (c :: r)
  | _, [] => rfl
  | c, d :: r => by simp only [ncs, noCommentStart, ncs_eq d r]

def noCommentScan : List Char → Bool
  | [] => true
  | c :: r => ncs c r

theorem noCommentScan_eq : ∀ t, noCommentScan t = noCommentStart t
  | [] => rfl
  | c :: r => ncs_eq c r

theorem textsCommentFree_of_scan {texts : List Str} (h : texts.all noCommentScan = true) :
    textsCommentFree texts = true := by
  rw [textsCommentFree, ← h]
  exact congrArg (List.all texts) (funext fun t => (noCommentScan_eq t).symm)

end EngineModel.Spec.SchemaFacts
