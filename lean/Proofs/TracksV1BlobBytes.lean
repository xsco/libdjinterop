/-
C01 1.x: the value-level blob columns of the track model (`normTrack`, `normBeat`, `normCues`,
`normLoops`, `normHires`, `normOvw` in EngineModel/TracksV1/Model.lean) ARE the byte-level codecs of
Impl/V1.lean composed: `decode (encode v)`.  Rests on the read-back lemmas of
Proofs/ImplV1Roundtrip.lean (`track_readback`, …, `hires_roundtrip`, which C03 registers) and the `encode*_reject`
lemmas; the definitions of the encoders and decoders are not unfolded here.  `agree_of_readback` is the common
argument for the two columns whose encoder can refuse (cues, loops).  The `hrep` side conditions (blob sizes below
`maxCount = 2^63` bytes) hold of every C++ value.

Then which rows the bridge applies to.  `PerfFix p`: every column of the row is a FIXED POINT of its codec
(`normX col = ok col`), so the bytes `encode col` exist and decode to exactly `col`.  `create_track` / `update` establish it
(`writeSnap_fix`: each column is a `normX` image, and the `normX` are idempotent) and every setter keeps it (`set_fix`:
`set_performance_data_column` stores only values that pass the decode-after-encode guard).
-/
import Proofs.ImplV1Roundtrip
import Proofs.TracksV1Write
import Proofs.TracksV1SetForm

namespace EngineModel.TracksV1

open Impl.V1 (GMarker HotCue LoopV Entry Wave Beat Cues Loops)
open EngineModel.V1Proofs (normOptF normOptI64 normOptI32 opaq)
open Fl (FOps)


/-- `decode (encode v)` through the byte level. -/
def viaBytes {α} (enc : α → Res Bytes) (dec : Bytes → Res α) (v : α) : Res α := (enc v).bind dec

/-- Same outcome up to the class of the exception (the C03 `…_reject` theorems for cues and loops
conclude only "throws"; the tie compares the classes). -/
def Res.agree {α} : Res α → Res α → Prop
  | .ok a, .ok b => a = b
  | .throw _, .throw _ => True
  | _, _ => False

theorem Res.agree_ok {α} {r : Res α} {a : α} (h : Res.agree r (.ok a)) : r = .ok a := by
  cases r with
  | ok b => exact congrArg Res.ok h
  | throw e => exact h.elim
  | ub u => exact h.elim

theorem viaBytes_ok {α} (enc : α → Res Bytes) (dec : Bytes → Res α) (v w : α)
    (h : ∃ b, enc v = .ok b ∧ dec b = .ok w) : viaBytes enc dec v = .ok w := by
  obtain ⟨b, h1, h2⟩ := h
  unfold viaBytes; rw [h1]; exact h2

theorem viaBytes_throw {α} (enc : α → Res Bytes) (dec : Bytes → Res α) (v : α) (e : Exn) (h : enc v = .throw e) :
    viaBytes enc dec v = .throw e := by
  unfold viaBytes; rw [h]; rfl

theorem normOptF_eq (x : Option Bits) : normOptF x = zeroNoneF x := by
  cases x <;> rfl

theorem normTrack_eq (v : Impl.V1.Track) : EngineModel.V1Proofs.normTrack v = normTrack v := by
  obtain ⟨sr, sc, ld, k⟩ := v
  unfold EngineModel.V1Proofs.normTrack normTrack
  simp only [normOptF_eq]
  congr 1
  · cases sc <;> rfl
  · cases k <;> rfl

/-- "Absent when the key is −1.0", as the codec spells it (Boolean `F64.ne`) and as the Spec does (`=`). -/
theorem someUnlessNegOne_eq {α} (a : α) (x : Bits) :
    (if F64.ne x F64.negOne then some a else none) = if x = F64.negOne then none else some a := by
  simp only [F64.ne_negOne_iff, ite_not]

theorem normCue_eq : EngineModel.V1Proofs.normCue = Spec.normCue := by
  funext q
  cases q with
  | none => rfl
  | some c => exact someUnlessNegOne_eq c c.off

theorem normLoop_eq : EngineModel.V1Proofs.normLoop = Spec.normLoop := by
  funext q
  cases q with
  | none => rfl
  | some c => exact someUnlessNegOne_eq c c.start

theorem cueSlotOk_eq (q : Option HotCue) : V1.cueSlotOk q = Spec.cueOk q := by cases q <;> rfl
theorem loopSlotOk_eq (q : Option LoopV) : V1.loopSlotOk q = Spec.loopOk q := by cases q <;> rfl

theorem opaq_eq : opaq = opaque255 := by funext e; cases e; rfl

theorem bridge_track (v : Impl.V1.Track) :
    viaBytes Impl.V1.encodeTrack Impl.V1.decodeTrack v = .ok (normTrack v) := by
  obtain ⟨b, h1, h2⟩ := V1Proofs.track_readback v
  rw [normTrack_eq] at h2
  exact viaBytes_ok _ _ _ _ ⟨b, h1, h2⟩

theorem bridge_beat (v : Beat) : viaBytes Impl.V1.encodeBeat Impl.V1.decodeBeat v = normBeat v := by
  unfold normBeat
  by_cases h : V1.gridOk v.dflt = true ∧ V1.gridOk v.adj = true
  · obtain ⟨b, h1, h2⟩ := V1Proofs.beat_readback v h.1 h.2
    have hv : Impl.V1.validGrid v.dflt = true ∧ Impl.V1.validGrid v.adj = true := by
      rw [EngineModel.V1Proofs.validGrid_eq, EngineModel.V1Proofs.validGrid_eq]; exact h
    simp only [hv.1, hv.2, Bool.not_true, Bool.or_self, Bool.false_eq_true, if_false]
    rw [normOptF_eq, normOptF_eq] at h2
    exact viaBytes_ok _ _ _ _ ⟨b, h1, h2⟩
  · have hr := V1Proofs.encodeBeat_reject v h
    have hv : (!Impl.V1.validGrid v.dflt || !Impl.V1.validGrid v.adj) = true := by
      rw [EngineModel.V1Proofs.validGrid_eq, EngineModel.V1Proofs.validGrid_eq]
      cases h1 : V1.gridOk v.dflt <;> cases h2 : V1.gridOk v.adj <;> simp_all
    rw [if_pos hv]
    exact viaBytes_throw _ _ _ _ hr

theorem agree_of_readback {α} {enc : α → Res Bytes} {dec : Bytes → Res α} {v w : α} {p : Prop} {r : Res α}
    (hback : p → ∃ b, enc v = .ok b ∧ dec b = .ok w) (hrej : ¬ p → ∃ e, enc v = .throw e)
    (hnorm : ∀ w', r = .ok w' ↔ p ∧ w' = w) (hdef : Defined r) : Res.agree (viaBytes enc dec v) r := by
  by_cases h : p
  · rw [viaBytes_ok _ _ _ _ (hback h), (hnorm w).mpr ⟨h, rfl⟩]
    exact rfl
  · obtain ⟨e, he⟩ := hrej h
    obtain ⟨e', he'⟩ := hdef.throws fun w' hn => h ((hnorm w').mp hn).1
    rw [viaBytes_throw _ _ _ _ he, he']
    exact trivial

theorem bridge_cues (v : Cues) :
    Res.agree (viaBytes Impl.V1.encodeCues Impl.V1.decodeCues v) (normCues v) := by
  refine agree_of_readback (p := v.cues.length = 8 ∧ v.cues.all V1.cueSlotOk = true) (w := ⟨v.cues.map Spec.normCue, v.adjMain, v.defMain⟩) (fun h => ?_) (V1Proofs.encodeCues_reject v) (fun w => ?_)
    (normCues_defined v)
  · rw [← normCue_eq]; exact V1Proofs.cues_readback v h.1 h.2
  · rw [normCues_ok_iff]
    rw [funext cueSlotOk_eq, and_assoc]

theorem bridge_loops (v : Loops) (hrep : v.length < Codec.maxCount) :
    Res.agree (viaBytes Impl.V1.encodeLoops Impl.V1.decodeLoops v) (normLoops v) := by
  refine agree_of_readback (p := v.all V1.loopSlotOk = true) (w := v.map Spec.normLoop) (fun h => ?_) (fun h => V1Proofs.encodeLoops_reject v (Bool.eq_false_iff.mpr h)) (fun w => ?_)
    (normLoops_defined v)
  · rw [← normLoop_eq]; exact V1Proofs.loops_readback v hrep h
  · rw [normLoops_ok_iff]
    rw [funext loopSlotOk_eq]

theorem bridge_hires (w : Wave) (hrep : 30 + 6 * w.entries.length < Codec.maxCount) :
    viaBytes Impl.V1.encodeHires Impl.V1.decodeHires w = .ok (normHires w) :=
  viaBytes_ok _ _ _ _ (V1Proofs.hires_roundtrip w hrep)

theorem bridge_ovw (w : Wave) (hrep : 27 + 3 * w.entries.length < Codec.maxCount) :
    viaBytes Impl.V1.encodeOvw Impl.V1.decodeOvw w = .ok (normOvw w) := by
  obtain ⟨b, h1, h2⟩ := V1Proofs.ovw_readback w hrep
  rw [opaq_eq] at h2
  exact viaBytes_ok _ _ _ _ ⟨b, h1, h2⟩

def PerfFix (p : PerfRow) : Prop :=
  normTrack p.trackData = p.trackData ∧ normBeat p.beat = .ok p.beat ∧ normCues p.cues = .ok p.cues ∧
  normLoops p.loops = .ok p.loops ∧ normOvw p.overview = p.overview

def RowFix (r : TrackRows) : Prop := ∀ p, r.perf = some p → PerfFix p

theorem zeroNoneF_idem (x : Option Bits) : zeroNoneF (zeroNoneF x) = zeroNoneF x := by
  rw [zeroNoneF_eq_dropZero, zeroNoneF_eq_dropZero, Spec.dropZero_idem]

theorem normTrack_idem (v : Impl.V1.Track) : normTrack (normTrack v) = normTrack v := by
  obtain ⟨sr, sc, ld, ky⟩ := v
  unfold normTrack
  simp only [zeroNoneF_idem]
  congr 1
  · cases sc with
    | none => rfl
    | some n => by_cases h : n = 0 <;> simp [h]
  · cases ky with
    | none => rfl
    | some n => by_cases h : n = 0 <;> simp [h]

theorem normBeat_idem (v v' : Beat) (h : normBeat v = .ok v') : normBeat v' = .ok v' := by
  unfold normBeat at h
  split at h
  · cases h
  · rename_i hv
    cases h
    unfold normBeat
    simp only at hv ⊢
    rw [if_neg hv, zeroNoneF_idem, zeroNoneF_idem]

theorem mapRes_fix {α} {f : α → Res α} {g : α → α} {p : α → Bool}
    (hc : ∀ a, (p a = true ∧ f a = .ok (g a)) ∨ (p a = false ∧ ∃ e, f a = .throw e))
    (hp : ∀ a, p a = true → p (g a) = true) (hg : ∀ a, g (g a) = g a) {l l' : List α} (h : mapRes f l = .ok l') :
    mapRes f l' = .ok l' := by
  obtain ⟨hall, rfl⟩ := (mapRes_ok_iff f g p hc _ _).mp h
  rw [mapRes_ok_map f g (l.map g) fun a ha => by
    obtain ⟨q, hq, rfl⟩ := List.mem_map.mp ha
    rcases hc (g q) with ⟨_, e⟩ | ⟨hf, _⟩
    · exact e
    · rw [hp q (List.all_eq_true.mp hall q hq)] at hf; cases hf]
  rw [List.map_map]
  exact congrArg Res.ok (List.map_congr_left fun q _ => hg q)

theorem normCues_idem (v v' : Cues) (h : normCues v = .ok v') : normCues v' = .ok v' := by
  unfold normCues at h
  split at h
  · cases h
  · rename_i hlen
    cases hm : mapRes normCueSlot v.cues with
    | throw e => rw [hm] at h; cases h
    | ub u => rw [hm] at h; cases h
    | ok cs =>
      rw [hm] at h
      simp only at h
      split at h
      · cases h
      · rename_i hlt
        cases h
        have hl : cs.length = v.cues.length := mapRes_length _ _ _ hm
        unfold normCues
        simp only
        rw [if_neg (by omega), mapRes_fix normCueSlot_cases Spec.cueOk_normCue Spec.normCue_idem hm]
        simp only
        rw [if_neg (by omega)]

theorem normLoops_idem (v v' : Loops) (h : normLoops v = .ok v') : normLoops v' = .ok v' :=
  mapRes_fix normLoopSlot_cases Spec.loopOk_normLoop Spec.normLoop_idem h

theorem normOvw_idem (w : Wave) : normOvw (normOvw w) = normOvw w := by
  unfold normOvw
  simp only [List.map_map]
  congr 1

theorem writeSnap_fix (o : FOps) (s : Schema) (x : Snap) (prior : Option TrackRows) (rows : TrackRows)
    (h : writeSnap o s x prior = .ok rows) : RowFix rows := by
  obtain ⟨pr, c, _, hpc, rfl⟩ := writeSnap_eq_ok.mp h
  obtain ⟨hb, hc, hl⟩ := perfCols_eq_ok.mp hpc
  intro p hp
  cases hp
  exact ⟨normTrack_idem _, normBeat_idem _ _ hb, normCues_idem _ _ hc, normLoops_idem _ _ hl, normOvw_idem _⟩

theorem RowFix.of_perf {r r' : TrackRows} (h : RowFix r) (e : r'.perf = r.perf) : RowFix r' := by
  intro p hp; rw [e] at hp; exact h p hp

/-- `set_performance_data_column` stores a value that passed the guard, i.e. a value `v` with `norm v = ok v`: if
putting such a value keeps the other columns' fixed points, the row stays fixed. -/
theorem setCol_fix {α} {norm : α → Res α} {eq : α → α → Bool} {put : PerfRow → α → PerfRow} {r r' : TrackRows} {v : α}
    {stable : Bool} (hf : RowFix r) (h : setCol r norm eq v put = .ok r')
    (hg : ∀ v', colGuard norm eq v = .ok v' ↔ (stable = true ∧ v' = v))
    (hput : ∀ p, PerfFix p → norm v = .ok v → PerfFix { put p v with isAnalyzed := 1 }) : RowFix r' := by
  obtain ⟨v', p, hgd, hp, rfl⟩ := setCol_ok _ _ _ _ _ _ h
  have hn := ((colGuard_ok_iff _ _ _ _).mp hgd).1
  obtain rfl := ((hg v').mp hgd).2
  intro q hq
  cases hq
  exact hput p (hf p hp) hn

theorem setTrackCol_fix {r r' : TrackRows} {v : Impl.V1.Track} (hf : RowFix r) (h : setTrackCol r v = .ok r') : RowFix r' :=
  setCol_fix hf h (guardTrack_iff v) fun _ ⟨_, h2, h3, h4, h5⟩ hn => ⟨Res.ok.inj hn, h2, h3, h4, h5⟩

theorem setBeatCol_fix {r r' : TrackRows} {v : Beat} (hf : RowFix r) (h : setBeatCol r v = .ok r') : RowFix r' :=
  setCol_fix hf h (guardBeat_iff v) fun _ ⟨h1, _, h3, h4, h5⟩ hn => ⟨h1, hn, h3, h4, h5⟩

theorem setCuesCol_fix {r r' : TrackRows} {v : Cues} (hf : RowFix r) (h : setCuesCol r v = .ok r') : RowFix r' :=
  setCol_fix hf h (guardCues_iff v) fun _ ⟨h1, h2, _, h4, h5⟩ hn => ⟨h1, h2, hn, h4, h5⟩

theorem setLoopsCol_fix {r r' : TrackRows} {v : Loops} (hf : RowFix r) (h : setLoopsCol r v = .ok r') : RowFix r' :=
  setCol_fix hf h (guardLoops_iff v) fun _ ⟨h1, h2, h3, _, h5⟩ hn => ⟨h1, h2, h3, hn, h5⟩

theorem setHiresCol_fix {r r' : TrackRows} {v : Wave} (hf : RowFix r) (h : setHiresCol r v = .ok r') : RowFix r' :=
  setCol_fix hf h (guardHires_iff v) fun _ hp _ => hp

theorem setOvwCol_fix {r r' : TrackRows} {v : Wave} (hf : RowFix r) (h : setOvwCol r v = .ok r') : RowFix r' :=
  setCol_fix hf h (guardOvw_iff v.spe v.entries) fun _ ⟨h1, h2, h3, h4, _⟩ hn => ⟨h1, h2, h3, h4, Res.ok.inj hn⟩

theorem set_fix (o : FOps) {r r' : TrackRows} {f : Field} {v : f.ty} (hf : RowFix r) (h : TracksV1.set o r f v = .ok r') :
    RowFix r' := by
  by_cases hp : f = .relativePath
  · subst hp; cases h; exact hf.of_perf rfl
  · exact set_induction o (fun ha e _ => ha.of_perf e) setTrackCol_fix setBeatCol_fix setCuesCol_fix setLoopsCol_fix
      setHiresCol_fix setOvwCol_fix hp hf h

end EngineModel.TracksV1
