/-
Bit-level facts about the guards of the 1.x track code: inside the guard
`fabs(x) < 2^63` (resp. `1 <= x < 2^63`) the cast `static_cast<int64_t>(x)`
is defined (resp. defined and at least 1).
-/
import EngineModel.TracksV1.Float
import EngineModel.Api.C15TracksV1

namespace EngineModel.TracksV1.Fl

open EngineModel

theorem fabs_toNat (x : Bits) : (fabs x).toNat = x.toNat % 9223372036854775808 := by
  unfold fabs signBit
  have h := x.toNat_lt
  simp
  omega

/-- 1085 = 1023 + 62, the largest biased exponent of a value below 2^63. -/
theorem absLt63_exp (x : Bits) (h : absLt63 x = true) : F64.expOf x ≤ 1085 := by
  unfold absLt63 F64.lt at h
  simp only [Bool.and_eq_true, Bool.not_eq_true', decide_eq_true_eq] at h
  obtain ⟨⟨_, _⟩, hk⟩ := h
  have hf := fabs_toNat x
  have hx := x.toNat_lt
  unfold F64.key at hk
  have h63 : two63.toNat = 4890909195324358656 := by decide
  rw [h63, hf] at hk
  simp only [show (4890909195324358656 : Nat) < 9223372036854775808 by decide, if_true] at hk
  have hlt : x.toNat % 9223372036854775808 < 9223372036854775808 := Nat.mod_lt _ (by decide)
  simp only [hlt, if_true] at hk
  unfold F64.expOf
  omega

theorem pow_le_1024 (k : Nat) (h : k ≤ 10) : 2 ^ k ≤ 1024 := by
  have : 2 ^ k ≤ 2 ^ 10 := Nat.pow_le_pow_right (by decide) h
  simpa using this

/-- The magnitude computed by `toI64` is below 2^63 when the exponent is at most 1085. -/
theorem mag_lt (m e : Nat) (hm : m < 4503599627370496) (he : e ≤ 1085) :
    (if e = 0 then 0
      else if e ≥ 1075 then (m + 4503599627370496) * 2 ^ (e - 1075)
      else (m + 4503599627370496) / 2 ^ (1075 - e)) < 9223372036854775808 := by
  split
  · decide
  · split
    · have hp : 2 ^ (e - 1075) ≤ 1024 := pow_le_1024 _ (by omega)
      have h1 : (m + 4503599627370496) * 2 ^ (e - 1075) ≤ (m + 4503599627370496) * 1024 :=
        Nat.mul_le_mul_left _ hp
      omega
    · have : (m + 4503599627370496) / 2 ^ (1075 - e) ≤ m + 4503599627370496 := Nat.div_le_self _ _
      omega

theorem toI64_some_of_absLt63 (x : Bits) (h : absLt63 x = true) : ∃ v, toI64 x = some v := by
  have he := absLt63_exp x h
  have hm : F64.manOf x < 4503599627370496 := by unfold F64.manOf; exact Nat.mod_lt _ (by decide)
  have hmag := mag_lt (F64.manOf x) (F64.expOf x) hm he
  unfold toI64
  simp only
  have hne : ¬ F64.expOf x = 2047 := by omega
  rw [if_neg hne]
  generalize hM : (if F64.expOf x = 0 then 0
      else if F64.expOf x ≥ 1075 then (F64.manOf x + 4503599627370496) * 2 ^ (F64.expOf x - 1075)
      else (F64.manOf x + 4503599627370496) / 2 ^ (1075 - F64.expOf x)) = M at hmag ⊢
  have hin : Cxx.inI64 (if F64.signOf x = true then -(M : Int) else (M : Int)) = true := by
    unfold Cxx.inI64 Cxx.i64Min Cxx.i64Max
    simp only [decide_eq_true_eq]
    split <;> omega
  rw [if_pos hin]
  exact ⟨_, rfl⟩

/-- Zero is what `extentsRate` yields outside the guard `fabs(r) < 2^63`. -/
theorem toI64_zero : toI64 F64.zero = some 0 := by decide

theorem toI64_pos_of_rateDivisible (x : Bits) (h : rateDivisible x = true) : ∃ d, toI64 x = some d ∧ 1 ≤ d := by
  unfold rateDivisible at h
  simp only [Bool.and_eq_true] at h
  obtain ⟨h1, h2⟩ := h
  -- x >= 1: not NaN, key x >= key one > 0, so the sign bit is clear and the exponent is >= 1023
  unfold F64.le at h1
  simp only [Bool.and_eq_true, Bool.not_eq_true', decide_eq_true_eq] at h1
  obtain ⟨⟨_, hnan⟩, hk1⟩ := h1
  unfold F64.lt at h2
  simp only [Bool.and_eq_true, Bool.not_eq_true', decide_eq_true_eq] at h2
  obtain ⟨_, hk2⟩ := h2
  have hx := x.toNat_lt
  have hone : F64.key F64.one = 4607182418800017408 := by decide
  have h63 : F64.key two63 = 4890909195324358656 := by decide
  rw [hone] at hk1
  rw [h63] at hk2
  have hpos : x.toNat < 9223372036854775808 := by
    unfold F64.key at hk1
    split at hk1
    · assumption
    · omega
  have hkx : F64.key x = (x.toNat : Int) := by unfold F64.key; rw [if_pos hpos]
  rw [hkx] at hk1 hk2
  have hsign : F64.signOf x = false := by unfold F64.signOf; simp; omega
  have helo : 1023 ≤ F64.expOf x := by unfold F64.expOf; omega
  have hehi : F64.expOf x ≤ 1085 := by unfold F64.expOf; omega
  have hm : F64.manOf x < 4503599627370496 := by unfold F64.manOf; exact Nat.mod_lt _ (by decide)
  have hmag := mag_lt (F64.manOf x) (F64.expOf x) hm hehi
  unfold toI64
  simp only
  have hne : ¬ F64.expOf x = 2047 := by omega
  rw [if_neg hne]
  have hne0 : ¬ F64.expOf x = 0 := by omega
  rw [if_neg hne0] at hmag ⊢
  rw [hsign]
  simp only [Bool.false_eq_true, if_false]
  generalize hM : (if F64.expOf x ≥ 1075 then (F64.manOf x + 4503599627370496) * 2 ^ (F64.expOf x - 1075)
      else (F64.manOf x + 4503599627370496) / 2 ^ (1075 - F64.expOf x)) = M at hmag ⊢
  have hM1 : 1 ≤ M := by
    rw [← hM]
    split
    · have : 1 ≤ 2 ^ (F64.expOf x - 1075) := Nat.one_le_two_pow
      have : 4503599627370496 ≤ (F64.manOf x + 4503599627370496) * 2 ^ (F64.expOf x - 1075) := by
        calc 4503599627370496 ≤ F64.manOf x + 4503599627370496 := by omega
          _ = (F64.manOf x + 4503599627370496) * 1 := by omega
          _ ≤ _ := Nat.mul_le_mul_left _ this
      omega
    · have hp : 2 ^ (1075 - F64.expOf x) ≤ 2 ^ 52 := Nat.pow_le_pow_right (by decide) (by omega)
      have hp' : 2 ^ (1075 - F64.expOf x) ≤ 4503599627370496 := by simpa using hp
      have hpos2 : 0 < 2 ^ (1075 - F64.expOf x) := Nat.two_pow_pos _
      exact (Nat.one_le_div_iff hpos2).mpr (by omega)
  have hin : Cxx.inI64 (M : Int) = true := by
    unfold Cxx.inI64 Cxx.i64Min Cxx.i64Max
    simp only [decide_eq_true_eq]
    omega
  rw [if_pos hin]
  exact ⟨_, rfl, by omega⟩

end EngineModel.TracksV1.Fl

namespace EngineModel.Api.C15TracksV1
open EngineModel EngineModel.TracksV1
open Fl (FOps)

/-! The bit-exact `ceil` of the C15 track model (`ceilBits`) keeps a value inside `fabs(x) < 2^63`
(`ceilBits_bounded`): the one law `CeilBounded` asks of `std::ceil`.  In the statements `4890909195324358656` is the
bit pattern of 2.0^63, `4503599627370496` = 2^52, `9223372036854775808` = 2^63, `18446744073709551616` = 2^64. -/

theorem absLt63_iff (y : F64.Bits) : Fl.absLt63 y = true ↔ y.toNat % 9223372036854775808 < 4890909195324358656 := by
  have hf := Fl.fabs_toNat y
  have h63 : Fl.two63.toNat = 4890909195324358656 := by decide
  have hnan63 : F64.isNaN Fl.two63 = false := by decide
  unfold Fl.absLt63 F64.lt
  rw [hnan63]
  unfold F64.key
  rw [h63, hf]
  have hlt : y.toNat % 9223372036854775808 < 9223372036854775808 := Nat.mod_lt _ (by decide)
  simp only [hlt, if_true, show (4890909195324358656 : Nat) < 9223372036854775808 by decide, Bool.not_false,
    Bool.and_true, Bool.and_eq_true, Bool.not_eq_true', decide_eq_true_eq]
  constructor
  · intro h; omega
  · intro h
    refine ⟨?_, by omega⟩
    unfold F64.isNaN F64.expOf
    rw [hf]
    have : y.toNat % 9223372036854775808 / 4503599627370496 % 2048 ≠ 2047 := by omega
    simp [this]

theorem roundUp_le (a P m : Nat) (hP : 0 < P) (ha : a < m * P) : a - a % P + P ≤ m * P := by
  have hdiv : a / P < m := (Nat.div_lt_iff_lt_mul hP).mpr ha
  have hsub : a - a % P = P * (a / P) := by
    have := Nat.div_add_mod a P
    omega
  rw [hsub, ← Nat.mul_succ, Nat.mul_comm m]
  exact Nat.mul_le_mul_left _ hdiv

/-- With biased exponent `e` (1023 ≤ e < 1075) the unit of the integers is `2^(1075-e)` magnitude bits, which
divides `2^52`: rounding the magnitude up to an integer at most carries into the next exponent. -/
theorem ceil_step (a e : Nat) (he2 : e < 1075) (he1 : 1023 ≤ e) (ha : a / 4503599627370496 = e) :
    a - a % 2 ^ (1075 - e) + 2 ^ (1075 - e) ≤ (e + 1) * 4503599627370496 := by
  have hpow : 2 ^ (e - 1023) * 2 ^ (1075 - e) = 4503599627370496 := by
    rw [← Nat.pow_add, show e - 1023 + (1075 - e) = 52 by omega]
  have halt : a < (e + 1) * 4503599627370496 := (Nat.div_lt_iff_lt_mul (by decide)).mp (by omega)
  rw [← hpow, ← Nat.mul_assoc] at halt ⊢
  exact roundUp_le a _ _ (Nat.pow_pos (by decide)) halt

/-- A negative pattern (sign bit set) loses magnitude when magnitude bits are cleared. -/
theorem mag_clear (n f : Nat) (hn : n < 18446744073709551616) (hs : n ≥ 9223372036854775808)
    (hf : f ≤ n % 9223372036854775808) (h : n % 9223372036854775808 < 4890909195324358656) :
    (n - f) % 18446744073709551616 % 9223372036854775808 < 4890909195324358656 := by
  omega

/-- A magnitude that stays below exponent 1075 after rounding is far below `2^63` (exponent 1086). -/
theorem mag_carry (s e : Nat) (he : e < 1075) (hs : s ≤ (e + 1) * 4503599627370496) :
    s % 18446744073709551616 % 9223372036854775808 < 4890909195324358656 := by
  omega

theorem ceilBits_bounded (x : F64.Bits) (h : Fl.absLt63 x = true) : Fl.absLt63 (ceilBits x) = true := by
  rw [absLt63_iff] at h ⊢
  have hx := x.toNat_lt
  unfold ceilBits
  simp only
  -- `split` is very slow on these conditions (large literals, a power with a variable exponent)
  by_cases he2 : x.toNat % 9223372036854775808 / 4503599627370496 ≥ 1075
  · rw [if_pos he2]; exact h
  rw [if_neg he2]
  by_cases he1 : x.toNat % 9223372036854775808 / 4503599627370496 < 1023
  · rw [if_pos he1]
    by_cases h0 : x.toNat % 9223372036854775808 = 0
    · rw [if_pos h0]; exact h
    · rw [if_neg h0]
      by_cases hs : x.toNat ≥ 9223372036854775808
      · rw [if_pos hs]; decide
      · rw [if_neg hs]; decide
  rw [if_neg he1]
  by_cases hf : x.toNat % 9223372036854775808 % 2 ^ (1075 - x.toNat % 9223372036854775808 / 4503599627370496) = 0
  · rw [if_pos hf]; exact h
  rw [if_neg hf]
  by_cases hs : x.toNat ≥ 9223372036854775808
  · rw [if_pos hs, UInt64.toNat_ofNat']
    exact mag_clear _ _ hx hs (Nat.mod_le _ _) h
  · rw [if_neg hs, UInt64.toNat_ofNat']
    have hm : x.toNat % 9223372036854775808 = x.toNat := Nat.mod_eq_of_lt (by omega)
    rw [hm] at he2 he1 ⊢
    exact mag_carry _ _ (by omega) (ceil_step x.toNat _ (by omega) (by omega) rfl)

theorem ceilBounded_exact (o : FOps) : CeilBounded (withExactCeil o) :=
  fun b h => ceilBits_bounded b h

end EngineModel.Api.C15TracksV1
