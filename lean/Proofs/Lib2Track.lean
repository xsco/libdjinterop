/-
Composite 2.x library (Lib/V2.lean): what ONE call of the track package does to the Track table, as the composite
reads it.  The package says what a call can change (`Eff` on the row store, carried to the table by `step_conj`);
`TStep` names, call by call, which of those changes it is — nothing and no normal return, a row appended with the
next AUTOINCREMENT id, one row's columns replaced (key and origin columns kept), one row deleted — with the new
table written out, because the composite has to know how the ids move (the crate package sees them) and which
track the ChangeLog trigger fires for.  `tstep` reads it off the package's closed forms of the four calls
(`callCreate_eq`, `callUpdate_eq`, `callSet_atomic`, `callRemove_absent` / `callRemove_present`), which give the new
table outright.  What the writes keep of a row (`step_rows`) needs none of that: it is `Eff.rows` read through the view.
-/
import Proofs.TracksV2Wf
import EngineModel.Lib.V2

namespace EngineModel.Lib.V2
open EngineModel EngineModel.TracksV2

theorem find_isSome_iff (db : TDb) (id : Nat) : (db.find id).isSome = true ↔ id ∈ db.rows.map (·.id) :=
  find_isSome_iff_mem db id

/-- What one track call does to the Track table `db`; `tstep` proves it of `TDb.step` under `SInv db`. -/
inductive TStep (ops : FOps) (s : TracksV2.Schema) (db : TDb) : TOp → TDb → Res Nat → Prop
  | failed (op : TOp) (r : Res Nat) (h : isOk r = false) : TStep ops s db op db r
  /-- `create_track`: one row appended, id `seq + 1` -/
  | created (x : Snap) (row : Row) (hw : writeStore ops s x = .ok row) :
      TStep ops s db (.create x) { db with rows := db.rows ++ [db.created row], seq := db.seq + 1 } (.ok (db.seq + 1))
  | updated (id : Nat) (x : Snap) (t : TRow) (row : Row) (hf : db.find id = some t) (hw : writeStore ops s x = .ok row) :
      TStep ops s db (.update id x) (db.rep t row) (.ok 0)
  /-- a setter: the columns of the row replaced by what `applySetter` (the lens model of C06) gives -/
  | set (id : Nat) (σ : Setter) (t : TRow) (row : Row) (hf : db.find id = some t) (ha : applySetter ops σ t.row = .ok row) :
      TStep ops s db (.set id σ) (db.rep t row) (.ok 0)
  | removed (id : Nat) (t : TRow) (hf : db.find id = some t) :
      TStep ops s db (.remove id) { db with rows := db.rows.filter fun e => !(e.id == id) } (.ok 0)

/-- `TDb.step` runs `update`, the setters and `remove` as calls that return nothing and answers 0 -/
theorem TStep.of_unit {ops : FOps} {s : TracksV2.Schema} {db : TDb} {op : TOp} (m : M Unit)
    (h : TStep ops s db op (m db).1 ((m db).2.bind fun _ => .ok 0)) :
    TStep ops s db op ((m >>= fun _ => (pure 0 : M Nat)) db).1 ((m >>= fun _ => (pure 0 : M Nat)) db).2 := by
  rw [M.bind_pure]; exact h

theorem tstep (ops : FOps) (s : TracksV2.Schema) {db : TDb} (hs : SInv db) (op : TOp) :
    TStep ops s db op (db.step ops s op).1 (db.step ops s op).2 := by
  cases op with
  | create x =>
    show TStep ops s db _ (callCreate ops s x db).1 (callCreate ops s x db).2
    rw [callCreate_eq ops s x hs]
    cases hw : writeStore ops s x with
    | throw e => exact .failed _ _ rfl
    | ub u => exact .failed _ _ rfl
    | ok r =>
      simp only []
      cases pathTaken' db 0 r.path with
      | true => exact .failed _ _ rfl
      | false => exact .created x r hw
  | update id x =>
    refine .of_unit (callUpdate ops s id x) ?_
    rw [callUpdate_eq ops s id x hs]
    cases hw : writeStore ops s x with
    | throw e => exact .failed _ _ rfl
    | ub u => exact .failed _ _ rfl
    | ok r =>
      simp only []
      cases hf : db.find id with
      | none => exact .failed _ _ rfl
      | some t =>
        simp only []
        cases pathTaken' db id r.path with
        | true => exact .failed _ _ rfl
        | false => exact .updated id x t r hf hw
  | set id σ =>
    refine .of_unit (callSet ops id σ) ?_
    rw [callSet_atomic ops id σ hs]
    unfold atomicSet
    cases hf : db.find id with
    | none => exact .failed _ _ rfl
    | some t =>
      simp only []
      cases ha : applySetter ops σ t.row with
      | throw e => exact .failed _ _ rfl
      | ub u => exact .failed _ _ rfl
      | ok r' =>
        simp only []
        cases pathTaken' db id r'.path with
        | true => exact .failed _ _ rfl
        | false => exact .set id σ t r' hf ha
  | remove id =>
    refine .of_unit (callRemove id) ?_
    cases hf : db.find id with
    | none => rw [callRemove_absent hf]; exact .failed _ _ rfl
    | some t => rw [callRemove_present hf]; exact .removed id t hf

/-- A property of stored rows that every write establishes (`create_track`, `update`) or keeps (the setters) is
kept by every call. -/
theorem step_rows {P : Row → Prop} {ops : FOps} (hP : RowInv ops P) (s : TracksV2.Schema) {db : TDb} (hs : SInv db)
    (h : ∀ t ∈ db.rows, P t.row) (op : TOp) : ∀ t ∈ (db.step ops s op).1.rows, P t.row := by
  rw [step_conj ops s op hs]
  intro t ht
  obtain ⟨e, he, rfl⟩ := List.mem_map.mp ht
  refine (call_ran ops s db.toDb op).eff.rows hP (fun e he => ?_) e he
  obtain ⟨t, ht, rfl⟩ := List.mem_map.mp he
  exact h t ht

theorem run_rows {P : Row → Prop} {ops : FOps} (hP : RowInv ops P) (s : TracksV2.Schema) {db : TDb} (hI : Inv db)
    (h : ∀ t ∈ db.rows, P t.row) (hist : List TOp) : ∀ t ∈ (db.run ops s hist).rows, P t.row :=
  ((TracksV2.isRun ops s).inv (Inv := fun d => Inv d ∧ ∀ t ∈ d.rows, P t.row)
    (fun _ op h => ⟨inv_step ops s op h.1, step_rows hP s h.1.s h.2 op⟩) hist db ⟨hI, h⟩).2

theorem rep_ids (db : TDb) (t : TRow) (r : Row) : (db.rep t r).rows.map (·.id) = db.rows.map (·.id) :=
  map_id_replace _ _

theorem rep_seq (db : TDb) (t : TRow) (r : Row) : (db.rep t r).seq = db.seq := rfl

end EngineModel.Lib.V2
