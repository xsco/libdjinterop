/-
The invariant `TDb.Wf` of the `track_table` model (row ids bounded by the
AUTOINCREMENT counter, every column typed) is kept by every well-typed
operation (`wf_step`), hence after every history of them (`C18_track_histories`).
-/
import Proofs.TableTrackTyped
import Proofs.Machine
namespace EngineModel
namespace Table

/-- The invariant from its two row-wise parts (the typed origin pair follows from the typed columns). -/
theorem TDb.Wf.of_rows {d d' : TDb} (hwf : d.Wf) (hu : d'.uuid = d.uuid) (hc : d'.clock = d.clock)
    (hids : ∀ r ∈ d'.rows, rowId .id r ≤ d'.seq) (hcols : ∀ r ∈ d'.rows, RowTyped r) : d'.Wf :=
  ⟨hids, fun r hr => (hcols r hr).originTyped, hu ▸ hwf.uuid, fun r hr => (rowTypedT_iff r).mpr (hcols r hr),
    hc ▸ hwf.clk⟩

theorem TDb.Wf.rowTyped {d : TDb} (hwf : d.Wf) {r : Raw TCol} (hr : r ∈ d.rows) : RowTyped r :=
  (rowTypedT_iff r).mp (hwf.cols r hr)

theorem wf_add {s : Schema2} {st : TStmts} (ha : alignedT s st = true) {d : TDb} (hwf : d.Wf)
    {r : Row TField} (hr : wtRowT r) : (tAdd st d r).1.Wf := by
  obtain ⟨hins, _⟩ := alignedT_iff.mp ha
  rcases tAdd_cases st d r with ⟨h, _⟩ | ⟨l, _, he, h⟩ <;> rw [h]
  · exact hwf
  refine hwf.of_rows rfl rfl (fun x hx => ?_) (fun x hx => ?_)
  · rcases List.mem_append.mp hx with hx | hx
    · have := hwf.ids x hx; show rowId TCol.id x ≤ d.seq + 1; omega
    · cases List.mem_singleton.mp hx; exact Int.le_of_eq (rowId_tInserted hins he _ _)
  · rcases List.mem_append.mp hx with hx | hx
    · exact hwf.rowTyped hx
    · cases List.mem_singleton.mp hx
      refine RowTyped.applyFix hwf.uuid (RowTyped.written hins he hr fun f hf => ?_)
      -- the columns an INSERT does not write: the id just assigned, and NULL where the schema has no column
      by_cases hfid : f = .id
      · subst hfid; rfl
      · have hp : f.present s = false := by
          cases hp : f.present s with
          | false => rfl
          | true => exact absurd (TField.mem_writable.mpr ⟨hfid, hp⟩) hf
        -- only the two members some schema lacks can be absent, and NULL is typed for both
        unfold TField.present at hp
        split at hp <;> first | rfl | cases hp

theorem wf_updateWhereId {s : Schema2} {d : TDb} (hwf : d.Wf) {i : Int} {l : List (TCol × Val)}
    (hidcol : TCol.id ∉ l.map (·.1))
    (hcols : ∀ old ∈ d.rows, RowTyped (assign old l)) : (tUpdateWhereId s d i l).1.Wf := by
  rcases tUpdateWhereId_cases s d i l with ⟨_, h⟩ | ⟨old, hold, h | h⟩ <;> rw [h]
  · exact hwf
  · exact hwf
  obtain ⟨hmem, hrid⟩ := findRow_some hold
  refine hwf.of_rows rfl rfl (fun x hx => ?_) (fun x hx => ?_)
  · rcases mem_updRow hx with hx | ⟨o, ho, hoi, rfl⟩
    · exact hwf.ids x hx
    · show rowId TCol.id _ ≤ d.seq
      rw [rowId_afterUpdate s d hidcol]
      exact hwf.ids old hmem
  · rcases mem_updRow hx with hx | ⟨o, ho, _, rfl⟩
    · exact hwf.rowTyped hx
    · unfold afterUpdate
      refine RowTyped.stampRow (RowTyped.applyFix hwf.uuid (hcols old hmem)) _ fun t ht => ?_
      unfold stampOf at ht
      split at ht <;> cases ht
      exact hwf.clk

theorem wf_update {s : Schema2} {st : TStmts} (ha : alignedT s st = true) {d : TDb} (hwf : d.Wf)
    {r : Row TField} (hr : wtRowT r) : (tUpdate s st d r).1.Wf := by
  obtain ⟨_, hupd, _⟩ := alignedT_iff.mp ha
  rcases tUpdate_cases s st d r with ⟨h, _⟩ | ⟨i, l, _, _, he, h⟩ <;> rw [h]
  · exact hwf
  · exact wf_updateWhereId hwf (id_not_written hupd he)
      (fun old hold => RowTyped.written hupd he hr (fun f _ => hwf.rowTyped hold f))

theorem wf_setc {s : Schema2} {st : TStmts} (ha : alignedT s st = true) {d : TDb} (hwf : d.Wf)
    {f : TField} (hf : f ≠ .id) {i : Int} {v : FVal} (hv : wtv f.accTy v = true) : (tSetc s st d f i v).1.Wf := by
  rcases tSetc_aligned ha hf d i v with ⟨e, he⟩ | ⟨x, _, _, hw, _, hidcol, hu, _⟩
  · rw [he]; exact hwf
  · have := wf_updateWhereId (s := s) (i := i) hwf hidcol fun old hold => RowTyped.setCol (hwf.rowTyped hold) hv hw
    rwa [hu] at this

theorem wf_remove {st : TStmts} {d : TDb} (hwf : d.Wf) (i : Int) : (tRemove st d i).1.Wf := by
  unfold tRemove
  split
  · split <;> exact hwf
  · exact hwf.of_rows rfl rfl (fun x hx => hwf.ids x (List.mem_filter.mp hx).1)
      (fun x hx => hwf.rowTyped (List.mem_filter.mp hx).1)

theorem TDb.empty_wf (uuid : Val) (clock : Int) (hu : uuidTyped uuid = true)
    (hclk : in64 (clock * 1000000000) = true) :
    ({ TDb.empty with uuid := uuid, clock := clock } : TDb).Wf :=
  ⟨fun _ h => (by cases h), fun _ h => (by cases h), hu, fun _ h => (by cases h), hclk⟩

theorem wf_step {s : Schema2} {st : TStmts} (ha : alignedT s st = true) {d : TDb} (hwf : d.Wf)
    {op : TOp} (hop : wtOp op) : (tStep s st d op).Wf := by
  cases op with
  | add r => exact wf_add ha hwf hop
  | update r => exact wf_update ha hwf hop
  | remove i => exact wf_remove hwf i
  | setc f i v => exact wf_setc ha hwf hop.1 hop.2

theorem tRun_isRun (s : Schema2) (st : TStmts) : Machine.IsRun (fun d op => (tStep s st d op, ())) (tRun s st) :=
  ⟨fun _ => rfl, fun _ _ _ => rfl⟩

end Table
end EngineModel
