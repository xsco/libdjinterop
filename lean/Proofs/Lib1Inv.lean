/-
The whole-library invariant `LibInv` of the composite schema-1.x model (`EngineModel/Lib/V1.lean`) and its
preservation by every call of the alphabet — failed calls included.

`LibInv s L` = the crates package's `Inv`, the tracks package's `TableOk` (distinct ids, `UNIQUE(path)`, the row
invariant `DbInv`), and what ties the table families together:
  * `coupled`     the Track key table of the crates model and the per-track rows of the tracks model describe the
                  same set of tracks (`liveTrack` ⇔ rows present);
  * `noPlaceholder`  a NULL-path Track row exists on the AUTOINCREMENT schemas only;
  * `art` / `albumArt`  every Track row written by the library references album-art row 1, and that row exists;
  * `schema`, `infoM`, `infoP`  the version stamps of both files are the schema's.

Every proof about `step` goes through `Eff` / `step_eff`: what one call does, in five alternatives that each give the
next state, with `crOp`, the crates operation the call performs; `rows_eff` lifts a property of single rows to all
stored rows.  The later files (memberships, blobs, cleanliness, references) argue from these.
-/
import EngineModel.Lib.V1
import Proofs.CratesV1Sim
import Proofs.NoUbCratesV1
import Proofs.TracksV1Table
import Proofs.Machine

namespace EngineModel.Lib.V1
open EngineModel.Api
open EngineModel.Api.CratesV1 (liveTrack trackAutoinc)
open EngineModel.TracksV1 (Snap Field TrackRows aget aset TableOk DbInv KeysDistinct PathsUnique dbCreate dbUpdate dbSet dbRemove nextId writeSnap
  AllRows)
open EngineModel.TracksV1.Fl (FOps)

structure LibInv (s : VSchema) (L : Lib1) : Prop where
  crates : CratesV1.Inv L.cr
  schema : L.tr.schema = s
  table : TableOk L.tr
  coupled : ∀ x, liveTrack L.cr x ↔ (L.tr.rows x).isSome = true
  noPlaceholder : trackAutoinc (toDetect s) = false → ∀ r ∈ L.cr.track, r.hasPath = true
  art : ∀ id r, L.tr.rows id = some r → r.track.idAlbumArt = some 1
  albumArt : L.albumArt.map (·.id) = [1]
  infoM : L.infoM.version = (toDetect s).version
  infoP : L.infoP.version = (toDetect s).version

theorem libInv_empty (s : VSchema) (um up dir : Bytes) : LibInv s (Lib1.empty s um up dir) := by
  refine ⟨CratesV1.inv_empty, rfl, ⟨List.nodup_nil, ?_, ?_⟩, fun x => ⟨?_, ?_⟩, ?_, ?_, rfl, rfl, rfl⟩
  · intro _ _ h; cases h
  · intro _ _ h; cases h
  · rintro ⟨_, hr, _⟩; cases hr
  · intro h; cases h
  · intro _ _ h; cases h
  · intro _ _ h; cases h

theorem rows_append (d : TracksV1.Db) (id x : Int) (r : TrackRows) :
    ({ d with tracks := d.tracks ++ [(id, r)] } : TracksV1.Db).rows x = (d.rows x).or (if id = x then some r else none) :=
  TracksV1.aget_append x d.tracks [(id, r)]

theorem rows_aset (d : TracksV1.Db) (id x : Int) (r : TrackRows) :
    ({ d with tracks := aset id r d.tracks } : TracksV1.Db).rows x = if x = id then some r else d.rows x := by
  unfold TracksV1.Db.rows
  split
  · next h => rw [h]; exact TracksV1.aget_aset_same ..
  · next h => exact TracksV1.aget_aset_other _ _ _ _ h

theorem rows_dbRemove (d : TracksV1.Db) (t x : Int) : (dbRemove d t).rows x = if x = t then none else d.rows x := by
  split
  · next h => rw [h]; exact TracksV1.aget_filter_ne ..
  · next h => exact TracksV1.aget_filter_other _ _ _ h

theorem aget_isSome_mem {β} : ∀ (l : List (Int × β)) (k : Int), (aget k l).isSome = true → k ∈ l.map (·.1) := by
  intro l
  induction l with
  | nil => intro k h; simp [aget] at h
  | cons hd t ih =>
    intro k h
    obtain ⟨k0, v⟩ := hd
    by_cases hk : k0 = k
    · simp [hk]
    · simp only [aget, hk, if_false] at h
      simp only [List.map_cons, List.mem_cons]
      exact Or.inr (ih k h)

theorem raw_keys (L : Lib1) :
    (∀ m ∈ (raw L).metaStr, ∃ e ∈ L.tr.tracks, e.1 = m.1) ∧ (∀ m ∈ (raw L).metaInt, ∃ e ∈ L.tr.tracks, e.1 = m.1) ∧
    ∀ i ∈ (raw L).perf, ∃ e ∈ L.tr.tracks, e.1 = i := by
  refine ⟨fun m hm => ?_, fun m hm => ?_, fun i hi => ?_⟩
  · obtain ⟨e, he, hm'⟩ := List.mem_flatMap.mp hm
    obtain ⟨x, _, rfl⟩ := List.mem_map.mp hm'
    exact ⟨e, he, rfl⟩
  · obtain ⟨e, he, hm'⟩ := List.mem_flatMap.mp hm
    obtain ⟨x, _, rfl⟩ := List.mem_map.mp hm'
    exact ⟨e, he, rfl⟩
  · obtain ⟨e, he, hi'⟩ := List.mem_filterMap.mp hi
    cases hp : e.2.perf with
    | none => rw [hp] at hi'; cases hi'
    | some p => rw [hp] at hi'; cases hi'; exact ⟨e, he, rfl⟩

def crateOnly : CratesV1.Op → Bool
  | .createTrack | .removeTrack _ => false
  | _ => true

theorem crateOp_track (s : Pure.Detect.Schema) {db : CratesV1.Db} (hf : CratesV1.FInv db) (op : CratesV1.Op)
    (hop : crateOnly op = true) :
    (CratesV1.step s db op).1.track = db.track ∧ (CratesV1.step s db op).1.trackSeq = db.trackSeq := by
  by_cases hed : CratesV1.editsForest op = true
  · rcases CratesV1.step_cases_finv s hf hed with ⟨_, e, he⟩ | ⟨ha, d, o, he, hr⟩ <;> rw [he]
    · exact ⟨rfl, rfl⟩
    · exact (hr.finv hf hed ha).2
  cases op with
  | createRoot n | createSub c n | rename c n | setParent c p => exact absurd rfl hed
  | removeCrate c => exact CratesV1.C15.removeCrate_tracks s db c
  | addTrack c t =>
    obtain ⟨_, _, _, h4, h5⟩ := CratesV1.C15.addTrack_frame s db c t
    exact ⟨h4, h5⟩
  | removeTrackFrom c t =>
    obtain ⟨_, _, _, h4, h5⟩ := CratesV1.deleteCtl_other s db (fun r => r.1 == c && r.2 == t)
    exact ⟨h4, h5⟩
  | clearTracks c =>
    obtain ⟨_, _, _, h4, h5⟩ := CratesV1.deleteCtl_other s db (fun r => r.1 == c)
    exact ⟨h4, h5⟩
  | createTrack => cases hop
  | removeTrack t => cases hop

/- The crates-package operation a call performs on `L.cr` (a `create_track` that throws performs none; `update`,
setters and observers perform none). -/
def crOp (o : FOps) (L : Lib1) : Call → Option CratesV1.Op
  | .createRootCrate n => some (.createRoot n)
  | .createRootCrateAfter n _ => some (.createRoot n)
  | .createTrack x => if (dbCreate o L.tr x).isOk then some .createTrack else none
  | .removeCrate c => some (.removeCrate c)
  | .removeTrack t => some (.removeTrack t)
  | .addTrack c t => some (.addTrack c t)
  | .crateRemoveTrack c t => some (.removeTrackFrom c t)
  | .clearTracks c => some (.clearTracks c)
  | .createSubCrate c n => some (.createSub c n)
  | .createSubCrateAfter c n _ => some (.createSub c n)
  | .setName c n => some (.rename c n)
  | .setParent c p => some (.setParent c p)
  | _ => none

theorem relabel_append (d : TracksV1.Db) (id0 id : Int) (rows : TrackRows) (hf : ∀ e ∈ d.tracks, e.1 ≠ id0) :
    relabel { d with tracks := d.tracks ++ [(id0, rows)] } id0 id = { d with tracks := d.tracks ++ [(id, rows)] } := by
  unfold relabel
  simp only [List.map_append, List.map_cons, List.map_nil, if_true]
  congr 2
  conv => rhs; rw [← List.map_id d.tracks]
  apply List.map_congr_left
  intro e he
  simp [hf e he]

/-- The Track table's constraints do not depend on WHICH fresh id the new row got. -/
theorem tableOk_relabel (d : TracksV1.Db) (id0 id : Int) (rows : TrackRows)
    (h0 : ∀ e ∈ d.tracks, e.1 ≠ id0) (h1 : ∀ e ∈ d.tracks, e.1 ≠ id)
    (hok : TableOk ({ d with tracks := d.tracks ++ [(id0, rows)] } : TracksV1.Db)) :
    TableOk ({ d with tracks := d.tracks ++ [(id, rows)] } : TracksV1.Db) := by
  have hnone : ∀ k, (∀ e ∈ d.tracks, e.1 ≠ k) → d.rows k = none := fun k hk => by
    cases hh : d.rows k with
    | none => rfl
    | some r => exact absurd rfl (hk _ (TracksV1.aget_mem _ _ _ hh))
  refine ⟨?_, ?_, ?_⟩
  · have hk := hok.keys
    unfold KeysDistinct at hk ⊢
    simp only [List.map_append, List.map_cons, List.map_nil, List.nodup_append] at hk ⊢
    refine ⟨hk.1, List.nodup_singleton id, fun a ha b hb => ?_⟩
    obtain ⟨e, he, rfl⟩ := List.mem_map.mp ha
    exact List.mem_singleton.mp hb ▸ h1 e he
  · intro hsch e1 he1 e2 he2 hne p hp1
    have hp := hok.paths hsch
    simp only [List.mem_append, List.mem_singleton] at he1 he2
    rcases he1 with m1 | m1 <;> rcases he2 with m2 | m2
    · exact hp e1 (List.mem_append_left _ m1) e2 (List.mem_append_left _ m2) hne p hp1
    · subst m2
      exact hp e1 (List.mem_append_left _ m1) (id0, rows) (List.mem_append_right _ (List.mem_singleton.mpr rfl))
        (h0 e1 m1) p hp1
    · subst m1
      exact hp (id0, rows) (List.mem_append_right _ (List.mem_singleton.mpr rfl)) e2 (List.mem_append_left _ m2)
        (fun e => h0 e2 m2 e.symm) p hp1
    · subst m1; subst m2; exact absurd rfl hne
  · -- a row of the new table is a row of the old one, under the same id or (the appended one) under `id0`
    intro id' r hr
    rw [rows_append, Option.or_eq_some_iff] at hr
    rcases hr with hr | ⟨_, hr⟩
    · exact hok.rows id' r (by rw [rows_append, hr]; rfl)
    · split at hr <;> cases hr
      exact hok.rows id0 rows (by rw [rows_append, hnone id0 h0, if_pos rfl]; rfl)

theorem fresh_of_maxId {s : VSchema} {L : Lib1} (h : LibInv s L) {id : Int}
    (hid : CratesV1.maxId (L.cr.track.map (·.id)) < id) : ∀ e ∈ L.tr.tracks, e.1 ≠ id := by
  intro e he
  have h1 : (L.tr.rows e.1).isSome = true := TracksV1.mem_rows_isSome _ e he
  obtain ⟨r, hr, hre, _⟩ := (h.coupled e.1).mpr h1
  have : e.1 ∈ L.cr.track.map (·.id) := List.mem_map.mpr ⟨r, hr, hre⟩
  exact CratesV1.maxId_lt_fresh this hid

/-- What one call does to the library, with what a proof about the next state needs.  `idle`: nothing (every observer; a
`create_track`, `update` or setter that throws) and no crates operation.  `crate`: a call the crates package owns; it goes
through `viaCrates` with an operation that leaves the Track key table alone.  `create`: a `create_track` that returns
appends, under the id the key table allocated, the rows the tracks package wrote under its own next id (`dbCreate_eq` is
the tracks package's answer under `nextId L.tr`, `step_eq` the state after `relabel` has put the rows under `id`).  `remove`:
`remove_track`, which always goes through both packages.  `write`: an `update` or setter that returns replaces the rows `r` of one existing track by rows that
`writeSnap` produced over them or that the setter derived from them; the Track table's constraints survive. -/
inductive Eff (o : FOps) (s : VSchema) (L : Lib1) : Call → Prop
  | idle {c : Call} (step_eq : (step o s L c).1 = L) (crOp_eq : crOp o L c = none)
      (quiet : c.isObserver = true ∨ (step o s L c).2.isOk = false) : Eff o s L c
  | crate {c : Call} (op : CratesV1.Op) (crOp_eq : crOp o L c = some op) (only : crateOnly op = true)
      (step_eq : step o s L c = viaCrates s L op) (not_observer : c.isObserver = false) : Eff o s L c
  | create (x : Snap) (id seq : Int) (rows : TrackRows) (fresh : CratesV1.maxId (L.cr.track.map (·.id)) < id)
      (written : writeSnap o L.tr.schema x none = .ok rows)
      (dbCreate_eq : dbCreate o L.tr x = .ok ({ L.tr with tracks := L.tr.tracks ++ [(nextId L.tr, rows)] }, nextId L.tr))
      (alloc : CratesV1.createTrack (toDetect s) L.cr =
        ({ L.cr with track := L.cr.track ++ [⟨id, true⟩], trackSeq := seq }, .ok (.id id)))
      (step_eq : step o s L (.createTrack x) =
        ({ L with cr := { L.cr with track := L.cr.track ++ [⟨id, true⟩], trackSeq := seq },
                  tr := { L.tr with tracks := L.tr.tracks ++ [(id, rows)] } }, .ok (.id id))) : Eff o s L (.createTrack x)
  | remove (t : Id) (step_eq : (step o s L (.removeTrack t)).1 =
      { L with cr := (CratesV1.removeTrack (toDetect s) L.cr t).1, tr := dbRemove L.tr t }) : Eff o s L (.removeTrack t)
  | write {c : Call} (t : Id) (r r' : TrackRows) (row : L.tr.rows t = some r)
      (how : (∃ x, c = .update t x ∧ writeSnap o L.tr.schema x (some r) = .ok r') ∨
        ∃ f v, c = .set t f v ∧ TracksV1.set o r f v = .ok r')
      (tableOk : TableOk L.tr → TableOk ({ L.tr with tracks := aset t r' L.tr.tracks } : TracksV1.Db))
      (step_eq : step o s L c = ({ L with tr := { L.tr with tracks := aset t r' L.tr.tracks } }, .ok .unit)) : Eff o s L c

theorem step_eff (o : FOps) (s : VSchema) (L : Lib1) (c : Call) : Eff o s L c := by
  cases c with
  | createTrack x =>
    obtain ⟨id, seq, hc, hmax⟩ := CratesV1.createTrack_spec (toDetect s) L.cr
    have e : step o s L (.createTrack x) = match dbCreate o L.tr x with
        | .ok (d', id0) => ({ L with cr := { L.cr with track := L.cr.track ++ [⟨id, true⟩], trackSeq := seq },
                                     tr := relabel d' id0 id }, .ok (.id id))
        | .throw e => (L, .throw e)
        | .ub u => (L, .ub u) := by
      show createTrack o s L x = _
      unfold createTrack
      rw [hc]
      rfl
    have h0 : ∀ b, (dbCreate o L.tr x).isOk = b → crOp o L (.createTrack x) = if b then some .createTrack else none :=
      fun b hb => by show (if (dbCreate o L.tr x).isOk then _ else _) = _; rw [hb]
    cases hd : dbCreate o L.tr x with
    | throw _ => rw [hd] at e h0; exact .idle (by rw [e]) (h0 false rfl) (.inr (by rw [e]; rfl))
    | ub _ => rw [hd] at e h0; exact .idle (by rw [e]) (h0 false rfl) (.inr (by rw [e]; rfl))
    | ok p =>
      obtain ⟨d', id0⟩ := p
      obtain ⟨rows, hw, _, rfl, rfl⟩ := TracksV1.dbCreate_eq_ok hd
      rw [hd] at e
      simp only at e
      rw [relabel_append L.tr _ id rows fun e he => Int.ne_of_lt (TracksV1.nextId_fresh L.tr e he)] at e
      exact .create x id seq rows hmax hw hd hc e
  | removeTrack t => exact .remove t rfl
  | update t x =>
    have e : step o s L (.update t x) = viaTracks L (dbUpdate o L.tr t x) := rfl
    cases hu : dbUpdate o L.tr t x with
    | throw _ => rw [hu] at e; exact .idle (by rw [e]; rfl) rfl (.inr (by rw [e]; rfl))
    | ub _ => rw [hu] at e; exact .idle (by rw [e]; rfl) rfl (.inr (by rw [e]; rfl))
    | ok d' =>
      obtain ⟨r, r', hr, hw, _, rfl⟩ := TracksV1.dbUpdate_eq_ok hu
      exact .write t r r' hr (.inl ⟨x, rfl, hw⟩) (fun hok => TracksV1.dbUpdate_tableOk o L.tr _ t x hok hu) (by rw [e, hu]; rfl)
  | set t f v =>
    have e : step o s L (.set t f v) = viaTracks L (dbSet o L.tr t f v) := rfl
    cases hu : dbSet o L.tr t f v with
    | throw _ => rw [hu] at e; exact .idle (by rw [e]; rfl) rfl (.inr (by rw [e]; rfl))
    | ub _ => rw [hu] at e; exact .idle (by rw [e]; rfl) rfl (.inr (by rw [e]; rfl))
    | ok d' =>
      obtain ⟨r, r', hr, hs, rfl⟩ := TracksV1.dbSet_ok o L.tr d' t f v hu
      exact .write t r r' hr (.inr ⟨f, v, rfl, hs⟩) (fun hok => TracksV1.dbSet_tableOk o L.tr _ t f v hok hu) (by rw [e, hu]; rfl)
  | createRootCrate _ | createRootCrateAfter _ _ | removeCrate _ | addTrack _ _ | crateRemoveTrack _ _ | clearTracks _
  | createSubCrate _ _ | createSubCrateAfter _ _ _ | setName _ _ | setParent _ _ => exact .crate _ rfl rfl rfl rfl
  | _ => exact .idle rfl rfl (.inl rfl)

theorem step_observer (o : FOps) (s : VSchema) (L : Lib1) (c : Call) (hc : c.isObserver = true) :
    (step o s L c).1 = L := by
  cases step_eff o s L c with
  | idle e _ _ => exact e
  | crate _ _ _ _ hf => rw [hf] at hc; cases hc
  | create => cases hc
  | remove t => cases hc
  | write t r r' _ hk _ _ => rcases hk with ⟨x, rfl, _⟩ | ⟨f, v, rfl, _⟩ <;> cases hc

/-- A property of single rows that `writeSnap` establishes (for the snapshot the call carries) and every setter keeps
holds of every stored row after the call, if it did before: a row of the new table is an old row, the one `create_track` /
`update` wrote, or the one a setter derived from an old one. -/
theorem rows_eff (o : FOps) (s : VSchema) {L : Lib1} {P : TrackRows → Prop} (c : Call)
    (hw : ∀ x prior rows, (c = .createTrack x ∨ ∃ t, c = .update t x) → writeSnap o L.tr.schema x prior = .ok rows → P rows)
    (hs : ∀ r r' f v, P r → TracksV1.set o r f v = .ok r' → P r')
    (h : AllRows P L.tr) : AllRows P (step o s L c).1.tr := by
  cases step_eff o s L c with
  | idle e _ _ => rw [e]; exact h
  | crate op _ _ e _ => rw [e]; exact h
  | create x id seq rows _ hx _ _ e =>
    rw [e]
    intro y r hy
    rcases TracksV1.aget_append_singleton _ _ _ _ _ hy with hy | rfl
    · exact h y r hy
    · exact hw x none _ (.inl rfl) hx
  | remove t e =>
    rw [e]
    exact AllRows.dbRemove t h
  | write t r r' hr hk _ e =>
    rw [e]
    refine AllRows.of_one t h (fun y hy => TracksV1.aget_aset_other _ _ _ _ hy) fun r'' hy => ?_
    cases (TracksV1.aget_aset_same t r' L.tr.tracks).symm.trans hy
    rcases hk with ⟨x, hc, hx⟩ | ⟨f, v, _, hf⟩
    · exact hw x _ _ (.inr ⟨t, hc⟩) hx
    · exact hs r _ f v (h t r hr) hf

theorem writeSnap_art (o : FOps) (s : VSchema) (x : Snap) (prior : Option TrackRows) (rows : TrackRows)
    (h : writeSnap o s x prior = .ok rows) : rows.track.idAlbumArt = some 1 := by
  obtain ⟨_, _, _, _, rfl⟩ := TracksV1.writeSnap_eq_ok.mp h
  rfl

theorem set_art (o : FOps) {r r' : TrackRows} {f : Field} {v : f.ty} (h : TracksV1.set o r f v = .ok r') :
    r'.track.idAlbumArt = r.track.idAlbumArt := by
  by_cases hf : f = .relativePath
  · subst hf; cases h; rfl
  · exact congrArg (·.2.2.1) (TracksV1.set_cells o hf h)

theorem liveTrack_append (db : CratesV1.Db) (id seq y : Int) :
    liveTrack { db with track := db.track ++ [⟨id, true⟩], trackSeq := seq } y ↔ liveTrack db y ∨ y = id := by
  simp only [liveTrack, List.mem_append, List.mem_singleton, or_and_right, exists_or, exists_eq_left, and_true, eq_comm]

theorem removeTrack_members (s : Pure.Detect.Schema) (db : CratesV1.Db) (t : Id) (ha : trackAutoinc s = false) :
    ∀ r ∈ (CratesV1.removeTrack s db t).1.track, r ∈ db.track := by
  rw [CratesV1.removeTrack_unfold]
  simp only [ha, Bool.false_eq_true, if_false]
  intro r hr
  have h1 := (List.mem_filter.mp hr).1
  have := (CratesV1.deleteCtl_other s db (fun r => r.2 == t)).2.2.2.1
  rw [this] at h1
  exact h1

theorem libInv_step (o : FOps) {s : VSchema} {L : Lib1} (h : LibInv s L) (c : Call) : LibInv s (step o s L c).1 := by
  have art := rows_eff o s (P := fun r => r.track.idAlbumArt = some 1) c (fun x p r _ => writeSnap_art o _ x p r)
    (fun r r' f v hr hs => (set_art o hs).trans hr) h.art
  cases step_eff o s L c with
  | idle e _ _ =>
    rw [e]; exact h
  | crate op _ hop e _ =>
    obtain ⟨ht, _⟩ := crateOp_track (toDetect s) h.crates.toFInv op hop
    rw [e] at art ⊢
    refine ⟨(CratesV1.step_ok _ h.crates op).1, h.schema, h.table, fun x => ?_, fun ha r hr => ?_, art, h.albumArt, h.infoM,
      h.infoP⟩
    · exact (CratesV1.liveTrack_congr ht x).trans (h.coupled x)
    · exact h.noPlaceholder ha r (ht ▸ hr)
  | create x id seq rows hmax _ hd _ e =>
    rw [e] at art ⊢
    refine ⟨CratesV1.inv_createTrack h.crates hmax, h.schema, ?_, fun y => ?_, fun ha r hr => ?_, art, h.albumArt, h.infoM,
      h.infoP⟩
    · exact tableOk_relabel L.tr _ id rows (fun e he => Int.ne_of_lt (TracksV1.nextId_fresh L.tr e he))
        (fresh_of_maxId h hmax) (TracksV1.dbCreate_tableOk o L.tr _ _ x h.table hd)
    · rw [liveTrack_append, rows_append, h.coupled y]
      rw [Option.isSome_or, Bool.or_eq_true]
      refine or_congr Iff.rfl ?_
      split
      · next hy => exact ⟨fun _ => rfl, fun _ => hy.symm⟩
      · next hy => exact ⟨fun e => absurd e.symm hy, fun hh => by cases hh⟩
    · rcases List.mem_append.mp hr with m | m
      · exact h.noPlaceholder ha r m
      · rw [List.mem_singleton.mp m]
  | remove t e =>
    obtain ⟨_, _, _, _, _, _, e6⟩ := CratesV1.removeTrack_spec (toDetect s) h.crates t
    rw [e] at art ⊢
    refine ⟨CratesV1.inv_removeTrack (toDetect s) h.crates t, h.schema, TracksV1.dbRemove_tableOk L.tr t h.table, fun x => ?_,
      fun ha r hr => h.noPlaceholder ha r (removeTrack_members (toDetect s) L.cr t ha r hr), art, h.albumArt, h.infoM, h.infoP⟩
    rw [e6 x, rows_dbRemove, h.coupled x]
    split
    · next hx => exact ⟨fun hh => absurd hx hh.2, fun hh => by cases hh⟩
    · next hx => exact ⟨fun hh => hh.1, fun hh => ⟨hh, hx⟩⟩
  | write t r r' hr _ hok e =>
    rw [e] at art ⊢
    refine ⟨h.crates, h.schema, hok h.table, fun x => ?_, h.noPlaceholder, art, h.albumArt, h.infoM, h.infoP⟩
    rw [rows_aset, h.coupled x]
    split
    · next hx => rw [hx, hr]; exact Iff.rfl
    · exact Iff.rfl

theorem isRun (o : FOps) (s : VSchema) : Machine.IsRun (step o s) (run o s) := ⟨fun _ => rfl, fun _ _ _ => rfl⟩

theorem run_cons (o : FOps) (s : VSchema) (L : Lib1) (c : Call) (cs : List Call) :
    run o s L (c :: cs) = run o s (step o s L c).1 cs := rfl

theorem run_append (o : FOps) (s : VSchema) (L : Lib1) (cs cs' : List Call) :
    run o s L (cs ++ cs') = run o s (run o s L cs) cs' := by
  unfold run; rw [List.foldl_append]

theorem run_induction (o : FOps) (s : VSchema) {P : Lib1 → List Call → Prop}
    (hstep : ∀ L c cs, P L (c :: cs) → P (step o s L c).1 cs) : ∀ (cs : List Call) (L : Lib1), P L cs → P (run o s L cs) [] :=
  (isRun o s).induction hstep

theorem libInv_run (o : FOps) {s : VSchema} (cs : List Call) {L : Lib1} (h : LibInv s L) : LibInv s (run o s L cs) :=
  run_induction o s (P := fun L _ => LibInv s L) (fun _ c _ h => libInv_step o h c) cs L h

end EngineModel.Lib.V1
