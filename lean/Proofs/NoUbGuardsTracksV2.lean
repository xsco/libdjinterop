/-
C15, schema 2.x tracks: the guarded dispatcher `GuardedTracksV2.stepG` (every index / optional
dereference / double→int conversion / division of track_impl.cpp and convert_*.hpp as a possible `ub`
behind the C++ guard regenerated from the source) IS the dispatcher `C15TracksV2.step`, and never
answers `ub` on a table that satisfies the invariant.
-/
import EngineModel.Api.GuardedTracksV2
import Proofs.NoUbGuardsGen
import Proofs.C15GuardValues
import Proofs.NoUbTracksV2
import Proofs.ConvertV2GenEq

namespace EngineModel.Api.GuardedTracksV2
open EngineModel EngineModel.TracksV2 EngineModel.Api.C15TracksV2 EngineModel.Gen EngineModel.Prim

set_option linter.unusedSimpArgs false

theorem s32_wrap (i : UInt32) : s32 i % 4294967296 % 18446744073709551616 = (i.toNat : Int) := by
  have := i.toNat_lt
  unfold s32; split <;> omega

theorem s32_toNat_of_nonneg (i : UInt32) (h : 0 ≤ s32 i) : (s32 i).toNat = i.toNat := by
  have := i.toNat_lt
  unfold s32 at h ⊢; split at h <;> split <;> omega

theorem range_of (guard : Int → Nat → Bool) (hg : C15Guards.IsRange guard) (i : UInt32) (n : Nat) :
    guard (s32 i) n = true ↔ (s32 i < 0 ∨ n ≤ i.toNat) := by
  obtain ⟨h1, h2⟩ := Prim.s32_range i
  rw [hg (s32 i) n h1 h2]
  have := i.toNat_lt
  unfold s32; split <;> omega

theorem indexAt_of_lt {α : Type} (l : List α) (i : UInt32) (h0 : ¬ s32 i < 0) (hlt : i.toNat < l.length) :
    indexAt l (s32 i) = .ok (l[i.toNat]'hlt) := by
  unfold indexAt
  have h0' : 0 ≤ s32 i := by omega
  rw [if_pos h0', s32_toNat_of_nonneg i h0']
  simp [List.getElem?_eq_getElem hlt]

theorem guarded_index {α : Type} (guard : Int → Nat → Bool) (hg : C15Guards.IsRange guard) (l : List α) (i : UInt32) :
    (guard (s32 i) l.length = true ∧ (s32 i < 0 ∨ l.length ≤ i.toNat)) ∨
    (guard (s32 i) l.length = false ∧ ¬ (s32 i < 0 ∨ l.length ≤ i.toNat) ∧
      ∃ h : i.toNat < l.length, indexAt l (s32 i) = .ok l[i.toNat]) := by
  cases hc : guard (s32 i) l.length with
  | true => exact .inl ⟨rfl, (range_of guard hg i _).mp hc⟩
  | false =>
    have h : ¬ (s32 i < 0 ∨ l.length ≤ i.toNat) := fun hh => by
      rw [(range_of guard hg i _).mpr hh] at hc; cases hc
    exact .inr ⟨rfl, h, by omega, indexAt_of_lt l i (by omega) (by omega)⟩

theorem getHotCueAtG_eq (r : Row) (i : UInt32) : getHotCueAtG Guards.source r i = getHotCueAt r i := by
  unfold getHotCueAtG getHotCueAt slotIndex
  rcases guarded_index _ C15Guards.v2_track_hot_cue_at_range_isRange r.cues.1.cues i with ⟨hg, h⟩ | ⟨hg, h, hlt, hi⟩
  · rw [show Guards.source.hotCueAt _ _ = true from hg, if_pos h, if_pos rfl]; rfl
  · rw [show Guards.source.hotCueAt _ _ = false from hg, if_neg h, hi]
    simp only [Bool.false_eq_true, if_false, Res.bind, List.getElem?_eq_getElem hlt]

theorem getLoopAtG_eq (r : Row) (i : UInt32) : getLoopAtG Guards.source r i = getLoopAt r i := by
  unfold getLoopAtG getLoopAt slotIndex
  rcases guarded_index _ C15Guards.v2_track_loop_at_range_isRange r.loops.1 i with ⟨hg, h⟩ | ⟨hg, h, hlt, hi⟩
  · rw [show Guards.source.loopAt _ _ = true from hg, if_pos h, if_pos rfl]; rfl
  · rw [show Guards.source.loopAt _ _ = false from hg, if_neg h, hi]
    simp only [Bool.false_eq_true, if_false, Res.bind, List.getElem?_eq_getElem hlt]

theorem setSiteG_ok (r : Row) (σ : Setter) : setSiteG Guards.source r σ = .ok () := by
  cases σ
  case hotCueAt i v =>
    show (if Guards.source.setHotCueAt _ _ = true then _ else _) = _
    rcases guarded_index _ C15Guards.v2_track_set_hot_cue_at_range_isRange r.cues.1.cues i with ⟨hg, _⟩ | ⟨hg, _, _, hi⟩
    · rw [show Guards.source.setHotCueAt _ _ = true from hg, if_pos rfl]
    · rw [show Guards.source.setHotCueAt _ _ = false from hg, hi]; rfl
  case loopAt i v =>
    show (if Guards.source.setLoopAt _ _ = true then _ else _) = _
    rcases guarded_index _ C15Guards.v2_track_set_loop_at_range_isRange r.loops.1 i with ⟨hg, _⟩ | ⟨hg, _, _, hi⟩
    · rw [show Guards.source.setLoopAt _ _ = true from hg, if_pos rfl]
    · rw [show Guards.source.setLoopAt _ _ = false from hg, hi]; rfl
  all_goals rfl

-- biased exponents of a double: 1023 is 2^0 (below it the value truncates to 0), 1075 is 2^52 (from there the
-- mantissa is an integer), 1087 is 2^64; `4503599627370496` = 2^52 is the implicit leading bit of the mantissa
theorem toI64_inI64 (x : F) (v : Int) (h : toI64 x = some v) : Cxx.inI64 v = true := by
  unfold Cxx.inI64 Cxx.i64Min Cxx.i64Max
  simp only [decide_eq_true_eq]
  unfold toI64 at h
  simp only at h
  by_cases h1 : F64.expOf x ≥ 1087
  · rw [if_pos h1] at h; cases h
  · rw [if_neg h1] at h
    by_cases h2 : F64.expOf x < 1023
    · rw [if_pos h2] at h; cases h; omega
    · rw [if_neg h2] at h
      generalize (if F64.signOf x = true then
          -((if F64.expOf x ≥ 1075 then (F64.manOf x + 4503599627370496) * 2 ^ (F64.expOf x - 1075)
            else (F64.manOf x + 4503599627370496) / 2 ^ (1075 - F64.expOf x) : Nat) : Int)
        else ((if F64.expOf x ≥ 1075 then (F64.manOf x + 4503599627370496) * 2 ^ (F64.expOf x - 1075)
            else (F64.manOf x + 4503599627370496) / 2 ^ (1075 - F64.expOf x) : Nat) : Int)) = w at h
      by_cases h3 : w < -9223372036854775808 ∨ 9223372036854775807 < w
      · rw [if_pos h3] at h; cases h
      · rw [if_neg h3] at h; cases h; omega

theorem waveLoop_iff (i size : Nat) : Guards.source.waveLoop i size = true ↔ i < size := C15Guards.v2_wave_loop_iff i size
theorem waveEmpty_eq (b : Bool) : Guards.source.waveEmpty b = b := C15Guards.v2_wave_empty_eq b
theorem waveAbsent_eq (a b : Bool) : Guards.source.waveAbsent a b = ((!a) || (!b)) := C15Guards.v2_wave_absent_eq a b
theorem waveRange_eq (b : Bool) : Guards.source.waveRange b = (!b) := C15Guards.v2_wave_range_eq b
theorem waveNonEmpty_eq (b : Bool) : Guards.source.waveNonEmpty b = (!b) := C15Guards.v2_wave_nonempty_eq b
theorem waveNoExtent_iff (n : Nat) : Guards.source.waveNoExtent n = true ↔ n = 0 := C15Guards.v2_wave_noextent_iff n
theorem bpmInRange_eq (a b c : Bool) : Guards.source.bpmInRange a b c = ((a && b) && c) := C15Guards.v2_bpm_inrange_eq a b c

theorem waveLoopG_ok (w : List WEntry) (hw : w ≠ []) (size : Nat) (hs : size ≤ 1024) :
    ∀ (fuel i : Nat), size - i < fuel → waveLoopG Guards.source w size fuel i = .ok () := by
  intro fuel
  induction fuel with
  | zero => intro i h; omega
  | succ f ih =>
    intro i h
    unfold waveLoopG
    cases hg : Guards.source.waveLoop i size with
    | false => rfl
    | true =>
      have hi : i < size := (waveLoop_iff i size).mp hg
      simp only [if_true]
      have hlen : 0 < w.length := List.length_pos_iff.mpr hw
      -- the source divides by 2048 = 2 · 1024, the size of a full overview; `size ≤ 1024` keeps `2i + 1` below it
      have hidx : w.length * (2 * i + 1) / 2048 < w.length := by
        apply Nat.div_lt_of_lt_mul
        have : 2 * i + 1 < 2048 := by omega
        calc w.length * (2 * i + 1) < w.length * 2048 := Nat.mul_lt_mul_of_pos_left this hlen
          _ = 2048 * w.length := Nat.mul_comm _ _
      unfold indexAt
      simp only [Int.natCast_nonneg, if_true, Int.toNat_natCast, List.getElem?_eq_getElem hidx, Res.bind]
      exact ih (i + 1) (by omega)

theorem waveSiteG_ok (ops : FOps) (w : List WEntry) (c : Option UInt64) (r : Option F) :
    waveSiteG Guards.source ops w c r = .ok () := by
  unfold waveSiteG
  rw [waveEmpty_eq, waveAbsent_eq, waveNonEmpty_eq]
  by_cases hw : w.isEmpty = true
  · rw [if_pos hw]
  · rw [if_neg hw]
    cases c with
    | none => simp
    | some n =>
      cases r with
      | none => simp
      | some x =>
        simp only [Option.isSome_some, Bool.not_true, Bool.or_self, Bool.false_eq_true, if_false, deref, Res.bind]
        rw [waveRange_eq]
        cases ht : toI64 x with
        | none => simp
        | some t =>
          simp only [Option.isSome_some, Bool.not_true, Bool.false_eq_true, if_false]
          have hu : GuardedUtils.extentsSiteG Guards.source.utilOvwZero toI64 n.toNat x = .ok () :=
            TrackUtils.extentsSiteG_ok _ (fun n qn r h => (C15Guards.util_ovw_zero_iff n qn r).mpr (Or.inr h))
              toI64 n.toNat x t ht (toI64_inI64 x t ht)
          rw [hu]
          simp only [Res.bind]
          obtain ⟨size, spe, hg, hsz⟩ := TrackUtils.gen_ovw_some (cxxOps ops) n.toNat x t ht (toI64_inI64 x t ht)
          rw [hg]
          simp only
          cases hne0 : Guards.source.waveNoExtent size with
          | true => rfl
          | false =>
            simp only [Bool.false_eq_true, if_false]
            have hw' : (!w.isEmpty) = true := by simpa using hw
            rw [if_pos hw']
            have hne : w ≠ [] := by
              intro e; apply hw; rw [e]; rfl
            exact waveLoopG_ok w hne size (by rcases hsz with h | h <;> omega) (size + 1) 0 (by omega)

theorem bpmSiteG_ok (bpm : Option F) : bpmSiteG Guards.source bpm = .ok () := by
  unfold bpmSiteG
  simp only [bpmInRange_eq]
  cases bpm with
  | none => simp
  | some b =>
    simp only [Option.isSome_some, Bool.true_and]
    by_cases h : (F64.le minI64 b && F64.lt b two63) = true
    · rw [if_pos h]
      simp only [Bool.and_eq_true] at h
      obtain ⟨t, ht⟩ := ConvertV2.toI64_some_of_guard b h.1 h.2
      simp [deref, Res.bind, ht]
    · rw [if_neg h]

theorem snapSiteG_ok (ops : FOps) (x : Snap) : snapSiteG Guards.source ops x = .ok () := by
  unfold snapSiteG
  cases x.relativePath with
  | none => rfl
  | some p =>
    simp only
    cases getFileExtension (getFilename p) with
    | none => rfl
    | some e => simp only [bpmSiteG_ok, waveSiteG_ok, Res.bind]

/-- **The guarded dispatcher is the dispatcher**: with the guards the source has no index, optional
dereference, cast or division of the 2.x track call paths is reached outside its domain. -/
theorem stepG_eq (ops : FOps) (s : Schema) (db : Db) (op : Op) : stepG ops s db op = step ops s db op := by
  cases op with
  | get id g =>
    cases g with
    | hotCueAt i =>
      simp only [stepG, stepGW, step]
      cases db.get id with
      | none => rfl
      | some r =>
        simp only [getHotCueAtG_eq, getRow]
        cases getHotCueAt r i <;> rfl
    | loopAt i =>
      simp only [stepG, stepGW, step]
      cases db.get id with
      | none => rfl
      | some r =>
        simp only [getLoopAtG_eq, getRow]
        cases getLoopAt r i <;> rfl
    | _ => rfl
  | set id σ =>
    simp only [stepG, stepGW]
    cases db.get id with
    | none => rfl
    | some r => simp only [setSiteG_ok]
  | create x => simp only [stepG, stepGW, snapSiteG_ok]
  | update id x => simp only [stepG, stepGW, snapSiteG_ok]
  | snapshot id => rfl
  | remove id => rfl
  | isValid id => rfl
  | handleId id => rfl
  | handleCopy id => rfl

theorem stepG_defined (ops : FOps) (s : Schema) (db : Db) (hd : dbOk db = true) (op : Op) (u : Ub) :
    (stepG ops s db op).2 ≠ .ub u := by
  rw [stepG_eq]; exact step_defined ops s db hd op u

theorem outcomesG_eq (ops : FOps) (s : Schema) (l : List Op) : ∀ db, outcomesG ops s db l = outcomes ops s db l :=
  Machine.IsOutcomes.congr (step := stepG ops s) (step' := step ops s) ⟨fun _ => rfl, fun _ _ _ => rfl⟩
    ⟨fun _ => rfl, fun _ _ _ => rfl⟩ (stepG_eq ops s) l

theorem tracksByPathG_ok (db : Db) (p : Bytes) : ∃ l, tracksByPathG Guards.source db p = .ok l := by
  unfold tracksByPathG
  have hg : ∀ b, Guards.source.tracksByPathFound b = b := C15Guards.v2_db_tracks_by_path_found_eq
  simp only [hg]
  cases findIdByPath db p with
  | none => exact ⟨[], rfl⟩
  | some i => exact ⟨[i], rfl⟩

theorem callG_fst (ops : FOps) (s : Schema) (db : Db) (c : Call) :
    (callG ops s db c).1 = match c with | .op o => (step ops s db o).1 | _ => db := by
  cases c with
  | op o => simp only [callG, callGW]; exact congrArg Prod.fst (stepG_eq ops s db o)
  | _ => rfl

theorem callG_defined (ops : FOps) (s : Schema) (db : Db) (hd : dbOk db = true) (c : Call) (u : Ub) :
    (callG ops s db c).2 ≠ .ub u := by
  cases c with
  | op o =>
    simp only [callG, callGW]
    have h := stepG_defined ops s db hd o
    unfold stepG at h
    cases hr : (stepGW Guards.source ops s db o).2 with
    | ok a => intro hh; cases hh
    | throw e => intro hh; cases hh
    | ub u' => exact absurd hr (h u')
  | dbTracksByPath p =>
    simp only [callG, callGW]
    obtain ⟨l, hl⟩ := tracksByPathG_ok db p
    rw [hl]; intro hh; cases hh
  | _ => intro hh; cases hh

theorem callG_dbOk (ops : FOps) (s : Schema) (db : Db) (hd : dbOk db = true) (c : Call) :
    dbOk (callG ops s db c).1 = true := by
  rw [callG_fst]
  cases c with
  | op o => exact step_dbOk ops s db hd o
  | _ => exact hd

theorem callOutcomes_defined (ops : FOps) (s : Schema) (l : List Call) :
    ∀ db, dbOk db = true → ∀ r ∈ callOutcomes ops s db l, ∀ u, r ≠ .ub u :=
  Machine.IsOutcomes.forall (step := callG ops s) ⟨fun _ => rfl, fun _ _ _ => rfl⟩
    (fun db c h => ⟨callG_dbOk ops s db h c, callG_defined ops s db h c⟩) l

end EngineModel.Api.GuardedTracksV2
