/-
The C++ primitive readers / writers (Impl/CxxPrims.lean: shifts, masks and ors,
as in encode_decode_utils.hpp) agree with the Spec's primitive codecs
(Format/Codec.lean, Basic/Prim.lean: div / mod arithmetic): same byte order,
same widths, same composition of 64-bit values from 32-bit halves.
The value functions `i32_of_be`, `i64_of_be`, `toUInt32` unfold to the operator
trees the translator emits for the header (Gen/PrimGen.lean), so their
arithmetic is that of Proofs/PrimGen.lean.
-/
import EngineModel.Impl.CxxPrims
import Proofs.MonadLaws
import Proofs.PrimGen
set_option linter.unusedSimpArgs false

namespace EngineModel
namespace CxxPrims
open Codec Cur

theorem and255 (n : Nat) : n &&& 255 = n % 256 := Nat.and_two_pow_sub_one_eq_mod n 8

/- `CxxPrims` shifts the pattern logically (`>>>`) where the regenerated header has the arithmetic `sar32`, so the byte
lemmas of `PrimGen` do not apply: `bytes_i32_*_eq` and `shr32_eq_hi32` do the arithmetic here. -/
theorem bytes_i32_le_eq (v : UInt32) : bytes_i32_le v = Prim.encU32LE v := by
  simp only [bytes_i32_le, Prim.encU32LE, List.cons.injEq, and_true]
  have h := v.toNat_lt
  -- byte by byte: `(v >>> 8k) &&& 255` is `v / 256^k % 256`
  refine ⟨?_, ?_, ?_, ?_⟩ <;> apply UInt8.toNat_inj.mp <;>
    simp [UInt32.toNat_and, UInt32.toNat_shiftRight, and255, Nat.shiftRight_eq_div_pow, Nat.toUInt8] <;> omega

theorem bytes_i32_be_eq (v : UInt32) : bytes_i32_be v = Prim.encU32BE v := by
  simp only [bytes_i32_be, Prim.encU32BE, List.cons.injEq, and_true]
  have h := v.toNat_lt
  refine ⟨?_, ?_, ?_, ?_⟩ <;> apply UInt8.toNat_inj.mp <;>
    simp [UInt32.toNat_and, UInt32.toNat_shiftRight, and255, Nat.shiftRight_eq_div_pow, Nat.toUInt8] <;> omega

theorem i32_of_be_eq (a b c d : UInt8) : i32_of_be a b c d = Prim.decU32BE a b c d := PrimGenProofs.or4 a b c d

/-- `|` is commutative: the little-endian composition is the big-endian one of the reversed bytes. -/
theorem i32_of_le_eq (a b c d : UInt8) : i32_of_le a b c d = Prim.decU32LE a b c d := by
  rw [Prim.decU32LE, ← i32_of_be_eq]
  unfold i32_of_le i32_of_be
  generalize d.toUInt32 <<< 24 = D
  generalize c.toUInt32 <<< 16 = C
  generalize b.toUInt32 <<< 8 = B
  ac_rfl

theorem i64_of_be_eq (e1 e2 : UInt32) : i64_of_be e1 e2 = Prim.join64 e1 e2 := PrimGenProofs.join_hi_lo e1 e2

theorem i64_of_le_eq (e1 e2 : UInt32) : i64_of_le e1 e2 = Prim.join64 e2 e1 := by
  rw [← i64_of_be_eq, i64_of_le, i64_of_be, UInt64.or_comm]

theorem toUInt32_eq_lo32 (v : UInt64) : v.toUInt32 = Prim.lo32 v := PrimGenProofs.i32_of_i64_eq_lo32 v

theorem shr32_eq_hi32 (v : UInt64) : (v >>> 32).toUInt32 = Prim.hi32 v := by
  apply UInt32.toNat_inj.mp
  have h := v.toNat_lt
  simp [Prim.hi32, UInt32.toNat_ofNat, UInt64.toNat_shiftRight, Nat.shiftRight_eq_div_pow]

theorem encode_uint8_eq (v : UInt8) : encode_uint8 v = u8.enc v := rfl
theorem encode_int32_le_eq (v : UInt32) : encode_int32_le v = u32le.enc v := bytes_i32_le_eq v
theorem encode_int32_be_eq (v : UInt32) : encode_int32_be v = u32be.enc v := bytes_i32_be_eq v
theorem encode_int64_le_eq (v : UInt64) : encode_int64_le v = u64le.enc v := by
  simp only [encode_int64_le, encode_int32_le, bytes_i32_le_eq, shr32_eq_hi32]
  simp only [toUInt32_eq_lo32]
  rfl
theorem encode_int64_be_eq (v : UInt64) : encode_int64_be v = u64be.enc v := by
  simp only [encode_int64_be, encode_int32_be, bytes_i32_be_eq, shr32_eq_hi32]
  simp only [toUInt32_eq_lo32]
  rfl
theorem encode_double_le_eq (v : UInt64) : encode_double_le v = u64le.enc v := encode_int64_le_eq v
theorem encode_double_be_eq (v : UInt64) : encode_double_be v = u64be.enc v := encode_int64_be_eq v

theorem decode_uint8_eq : decode_uint8 = rd u8 := by
  funext bs
  cases bs <;> rfl

theorem decode_int32_le_eq : decode_int32_le = rd u32le := by
  funext bs
  match bs with
  | [] | [_] | [_, _] | [_, _, _] => rfl
  | a :: b :: c :: d :: r => simp [decode_int32_le, rd, u32le, i32_of_le_eq]

theorem decode_int32_be_eq : decode_int32_be = rd u32be := by
  funext bs
  match bs with
  | [] | [_] | [_, _] | [_, _, _] => rfl
  | a :: b :: c :: d :: r => simp [decode_int32_be, rd, u32be, i32_of_be_eq]

theorem decode_int64_le_eq : decode_int64_le = rd u64le := by
  unfold decode_int64_le u64le
  simp only [decode_int32_le_eq, rd_map_seq, rd_pair_seq, bind_assoc, pure_bind, i64_of_le_eq]

theorem decode_int64_be_eq : decode_int64_be = rd u64be := by
  unfold decode_int64_be u64be
  simp only [decode_int32_be_eq, rd_map_seq, rd_pair_seq, bind_assoc, pure_bind, i64_of_be_eq]

theorem decode_double_le_eq : decode_double_le = rd u64le := decode_int64_le_eq
theorem decode_double_be_eq : decode_double_be = rd u64be := decode_int64_be_eq

end CxxPrims
end EngineModel
