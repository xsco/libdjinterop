/-
The model regenerated from the C++ sources (`Gen/ImplV2Gen.lean`, written by
tools/tr_blobs.py on every run) equals the hand-written mirror `Impl/V2.lean`,
function by function.  The C02/C03/C04/C05 theorems are stated on `Impl.V2.*`;
through these equalities they are theorems about the code as it is in /repo
— a change of the C++ that changes the translation breaks the proofs below
(`lake build` fails, the check turns red, the differential tie of C02/C05
supplies the failing bytes).  (`decodeTrack_eq` etc. here are "regenerated = hand";
the lemmas of the same short names in Proofs/ImplV2.lean are "hand = Spec".)

`decodeTrack_eq`, `decodeGrid_eq`, `decodeBeat_eq` hold on every byte string.
`decodeOvw_eq_partial` assumes the payload is shorter than 2^63 bytes (the
`max_size()` of the vector it arrives in), `decodeCues_eq_partial` /
`decodeLoops_eq_partial` that it is shorter than 2^61 bytes: the generated model
checks `vector::reserve` / `resize` against `max_size()` (the hand model has no
`reserve`) and signed arithmetic against the `int64_t` range.
-/
import EngineModel.Gen.ImplV2Gen
import EngineModel.Impl.V2
import Proofs.CursorCxxLemmas
import Proofs.CxxPrimsLemmas
import Proofs.ImplV2
-- The `simp only` lists also hold lemmas the present translation does not need: they serve other spellings of the
-- same C++, e.g. `remaining_bind_const` for `if (end - ptr < 44)` in place of `if (uncompressed.size() < 44)`
-- (seeded/codegen-R2), and all seven `CxxPrims.decode_*_eq` whichever primitives a body calls.
set_option linter.unusedSimpArgs false

namespace EngineModel.Gen.ImplV2
open Codec Cur

/-- The C++ primitive readers are the unchecked reads of the Spec's primitive decoders
(Proofs/CxxPrimsLemmas.lean: byte order and widths agree). -/
theorem prims :
    CxxPrims.decode_uint8 = rd u8 ∧ CxxPrims.decode_int32_le = rd u32le ∧ CxxPrims.decode_int32_be = rd u32be ∧
    CxxPrims.decode_int64_le = rd u64le ∧ CxxPrims.decode_int64_be = rd u64be ∧
    CxxPrims.decode_double_le = rd u64le ∧ CxxPrims.decode_double_be = rd u64be :=
  ⟨CxxPrims.decode_uint8_eq, CxxPrims.decode_int32_le_eq, CxxPrims.decode_int32_be_eq,
   CxxPrims.decode_int64_le_eq, CxxPrims.decode_int64_be_eq, CxxPrims.decode_double_le_eq,
   CxxPrims.decode_double_be_eq⟩

theorem decodeTrack_eq : decodeTrack = Impl.V2.decodeTrack := by
  funext bs
  unfold decodeTrack Impl.V2.decodeTrack
  simp only [prims, remaining_bind_const]
  exact fromBlob_sizeTest (· < 44) _ _ _ (fun _ => by omega) bs fun _ => rfl

/-- the marker loop body of `decode_beatgrid` reads one Spec marker -/
theorem decodeGrid_body1_eq : decodeGrid_body1 = rd V2.marker := by
  unfold decodeGrid_body1
  simp only [CxxPrims.decode_uint8_eq, CxxPrims.decode_int32_le_eq, CxxPrims.decode_int32_be_eq,
    CxxPrims.decode_int64_le_eq, CxxPrims.decode_int64_be_eq, CxxPrims.decode_double_le_eq,
    CxxPrims.decode_double_be_eq]
  simp only [V2.marker, rd_map_seq, rd_pair_seq, bind_assoc, pure_bind]

/-- `decode_beatgrid(ptr, end)` (anonymous namespace of beat_data_blob.cpp) -/
theorem decodeGrid_eq : decodeGrid = Impl.V2.decodeGrid := by
  funext bs
  unfold decodeGrid Impl.V2.decodeGrid
  rw [CxxPrims.decode_int64_be_eq, decodeGrid_body1_eq, remaining_bind, remaining_bind]
  by_cases h8 : bs.length < 8
  · have : ((bs.length : Int) < 8) := by omega
    simp [h8, this]
  · have h8i : ¬ ((bs.length : Int) < 8) := by omega
    simp only [h8, h8i, decide_false, Bool.false_eq_true, if_false]
    rw [bind_of_run (rd_u64be_run (by omega)), bind_of_run (rd_u64be_run (by omega)), remaining_bind]
    refine countTest_run _ 24 _ (forN (rd V2.marker) _) _ rfl fun hneg _ => ?_
    rw [if_neg Bool.false_ne_true, forCount_eq, Prim.s64_toNat_of_nonneg hneg]

theorem decodeBeat_eq : decodeBeat = Impl.V2.decodeBeat := by
  funext bs
  unfold decodeBeat Impl.V2.decodeBeat
  simp only [prims, remaining_bind_const, decodeGrid_eq]
  exact fromBlob_sizeTest (· < 33) _ _ _ (fun _ => by omega) bs fun _ => rfl

theorem assign_if_pos (n : Nat) :
    (if (decide ((n : Int) > (0 : Int))) then (do
          let l ← Cur.peekN n
          Cur.advance n
          pure l) else pure ([] : Bytes)) = takeN n := by
  funext bs
  by_cases h : n = 0
  · subst h; simp [takeN]
  · have : (n : Int) > 0 := by omega
    simp only [this, decide_true, if_true]
    have := peek_advance n (fun s => (pure s : Cur Bytes))
    rw [bind_pure] at this
    exact congrFun this bs

/-- `if (end - ptr < fixed + label_length) throw …; label.assign(ptr, label_length); ptr += label_length;` with the
sum computed in checked `int` (`fixed` is small, `label_length` a `uint8_t`), then `K` (the translator's `if` on
the length joins both branches into `K`).  `hb` is 2^31 − 256: then `fixed + label_length` stays an `int`. -/
theorem takeLabel_eq {β} (fixed : Int) (fixedN : Nat) (hf : fixed = fixedN) (hb : fixedN ≤ 2147483392) (len : UInt8)
    (K : Bytes → Cur β) :
    (remaining >>= fun t => chkI32 (fixed + (len.toNat : Int)) >>= fun t' =>
      if decide ((t : Int) < t') = true then throwC .invalid_argument else
        if decide ((len.toNat : Int) > 0) = true then
          (peekN len.toNat >>= fun l => advance len.toNat >>= fun _ => pure l) >>= K else pure [] >>= K) =
      (remaining >>= fun rem => if rem < fixedN + len.toNat then throwC .invalid_argument else takeN len.toNat >>= K) := by
  subst hf
  funext r
  have hl := len.toNat_lt
  rw [← ite_bind, assign_if_pos, remaining_bind, remaining_bind, bind_run, chkI32_run (by omega) (by omega)]
  by_cases hg : r.length < fixedN + len.toNat
  · have : (r.length : Int) < fixedN + len.toNat := by omega
    simp [hg, this]
  · have : ¬ (r.length : Int) < fixedN + len.toNat := by omega
    simp [hg, this]

/-- the per-loop body of `loops_blob::from_blob` -/
theorem decodeLoops_body1_eq : decodeLoops_body1 = Impl.V2.decodeLoop := by
  unfold decodeLoops_body1 Impl.V2.decodeLoop
  rw [CxxPrims.decode_uint8_eq, CxxPrims.decode_double_le_eq]
  have h23 : ∀ t : Nat, ((t : Int) < 23) ↔ t < 23 := fun t => by omega
  simp only [takeLabel_eq 22 22 rfl (by omega)]
  simp only [h23, decide_eq_true_eq, V2.color, rd_map_seq, rd_pair_seq, bind_assoc, pure_bind]

/-- `loops_blob::from_blob`.
Full statement (false of the code for payloads of 2^61 bytes and more, which no machine can hold):
  `decodeLoops = Impl.V2.decodeLoops`.
The C++ calls `result.loops.reserve(num_loops)` after the count guard `num_loops <= (end - ptr) / 23`;
`reserve` throws `std::length_error` above `max_size() = (2^63 - 1) / sizeof(loop_blob)` (= / 56), which
the guard excludes only when the payload is shorter than 23 * 2^63 / 56 bytes.  The hand model has no
`reserve`.  `2^61` is a round bound below that threshold (and below the one of the quick cues). -/
theorem decodeLoops_eq_partial (bs : Bytes) (hb : bs.length < 2305843009213693952) :
    decodeLoops bs = Impl.V2.decodeLoops bs := by
  unfold decodeLoops Impl.V2.decodeLoops
  simp only [prims, remaining_bind_const, decodeLoops_body1_eq]
  refine fromBlob_sizeTest (· < 8) _ _ _ (fun _ => by omega) bs fun h8 => ?_
  rw [bind_of_run (rd_u64le_run (by omega)), bind_of_run (rd_u64le_run (by omega)), remaining_bind,
    countGuard_run _ 23 56 _ _ _ (by simp; omega)]

/-- the per-cue body of `quick_cues_blob::from_blob` -/
theorem decodeCues_body1_eq : decodeCues_body1 = Impl.V2.decodeCue := by
  unfold decodeCues_body1 Impl.V2.decodeCue
  rw [CxxPrims.decode_uint8_eq, CxxPrims.decode_double_be_eq]
  -- 29 = 12 (what is left of this cue behind the label) + 17 (the three fields behind the list): quick_cues_blob.cpp
  simp only [takeLabel_eq 29 29 rfl (by omega)]
  simp only [V2.color, rd_map_seq, rd_pair_seq, bind_assoc, pure_bind]

/-- `quick_cues_blob::from_blob`.
Full statement (false of the code only for payloads of 2^61 bytes and more): `decodeCues = Impl.V2.decodeCues`;
see `decodeLoops_eq_partial` (`reserve(num_hot_cues)`, `sizeof(quick_cue_blob) = 48`, guard `/ 13`). -/
theorem decodeCues_eq_partial (bs : Bytes) (hb : bs.length < 2305843009213693952) :
    decodeCues bs = Impl.V2.decodeCues bs := by
  unfold decodeCues Impl.V2.decodeCues
  simp only [prims, remaining_bind_const, decodeCues_body1_eq]
  refine fromBlob_sizeTest (· < 25) _ _ _ (fun _ => by omega) bs fun h25 => ?_
  rw [bind_of_run (rd_u64be_run (by omega)), bind_of_run (rd_u64be_run (by omega)), remaining_bind,
    countGuard_run _ 13 48 _ _ _ (by simp; omega)]

theorem decodeOvw_body1_run (a b c : UInt8) (t : Bytes) :
    decodeOvw_body1 (a :: b :: c :: t) = .ok ([a, b, c], t) := rfl

/-- The range-`for` over the resized point vector reads `3 * n` bytes. -/
theorem forN_ovwBody : ∀ (n : Nat) (bs : Bytes), 3 * n ≤ bs.length →
    ∃ l, forN decodeOvw_body1 n bs = .ok (l, bs.drop (3 * n)) ∧ l.flatten = bs.take (3 * n) := by
  intro n
  induction n with
  | zero => intro bs _; exact ⟨[], rfl, by simp⟩
  | succ n ih =>
    intro bs h
    match bs, h with
    | a :: b :: c :: t, h =>
      have h' : 3 * n ≤ t.length := by simp at h; omega
      obtain ⟨l, hl, hf⟩ := ih t h'
      refine ⟨[a, b, c] :: l, ?_, ?_⟩
      · simp only [forN, bind_run, decodeOvw_body1_run, hl]
        have : 3 * (n + 1) = 3 * n + 3 := by omega
        simp [this]
      · have : 3 * (n + 1) = 3 * n + 3 := by omega
        simp [this, hf]

theorem rd3_run (a b c : UInt8) (t : Bytes) {β} (f : UInt8 → UInt8 → UInt8 → Cur β) :
    (rd u8 >>= fun x => rd u8 >>= fun y => rd u8 >>= fun z => f x y z) (a :: b :: c :: t) = f a b c t := rfl

/-- `overview_waveform_data_blob::from_blob`.
Full statement: `decodeOvw = Impl.V2.decodeOvw`.  The hypothesis is `std::vector<std::byte>::max_size()`:
every payload the C++ function can be handed satisfies it.  It is needed because `resize(num_entries_1)` must stay
below `max_size()` and because the third disjunct of the length guard computes `3 * (num_entries_1 + 1)` in `int64_t`
(checked in the generated model: `chkI64`; checked in the hand model too: `Chk.add64`, `Chk.mul64`), which is in range
because `num_entries_1 <= (end - ptr) / 3` was tested first and `end - ptr < 2^63`. -/
theorem decodeOvw_eq_partial (bs : Bytes) (hb : bs.length < 9223372036854775808) :
    decodeOvw bs = Impl.V2.decodeOvw bs := by
  unfold decodeOvw Impl.V2.decodeOvw
  simp only [prims, remaining_bind_const]
  refine fromBlob_sizeTest (· < 27) _ _ _ (fun _ => by omega) bs fun h27 =>
    waveHeader_run bs (by omega) _ _ fun n spp => ?_
  have hr : (bs.drop 24).length + 24 < 9223372036854775808 := by simp; omega
  generalize bs.drop 24 = r at hr
  rw [remaining_bind]
  generalize hc : Cxx.u64OfInt (Prim.s64 n) = c
  refine waveGuard_run n 3 3 (· < ·) c hc _ _ r (by omega) (by omega) (by omega) ?_
  -- past the test the points and the maximum point are there: the range-`for` reads the `3 * n` bytes
  rintro rfl hneg h3
  have hk := Prim.s64_toNat_of_nonneg hneg
  have hlen : 3 * n.toNat ≤ r.length := by omega
  obtain ⟨l, hl, hf⟩ := forN_ovwBody n.toNat r hlen
  have h3' : 3 ≤ (r.drop (3 * n.toNat)).length := by simp; omega
  simp only [bind_run, forEach_eq, hl, takeN_run hlen, takeN_run h3', hf]
  match hd : r.drop (3 * n.toNat), h3' with
  | a :: b :: c :: t, _ => rfl

/-! ### non-vacuity of the size hypotheses -/

example : ([0, 0, 0, 0, 0, 0, 0, 0] : Bytes).length < 2305843009213693952 := by decide
example : decodeLoops [0, 0, 0, 0, 0, 0, 0, 0] = .ok ([], []) := by decide
example : (List.replicate 27 (0 : UInt8)).length < 9223372036854775808 := by decide

end EngineModel.Gen.ImplV2
