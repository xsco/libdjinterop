/-
Every payload the codecs hand to `zlib_compress` is non-empty (at least 25 bytes), so the
`&uncompressed[0]` of `zlib_compress` (undefined on an empty vector, `Impl.Zlib.compress`) is never
reached through a codec.  `writeInto size out = ok b` means `b` has exactly `size` bytes.
-/
import EngineModel.Impl.V1
import Proofs.CheckedArith

namespace EngineModel.Impl
open EngineModel

theorem V2.writeInto_length {size : Nat} {out b : Bytes} (h : V2.writeInto size out = .ok b) :
    b.length = size := by
  unfold V2.writeInto at h
  split at h
  · rename_i hle
    simp only [Res.ok.injEq] at h
    subst h
    simp only [List.length_append, List.length_replicate]
    omega
  · simp at h

theorem V2.encodeTrack_len {v extra b} (h : V2.encodeTrack v extra = .ok b) : 44 ≤ b.length := by
  have := V2.writeInto_length h; omega
theorem V2.encodeBeat_len {v extra b} (h : V2.encodeBeat v extra = .ok b) : 33 ≤ b.length := by
  have := V2.writeInto_length h; omega
theorem V2.encodeOvw_len {v extra b} (h : V2.encodeOvw v extra = .ok b) : 27 ≤ b.length := by
  have := V2.writeInto_length h; omega
theorem V2.encodeCues_len {v extra b} (h : V2.encodeCues v extra = .ok b) : 25 ≤ b.length := by
  unfold V2.encodeCues at h
  split at h
  · simp at h
  · have := V2.writeInto_length h; omega

theorem V1.encodeTrack_len {v b} (h : V1.encodeTrack v = .ok b) : b.length = 28 :=
  V2.writeInto_length h
theorem V1.encodeOvw_len {v b} (h : V1.encodeOvw v = .ok b) : 27 ≤ b.length := by
  have := V2.writeInto_length h; omega
theorem V1.encodeHires_len {v b} (h : V1.encodeHires v = .ok b) : 30 ≤ b.length := by
  have := V2.writeInto_length h; omega
theorem V1.encodeBeat_len {v b} (h : V1.encodeBeat v = .ok b) : 33 ≤ b.length := by
  rw [ArithZ.encodeBeat_eq_Z] at h
  unfold ArithZ.encodeBeatZ at h
  split at h
  · simp at h
  · have := V2.writeInto_length h; omega
theorem sized_length {size : Nat} {out b : Bytes}
    (h : (if size < out.length then Res.ub .oob_write else if out.length < size then .throw .runtime_error
      else .ok out) = .ok b) : b.length = size := by
  split at h
  · cases h
  · split at h
    · cases h
    · cases h; omega

theorem V1.encodeCues_len {v b} (h : V1.encodeCues v = .ok b) : 129 ≤ b.length := by
  unfold V1.encodeCues at h
  split at h
  · cases h
  · cases hs : V1.encodeSlots V1.encodeCueSlot v.cues with
    | ok slots => rw [hs] at h; have := sized_length h; omega
    | throw e => rw [hs] at h; cases h
    | ub u => rw [hs] at h; cases h

end EngineModel.Impl
