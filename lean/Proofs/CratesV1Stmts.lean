/-
`Api/CratesV1Stmts.lean`: the statement programs are what `Api.CratesV1.step`
computes, and each is an atomic shape.
-/
import EngineModel.Api.CratesV1Stmts
import Proofs.Stmts

namespace EngineModel.Proofs.CratesV1Stmts
open EngineModel EngineModel.Api.CratesV1 EngineModel.Pure.Detect EngineModel.Spec.Txn EngineModel.Spec.Stmts
open EngineModel.Proofs.Stmts

/-- what a traced run promises: the program replays to the state reached and consists of reads and writes -/
def Replays (db0 : Db) (r : Db × Prog) : Prop :=
  applyAll (writesOf r.2) db0 = some r.1 ∧ ∀ c ∈ r.2, Cmd.rw c = true

theorem removeTrack_eq (s : Schema) (db : Db) (t : Id) :
    removeTrack s db t = (deleteTrackRow s (deleteCtl s db (fun r => r.2 == t)) t, .ok .unit) := by
  unfold removeTrack deleteTrackRow
  split <;> rfl

/-- traced and untraced `update_path` agree, and the trace replays -/
def Agree (db0 : Db) (r : Res Db) (t : Res (Db × Prog)) : Prop :=
  match r, t with
  | .ok d, .ok p => p.1 = d ∧ Replays db0 p
  | .throw e, .throw e' => e = e'
  | .ub u, .ub u' => u = u'
  | _, _ => False

theorem foldl_agree (s : Schema) (fuel : Nat) (path : Name)
    (ih : ∀ (db : Db) (c : Id), Agree db (updatePath s fuel db c path) (updatePathS s fuel db c path)) :
    ∀ (ks : List Id) (d0 acc : Db) (p : Prog), Replays d0 (acc, p) →
      Agree d0 (ks.foldlM (fun a k => updatePath s fuel a k path) acc)
        (ks.foldlM (fun (a : Db × Prog) k => do
          let r ← updatePathS s fuel a.1 k path
          pure (r.1, a.2 ++ r.2)) (acc, p)) := by
  intro ks
  induction ks with
  | nil => intro d0 acc p h; exact ⟨rfl, h⟩
  | cons k ks ihk =>
    intro d0 acc p h
    simp only [List.foldlM_cons]
    have hk := ih acc k
    revert hk
    cases updatePath s fuel acc k path <;> cases updatePathS s fuel acc k path <;> intro hk
    case ok.ok d1 r =>
      obtain ⟨rfl, hk2, hk3⟩ := hk
      refine ihk d0 r.1 (p ++ r.2) ⟨?_, List.forall_mem_append.2 ⟨h.2, hk3⟩⟩
      rw [writesOf_append, applyAll_append_of_some _ _ _ _ h.1]
      exact hk2
    case throw.throw | ub.ub => exact hk
    all_goals exact hk.elim

theorem Agree.prefix {db0 : Db} {f : Db → Db} {r : Res Db} {t : Res (Db × Prog)} (h : Agree (f db0) r t) :
    Agree db0 r (t >>= fun p => pure (p.1, .read :: tot f :: .read :: p.2)) := by
  rcases r with d | e | u <;> rcases t with p | e' | u'
  case ok.ok =>
    exact ⟨h.1, h.2.1, List.forall_mem_cons.2 ⟨rfl, List.forall_mem_cons.2 ⟨rfl, List.forall_mem_cons.2 ⟨rfl, h.2.2⟩⟩⟩⟩
  case throw.throw | ub.ub => exact h
  all_goals exact h.elim

theorem updatePath_agree (s : Schema) : ∀ (fuel : Nat) (db : Db) (c : Id) (pp : Name),
    Agree db (updatePath s fuel db c pp) (updatePathS s fuel db c pp) := by
  intro fuel
  induction fuel with
  | zero => intro db c pp; exact rfl
  | succ fuel ih =>
    intro db c pp
    unfold updatePath updatePathS
    cases crateName db c with
    | ok name => exact Agree.prefix (foldl_agree s fuel _ (fun d k => ih d k _) _ _ _ [] ⟨rfl, nofun⟩)
    | throw e => exact rfl
    | ub u => exact rfl

theorem progOf_rw (db0 : Db) (r : Res Db) (t : Res (Db × Prog)) (h : Agree db0 r t) : ∀ x ∈ progOf t, Cmd.rw x = true := by
  cases t with
  | ok p =>
    cases r <;> simp only [Agree] at h <;> try exact h.elim
    exact h.2.2
  | throw e => simp [progOf]
  | ub u => simp [progOf]

theorem progOf_replay (db0 d : Db) (t : Res (Db × Prog)) (h : Agree db0 (.ok d) t) :
    applyAll (writesOf (progOf t)) db0 = some d := by
  cases t with
  | ok p => simp only [Agree] at h; rw [← h.1]; exact h.2.1
  | throw e => exact h.elim
  | ub u => exact h.elim

theorem rw_read : Cmd.rw (Cmd.read : Cmd Db) = true := rfl
theorem rw_write (f : Db → Option Db) : Cmd.rw (Cmd.write f) = true := rfl
theorem rw_tot (f : Db → Db) : Cmd.rw (tot f) = true := rfl

theorem body_rw (s : Schema) (db : Db) (op : Op) : ∀ x ∈ body s db op, Cmd.rw x = true := by
  cases op
  case rename c n =>
    refine List.forall_mem_cons.2 ⟨rfl, List.forall_mem_cons.2 ⟨rfl, List.forall_mem_cons.2 ⟨rfl,
      List.forall_mem_cons.2 ⟨rfl, ?_⟩⟩⟩⟩
    exact progOf_rw _ _ _ (foldl_agree s _ _ (fun d k => updatePath_agree s _ d k _) _ _ _ [] ⟨rfl, nofun⟩)
  case setParent c p =>
    refine List.forall_mem_append.2 ⟨List.forall_mem_append.2 ⟨List.forall_mem_append.2 ⟨List.forall_mem_append.2
      ⟨List.forall_mem_append.2 ⟨rw_of_all rfl, ?_⟩, rw_of_all rfl⟩, List.forall_mem_map.2 fun _ _ => rfl⟩,
      rw_of_all rfl⟩, progOf_rw _ _ _ (updatePath_agree s _ _ _ _)⟩
    exact List.forall_mem_flatMap.2 fun _ _ => List.forall_mem_map.2 fun _ _ => rfl
  case removeCrate c =>
    exact List.forall_mem_cons.2 ⟨rfl, List.forall_mem_flatMap.2 fun _ _ => rw_of_all rfl⟩
  all_goals exact rw_of_all rfl

theorem toOption_ok {α} (r : Res α) (a : α) (h : r = .ok a) : r.toOption = some a := by subst h; rfl

theorem transaction_ok {α} {db : Db} {body : Res (Db × α)} {a : α} (h : (transaction db body).2 = .ok a) :
    ∃ d', body = .ok (d', a) ∧ (transaction db body).1 = d' := by
  rcases body with ⟨d', a'⟩ | e | u
  · cases h; exact ⟨d', rfl, rfl⟩
  · cases h
  · cases h

theorem validName_ok {n : Name} {db : Db} {X : Db × Res Out} {out : Out}
    (h : (match ensureValidName n with
      | .throw e => (db, .throw e) | .ub u => (db, .ub u) | .ok () => X : Db × Res Out).2 = .ok out) :
    (match ensureValidName n with
      | .throw e => (db, .throw e) | .ub u => (db, .ub u) | .ok () => X : Db × Res Out) = X := by
  cases hv : ensureValidName n with
  | ok u => rfl
  | throw e => rw [hv] at h; cases h
  | ub u => rw [hv] at h; cases h

theorem replay_createRoot (s : Schema) (db : Db) (n : Name) (out : Out) (h : (step s db (.createRoot n)).2 = .ok out) :
    applyAll (writesOf (body s db (.createRoot n))) db = some (step s db (.createRoot n)).1 := by
  have e : step s db (.createRoot n) = _ := validName_ok h
  rw [e] at h ⊢
  obtain ⟨d', hb, hd⟩ := transaction_ok h
  rw [hd]
  by_cases hdup : (rootCrateByName db n).isSome = true
  · rw [if_pos hdup] at hb; cases hb
  · rw [if_neg hdup] at hb
    obtain ⟨db1, hi, hp⟩ := Res.bind_eq_ok.mp hb
    cases hp
    show ((insertCrate s db ⟨_, n, _⟩).toOption).bind _ = _
    rw [hi]; rfl

theorem replay_createSub (s : Schema) (db : Db) (c : Id) (n : Name) (out : Out)
    (h : (step s db (.createSub c n)).2 = .ok out) :
    applyAll (writesOf (body s db (.createSub c n))) db = some (step s db (.createSub c n)).1 := by
  have e : step s db (.createSub c n) = _ := validName_ok h
  rw [e] at h ⊢
  obtain ⟨d', hb, hd⟩ := transaction_ok h
  rw [hd]
  by_cases hdup : (subCrateByName db c n).isSome = true
  · rw [if_pos hdup] at hb; cases hb
  · rw [if_neg hdup] at hb
    obtain ⟨path, hp, hb⟩ := Res.bind_eq_ok.mp hb
    obtain ⟨db1, hi, hb⟩ := Res.bind_eq_ok.mp hb
    cases hb
    show ((insertCrate s db ⟨_, n, resD (selectOwnPath db c) [] ++ n ++ [semicolon]⟩).toOption).bind _ = _
    rw [hp, show resD (Res.ok path) [] = path from rfl, hi]; rfl

theorem requireValid_bind {α} {db : Db} {c : Id} {f : Unit → Res α} {a : α} (h : requireValid db c >>= f = .ok a) :
    f () = .ok a := by
  obtain ⟨_, _, h⟩ := Res.bind_eq_ok.mp h
  exact h

theorem replay_addTrack (s : Schema) (db : Db) (c t : Id) (out : Out) (h : (step s db (.addTrack c t)).2 = .ok out) :
    applyAll (writesOf (body s db (.addTrack c t))) db = some (step s db (.addTrack c t)).1 := by
  obtain ⟨d', hb, hd⟩ := transaction_ok (show (transaction db _).2 = .ok out from h)
  show _ = some (transaction db _).1
  rw [hd]
  have hb := requireValid_bind hb
  by_cases ht : (db.track.filter (fun r => r.id == t && r.hasPath)).length > 0
  · rw [if_pos ht] at hb; cases hb; rfl
  · rw [if_neg ht] at hb; cases hb

/-- the loop over the children in `set_name` / `update_path`: its traced program replays to the tables it reaches -/
theorem foldl_replay (s : Schema) (fuel : Nat) (path : Name) (ks : List Id) (db1 d2 : Db)
    (hf : ks.foldlM (fun a k => updatePath s fuel a k path) db1 = .ok d2) :
    applyAll (writesOf (progOf (ks.foldlM (fun (a : Db × Prog) k => do
      let r ← updatePathS s fuel a.1 k path
      pure (r.1, a.2 ++ r.2)) (db1, [])))) db1 = some d2 := by
  have hag := foldl_agree s fuel path (fun d k => updatePath_agree s fuel d k path) ks db1 db1 [] ⟨rfl, nofun⟩
  rw [hf] at hag
  exact progOf_replay _ _ _ hag

theorem replay_rename (s : Schema) (db : Db) (c : Id) (n : Name) (out : Out) (h : (step s db (.rename c n)).2 = .ok out) :
    applyAll (writesOf (body s db (.rename c n))) db = some (step s db (.rename c n)).1 := by
  have e : step s db (.rename c n) = _ := validName_ok h
  rw [e] at h ⊢
  obtain ⟨d', hb, hd⟩ := transaction_ok h
  rw [hd]
  have hb := requireValid_bind hb
  obtain ⟨pp, hp, hb⟩ := Res.bind_eq_ok.mp hb
  obtain ⟨d2, hf, hb⟩ := Res.bind_eq_ok.mp hb
  cases hb
  -- the parent path the body names is the one the call has read
  have hpp : _ = pp := congrArg (fun r => resD r ([] : Name)) hp
  subst hpp
  exact foldl_replay s _ _ _ _ _ hf

theorem replay_loop {β : Type} (g : β → List (Cmd Db)) (h : β → Db → Db)
    (hg : ∀ x d rest, applyAll (writesOf (g x ++ rest)) d = applyAll (writesOf rest) (h x d)) (xs : List β) (d : Db) :
    applyAll (writesOf (xs.flatMap g)) d = some (xs.foldl (fun acc x => h x acc) d) := by
  induction xs generalizing d with
  | nil => rfl
  | cons x xs ih => exact (hg x d _).trans (ih _)

theorem replay_removeCrate (s : Schema) (db : Db) (c : Id) :
    applyAll (writesOf (body s db (.removeCrate c))) db = some (step s db (.removeCrate c)).1 :=
  replay_loop _ _ (fun _ _ _ => rfl) _ db

/-- the DELETEs of set_parent on `CrateHierarchy`, one per (old ancestor, member) -/
theorem replay_deleteLinks (s : Schema) (anc mem : List Id) (d : Db) :
    applyAll (writesOf (anc.flatMap fun a => mem.map fun m => wDeleteCh s (fun r => r.1 == a && r.2 == m))) d
      = some { d with ch := deleteHierarchyLinks s d.ch anc mem } := by
  have inner : ∀ (a : Id) (mem : List Id) (d : Db) rest,
      applyAll (writesOf ((mem.map fun m => wDeleteCh s (fun r => r.1 == a && r.2 == m)) ++ rest)) d =
        applyAll (writesOf rest)
          { d with ch := mem.foldl (fun acc m => deletePairs s acc (fun r => r.1 == a && r.2 == m)) d.ch } := by
    intro a mem
    induction mem with
    | nil => intro d rest; rfl
    | cons m mem ih => intro d rest; exact ih _ rest
  rw [replay_loop _ (fun a (d : Db) =>
    { d with ch := mem.foldl (fun acc m => deletePairs s acc (fun r => r.1 == a && r.2 == m)) d.ch })
    (fun a d rest => inner a mem d rest) anc d]
  congr 1
  unfold deleteHierarchyLinks
  induction anc generalizing d with
  | nil => rfl
  | cons a anc ih => exact ih _

/-- the INSERTs of set_parent into `CrateHierarchy`, one per (new ancestor, member) -/
theorem replay_insertLinks (links : List (Id × Id)) (d : Db) :
    applyAll (writesOf (links.map wInsertCh)) d = some { d with ch := d.ch ++ links } := by
  have e : links.map wInsertCh = links.map fun r => tot (fun d : Db => { d with ch := d.ch ++ [r] }) := rfl
  rw [e, writesOf_map_tot]
  clear e
  induction links generalizing d with
  | nil => simp [applyAll]
  | cons r links ih => simp [applyAll, Option.bind, ih, List.append_assoc]

theorem setParent_eq (s : Schema) (db : Db) (c : Id) (p : Option Id) (out : Out) (h : (setParent s db c p).2 = .ok out) :
    ∃ d2, updatePath s ((spDb1 s db c p).cpl.length + 1) (spDb1 s db c p) c (spParentPath db p) = .ok d2 ∧
      (setParent s db c p).1 = d2 := by
  unfold setParent at h ⊢
  by_cases hself : (p == some c) = true
  · rw [if_pos hself] at h; cases h
  rw [if_neg hself] at h ⊢
  obtain ⟨d', hb, hd⟩ := transaction_ok h
  rw [hd]
  have hb := requireValid_bind hb
  cases p with
  | none =>
    obtain ⟨d2, hu, hb⟩ := Res.bind_eq_ok.mp hb
    cases hb
    refine ⟨_, ?_, rfl⟩
    simp only [spDb1, spLinks, List.append_nil]
    exact hu
  | some q =>
    have hb := requireValid_bind hb
    change (if (db.ch.filter (fun r => r.1 == c && r.2 == q)).length > 0 then _ else _) = _ at hb
    by_cases hcyc : (db.ch.filter (fun r => r.1 == c && r.2 == q)).length > 0
    · rw [if_pos hcyc] at hb; cases hb
    · rw [if_neg hcyc] at hb
      obtain ⟨d2, hu, hb⟩ := Res.bind_eq_ok.mp hb
      cases hb
      exact ⟨_, hu, rfl⟩

theorem replay_setParent (s : Schema) (db : Db) (c : Id) (p : Option Id) (out : Out)
    (h : (step s db (.setParent c p)).2 = .ok out) :
    applyAll (writesOf (body s db (.setParent c p))) db = some (step s db (.setParent c p)).1 := by
  obtain ⟨d2, hf, hd⟩ := setParent_eq s db c p out h
  show _ = some (setParent s db c p).1
  rw [hd]
  have hag := updatePath_agree s ((spDb1 s db c p).cpl.length + 1) (spDb1 s db c p) c (spParentPath db p)
  rw [hf] at hag
  have hr := progOf_replay _ _ _ hag
  have wr : writesOf ([Cmd.read] : Prog) = [] := rfl
  unfold body
  simp only [writesOf_append, List.append_assoc, wr, List.nil_append]
  rw [applyAll_append_of_some _ _ db { db with cpl := deletePairs s db.cpl (fun r => r.1 == c) ++ [(c, p.getD c)] }
    (by simp [writesOf, applyAll, wDeleteCpl, wInsertCpl, tot, Option.bind])]
  rw [applyAll_append_of_some _ _ _ _ (replay_deleteLinks s _ _ _)]
  rw [applyAll_append_of_some _ _ _ _ (replay_insertLinks _ _)]
  exact hr

/-- The statement program is the model's call: whenever `step` returns normally, applying the writes of the
program in order to the prior tables gives exactly the tables `step` returns. -/
theorem body_replay (s : Schema) (db : Db) (op : Op) (out : Out) (h : (step s db op).2 = .ok out) :
    applyAll (writesOf (body s db op)) db = some (step s db op).1 := by
  cases op with
  | createRoot n => exact replay_createRoot s db n out h
  | createSub c n => exact replay_createSub s db c n out h
  | rename c n => exact replay_rename s db c n out h
  | setParent c p => exact replay_setParent s db c p out h
  | removeCrate c => exact replay_removeCrate s db c
  | addTrack c t => exact replay_addTrack s db c t out h
  | removeTrackFrom c t => rfl
  | clearTracks c => rfl
  | createTrack => rfl
  | removeTrack t => exact congrArg some (congrArg Prod.fst (removeTrack_eq s db t)).symm

theorem body_hasWrite (s : Schema) (db : Db) (op : Op) : hasWrite (body s db op) = true := by
  cases op <;> rfl

theorem flat_one_write (s : Schema) (db : Db) (op : Op) (h : scopedOp op = false) :
    ((body s db op).filter (·.kind == .write)).length ≤ 1 := by
  cases op
  case removeTrackFrom | clearTracks => exact Nat.le_refl 1
  all_goals cases h

/-- every public mutating call of the 1.x crate code issues an atomic shape, on every prior state -/
theorem stmts_atomic (s : Schema) (db : Db) (op : Op) : atomicShape (shapeOf s op db) = true :=
  atomic_form (scopedOp op) _ (body_rw s db op) (flat_one_write s db op)

theorem stmts_skeleton (s : Schema) (db : Db) (op : Op) : skeleton (shapeOf s op db) = (skeletonOf op).kinds := by
  unfold shapeOf stmts skeletonOf
  cases hs : scopedOp op
  · cases op
    case removeTrackFrom | clearTracks => rfl
    all_goals cases hs
  · exact skeleton_scope _ (body_rw s db op) (body_hasWrite s db op)

theorem stmts_run (s : Schema) (db : Db) (op : Op) (out : Out) (auto : Bool) (h : (step s db op).2 = .ok out) :
    (call none auto (stmts s db op) db).raised = false ∧
    (call none auto (stmts s db op) db).conn = Conn.idle (step s db op).1 :=
  form_run (scopedOp op) auto _ (body_rw s db op) db _ (body_replay s db op out h)

end EngineModel.Proofs.CratesV1Stmts
