/-
C09: across every operation each ordered listing changes exactly as the property
prescribes (`Ordered.Change.holds`, the predicate the oracle of the tie evaluates on
the real library's listings): insert-after position, a moved crate among its new
siblings, removal keeps the rest in order, every other listing untouched.
-/
import Proofs.CratesV2Rep

namespace EngineModel.Db.V2

open EngineModel.Db.Chain EngineModel.Spec EngineModel.Spec.Ordered EngineModel.ListAux

theorem holds_same (l : List Int) : Change.same.holds l l = true := by simp [Change.holds]

theorem erase_append_self {l : List Int} {i : Int} (h : i ∉ l) : (l ++ [i]).erase i = l := by
  rw [List.erase_append_right _ h]; simp

theorem holds_inserted {l : List Int} {i : Int} (h : i ∉ l) : (Change.inserted i).holds l (l ++ [i]) = true := by
  simp [Change.holds, h, erase_append_self h]

theorem holds_insertedAfter {l : List Int} {a i : Int} (hi : i ∉ l) (ha : a ∈ l) :
    (Change.insertedAfter a i).holds l (Ordered.insertAfter a i l) = true := by
  simp [Change.holds, hi, ha]

theorem holds_erased (l : List Int) (c : Int) : (Change.erased c).holds l (l.erase c) = true := by
  simp [Change.holds]

theorem holds_dropped (l : List Int) : Change.dropped.holds l [] = true := by simp [Change.holds]

theorem holds_appended {l : List Int} {e : Int} (h : e ∉ l) : (Change.appended e).holds l (l ++ [e]) = true := by
  simp [Change.holds, h]

theorem not_mem_of_nodup_append {l : List Int} {i : Int} (h : (l ++ [i]).Nodup) : i ∉ l := by
  intro hi
  have := (List.nodup_append.mp h).2.2 i hi i (by simp)
  exact this rfl

theorem holds_setKey {A : Int → List Int} {k0 : Int} {L : List Int} {C : Change} (h : C.holds (A k0) L = true)
    (k : Int) : (if k = k0 then C else .same).holds (A k) (setKey A k0 L k) = true := by
  by_cases hk : k = k0
  · subst hk; rw [if_pos rfl, setKey_same]; exact h
  · rw [if_neg hk, setKey_other _ _ hk]; exact holds_same _

theorem holds_setKeyE {S : Ord} {c : Int} {L : List (Int × Ent)} {C : Change}
    (h : C.holds (S.entIds c) (L.map (·.1)) = true) (l : Int) :
    (if l = c then C else .same).holds (S.entIds l) (Ord.entIds { S with ents := setKeyE S.ents c L } l) = true := by
  rw [show Ord.entIds { S with ents := setKeyE S.ents c L } = setKey S.entIds c (L.map (·.1)) from entIds_setKeyE ..]
  exact holds_setKey h l

theorem fresh_pl {S : Ord} {d : Db} (hI : ChInv S d) (k : Int) : d.plSeq + 1 ∉ S.kids k := by
  apply hI.rk.not_mem_of_fresh
  intro h; have := hI.plSeq _ h; omega

theorem mem_kids_of_get {S : Ord} {d : Db} (hI : ChInv S d) {a : Int} {row : Row Bytes} (hg : get d.pl a = some row) :
    a ∈ S.kids row.key := by
  obtain ⟨hr, hid⟩ := get_some hg
  exact hid ▸ hI.rk.mem row hr

/-- Sibling listings: each changes as prescribed (a crate created without a position, or moved to a new parent,
is the LAST of its new siblings). -/
theorem Does.kids {S : Ord} {d : Db} {op : Op} {r : Db × Res Out} (h : Does d op r) (hI : ChInv S d) (k : Int) :
    (kidsChange (absF d) op r.2 k).holds (S.kids k) ((ordNext S (absF d) op r.2).kids k) = true := by
  cases h with
  | throws | diverges | retitled | trackCreated | trackRemoved => exact holds_same _
  | inserted p n a b hlive hfree hv hb =>
    simp only [kidsChange, ordNext, kidsChangeOk_mkCreate, ordOk_mkCreate]
    refine holds_setKey ?_ k
    cases a with
    | none => exact holds_appended (fresh_pl hI _)
    | some a =>
      obtain ⟨row, hg, hk, _⟩ := hb
      exact holds_insertedAfter (fresh_pl hI _) (hk ▸ mem_kids_of_get hI hg)
  | reparented c p row hg hp hv hc =>
    simp only [kidsChange, ordNext, kidsChangeOk, ordOk, live_of_get hg, absF_parentOf_get hg, keyOf_parentOpt, Bool.true_and]
    by_cases hne : row.key = keyOf p
    · simp only [hne, bne_self_eq_false, Bool.false_eq_true, if_false]; exact holds_same _
    · have hb : (row.key != keyOf p) = true := by simpa using hne
      simp only [hb, if_true, moveKid]
      by_cases hk : k = keyOf p
      · subst hk
        rw [if_pos rfl, setKey_same, setKey_other _ _ (Ne.symm hne)]
        exact holds_appended fun hc' => hne (hI.rk.key_unique (mem_kids_of_get hI hg) hc')
      · rw [if_neg hk, setKey_other _ _ hk]
        exact holds_setKey (holds_erased _ _) k
  | removed c ds he hds =>
    have hl : (absF d).live c = true := (plExists_eq_live d c).symm.trans he
    simp only [kidsChange, ordNext, kidsChangeOk, ordOk, hl, if_true, clearKeys]
    split
    · exact holds_dropped _
    · exact holds_setKey (holds_erased _ _) k
  | present l t u e hop hf =>
    rcases hop with ⟨rfl, rfl, _⟩ | ⟨f, rfl⟩ <;> simp only [kidsChange, ordNext, kidsChangeOk, ordOk] <;> split <;>
      exact holds_same _
  | appended l t u hop hf =>
    rcases hop with ⟨rfl, rfl, _⟩ | ⟨f, rfl⟩ <;> simp only [kidsChange, ordNext, kidsChangeOk, ordOk] <;> split <;>
      exact holds_same _
  | entryRemoved l e row hrow hop =>
    rcases hop with ⟨t, rfl, _⟩ | rfl
    · simp only [kidsChange, ordNext, kidsChangeOk, ordOk]; split <;> exact holds_same _
    · exact holds_same _
  | absent l t hf => simp only [kidsChange, ordNext, kidsChangeOk, ordOk]; split <;> exact holds_same _
  | cleared l hop => rcases hop with rfl | rfl <;> exact holds_same _

theorem kids_change {S : Ord} {d : Db} (hI : ChInv S d) (op : Op) (k : Int) :
    (kidsChange (absF d) op (step d op).2 k).holds (S.kids k) ((ordStep S d op).kids k) = true :=
  (step_does d op).kids hI k

theorem fresh_pe {S : Ord} {d : Db} (hI : ChInv S d) (k : Int) : d.peSeq + 1 ∉ S.entIds k := by
  apply hI.re.not_mem_of_fresh
  intro h; have := hI.peSeq _ h; omega

theorem peFind_none_of_find {S : Ord} {d : Db} (hI : ChInv S d) {l t u : Int} (h : S.find l t u = none) :
    peFind d l t u = none := by
  cases hf : peFind d l t u with
  | none => rfl
  | some e => rw [hI.find_some hf] at h; simp at h

theorem holds_dropEnt {S : Ord} {d : Db} (hI : ChInv S d) (c e l : Int) :
    (if l = c then .erased e else .same : Change).holds (S.entIds l)
      (Ord.entIds { S with ents := setKeyE S.ents c (dropEnt (S.ents c) e) } l) = true :=
  holds_setKeyE (by rw [map_fst_dropEnt (hI.re.nodup c)]; exact holds_erased _ _) l

/-- Entry listings (entity ids in order): each changes as prescribed. -/
theorem Does.ents {S : Ord} {d : Db} {op : Op} {r : Db × Res Out} (h : Does d op r) (hI : ChInv S d) (l : Int) :
    (entsChange S (absF d) op r.2 l).holds (S.entIds l) ((ordNext S (absF d) op r.2).entIds l) = true := by
  cases h with
  | throws | diverges | retitled | trackCreated => exact holds_same _
  | inserted p n a => cases p <;> cases a <;> exact holds_same _
  | reparented => simp only [entsChange, ordNext, entsChangeOk, ordOk]; split <;> exact holds_same _
  | removed c ds he hds =>
    have hl : (absF d).live c = true := (plExists_eq_live d c).symm.trans he
    simp only [entsChange, ordNext, entsChangeOk, ordOk, hl, if_true, Bool.true_and, Ord.entIds, clearKeysE]
    split
    · exact holds_dropped _
    · exact holds_same _
  | trackRemoved t ht =>
    simp only [entsChange, ordNext, entsChangeOk, ordOk, Ord.entIds]
    split
    · cases hf : S.find l t 0 with
      | none => exact holds_same _
      | some p =>
        simp only
        rw [map_fst_dropEnt (hI.re.nodup l)]
        exact holds_erased _ _
    · exact holds_same _
  | present c t u e hop hf =>
    rcases hop with ⟨rfl, rfl, _⟩ | ⟨f, rfl⟩ <;>
      simp only [entsChange, ordNext, entsChangeOk, ordOk, hI.find_some hf, Option.isNone_some, Bool.and_false,
        Bool.false_eq_true, if_false] <;> exact holds_same _
  | appended c t u hop hf =>
    rcases hop with ⟨rfl, rfl, _⟩ | ⟨f, rfl⟩ <;>
      simp only [entsChange, ordNext, entsChangeOk, ordOk, hI.find_none hf, Option.isNone_none, Bool.and_true, if_true,
        decide_eq_true_eq] <;>
      exact holds_setKeyE (by rw [List.map_append]; exact holds_appended (fresh_pe hI c)) l
  | entryRemoved c e row hrow hop =>
    rcases hop with ⟨t, rfl, hf⟩ | rfl
    · simp only [entsChange, ordNext, entsChangeOk, ordOk, hI.find_some hf]
      exact holds_dropEnt hI c _ l
    · exact holds_dropEnt hI c e l
  | absent c t hf =>
    simp only [entsChange, ordNext, entsChangeOk, ordOk, hI.find_none hf]
    exact holds_same _
  | cleared c hop => rcases hop with rfl | rfl <;> exact holds_setKeyE (holds_dropped _) l

theorem ents_change {S : Ord} {d : Db} (hI : ChInv S d) (op : Op) (l : Int) :
    (entsChange S (absF d) op (step d op).2 l).holds (S.entIds l) ((ordStep S d op).entIds l) = true :=
  (step_does d op).ents hI l

end EngineModel.Db.V2
