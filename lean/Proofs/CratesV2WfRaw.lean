/-
C11 (2.x crate tables): the executable predicates of Db/V2Wf.lean (`wfChains`,
`wfRaw` — the same functions the driver evaluates on the rows dumped from the real
database) are `true` on every state satisfying the proof-level invariants.
-/
import Proofs.CratesV2Members

namespace EngineModel.Db.V2

open EngineModel.Db.Chain EngineModel.Spec EngineModel.ListAux

/-- `eraseDups` recurses on a filtered tail, hence the induction on the length. -/
theorem eraseDups_length (l : List Int) : l.eraseDups.length ≤ l.length ∧ (l.eraseDups.length = l.length → l.Nodup) := by
  generalize hn : l.length = n
  induction n using Nat.strongRecOn generalizing l with
  | _ n ih =>
    cases l with
    | nil => simp
    | cons a as =>
      subst hn
      have hle : (as.filter (fun b => !b == a)).length ≤ as.length := List.length_filter_le _ _
      obtain ⟨h1, h2⟩ := ih _ (Nat.lt_succ_of_le hle) _ rfl
      rw [List.eraseDups_cons, List.length_cons, List.length_cons]
      refine ⟨by omega, fun he => ?_⟩
      have hfe := List.length_filter_eq_length_iff.mp (show (as.filter (fun b => !b == a)).length = as.length by omega)
      rw [List.filter_eq_self.mpr hfe] at h2 he
      exact List.nodup_cons.mpr ⟨fun ha => by simpa using hfe a ha, h2 (by omega)⟩

theorem nodupB_iff {l : List Int} : nodupB l = true ↔ l.Nodup :=
  ⟨fun h => (eraseDups_length l).2 (by simpa [nodupB] using h), fun h => by simp [nodupB, eraseDups_of_nodup h]⟩

theorem idsOk_iff {α : Type} {t : Table α} {seq : Int} :
    idsOk t seq = true ↔ (ids t).Nodup ∧ (∀ r ∈ t, 0 < r.id) ∧ (∀ i ∈ ids t, i ≤ seq) ∧ 0 ≤ seq := by
  simp only [idsOk, Bool.and_eq_true, nodupB_iff, List.all_eq_true, decide_eq_true_eq, ids, List.forall_mem_map, imp_and,
    forall_and, and_assoc]

theorem tracksOk_iff {d : Db} :
    tracksOk d = true ↔ d.tracks.Nodup ∧ (∀ t ∈ d.tracks, 0 < t ∧ t ≤ d.trSeq) ∧ 0 ≤ d.trSeq := by
  simp only [tracksOk, Bool.and_eq_true, nodupB_iff, List.all_eq_true, decide_eq_true_eq, and_assoc]

/-- The UNIQUE (key, value) test of `namesOk` and `entitiesOk`. -/
theorem noClash_iff {α : Type} [BEq α] [LawfulBEq α] {t : Table α} :
    (t.all fun r => !t.any fun r' => r'.id != r.id && r'.key == r.key && r'.val == r.val) = true ↔
      ∀ r ∈ t, ∀ r' ∈ t, r'.key = r.key → r'.val = r.val → r'.id = r.id := by
  simp only [List.all_eq_true, Bool.not_eq_true', List.any_eq_false, Bool.and_eq_true, bne_iff_ne, beq_iff_eq, not_and, ne_eq,
    and_imp]
  exact forall₂_congr fun r _ => forall₂_congr fun r' _ =>
    ⟨fun h hk hv => Classical.byContradiction fun hne => h hne hk hv, fun h hne hk hv => hne (h hk hv)⟩

theorem namesOk_iff {t : Table Bytes} : namesOk t = true ↔ (∀ r ∈ t, Forest.validName r.val = true) ∧
    ∀ r ∈ t, ∀ r' ∈ t, r'.key = r.key → r'.val = r.val → r'.id = r.id := by
  rw [namesOk, Bool.and_eq_true, List.all_eq_true, noClash_iff]

theorem entitiesOk_iff {d : Db} : entitiesOk d = true ↔
    (∀ e ∈ d.pe, e.key ∈ ids d.pl ∧ 0 < e.val.track ∧ (e.val.uuid = 0 → e.val.track ∈ d.tracks)) ∧
    ∀ e ∈ d.pe, ∀ e' ∈ d.pe, e'.key = e.key → e'.val = e.val → e'.id = e.id := by
  rw [entitiesOk, Bool.and_eq_true, noClash_iff]
  simp only [List.all_eq_true, Bool.and_eq_true, decide_eq_true_eq, Bool.or_eq_true, bne_iff_ne, ne_eq, List.contains_iff_mem,
    plExists_iff, and_assoc, ← Decidable.imp_iff_not_or]

theorem wfRaw_iff {d : Db} : wfRaw d = true ↔ idsOk d.pl d.plSeq = true ∧ chainsOk d.pl = true ∧ idsOk d.pe d.peSeq = true ∧
    chainsOk d.pe = true ∧ forestOk d.pl = true ∧ namesOk d.pl = true ∧ entitiesOk d = true ∧ tracksOk d = true := by
  simp only [wfRaw, checks, chainChecks, List.cons_append, List.nil_append, List.all_cons, List.all_nil, Bool.and_true,
    Bool.and_eq_true]

theorem R_length_eq {α : Type} {A : Int → List Int} {t : Table α} (h : R A t) (k : Int) :
    (A k).length = (rowsOf t k).length := by
  apply Nat.le_antisymm
  · exact h.length_le_rowsOf k
  · have := length_le_of_nodup_subset (nodup_ids_filter _ h.ids_nodup : (ids (rowsOf t k)).Nodup) fun x hx => by
      obtain ⟨r, hr, rfl⟩ := mem_ids.mp hx
      exact (h.of_rowsOf hr).1
    rwa [ids, List.length_map] at this

theorem chainsOk_of_R {α : Type} {A : Int → List Int} {t : Table α} (h : R A t) : chainsOk t = true := by
  unfold chainsOk
  rw [List.all_eq_true]
  intro k _
  rw [walkIds_eq h k]
  simp only [Bool.and_eq_true, beq_iff_eq]
  exact ⟨R_length_eq h k, nodupB_iff.mpr (h.nodup k)⟩

theorem chainChecks_of_chInv {S : Ord} {d : Db} (hI : ChInv S d) :
    idsOk d.pl d.plSeq = true ∧ chainsOk d.pl = true ∧ idsOk d.pe d.peSeq = true ∧ chainsOk d.pe = true :=
  ⟨idsOk_iff.mpr ⟨hI.rk.ids_nodup, hI.rk.id_pos, hI.plSeq, hI.plSeq0⟩, chainsOk_of_R hI.rk,
    idsOk_iff.mpr ⟨hI.re.ids_nodup, hI.re.id_pos, hI.peSeq, hI.peSeq0⟩, chainsOk_of_R hI.re⟩

/-- The chain part of C11 / the invariant behind C09, on the executable predicate. -/
theorem wfChains_of_chInv {S : Ord} {d : Db} (hI : ChInv S d) : wfChains d = true := by
  simpa only [wfChains, chainChecks, List.all_cons, List.all_nil, Bool.and_true, Bool.and_eq_true] using chainChecks_of_chInv hI

theorem reachesRoot_of_rank {t : Table Bytes} (hn : (ids t).Nodup) (depth : Int → Nat)
    (hd : ∀ r ∈ t, r.key ≠ 0 → depth r.key < depth r.id) (hlive : ∀ r ∈ t, r.key ≠ 0 → r.key ∈ ids t) :
    ∀ (n : Nat) (x : Int), x ∈ ids t → ((ids t).filter (fun y => decide (depth y < depth x))).length < n →
      reachesRoot t n x = true := by
  intro n
  induction n with
  | zero => intro x _ h; omega
  | succ n ih =>
    intro x hx hcount
    simp only [ids, List.mem_map] at hx
    obtain ⟨r, hr, rfl⟩ := hx
    simp only [reachesRoot, get_of_mem hn hr]
    by_cases h0 : r.key = 0
    · simp [h0]
    · have hlt := hd r hr h0
      have hpl := hlive r hr h0
      -- the parent ranks below `r.id`, so strictly fewer ids rank below the parent: the fuel left suffices for it
      have hsub : ((ids t).filter (fun y => decide (depth y < depth r.key))).length
          < ((ids t).filter (fun y => decide (depth y < depth r.id))).length := by
        have e : (ids t).filter (fun y => decide (depth y < depth r.key))
            = ((ids t).filter (fun y => decide (depth y < depth r.id))).filter (fun y => decide (depth y < depth r.key)) := by
          rw [List.filter_filter]
          apply List.filter_congr
          intro y _
          by_cases hy : depth y < depth r.key
          · have : depth y < depth r.id := by omega
            simp [hy, this]
          · simp [hy]
        rw [e]
        apply List.length_filter_lt_length_iff_exists.mpr
        refine ⟨r.key, List.mem_filter.mpr ⟨hpl, by simpa using hlt⟩, by simp⟩
      have := ih r.key hpl (by omega)
      simp [this]

theorem forestOk_of_plInv {d : Db} (hI : PlInv d) : forestOk d.pl = true := by
  have hn : (ids d.pl).Nodup := by rw [← absF_ids]; exact hI.wf.ids_nodup
  obtain ⟨depth, hd⟩ := hI.wf.ranked
  have hd' : ∀ r ∈ d.pl, r.key ≠ 0 → depth r.key < depth r.id := by
    intro r hr h0
    exact hd (rowCrate r) (mem_crates_of_row hr) r.key (by simp [rowCrate, parentOpt_of_ne h0])
  have hlive : ∀ r ∈ d.pl, r.key ≠ 0 → r.key ∈ ids d.pl := fun r hr h0 => (key_zero_or_live hI.wf hr).resolve_left h0
  unfold forestOk
  rw [List.all_eq_true]
  intro r hr
  have hmem : r.id ∈ ids d.pl := by simp only [ids, List.mem_map]; exact ⟨r, hr, rfl⟩
  apply reachesRoot_of_rank hn depth hd' hlive d.pl.length r.id hmem
  have h1 : ((ids d.pl).filter (fun y => decide (depth y < depth r.id))).length < (ids d.pl).length := by
    apply List.length_filter_lt_length_iff_exists.mpr
    exact ⟨r.id, hmem, by simp⟩
  simpa [ids] using h1

theorem namesOk_of_plInv {d : Db} (hI : PlInv d) : namesOk d.pl = true := by
  refine namesOk_iff.mpr ⟨fun r hr => hI.wf.names_valid (rowCrate r) (mem_crates_of_row hr), fun r hr r' hr' hkey hval => ?_⟩
  exact congrArg Forest.Crate.id (hI.wf.names_unique (rowCrate r') (mem_crates_of_row hr') (rowCrate r) (mem_crates_of_row hr)
    (by simp [rowCrate, hkey]) (by simp [rowCrate, hval]))

theorem entitiesOk_of_memInv {d : Db} (hM : MemInv d) (hp : PairsOk (cores d.pe)) (ho : AllOwn d) : entitiesOk d = true := by
  refine entitiesOk_iff.mpr ⟨fun e he => ?_, fun e he e' he' hkey hval => ?_⟩
  · have hc : core e ∈ cores d.pe := mem_cores.mpr ⟨e, he, rfl⟩
    obtain ⟨h1, h2⟩ := hM.live _ hc (ho _ hc)
    exact ⟨h1, (hM.tracks_seq _ h2).1, fun _ => h2⟩
  · exact congrArg (·.1) (hp.pair_unique (core e') (mem_cores.mpr ⟨e', he', rfl⟩) (core e) (mem_cores.mpr ⟨e, he, rfl⟩) hkey hval)

theorem wfRaw_of_inv {S : Ord} {d : Db} (hI : Inv S d) (ho : AllOwn d) : wfRaw d = true :=
  have ⟨h1, h2, h3, h4⟩ := chainChecks_of_chInv hI.ch
  wfRaw_iff.mpr ⟨h1, h2, h3, h4, forestOk_of_plInv hI.pl, namesOk_of_plInv hI.pl, entitiesOk_of_memInv hI.mem hI.ch.pairs ho,
    tracksOk_iff.mpr ⟨hI.mem.tracks_nodup, hI.mem.tracks_seq, hI.mem.trSeq0⟩⟩

end EngineModel.Db.V2
