/-
Round trips of the schema-1.x Spec layouts (`Format/V1.lean`): decoding the
Spec encoding of a value gives the value back, up to the three readings the
format itself defines — an optional numeric field holding exactly zero reads
back absent (`normOptF`, `normOptI64`, `normOptI32`), a present cue/loop with (start) offset
exactly −1.0 reads back as an empty slot (`normCue`, `normLoop`), and the
overview waveform has no opacity channel (`opaq`).  Combined with the
Impl = Spec lemmas these give the C03 theorems for the Model of the C++.
-/
import Proofs.ImplV1Lists
import Proofs.ImplV1Beat
import Proofs.PayloadNonempty

namespace EngineModel
namespace V1Proofs
open Codec Cur Impl.V2

theorem sound_nil {α} {c : Codec α} {P : α → Prop} (h : c.Sound P) (a : α) (ha : P a) :
    c.dec (c.enc a) = some (a, []) := by
  have := h a ha []
  rwa [List.append_nil] at this

def normOptF (o : Option UInt64) : Option UInt64 :=
  match o with
  | some x => if F64.isZero x then none else some x
  | none => none

def normOptI64 (o : Option UInt64) : Option UInt64 :=
  match o with
  | some x => if x = 0 then none else some x
  | none => none

def normOptI32 (o : Option UInt32) : Option UInt32 :=
  match o with
  | some x => if x = 0 then none else some x
  | none => none

theorem optZ_getD (o : Option UInt64) : V1.optZ (o.getD 0) = normOptF o := by
  cases o with
  | none => rfl
  | some x => rfl

theorem normOptF_id (o : Option UInt64) (h : ∀ x, o = some x → F64.isZero x = false) : normOptF o = o := by
  cases o with
  | none => rfl
  | some x => simp [normOptF, h x rfl]

theorem normOptI64_id (o : Option UInt64) (h : o ≠ some 0) : normOptI64 o = o := by
  cases o with
  | none => rfl
  | some x =>
    have : x ≠ 0 := fun e => h (by rw [e])
    simp [normOptI64, this]

theorem normOptI32_id (o : Option UInt32) (h : o ≠ some 0) : normOptI32 o = o := by
  cases o with
  | none => rfl
  | some x =>
    have : x ≠ 0 := fun e => h (by rw [e])
    simp [normOptI32, this]

def normTrack (v : Impl.V1.Track) : Impl.V1.Track :=
  ⟨normOptF v.sampleRate, normOptI64 v.sampleCount, normOptF v.loudness, normOptI32 v.key⟩

theorem spec_track_roundtrip (v : Impl.V1.Track) :
    V1.decodeTrack (V1.trackWire.enc (V1.trackToWire v)) = some (normTrack v) := by
  obtain ⟨sr, sc, ld, k⟩ := v
  unfold V1.decodeTrack
  rw [sound_nil V1.trackWire_sound _ trivial]
  simp only [V1.trackOfWire, V1.trackToWire, optZ_getD, normTrack]
  -- `simp` leaves `if x = 0 then none else some x` against itself under another `Decidable` instance: `rfl`
  cases sc <;> cases k <;> simp [normOptI64, normOptI32] <;> (first | rfl | exact ⟨rfl, rfl⟩)

def opaq (e : Impl.V1.Entry) : Impl.V1.Entry := ⟨e.lv, e.mv, e.hv, 255, 255, 255⟩

theorem chunk3_flat3 (es : List Impl.V1.Entry) : V1.chunk3 (V1.flat3 es) = es.map opaq := by
  induction es with
  | nil => rfl
  | cons e es ih =>
    simp only [V1.flat3, List.flatMap_cons, List.cons_append, List.nil_append, V1.chunk3, List.map_cons] at ih ⊢
    rw [ih]; rfl

theorem chunk6_flat6 (es : List Impl.V1.Entry) : V1.chunk6 (V1.flat6 es) = es := by
  induction es with
  | nil => rfl
  | cons e es ih =>
    simp only [V1.flat6, List.flatMap_cons, List.cons_append, List.nil_append, V1.chunk6] at ih ⊢
    rw [ih]

/- The decoders are opened on an abstract byte string only (`bs` a variable): unfolding them
on `enc X` makes the kernel evaluate the layout on symbolic input. -/
theorem decodeOvw_of_dec {bs : Bytes} {X : V1.WaveRaw} (h : (V1.wave 3).dec bs = some (X, [])) :
    V1.decodeOvw bs = some ⟨X.spe, V1.chunk3 X.points⟩ := by
  unfold V1.decodeOvw; rw [h]

theorem decodeHires_of_dec {bs : Bytes} {X : V1.WaveRaw} (h : (V1.wave 6).dec bs = some (X, [])) :
    V1.decodeHires bs = some ⟨X.spe, V1.chunk6 X.points⟩ := by
  unfold V1.decodeHires; rw [h]

theorem wave_valid (w : Nat) (hw : 0 < w) (spe : UInt64) {pts mx : Bytes} {n : Nat} (hp : pts.length = w * n)
    (hn : n < maxCount) (hm : mx.length = w) : V1.WaveRaw.Valid w ⟨spe, pts, mx⟩ :=
  ⟨by rw [hp]; exact Nat.mul_mod_right w n, by rw [hp, Nat.mul_div_cancel_left _ hw]; exact hn, hm⟩

theorem spec_ovw_roundtrip (v : Impl.V1.Wave) (hrep : v.entries.length < maxCount) (b : Bytes)
    (h : V1.encodeOvw v = some b) : V1.decodeOvw b = some ⟨v.spe, v.entries.map opaq⟩ := by
  cases h
  rw [decodeOvw_of_dec (sound_nil (V1.wave_sound 3) _
    (wave_valid 3 (by omega) _ (flat3_length _) hrep rfl)), chunk3_flat3]

theorem spec_hires_roundtrip (v : Impl.V1.Wave) (hrep : v.entries.length < maxCount) (b : Bytes)
    (h : V1.encodeHires v = some b) : V1.decodeHires b = some v := by
  cases h
  rw [decodeHires_of_dec (sound_nil (V1.wave_sound 6) _
    (wave_valid 6 (by omega) _ (flat6_length _) hrep rfl)), chunk6_flat6]

def normCue (s : Option Impl.V1.HotCue) : Option Impl.V1.HotCue :=
  match s with
  | some q => if F64.ne q.off F64.negOne then some q else none
  | none => none

def normLoop (s : Option Impl.V1.LoopV) : Option Impl.V1.LoopV :=
  match s with
  | some l => if F64.ne l.start F64.negOne then some l else none
  | none => none

theorem cueOfWire_toWire (s : Option Impl.V1.HotCue) : V1.cueOfWire (V1.cueToWire s) = normCue s := by
  cases s with
  | none => decide
  | some q => rfl

theorem loopOfWire_toWire (s : Option Impl.V1.LoopV) : V1.loopOfWire (V1.loopToWire s) = normLoop s := by
  cases s with
  | none => decide
  | some l => rfl

/-- A present cue reads back absent iff its offset is exactly −1.0 (one bit pattern). -/
theorem normCue_none_iff (q : Impl.V1.HotCue) : normCue (some q) = none ↔ q.off = F64.negOne := by
  simp [normCue, F64.ne_negOne_iff]

theorem normLoop_none_iff (l : Impl.V1.LoopV) : normLoop (some l) = none ↔ l.start = F64.negOne := by
  simp [normLoop, F64.ne_negOne_iff]

theorem normCue_some (q : Impl.V1.HotCue) (h : q.off ≠ F64.negOne) : normCue (some q) = some q := by
  simp [normCue, F64.ne_negOne_iff, h]

theorem normLoop_some (l : Impl.V1.LoopV) (h : l.start ≠ F64.negOne) : normLoop (some l) = some l := by
  simp [normLoop, F64.ne_negOne_iff, h]

theorem cueToWire_label_le (s : Option Impl.V1.HotCue) (h : V1.cueSlotOk s = true) :
    (V1.cueToWire s).label.length ≤ 255 := by
  cases s with
  | none => simp [V1.cueToWire]
  | some q => simp only [V1.cueSlotOk, decide_eq_true_eq] at h; exact h.2

theorem loopToWire_label_le (s : Option Impl.V1.LoopV) (h : V1.loopSlotOk s = true) :
    (V1.loopToWire s).label.length ≤ 255 := by
  cases s with
  | none => simp [V1.loopToWire]
  | some q => simp only [V1.loopSlotOk, decide_eq_true_eq] at h; exact h.2

theorem decodeCues_of_dec {bs : Bytes} {X : V2.CuesRaw} (h : V2.cuesRaw.dec bs = some (X, [])) :
    V1.decodeCues bs =
      if X.isAdj.toNat > 1 ∨ (X.isAdj.toNat = 0 ∧ F64.ne X.adjMain X.defMain = true) then none
      else some ⟨X.cues.map V1.cueOfWire, X.adjMain, X.defMain⟩ := by
  unfold V1.decodeCues; rw [h]

theorem decodeLoops_of_dec {bs : Bytes} {X : V2.Loops} (h : V2.loops.dec bs = some (X, [])) :
    V1.decodeLoops bs = some (X.map V1.loopOfWire) := by
  unfold V1.decodeLoops; rw [h]

/-- The wire slots of slot-wise encodable values have labels that fit their length byte. -/
theorem labels_fit {α β} {toWire : α → β} {ok : α → Bool} {lab : β → Bytes}
    (hle : ∀ s, ok s = true → (lab (toWire s)).length ≤ 255) {v : List α} (h : v.all ok = true) :
    ∀ q ∈ v.map toWire, (lab q).length ≤ 255 := by
  intro q hq
  obtain ⟨s, hs, rfl⟩ := List.mem_map.mp hq
  exact hle s (List.all_eq_true.mp h s hs)

theorem spec_cues_roundtrip (v : Impl.V1.Cues) (h8 : v.cues.length = 8) (h : v.cues.all V1.cueSlotOk = true) :
    V1.decodeCues (V2.cuesRaw.enc (cuesWire v)) = some ⟨v.cues.map normCue, v.adjMain, v.defMain⟩ := by
  have hv : V2.CuesRaw.Valid (cuesWire v) := ⟨by simp [cuesWire, h8, maxCount], labels_fit cueToWire_label_le h⟩
  rw [decodeCues_of_dec (sound_nil V2.cuesRaw_sound _ hv)]
  simp only [cuesWire, List.map_map, show (V1.cueOfWire ∘ V1.cueToWire) = normCue from funext cueOfWire_toWire]
  by_cases he : F64.eq v.adjMain v.defMain = true <;> simp [he, F64.ne]

theorem spec_loops_roundtrip (v : Impl.V1.Loops) (hrep : v.length < maxCount) (h : v.all V1.loopSlotOk = true) :
    V1.decodeLoops (V2.loops.enc (v.map V1.loopToWire)) = some (v.map normLoop) := by
  have hv : V2.LoopsValid (v.map V1.loopToWire) := ⟨by simpa using hrep, labels_fit loopToWire_label_le h⟩
  rw [decodeLoops_of_dec (sound_nil V2.loops_sound _ hv), List.map_map,
    show (V1.loopOfWire ∘ V1.loopToWire) = normLoop from funext loopOfWire_toWire]

theorem low_u64OfInt_s32 (x : UInt32) :
    UInt32.ofNat ((Prim.u64OfInt (Prim.s32 x)).toNat % 4294967296) = x := by
  apply UInt32.toNat_inj.mp
  have := x.toNat_lt
  unfold Prim.u64OfInt Prim.s32
  split <;> simp <;> omega

theorem gridOfWire_toWire : ∀ (g : List Impl.V1.GMarker), V1.gridOfWire (V1.gridToWire g) = g
  | [] => rfl
  | [a] => by simp [V1.gridToWire, V1.gridOfWire, low_u64OfInt_s32]
  | a :: b :: rest => by
    have ih := gridOfWire_toWire (b :: rest)
    simp only [V1.gridOfWire] at ih
    simp only [V1.gridToWire, V1.gridOfWire, List.map_cons, low_u64OfInt_s32, ih]

theorem countsOk_toWire : ∀ (rest : List Impl.V1.GMarker) (a : Impl.V1.GMarker),
    V1.gridOk.go (a :: rest) = true → V1.countsOk (V1.gridToWire (a :: rest)) = true := by
  intro rest
  induction rest with
  | nil => intro a _; simp [V1.gridToWire, V1.countsOk]
  | cons b rest ih =>
    intro a h
    simp only [V1.gridOk.go, Bool.and_eq_true, decide_eq_true_eq] at h
    obtain ⟨⟨⟨c1, c2⟩, c3⟩, c4⟩ := h
    have hd : Prim.s32 (Prim.u32OfInt (Prim.s32 b.index - Prim.s32 a.index)) = Prim.s32 b.index - Prim.s32 a.index :=
      Prim.s32_u32OfInt _ (by omega) (by omega)
    have ihb := ih b c4
    cases rest with
    | nil =>
      simp only [V1.gridToWire, V1.countsOk, low_u64OfInt_s32, hd, decide_true, Bool.true_and]
      rfl
    | cons c r =>
      simp only [V1.gridToWire] at ihb ⊢
      simp only [V1.countsOk, low_u64OfInt_s32, hd, decide_true, Bool.true_and]
      exact ihb

theorem wireGridOk_toWire (g : List Impl.V1.GMarker) (h : V1.gridOk g = true) :
    V1.wireGridOk (V1.gridToWire g) = true := by
  unfold V1.wireGridOk
  rw [gridOfWire_toWire, h, Bool.true_and]
  match g, h with
  | [], _ => rfl
  | a :: b :: rest, h =>
    simp only [V1.gridOk, Bool.and_eq_true] at h
    exact countsOk_toWire _ _ h.2

theorem decodeBeat_of_dec {bs : Bytes} {w : V2.Beat} {rest : Bytes} (h : V2.beat.dec bs = some (w, rest)) :
    V1.decodeBeat bs =
      if (V1.wireGridOk w.dflt && V1.wireGridOk w.adj && rest.all (· == 0)) = true then
        some ⟨V1.optZ w.sampleRate, V1.optZ w.samples, V1.gridOfWire w.dflt, V1.gridOfWire w.adj⟩
      else none := by
  unfold V1.decodeBeat; rw [h]

theorem gridOk_length_le (g : List Impl.V1.GMarker) (h : V1.gridOk g = true) : g.length ≤ 32768 := by
  match g, h with
  | [], _ => simp
  | a :: b :: rest, h =>
    simp only [V1.gridOk, Bool.and_eq_true, decide_eq_true_eq] at h
    exact h.1

theorem spec_beat_roundtrip (v : Impl.V1.Beat) (h1 : V1.gridOk v.dflt = true) (h2 : V1.gridOk v.adj = true) :
    V1.decodeBeat (V2.beat.enc (beatWire v)) =
      some ⟨normOptF v.sampleRate, normOptF v.sampleCount, v.dflt, v.adj⟩ := by
  have hv : V2.Beat.Valid (beatWire v) := by
    have := gridOk_length_le _ h1
    have := gridOk_length_le _ h2
    refine ⟨?_, ?_⟩ <;> simp only [beatWire, gridToWire_length, maxCount] <;> omega
  rw [decodeBeat_of_dec (sound_nil V2.beat_sound _ hv)]
  simp only [beatWire, wireGridOk_toWire _ h1, wireGridOk_toWire _ h2, gridOfWire_toWire, optZ_getD,
    List.all_nil, Bool.and_self, if_true]

/-! Encode then decode, on the Impl side: what is read back (`normTrack`, `normCue`, … say what the 1.x reading
fixes). -/

theorem track_readback (v : Impl.V1.Track) :
    ∃ b, Impl.V1.encodeTrack v = .ok b ∧ Impl.V1.decodeTrack b = .ok (normTrack v) := by
  refine ⟨_, encodeTrack_ok v, ?_⟩
  rw [decodeTrack_eq, spec_track_roundtrip]; rfl

theorem beat_readback (v : Impl.V1.Beat) (h1 : V1.gridOk v.dflt = true) (h2 : V1.gridOk v.adj = true) :
    ∃ b, Impl.V1.encodeBeat v = .ok b ∧
      Impl.V1.decodeBeat b = .ok ⟨normOptF v.sampleRate, normOptF v.sampleCount, v.dflt, v.adj⟩ :=
  ⟨_, encodeBeat_ok v h1 h2, decodeBeat_of_spec _ _ (spec_beat_roundtrip v h1 h2)⟩

theorem cues_readback (v : Impl.V1.Cues) (hl : v.cues.length = 8) (ha : v.cues.all V1.cueSlotOk = true) :
    ∃ b, Impl.V1.encodeCues v = .ok b ∧
      Impl.V1.decodeCues b = .ok ⟨v.cues.map normCue, v.adjMain, v.defMain⟩ := by
  refine ⟨_, encodeCues_ok v hl ha, ?_⟩
  rw [decodeCues_eq, spec_cues_roundtrip v hl ha]; rfl

theorem loops_readback (v : Impl.V1.Loops) (hrep : v.length < maxCount) (h : v.all V1.loopSlotOk = true) :
    ∃ b, Impl.V1.encodeLoops v = .ok b ∧ Impl.V1.decodeLoops b = .ok (v.map normLoop) := by
  refine ⟨_, encodeLoops_ok v h, ?_⟩
  rw [decodeLoops_eq, spec_loops_roundtrip v hrep h]; rfl

/-- The three value channels come back; the format has no opacity channel and the decoder supplies 255. -/
theorem ovw_readback (v : Impl.V1.Wave) (hrep : 27 + 3 * v.entries.length < maxCount) :
    ∃ b, Impl.V1.encodeOvw v = .ok b ∧ Impl.V1.decodeOvw b = .ok ⟨v.spe, v.entries.map opaq⟩ := by
  obtain ⟨b, hs, hi⟩ := encodeOvw_ok v
  refine ⟨b, hi, ?_⟩
  have hb : b.length < maxCount := by rw [Impl.V2.writeInto_length hi]; exact hrep
  rw [decodeOvw_eq b hb, spec_ovw_roundtrip v (by omega) b hs]; rfl

theorem hires_roundtrip (v : Impl.V1.Wave) (hrep : 30 + 6 * v.entries.length < maxCount) :
    ∃ b, Impl.V1.encodeHires v = .ok b ∧ Impl.V1.decodeHires b = .ok v := by
  obtain ⟨b, hs, hi⟩ := encodeHires_ok v
  refine ⟨b, hi, ?_⟩
  have hb : b.length < maxCount := by rw [Impl.V2.writeInto_length hi]; exact hrep
  rw [decodeHires_eq b hb, spec_hires_roundtrip v (by omega) b hs]; rfl

end V1Proofs
end EngineModel
