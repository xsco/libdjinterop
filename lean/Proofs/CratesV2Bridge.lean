/-
Schema 2.x crates: every query / guard of the Model on the Playlist table is the
corresponding Spec.Forest query on the abstraction `absF d`; and what the table
operations do to `absF`.
-/
import Proofs.CratesV2Does
import Proofs.SpecForestWf

namespace EngineModel.Db.V2

open EngineModel.Db.Chain EngineModel.Spec EngineModel.Spec.Forest EngineModel.ListAux

def rowCrate (r : Row Bytes) : Forest.Crate := ⟨r.id, r.val, parentOpt r.key⟩

theorem absF_crates (d : Db) : (absF d).crates = d.pl.map rowCrate := by
  simp [absF, cores, rowCrate, crateOf, core, Function.comp_def]

theorem absF_ids (d : Db) : (absF d).ids = ids d.pl := by
  simp [Forest.ids, absF_crates, ids, rowCrate, Function.comp_def]

theorem absF_congr {d d' : Db} (h : d'.pl = d.pl) : absF d' = absF d := by
  simp [absF, h]

theorem parentOpt_inj {a b : Int} : parentOpt a = parentOpt b ↔ a = b := by
  -- `parentOpt k` is `none` for 0 and `some k` otherwise: by cases on the two tests `a = 0`, `b = 0`
  unfold parentOpt
  grind

theorem parentOpt_beq (a b : Int) : (parentOpt a == parentOpt b) = (a == b) := by
  rw [Bool.eq_iff_iff, beq_iff_eq, beq_iff_eq, parentOpt_inj]

theorem parentOpt_of_ne {a : Int} (h : a ≠ 0) : parentOpt a = some a := by simp [parentOpt, h]

theorem parentOpt_keyOf {p : Option Int} (h : ∀ q, p = some q → q ≠ 0) : parentOpt (keyOf p) = p := by
  cases p with
  | none => rfl
  | some q => exact parentOpt_of_ne (h q rfl)

theorem parentOpt_eq_none {a : Int} : parentOpt a = none ↔ a = 0 := by
  unfold parentOpt; split <;> simp [*]

theorem parentOpt_eq_some {a q : Int} : parentOpt a = some q ↔ a = q ∧ q ≠ 0 := by
  -- by cases on the test `a = 0` of `parentOpt`
  unfold parentOpt
  grind

theorem absF_find (d : Db) (c : Int) : (absF d).find c = (get d.pl c).map rowCrate := by
  unfold Forest.find Chain.get
  rw [absF_crates, List.find?_map]
  rfl

theorem absF_parentOf (d : Db) (c : Int) : (absF d).parentOf c = (get d.pl c).bind (fun r => parentOpt r.key) := by
  unfold Forest.parentOf
  rw [absF_find]
  cases get d.pl c <;> rfl

theorem absF_nameOf (d : Db) (c : Int) : (absF d).nameOf c = (get d.pl c).map (·.val) := by
  unfold Forest.nameOf
  rw [absF_find]
  cases get d.pl c <;> rfl

theorem plExists_iff {d : Db} {c : Int} : plExists d c = true ↔ c ∈ ids d.pl := by
  simp [plExists, ids, List.length_pos_iff, List.filter_eq_nil_iff]

theorem plExists_eq_live (d : Db) (c : Int) : plExists d c = (absF d).live c := by
  rw [Bool.eq_iff_iff, plExists_iff, Forest.live_iff, absF_ids]

theorem get_isSome_iff {α : Type} {t : Table α} {c : Int} : (Chain.get t c).isSome = true ↔ c ∈ ids t := by
  cases hg : Chain.get t c with
  | none => simpa using get_none hg
  | some r => exact ⟨fun _ => List.mem_map.mpr ⟨r, get_some hg⟩, fun _ => rfl⟩

theorem mem_crates_of_row {d : Db} {r : Row Bytes} (hr : r ∈ d.pl) : rowCrate r ∈ (absF d).crates := by
  rw [absF_crates]; exact List.mem_map.mpr ⟨r, hr, rfl⟩

theorem key_zero_or_live {d : Db} (hW : Forest.Wf (absF d)) {r : Row Bytes} (hr : r ∈ d.pl) :
    r.key = 0 ∨ r.key ∈ ids d.pl := by
  by_cases h0 : r.key = 0
  · exact .inl h0
  · exact .inr (absF_ids d ▸ hW.parent_live (rowCrate r) (mem_crates_of_row hr) r.key (parentOpt_of_ne h0))

theorem pos_of_live {d : Db} (hW : Forest.Wf (absF d)) {q : Int} (hq : q ∈ ids d.pl) : 0 < q := by
  obtain ⟨r, hr, rfl⟩ := List.mem_map.mp hq
  exact hW.id_pos (rowCrate r) (mem_crates_of_row hr)

/-- The Spec's descendants of `c`, on the abstraction of the table (proof-level name). -/
def descSet (d : Db) (c : Int) : List Int := (absF d).descendants c

theorem mem_descSet {d : Db} {c x : Int} :
    x ∈ descSet d c ↔ x ∈ ids d.pl ∧ (absF d).isAncestor c x = true := by
  unfold descSet Forest.descendants
  rw [absF_crates]
  simp only [List.mem_map, List.mem_filter, ids, rowCrate]
  constructor
  · rintro ⟨_, ⟨⟨r, hr, rfl⟩, ha⟩, rfl⟩; exact ⟨⟨r, hr, rfl⟩, ha⟩
  · rintro ⟨⟨r, hr, rfl⟩, ha⟩; exact ⟨_, ⟨⟨r, hr, rfl⟩, ha⟩, rfl⟩

theorem mem_kidsOf {t : Table Bytes} {c x : Int} : x ∈ kidsOf t c ↔ ∃ r ∈ t, r.id = x ∧ r.key = c := by
  simp only [kidsOf, List.mem_map, List.mem_filter, beq_iff_eq]
  constructor
  · rintro ⟨r, ⟨hr, hk⟩, rfl⟩; exact ⟨r, hr, rfl, hk⟩
  · rintro ⟨r, hr, rfl, hk⟩; exact ⟨r, ⟨hr, hk⟩, rfl⟩

/-- "x is a row with parentListId y" is the Spec's parent link (y ≠ 0). -/
theorem kid_iff_parent {d : Db} (hn : (ids d.pl).Nodup) {x y : Int} (hy : y ≠ 0) :
    x ∈ kidsOf d.pl y ↔ (absF d).parentOf x = some y := by
  rw [mem_kidsOf, absF_parentOf]
  constructor
  · rintro ⟨r, hr, rfl, hk⟩
    rw [get_of_mem hn hr]
    simp [hk, parentOpt_of_ne hy]
  · intro h
    cases hg : Chain.get d.pl x with
    | none => rw [hg] at h; cases h
    | some r =>
      rw [hg] at h
      exact ⟨r, (get_some hg).1, (get_some hg).2, (parentOpt_eq_some.mp h).1⟩

theorem levels_succ {t : Table Bytes} {n : Nat} {L : List Int} (h : L ≠ []) :
    levels t (n + 1) L = (levels t n (L.flatMap (kidsOf t))).bind fun rest => .ok (L ++ rest) := by
  cases L with
  | nil => exact absurd rfl h
  | cons => rfl

/-- The level-wise recursion of the view, started with the nodes at distance `k ≥ 1` below `c`, returns the nodes at
distances `k … k+n-1`, provided there is none at distance `k+n` (otherwise it does not terminate). -/
theorem levels_spec {d : Db} (hW : Forest.Wf (absF d)) (c : Int) :
    ∀ (n k : Nat) (L : List Int), 1 ≤ k → (∀ x, x ∈ L ↔ Forest.up (absF d) k x = some c) →
      (∀ x, Forest.up (absF d) (k + n) x ≠ some c) →
      ∃ R, levels d.pl n L = .ok R ∧ ∀ x, x ∈ R ↔ ∃ j, k ≤ j ∧ j < k + n ∧ Forest.up (absF d) j x = some c := by
  have hn : (ids d.pl).Nodup := by rw [← absF_ids]; exact hW.ids_nodup
  intro n
  induction n with
  | zero =>
    intro k L _ hL hend
    have : L = [] := List.eq_nil_iff_forall_not_mem.mpr fun x hx => hend x ((hL x).mp hx)
    subst this
    exact ⟨[], rfl, fun x => ⟨nofun, fun ⟨j, h1, h2, _⟩ => absurd h2 (Nat.not_lt.mpr h1)⟩⟩
  | succ n ih =>
    intro k L hk hL hend
    by_cases hLe : L = []
    · subst hLe
      refine ⟨[], rfl, fun x => ⟨nofun, ?_⟩⟩
      rintro ⟨j, h1, _, h3⟩
      -- a node at distance j ≥ k has an ancestor-or-self at distance k, which would be in L = []
      rw [← Nat.sub_add_cancel h1, Forest.up_add] at h3
      cases hu : Forest.up (absF d) (j - k) x with
      | none => rw [hu] at h3; cases h3
      | some y => rw [hu] at h3; exact absurd ((hL y).mpr h3) List.not_mem_nil
    · -- a node with a parent chain of length k ≥ 1 is a live crate, so its id is not 0
      have h0 : ∀ y : Int, Forest.up (absF d) k y = some c → y ≠ 0 := by
        intro y hy
        obtain ⟨p, hp⟩ := Forest.up_prefix hy hk
        cases hq : (absF d).parentOf y with
        | none => simp [Forest.up, hq] at hp
        | some q =>
          exact Int.ne_of_gt (pos_of_live hW (absF_ids d ▸ Forest.live_of_parentOf hq))
      have hnext : ∀ x, x ∈ L.flatMap (kidsOf d.pl) ↔ Forest.up (absF d) (k + 1) x = some c := by
        intro x
        simp only [List.mem_flatMap, Forest.up]
        constructor
        · rintro ⟨y, hy, hxy⟩
          rw [(kid_iff_parent hn (h0 y ((hL y).mp hy))).mp hxy]
          exact (hL y).mp hy
        · intro h
          cases hp : (absF d).parentOf x with
          | none => rw [hp] at h; cases h
          | some y =>
            rw [hp] at h
            exact ⟨y, (hL y).mpr h, (kid_iff_parent hn (h0 y h)).mpr hp⟩
      have hadd : k + 1 + n = k + (n + 1) := Nat.succ_add k n
      obtain ⟨R', hR', hmem⟩ := ih (k + 1) _ (Nat.le_add_left 1 k) hnext (fun x => hadd ▸ hend x)
      refine ⟨L ++ R', by rw [levels_succ hLe, hR']; rfl, fun x => ?_⟩
      rw [List.mem_append, hL x, hmem x]
      constructor
      · rintro (h | ⟨j, h1, h2, h3⟩)
        · exact ⟨k, Nat.le_refl k, Nat.lt_add_of_pos_right (Nat.succ_pos n), h⟩
        · exact ⟨j, Nat.le_of_succ_le h1, hadd ▸ h2, h3⟩
      · rintro ⟨j, h1, h2, h3⟩
        by_cases hjk : j = k
        · exact .inl (hjk ▸ h3)
        · exact .inr ⟨j, Nat.lt_of_le_of_ne h1 (Ne.symm hjk), hadd ▸ h2, h3⟩

/-- playlist_table::descendant_ids on a well-formed table terminates and returns exactly the Spec's descendants
(as a set; the order within a level is SQLite's scan order). -/
theorem descendantIds_ok {d : Db} (hW : Forest.Wf (absF d)) (c : Int) :
    ∃ l, descendantIds d.pl c = .ok l ∧ ∀ x, x ∈ l ↔ x ∈ descSet d c := by
  have hn : (ids d.pl).Nodup := by rw [← absF_ids]; exact hW.ids_nodup
  have hlen : (absF d).crates.length = d.pl.length := by rw [absF_crates, List.length_map]
  unfold descendantIds
  split
  · next hc =>
    have hc0 : c ≠ 0 := by have := pos_of_live hW (List.contains_iff_mem.mp hc); omega
    obtain ⟨R, hR, hmem⟩ := levels_spec hW c d.pl.length 1 (kidsOf d.pl c) (Nat.le_refl 1)
      (fun x => by rw [kid_iff_parent hn hc0]; simp [Forest.up])
      (fun x h => by have := up_le_length hW h; omega)
    refine ⟨R, hR, fun x => ?_⟩
    rw [hmem x, mem_descSet, Forest.isAncestor_iff]
    constructor
    · rintro ⟨j, h1, _, h3⟩
      exact ⟨absF_ids d ▸ Forest.descendant_live ((Forest.isAncestor_iff _ _ _).mpr ⟨j, h1, h3⟩), j, h1, h3⟩
    · rintro ⟨_, j, h1, h3⟩
      have := up_le_length hW h3
      exact ⟨j, h1, by omega, h3⟩
  · next hc =>
    refine ⟨[], rfl, fun x => ⟨nofun, fun hx => ?_⟩⟩
    have := hW.ancestor_live (mem_descSet.mp hx).2
    rw [absF_ids] at this
    exact absurd (List.contains_iff_mem.mpr this) hc

theorem filter_getLast?_isSome {α : Type} (l : List α) (p : α → Bool) : (l.filter p).getLast?.isSome = l.any p := by
  rw [Bool.eq_iff_iff, List.getLast?_isSome, List.any_eq_true, Ne, List.filter_eq_nil_iff]
  simp

theorem findId_isSome (d : Db) (k : Int) (n : Bytes) :
    (findId d k n).isSome = (absF d).nameTaken (parentOpt k) n none := by
  unfold findId Forest.nameTaken
  rw [absF_crates, List.any_map, Option.isSome_map, filter_getLast?_isSome]
  congr 1
  funext r
  simp [rowCrate, parentOpt_beq, Bool.and_comm]

theorem titleClash_eq (d : Db) (i k : Int) (n : Bytes) :
    titleClash d.pl i k n = (absF d).nameTaken (parentOpt k) n (some i) := by
  unfold titleClash Forest.nameTaken
  rw [absF_crates, List.any_map]
  congr 1
  funext r
  simp only [Function.comp, rowCrate, parentOpt_beq]
  -- the same three tests on the row, conjoined in another order; `some r.id != some i` is `r.id != i`
  grind

theorem absF_childrenOpt (d : Db) (k : Int) : (absF d).childrenOpt (parentOpt k) = ids (rowsOf d.pl k) := by
  have : (absF d).childrenOpt (parentOpt k) = ((absF d).crates.filter (·.parent == parentOpt k)).map (·.id) := by
    unfold parentOpt; split <;> rfl
  rw [this, absF_crates, List.filter_map, List.map_map]
  simp only [Function.comp_def, rowCrate, parentOpt_beq]
  rfl

theorem absF_roots (d : Db) : (absF d).roots = ids (rowsOf d.pl 0) := absF_childrenOpt d 0

theorem absF_children (d : Db) {c : Int} (hc : c ≠ 0) : (absF d).children c = ids (rowsOf d.pl c) := by
  rw [← absF_childrenOpt, parentOpt_of_ne hc]; rfl

theorem absF_insert (d : Db) (i k b : Int) (title : Bytes) (seq : Int) :
    absF { d with pl := insertBefore d.pl i k b title, plSeq := seq } = ⟨(absF d).crates ++ [⟨i, title, parentOpt k⟩]⟩ := by
  simp only [absF, cores_insertBefore, List.map_append, List.map_cons, List.map_nil]
  rfl

theorem absF_setVal (d : Db) (i : Int) (title : Bytes) :
    absF { d with pl := setVal d.pl i title } = Forest.setNameOf (absF d) i title := by
  simp only [absF, cores_setVal, Forest.setNameOf, List.map_map]
  congr 1
  apply List.map_congr_left
  intro c _
  simp only [Function.comp, crateOf]
  by_cases h : (c.1 == i) = true <;> simp [h]

theorem absF_move (d : Db) (i ok on nk tg : Int) (v : Bytes) (hv : ∀ r ∈ d.pl, r.id = i → r.val = v) :
    absF { d with pl := move d.pl i ok on nk tg v } = Forest.setParentOf (absF d) i (parentOpt nk) := by
  simp only [absF, cores_move, Forest.setParentOf, List.map_map]
  congr 1
  apply List.map_congr_left
  intro c hc
  obtain ⟨r, hr, rfl⟩ := mem_cores.mp hc
  simp only [Function.comp, crateOf, core]
  by_cases h : r.id = i
  · simp [h, hv r hr h]
  · simp [h]

end EngineModel.Db.V2
