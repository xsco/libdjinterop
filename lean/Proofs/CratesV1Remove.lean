/-
database::remove_crate on a state satisfying `Inv`: exact outcome (for live and
for removed handles), preservation of `Inv`, and the rows that survive.
-/
import Proofs.CratesV1SetParent

namespace EngineModel.Api.CratesV1
open EngineModel.Pure.Detect EngineModel.Spec

theorem Db.ext_tables {a b : Db} (h1 : a.crate = b.crate) (h2 : a.cpl = b.cpl) (h3 : a.ch = b.ch) (h4 : a.ctl = b.ctl)
    (h5 : a.track = b.track) (h6 : a.trackSeq = b.trackSeq) : a = b := by
  cases a; cases b; simp_all

def removeOne (s : Schema) (acc : Db) (id : Id) : Db :=
  let a1 := deleteCtl s acc (fun r => r.1 == id)
  let a2 := { a1 with ch := deletePairs s a1.ch (fun r => r.1 == id || r.2 == id) }
  let a3 := { a2 with cpl := deletePairs s a2.cpl (fun r => r.1 == id) }
  { a3 with crate := deleteCrate s a3.crate id }

def dropIds (db : Db) (L : List Id) : Db :=
  { db with crate := db.crate.filter (fun r => !L.contains r.id),
            cpl := db.cpl.filter (fun r => !L.contains r.1),
            ch := db.ch.filter (fun r => !(L.contains r.1 || L.contains r.2)),
            ctl := db.ctl.filter (fun r => !L.contains r.1) }

def afterRemove (db : Db) (c : Id) : Db := dropIds db (subtreeList db c)

theorem removeOne_tables (s : Schema) (acc : Db) (id : Id) :
    (removeOne s acc id).crate = acc.crate.filter (fun r => !(r.id == id)) ∧
    (removeOne s acc id).cpl = acc.cpl.filter (fun r => !(r.1 == id)) ∧
    (removeOne s acc id).ch = acc.ch.filter (fun r => !(r.1 == id || r.2 == id)) ∧
    (removeOne s acc id).track = acc.track ∧ (removeOne s acc id).trackSeq = acc.trackSeq := by
  obtain ⟨h1, h2, h3, h4, h5⟩ := deleteCtl_other s acc (fun r => r.1 == id)
  unfold removeOne
  simp only [deleteCrate_eq, deletePairs_eq, h1, h2, h3, h4, h5, and_self]

theorem filter_not_contains_cons {α} (f : α → Id) (a : Id) (t : List Id) (l : List α) :
    (l.filter (fun r => !(f r == a))).filter (fun r => !t.contains (f r)) = l.filter (fun r => !(a :: t).contains (f r)) := by
  rw [List.filter_filter]
  apply List.filter_congr
  intro r _
  simp only [List.contains_cons, Bool.not_or, Bool.and_comm]

/-- Whatever the membership table holds, the loop of remove_crate drops the listed crates from Crate,
CrateParentList and CrateHierarchy and leaves Track alone. -/
theorem removeLoop_tables (s : Schema) (L : List Id) : ∀ (acc : Db),
    (L.foldl (removeOne s) acc).crate = (dropIds acc L).crate ∧ (L.foldl (removeOne s) acc).cpl = (dropIds acc L).cpl ∧
    (L.foldl (removeOne s) acc).ch = (dropIds acc L).ch ∧
    (L.foldl (removeOne s) acc).track = acc.track ∧ (L.foldl (removeOne s) acc).trackSeq = acc.trackSeq := by
  induction L with
  | nil => intro acc; simp [dropIds]
  | cons a t ih =>
    intro acc
    obtain ⟨h1, h2, h3, h4, h5⟩ := removeOne_tables s acc a
    obtain ⟨i1, i2, i3, i4, i5⟩ := ih (removeOne s acc a)
    simp only [List.foldl_cons, dropIds] at i1 i2 i3 ⊢
    refine ⟨?_, ?_, ?_, i4.trans h4, i5.trans h5⟩
    · rw [i1, h1]; exact filter_not_contains_cons (fun r : CrateRow => r.id) a t _
    · rw [i2, h2]; exact filter_not_contains_cons (fun r : Id × Id => r.1) a t _
    · rw [i3, h3, List.filter_filter]
      apply List.filter_congr
      intro r _
      simp only [List.contains_cons]
      generalize (r.1 == a) = x; generalize (t.contains r.1) = y
      generalize (r.2 == a) = x'; generalize (t.contains r.2) = y'
      cases x <;> cases y <;> cases x' <;> cases y' <;> rfl

/-- While every membership row is on a live crate, the view hides none of the rows the loop deletes:
the crate whose rows go next has not been deleted yet. -/
theorem removeLoop_ctl (s : Schema) {db : Db} (hctl : ∀ r ∈ db.ctl, r.1 ∈ ids db) : ∀ (L done : List Id) (acc : Db),
    (done ++ L).Nodup → acc.crate = (dropIds db done).crate → acc.ctl = (dropIds db done).ctl →
    (L.foldl (removeOne s) acc).ctl = (dropIds db (done ++ L)).ctl := by
  intro L
  induction L with
  | nil => intro done acc _ _ h2; simpa using h2
  | cons id L ih =>
    intro done acc hnd h1 h2
    have hid : id ∉ done := fun hm => (List.nodup_append.mp hnd).2.2 id hm id (by simp) rfl
    have hsnoc : ∀ x : Id, (done ++ [id]).contains x = (done.contains x || x == id) := by
      intro x; by_cases h1 : x ∈ done <;> by_cases h2 : x = id <;> simp [h1, h2]
    rw [List.foldl_cons, ih (done ++ [id]) _ (by simpa using hnd)]
    · simp
    · rw [(removeOne_tables s acc id).1, h1]
      simp only [dropIds, List.filter_filter]
      apply List.filter_congr
      intro r _
      rw [hsnoc, Bool.not_or, Bool.and_comm]
    · show (deleteCtl s acc (fun r => r.1 == id)).ctl = _
      rw [deleteCtl_ctl, h2]
      simp only [dropIds, List.filter_filter]
      apply List.filter_congr
      intro r hr
      rw [hsnoc, Bool.not_or, Bool.and_comm]
      congr 1
      by_cases hrid : r.1 = id
      · obtain ⟨row, hrow, hrowid⟩ := exists_row (hctl r hr)
        have : ctlVisible s acc r = true := by
          unfold ctlVisible crateExists
          rw [Bool.or_eq_true, List.any_eq_true]
          refine Or.inr ⟨row, ?_, by simp [hrowid]⟩
          rw [h1]
          simp only [dropIds, List.mem_filter]
          exact ⟨hrow, by simpa [hrowid, hrid] using hid⟩
        simp [this, hrid]
      · simp [hrid]

variable {db : Db}

/-- remove_crate never throws; on a removed handle it changes nothing (see `afterRemove_dead`). -/
theorem removeCrate_eq (s : Schema) (h : Inv db) (c : Id) : removeCrate s db c = (afterRemove db c, .ok .unit) := by
  show ((subtreeList db c).foldl (removeOne s) db, Res.ok Out.unit) = _
  obtain ⟨t1, t2, t3, t4, t5⟩ := removeLoop_tables s (subtreeList db c) db
  have t6 := removeLoop_ctl s (fun r hr => (h.ctlLive r hr).1) (subtreeList db c) [] db
    (by simpa using subtreeList_nodup h.toFInv c) (by simp [dropIds]) (by simp [dropIds])
  rw [List.nil_append] at t6
  exact congrArg (·, Res.ok Out.unit) (Db.ext_tables (b := afterRemove db c) t1 t2 t3 t6 t4 t5)

theorem subtreeList_dead (h : FInv db) {c : Id} (hc : c ∉ ids db) : subtreeList db c = [c] := by
  unfold subtreeList
  have : db.ch.filter (·.1 == c) = [] := by
    rw [List.filter_eq_nil_iff]
    intro r hr he
    simp only [beq_iff_eq] at he
    exact hc (he ▸ (h.chLive r hr).1)
  rw [this]; rfl

theorem afterRemove_dead (h : Inv db) {c : Id} (hc : c ∉ ids db) : afterRemove db c = db := by
  unfold afterRemove
  rw [subtreeList_dead h.toFInv hc]
  apply Db.ext_tables <;> simp only [dropIds]
  · rw [List.filter_eq_self]
    intro r hr
    have : r.id ≠ c := fun e => hc (e ▸ mem_ids_of_mem hr)
    simp [this]
  · rw [List.filter_eq_self]
    intro r hr
    have : r.1 ≠ c := fun e => hc (e ▸ (h.cplTotal r.1).mp (mem_map_fst hr))
    simp [this]
  · rw [List.filter_eq_self]
    intro r hr
    have h1 : r.1 ≠ c := fun e => hc (e ▸ (h.chLive r hr).1)
    have h2 : r.2 ≠ c := fun e => hc (e ▸ (h.chLive r hr).2)
    simp [h1, h2]
  · rw [List.filter_eq_self]
    intro r hr
    have : r.1 ≠ c := fun e => hc (e ▸ (h.ctlLive r hr).1)
    simp [this]

theorem not_contains_subtree (db : Db) (c y : Id) : (!(subtreeList db c).contains y) = true ↔ ¬ Sub db c y := by
  simp [mem_subtreeList]

theorem mem_ids_afterRemove (db : Db) (c y : Id) : y ∈ ids (afterRemove db c) ↔ (y ∈ ids db ∧ ¬ Sub db c y) := by
  unfold ids afterRemove dropIds
  simp only [List.mem_map, List.mem_filter, not_contains_subtree]
  constructor
  · rintro ⟨r, ⟨hr, hs⟩, rfl⟩; exact ⟨⟨r, hr, rfl⟩, hs⟩
  · rintro ⟨⟨r, hr, rfl⟩, hs⟩; exact ⟨r, ⟨hr, hs⟩, rfl⟩

theorem mem_crate_afterRemove (db : Db) (c : Id) (r : CrateRow) :
    r ∈ (afterRemove db c).crate ↔ (r ∈ db.crate ∧ ¬ Sub db c r.id) := by
  unfold afterRemove dropIds
  simp only [List.mem_filter, not_contains_subtree]

theorem mem_cpl_afterRemove (db : Db) (c : Id) (r : Id × Id) :
    r ∈ (afterRemove db c).cpl ↔ (r ∈ db.cpl ∧ ¬ Sub db c r.1) := by
  unfold afterRemove dropIds
  simp only [List.mem_filter, not_contains_subtree]

theorem mem_ch_afterRemove (db : Db) (c : Id) (r : Id × Id) :
    r ∈ (afterRemove db c).ch ↔ (r ∈ db.ch ∧ ¬ Sub db c r.1 ∧ ¬ Sub db c r.2) := by
  unfold afterRemove dropIds
  simp only [List.mem_filter, Bool.not_eq_eq_eq_not, Bool.not_true, Bool.or_eq_false_iff]
  have e1 := not_contains_subtree db c r.1
  have e2 := not_contains_subtree db c r.2
  simp only [Bool.not_eq_eq_eq_not, Bool.not_true] at e1 e2
  rw [e1, e2]

theorem mem_ctl_afterRemove (db : Db) (c : Id) (r : Id × Id) :
    r ∈ (afterRemove db c).ctl ↔ (r ∈ db.ctl ∧ ¬ Sub db c r.1) := by
  unfold afterRemove dropIds
  simp only [List.mem_filter, not_contains_subtree]

theorem finv_remove (h : FInv db) (c : Id) : FInv (afterRemove db c) := by
  apply h.remove (c := c)
  · exact mem_ids_afterRemove db c
  · exact h.idsNodup.sublist (List.Sublist.map _ List.filter_sublist)
  · exact mem_cpl_afterRemove db c
  · exact h.cplNodup.sublist (List.Sublist.map _ List.filter_sublist)
  · exact mem_ch_afterRemove db c
  · exact h.chNodup.sublist List.filter_sublist

theorem rowPath_afterRemove (db : Db) (c : Id) {p : Id} (hp : ¬ Sub db c p) :
    rowPath (afterRemove db c) p = rowPath db p := by
  unfold rowPath
  have : (afterRemove db c).crate.find? (·.id == p) = db.crate.find? (·.id == p) := by
    unfold afterRemove dropIds
    apply find?_filter_of_imp
    intro x _ hx
    simp only [beq_iff_eq] at hx
    rw [not_contains_subtree, hx]; exact hp
  rw [this]

theorem parentOf_afterRemove (db : Db) (c : Id) {y : Id} (hy : ¬ Sub db c y) :
    parentOf (afterRemove db c) y = parentOf db y := by
  unfold parentOf
  have : (afterRemove db c).cpl.find? (·.1 == y) = db.cpl.find? (·.1 == y) := by
    unfold afterRemove dropIds
    apply find?_filter_of_imp
    intro x _ hx
    simp only [beq_iff_eq] at hx
    rw [not_contains_subtree, hx]; exact hy
  rw [this]

theorem inv_remove (h : Inv db) (c : Id) : Inv (afterRemove db c) := by
  refine ⟨finv_remove h.toFInv c, ?_, ?_, ?_, ?_, ?_⟩
  · intro r hr
    exact h.namesValid r ((mem_crate_afterRemove db c r).mp hr).1
  · intro r hr p hp
    obtain ⟨hr0, hs⟩ := (mem_crate_afterRemove db c r).mp hr
    obtain ⟨hp0, _⟩ := (mem_cpl_afterRemove db c _).mp hp
    rw [h.pathStep r hr0 p hp0]
    by_cases hpe : p = r.id
    · simp [hpe]
    · simp only [hpe, if_false]
      rw [rowPath_afterRemove db c (h.toFInv.not_sub_par hs (p := p) ⟨hp0, hpe⟩)]
  · exact h.ctlNodup.sublist List.filter_sublist
  · intro r hr
    obtain ⟨hr0, hs⟩ := (mem_ctl_afterRemove db c r).mp hr
    exact ⟨(mem_ids_afterRemove db c r.1).mpr ⟨(h.ctlLive r hr0).1, hs⟩, (liveTrack_congr rfl _).mpr (h.ctlLive r hr0).2⟩
  · exact h.trackNodup

theorem abs_afterRemove (h : FInv db) (c : Id) : absForest (afterRemove db c) = Forest.removeSubtree (absForest db) c := by
  apply forest_ext
  show (absForest (afterRemove db c)).crates = (absForest db).crates.filter _
  rw [abs_crates, abs_crates, List.filter_map]
  have hpred : ∀ r : CrateRow,
      ((fun x : Forest.Crate => !(x.id == c || (absForest db).isAncestor c x.id)) ∘
        fun r : CrateRow => (⟨r.id, r.title, parentOf db r.id⟩ : Forest.Crate)) r
        = !(subtreeList db c).contains r.id := by
    intro r
    simp only [Function.comp_apply]
    rw [Bool.eq_iff_iff, not_contains_subtree]
    simp only [Bool.not_eq_eq_eq_not, Bool.not_true, Bool.or_eq_false_iff, beq_eq_false_iff_ne, ne_eq]
    unfold Sub
    rw [← isAncestor_iff h]
    constructor
    · rintro ⟨h1, h2⟩ (e | hm)
      · exact h1 e
      · rw [hm] at h2; cases h2
    · intro hn
      refine ⟨fun e => hn (Or.inl e), ?_⟩
      cases hx : (absForest db).isAncestor c r.id with
      | false => rfl
      | true => exact absurd (Or.inr hx) hn
  have hfil : db.crate.filter ((fun x : Forest.Crate => !(x.id == c || (absForest db).isAncestor c x.id)) ∘
        fun r : CrateRow => (⟨r.id, r.title, parentOf db r.id⟩ : Forest.Crate))
      = (afterRemove db c).crate := by
    unfold afterRemove dropIds
    apply List.filter_congr
    intro r _
    exact hpred r
  rw [hfil]
  apply List.map_congr_left
  intro r hr
  rw [parentOf_afterRemove db c ((mem_crate_afterRemove db c r).mp hr).2]

end EngineModel.Api.CratesV1
