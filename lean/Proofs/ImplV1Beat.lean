/-
Agreement of the Model's schema-1.x beat-data codec with the Spec
(`Format/V1.lean`).  The wire format is the 2.x one (`V2.beat`); the 1.x decoder
adds the grid validation (`checkWire` ↔ `wireGridOk`), the `try … catch` around
the two grids and the zero-only trailer.

The `try … catch` makes the C++ accept one family of payloads the Spec rejects:
a well-formed first grid followed by fewer than 8 zero bytes (the second grid's
count is missing) decodes to *no* grids.  `missingSecondGrid` holds of a valid first
grid followed by fewer than 8 bytes of any kind; outside it Model and Spec agree on
every byte string.
-/
import Proofs.ImplV1

namespace EngineModel
namespace V1Proofs
open Codec Cur Impl.V2

theorem validGrid_go_eq : ∀ (rest : List Impl.V1.GMarker) (a : Impl.V1.GMarker),
    Impl.V1.validGrid.go (a :: rest) = V1.gridOk.go (a :: rest) := by
  intro rest
  induction rest with
  | nil => intro a; rfl
  | cons b rest ih =>
    intro a
    simp only [Impl.V1.validGrid.go, V1.gridOk.go, ih b]
    have : (0 < Prim.s32 b.index - Prim.s32 a.index) ↔ (Prim.s32 a.index < Prim.s32 b.index) := by omega
    simp only [this]

theorem validGrid_eq (g : List Impl.V1.GMarker) : Impl.V1.validGrid g = V1.gridOk g := by
  match g with
  | [] => rfl
  | [_] => rfl
  | a :: b :: rest =>
    simp only [Impl.V1.validGrid, V1.gridOk, validGrid_go_eq]

theorem toWire_eq : ∀ (g : List Impl.V1.GMarker), Impl.V1.toWire g = V1.gridToWire g
  | [] => rfl
  | [_] => rfl
  | a :: b :: rest => by
    simp only [Impl.V1.toWire, V1.gridToWire, toWire_eq (b :: rest)]

theorem gridToWire_length : ∀ (g : List Impl.V1.GMarker), (V1.gridToWire g).length = g.length
  | [] => rfl
  | [_] => rfl
  | a :: b :: rest => by
    simp only [V1.gridToWire, List.length_cons, gridToWire_length (b :: rest)]

/-- The wire value a 1.x beat-data struct is written as. -/
def beatWire (v : Impl.V1.Beat) : V2.Beat :=
  ⟨v.sampleRate.getD 0, v.sampleCount.getD 0, 1, V1.gridToWire v.dflt, V1.gridToWire v.adj⟩

theorem encodeBeat_ok (v : Impl.V1.Beat) (h1 : V1.gridOk v.dflt = true) (h2 : V1.gridOk v.adj = true) :
    Impl.V1.encodeBeat v = .ok (V2.beat.enc (beatWire v)) := by
  rw [ArithZ.encodeBeat_eq_Z]
  unfold ArithZ.encodeBeatZ
  simp only [validGrid_eq, h1, h2, Bool.not_true, Bool.or_self, Bool.false_eq_true, if_false, toWire_eq]
  apply writeInto_exact
  rw [beat_enc_length]
  simp [gridToWire_length]

theorem encodeBeat_reject (v : Impl.V1.Beat) (h : ¬ (V1.gridOk v.dflt = true ∧ V1.gridOk v.adj = true)) :
    Impl.V1.encodeBeat v = .throw .invalid_argument := by
  rw [ArithZ.encodeBeat_eq_Z]
  unfold ArithZ.encodeBeatZ
  simp only [validGrid_eq]
  -- the encoder's test is "not both grids valid": `h` excludes true/true, the other three cases throw
  cases h1 : V1.gridOk v.dflt <;> cases h2 : V1.gridOk v.adj <;> simp_all

theorem encodeBeat_follows (v : Impl.V1.Beat) : Follows (Impl.V1.encodeBeat v) (V1.encodeBeat v) := by
  by_cases h : V1.gridOk v.dflt = true ∧ V1.gridOk v.adj = true
  · exact .accepts (by simp only [V1.encodeBeat, h.1, h.2, Bool.and_self, if_true]; rfl) (encodeBeat_ok v h.1 h.2)
  · have hn : (V1.gridOk v.dflt && V1.gridOk v.adj) = false :=
      Bool.eq_false_iff.mpr (by rwa [Ne, Bool.and_eq_true])
    exact .rejects (by simp only [V1.encodeBeat, hn]; rfl) ⟨_, encodeBeat_reject v h⟩

/-- One step of the decoding loop's checks against one step of the Spec's two predicates:
the announced count bounds the index difference, so the Spec's range test is implied. -/
theorem checkWire_step (ia ib na : Int) (hna : na ≤ 2147483647) (le G C : Bool) :
    (decide (ia < ib) && decide (ib - ia ≤ 2147483647) && !le && G && (decide (ib - ia = na) && C)) =
      (!(decide (ib ≤ ia) || le || decide (ib - ia ≠ na)) && (G && C)) := by
  by_cases h1 : ia < ib
  · by_cases h3 : ib - ia = na
    · have h1' : ¬ ib ≤ ia := by omega
      subst h3
      cases le <;> cases G <;> simp [h1, h1', hna]
    · cases le <;> simp [h3]
  · have h1' : ib ≤ ia := by omega
    simp [h1, h1']

theorem checkWire_some_cons (p : Impl.V1.GMarker) (nb : UInt32) (m : V2.Marker) (rest : List V2.Marker) :
    Impl.V1.checkWire (some (p, nb)) (m :: rest) =
      if (decide (Prim.s32 (Impl.V1.lowInt m.beatNo) ≤ Prim.s32 p.index) || F64.le m.off p.off ||
          decide (Prim.s32 (Impl.V1.lowInt m.beatNo) - Prim.s32 p.index ≠ Prim.s32 nb)) = true
      then .throw .invalid_argument else
      match Impl.V1.checkWire (some (⟨Impl.V1.lowInt m.beatNo, m.off⟩, m.nBeats)) rest with
      | .ok l => .ok (⟨Impl.V1.lowInt m.beatNo, m.off⟩ :: l)
      | .throw e => .throw e
      | .ub u => .ub u := rfl

theorem checkWire_some : ∀ (rest : List V2.Marker) (a : V2.Marker),
    Impl.V1.checkWire (some (⟨UInt32.ofNat (a.beatNo.toNat % 4294967296), a.off⟩, a.nBeats)) rest =
      if (V1.gridOk.go (V1.gridOfWire (a :: rest)) && V1.countsOk (a :: rest)) = true
      then .ok (V1.gridOfWire rest) else .throw .invalid_argument := by
  intro rest
  induction rest with
  | nil =>
    intro a
    by_cases h : a.nBeats = 0 <;> simp [Impl.V1.checkWire, V1.gridOk.go, V1.countsOk, V1.gridOfWire, h]
  | cons b rest ih =>
    intro a
    rw [checkWire_some_cons, Impl.V1.lowInt, ih b]
    simp only [V1.gridOfWire, List.map_cons, V1.gridOk.go, V1.countsOk]
    rw [checkWire_step _ _ _ (by have := Prim.s32_range a.nBeats; omega)]
    split
    · rename_i hb
      simp only [hb, Bool.not_true, Bool.false_and, Bool.false_eq_true, if_false]
    · rename_i hb
      simp only [Bool.not_eq_true] at hb
      simp only [hb, Bool.not_false, Bool.true_and]
      generalize (V1.gridOk.go _ && V1.countsOk _) = X
      cases X <;> rfl
theorem checkWire_none_cons (m : V2.Marker) (rest : List V2.Marker) :
    Impl.V1.checkWire none (m :: rest) =
      match Impl.V1.checkWire (some (⟨UInt32.ofNat (m.beatNo.toNat % 4294967296), m.off⟩, m.nBeats)) rest with
      | .ok l => .ok (⟨UInt32.ofNat (m.beatNo.toNat % 4294967296), m.off⟩ :: l)
      | .throw e => .throw e
      | .ub u => .ub u := by
  rfl

theorem gridOfWire_length (ws : List V2.Marker) : (V1.gridOfWire ws).length = ws.length := by
  simp [V1.gridOfWire]

theorem checkWire_none (ws : List V2.Marker) (h2 : 2 ≤ ws.length) (hmax : ws.length ≤ 32768) :
    Impl.V1.checkWire none ws =
      if V1.wireGridOk ws = true then .ok (V1.gridOfWire ws) else .throw .invalid_argument := by
  match ws, h2, hmax with
  | a :: b :: rest, _, hmax =>
    rw [checkWire_none_cons, checkWire_some]
    have hlen : ((V1.gridOfWire (a :: b :: rest)).length ≤ 32768) := by rw [gridOfWire_length]; exact hmax
    have hg : V1.gridOk (V1.gridOfWire (a :: b :: rest)) = V1.gridOk.go (V1.gridOfWire (a :: b :: rest)) := by
      simp only [V1.gridOfWire, List.map_cons, List.length_cons, List.length_map] at hlen ⊢
      simp only [V1.gridOk, List.length_cons, List.length_map, hlen, decide_true, Bool.true_and]
    simp only [V1.wireGridOk, hg]
    by_cases hX : (V1.gridOk.go (V1.gridOfWire (a :: b :: rest)) && V1.countsOk (a :: b :: rest)) = true
    · simp only [hX, if_true]; rfl
    · simp [hX]

theorem wireGridOk_length {ws : List V2.Marker} (h : V1.wireGridOk ws = true) :
    ws.length = 0 ∨ (2 ≤ ws.length ∧ ws.length ≤ 32768) := by
  match ws with
  | [] => exact Or.inl rfl
  | [_] => simp [V1.wireGridOk, V1.gridOfWire, V1.gridOk] at h
  | a :: b :: rest =>
    simp only [V1.wireGridOk, V1.gridOfWire, List.map_cons, V1.gridOk, Bool.and_eq_true, decide_eq_true_eq,
      List.length_cons, List.length_map] at h
    exact Or.inr ⟨by simp, h.1.1⟩

theorem decodeGrid_eq (bs : Bytes) : Impl.V1.decodeGrid bs =
    match V2.grid.dec bs with
    | some (ws, r) => if V1.wireGridOk ws = true then .ok (V1.gridOfWire ws, r) else .throw .invalid_argument
    | none => .throw .invalid_argument := by
  rw [ArithZ.decodeGrid1_eq_Z]
  unfold ArithZ.decodeGrid1Z V2.grid counted
  simp only [bind_run, remaining_run]
  by_cases h8 : bs.length < 8
  · simp [h8, u64be_fixed.dec_none h8]
  · have h8' : 8 ≤ bs.length := by omega
    simp only [h8, if_false, rd_u64be_run h8', u64be_fixed.dec_run h8', bind_run]
    generalize u64be.get bs = k
    generalize bs.drop 8 = r
    by_cases hk : k.toNat < maxCount
    · rw [Prim.s64_of_lt k hk]
      by_cases h0 : k.toNat = 0
      · have : 0 < maxCount := by unfold maxCount; omega
        simp [h0, this, decN, V1.wireGridOk, V1.gridOk, V1.countsOk, V1.gridOfWire]
      · by_cases hin : 2 ≤ k.toNat ∧ k.toNat ≤ 32768
        · have hG : ((r.length : Int) < 24 * (k.toNat : Int)) ↔ ¬ (k.toNat < maxCount ∧ 24 * k.toNat ≤ r.length) := by
            omega
          rw [counted_guard V2.marker_exact (w := 24) (fun a _ => by rw [V2.marker_enc_length]; omega) k r hG,
            if_neg (by omega), if_neg (by omega), if_neg (by omega)]
          simp only [bind_run, remaining_run]
          split
          · rfl
          · rename_i hg
            obtain ⟨l, hl⟩ := decN_some_of_len V2.marker_fixed k.toNat r (by omega)
            obtain ⟨hll, _, _⟩ := decN_exact V2.marker_exact _ _ _ _ hl
            erw [bind_run, forN_rd_eq, hl]
            simp only [checkWire_none l (by omega) (by omega)]
            cases V1.wireGridOk l <;> rfl
        -- the C++ rejects the count itself; the Spec reads that many markers and rejects their number (`wireGridOk_length`)
        · have hthrow : ∀ x : Cur (List Impl.V1.GMarker),
              (if (k.toNat : Int) = 0 then pure [] else if (k.toNat : Int) < 2 then throwC .invalid_argument else
                if (k.toNat : Int) > 32768 then throwC .invalid_argument else x) r = .throw .invalid_argument := by
            intro x
            rw [if_neg (by omega)]
            by_cases h2 : (k.toNat : Int) < 2
            · rw [if_pos h2]; rfl
            · rw [if_neg h2, if_pos (by omega)]; rfl
          rw [hthrow, if_pos hk]
          cases hd : decN V2.marker k.toNat r with
          | none => rfl
          | some p =>
            obtain ⟨l, r'⟩ := p
            have hl := (decN_exact V2.marker_exact _ _ _ _ hd).1
            cases hW : V1.wireGridOk l with
            | false => simp only [hW, Bool.false_eq_true, if_false]
            | true => have := wireGridOk_length hW; omega
    · have hneg : Prim.s64 k < 0 := (Prim.s64_neg_iff k).mpr (Nat.le_of_not_lt hk)
      rw [if_neg hk, if_neg (by omega), if_pos (by omega)]
      rfl
/-- One validated grid, read by the Spec. -/
def gridV (bs : Bytes) : Option (List Impl.V1.GMarker × Bytes) :=
  match V2.grid.dec bs with
  | some (ws, r) => if V1.wireGridOk ws = true then some (V1.gridOfWire ws, r) else none
  | none => none

theorem decodeGrid_gridV (bs : Bytes) : Impl.V1.decodeGrid bs = ofOpt (gridV bs) := by
  rw [decodeGrid_eq]
  unfold gridV
  cases V2.grid.dec bs with
  | none => rfl
  | some p =>
    obtain ⟨ws, r⟩ := p
    by_cases h : V1.wireGridOk ws = true <;> simp [h]

theorem gridV_short (bs : Bytes) (h : bs.length < 8) : gridV bs = none := by
  unfold gridV V2.grid counted
  simp [u64be_fixed.dec_none h]

theorem gridV_some_length {bs : Bytes} {d r} (h : gridV bs = some (d, r)) : 8 + r.length ≤ bs.length := by
  unfold gridV at h
  cases hd : V2.grid.dec bs with
  | none => rw [hd] at h; simp at h
  | some p =>
    obtain ⟨ws, r'⟩ := p
    rw [hd] at h
    simp only at h
    split at h
    · simp only [Option.some.injEq, Prod.mk.injEq] at h
      obtain ⟨_, rfl⟩ := h
      have := (V2.grid_exact _ _ _ hd).2
      rw [this, List.length_append, grid_enc_length]
      omega
    · simp at h

theorem gridV_zero (bs : Bytes) (hz : Impl.V1.allZero bs = true) (h8 : 8 ≤ bs.length) :
    gridV bs = some ([], bs.drop 8) := by
  -- the first eight bytes are the encoding of the count 0, which the round trip reads back
  have hz' : ∀ x ∈ bs, x = 0 := by simpa [Impl.V1.allZero] using hz
  have ht : bs.take 8 = List.replicate 8 (0 : UInt8) :=
    List.eq_replicate_iff.mpr ⟨by rw [List.length_take]; omega, fun x hx => hz' x (List.mem_of_mem_take hx)⟩
  have he : u64be.enc 0 = List.replicate 8 (0 : UInt8) := by decide
  have hd := u64be_sound 0 trivial (bs.drop 8)
  rw [he, ← ht, List.take_append_drop] at hd
  unfold gridV V2.grid counted
  simp only [hd]
  rfl

/-- The payloads only the C++ accepts: a valid first grid followed by fewer than 8 bytes. -/
def missingSecondGrid (bs : Bytes) : Bool :=
  decide (33 ≤ bs.length) &&
    match gridV (bs.drop 17) with
    | some (_, r1) => decide (r1.length < 8)
    | none => false

/-- What `beat_data::decode` does after the two grids. -/
def beatFin (sr sc : UInt64) (d a : List Impl.V1.GMarker) (r : Bytes) : Res Impl.V1.Beat :=
  if !Impl.V1.allZero r then .throw .invalid_argument else
  .ok ⟨if F64.isZero sr then none else some sr, if F64.isZero sc then none else some sc, d, a⟩

theorem decodeBeat_run (bs : Bytes) (h : 33 ≤ bs.length) :
    Impl.V1.decodeBeat bs =
      match gridV (bs.drop 17) with
      | none => beatFin (u64be.get bs) (u64be.get (bs.drop 8)) [] [] (bs.drop 17)
      | some (d, r1) =>
        match gridV r1 with
        | none => beatFin (u64be.get bs) (u64be.get (bs.drop 8)) [] [] r1
        | some (a, r2) => beatFin (u64be.get bs) (u64be.get (bs.drop 8)) d a r2 := by
  unfold Impl.V1.decodeBeat
  have hlen : ¬ bs.length < 33 := by omega
  have r1 := rd_u64be_run (bs := bs) (by omega)
  have r2 := rd_u64be_run (bs := bs.drop 8) (by simp; omega)
  have r3 := rd_u8_run (bs := bs.drop 16) (by simp; omega)
  simp only [List.drop_drop, Nat.reduceAdd] at r2 r3
  simp only [hlen, if_false, bind_run, r1, r2, r3, pure_run, decodeGrid_gridV]
  cases h1 : gridV (bs.drop 17) with
  | none => simp [ofOpt, beatFin]
  | some p =>
    obtain ⟨d, r1'⟩ := p
    cases h2 : gridV r1' with
    | none => simp [ofOpt, beatFin, h2]
    | some q => obtain ⟨a, r2'⟩ := q; simp [ofOpt, beatFin, h2]

theorem beat_dec_run (bs : Bytes) (h : 17 ≤ bs.length) :
    V2.beat.dec bs =
      match V2.grid.dec (bs.drop 17) with
      | none => none
      | some (d, r1) =>
        match V2.grid.dec r1 with
        | none => none
        | some (a, r2) => some (⟨u64be.get bs, u64be.get (bs.drop 8), u8.get (bs.drop 16), d, a⟩, r2) := by
  have e1 := u64be_fixed.dec_run (bs := bs) (by omega)
  have e2 := u64be_fixed.dec_run (bs := bs.drop 8) (by rw [List.length_drop]; omega)
  have e3 := u8_fixed.dec_run (bs := bs.drop 16) (by rw [List.length_drop]; omega)
  simp only [List.drop_drop, Nat.reduceAdd] at e2 e3
  simp only [V2.beat, map, pair, e1, e2, e3]
  cases V2.grid.dec (bs.drop 17) with
  | none => rfl
  | some p =>
    obtain ⟨d, r1⟩ := p
    dsimp only
    cases V2.grid.dec r1 <;> rfl

theorem spec_decodeBeat_run (bs : Bytes) (h : 33 ≤ bs.length) :
    V1.decodeBeat bs =
      match gridV (bs.drop 17) with
      | none => none
      | some (d, r1) =>
        match gridV r1 with
        | none => none
        | some (a, r2) =>
          if Impl.V1.allZero r2 = true then
            some ⟨V1.optZ (u64be.get bs), V1.optZ (u64be.get (bs.drop 8)), d, a⟩
          else none := by
  unfold V1.decodeBeat gridV
  rw [beat_dec_run bs (by omega)]
  cases h1 : V2.grid.dec (List.drop 17 bs) with
  | none => rfl
  | some p =>
    obtain ⟨ws, r1⟩ := p
    dsimp only
    cases h2 : V2.grid.dec r1 with
    | none => cases V1.wireGridOk ws <;> simp only [h2, Bool.false_eq_true, if_false, if_true]
    | some q =>
      obtain ⟨ws2, r2⟩ := q
      cases hW : V1.wireGridOk ws
      · simp only [hW, Bool.false_eq_true, if_false, Bool.false_and]
      · cases hW2 : V1.wireGridOk ws2
        · simp only [hW, hW2, h2, Bool.false_eq_true, if_false, if_true, Bool.false_and, Bool.true_and]
        · simp only [hW, hW2, h2, if_true, Bool.true_and, Impl.V1.allZero]
          rfl

/-- Where no grid can be read from at least 8 bytes, they are not all zero, so the trailer test fails. -/
theorem beatFin_of_gridV_none (sr sc : UInt64) (d a : List Impl.V1.GMarker) {r : Bytes}
    (h : gridV r = none) (h8 : 8 ≤ r.length) : beatFin sr sc d a r = .throw .invalid_argument := by
  cases hz : Impl.V1.allZero r with
  | false => simp [beatFin, hz]
  | true => rw [gridV_zero r hz h8] at h; cases h

theorem decodeBeat_eq (bs : Bytes) (hm : missingSecondGrid bs = false) :
    Impl.V1.decodeBeat bs = ofOpt (V1.decodeBeat bs) := by
  by_cases h33 : bs.length < 33
  · unfold Impl.V1.decodeBeat V1.decodeBeat
    rw [dec_none_of_short V2.beat_exact (n := 33) (fun a _ => by rw [beat_enc_length]; omega) h33]
    simp [h33]
  · have h : 33 ≤ bs.length := by omega
    rw [decodeBeat_run bs h, spec_decodeBeat_run bs h]
    unfold missingSecondGrid at hm
    cases h1 : gridV (bs.drop 17) with
    | none =>
      simp only []
      rw [beatFin_of_gridV_none _ _ _ _ h1 (by rw [List.length_drop]; omega)]; rfl
    | some p =>
      obtain ⟨d, r1⟩ := p
      rw [h1] at hm
      simp only [h, decide_true, Bool.true_and, decide_eq_false_iff_not] at hm
      simp only []
      cases h2 : gridV r1 with
      | none =>
        simp only []
        rw [beatFin_of_gridV_none _ _ _ _ h2 (by omega)]; rfl
      | some q =>
        obtain ⟨a, r2⟩ := q
        simp only [beatFin, V1.optZ]
        cases hz : Impl.V1.allZero r2 <;> simp [ofOpt]

/-- On the `missingSecondGrid` family the Spec rejects and the C++ answers "no grids"
(or rejects, when the few trailing bytes are not all zero). -/
theorem decodeBeat_lenient (bs : Bytes) (hm : missingSecondGrid bs = true) :
    V1.decodeBeat bs = none ∧
    ((∃ sr sc, Impl.V1.decodeBeat bs = .ok ⟨sr, sc, [], []⟩) ∨
      Impl.V1.decodeBeat bs = .throw .invalid_argument) := by
  unfold missingSecondGrid at hm
  simp only [Bool.and_eq_true, decide_eq_true_eq] at hm
  obtain ⟨h, hm⟩ := hm
  rw [decodeBeat_run bs h, spec_decodeBeat_run bs h]
  cases h1 : gridV (bs.drop 17) with
  | none => rw [h1] at hm; simp at hm
  | some p =>
    obtain ⟨d, r1⟩ := p
    rw [h1] at hm
    simp only [decide_eq_true_eq] at hm
    simp only [gridV_short r1 hm, true_and]
    unfold beatFin
    cases hz : Impl.V1.allZero r1
    · right; simp
    · left
      exact ⟨if F64.isZero (u64be.get bs) = true then none else some (u64be.get bs),
        if F64.isZero (u64be.get (bs.drop 8)) = true then none else some (u64be.get (bs.drop 8)), by simp⟩

theorem decodeBeat_of_spec (bs : Bytes) (v : Impl.V1.Beat) (h : V1.decodeBeat bs = some v) :
    Impl.V1.decodeBeat bs = .ok v := by
  cases hm : missingSecondGrid bs with
  | false => rw [decodeBeat_eq bs hm, h]; rfl
  | true => rw [(decodeBeat_lenient bs hm).1] at h; cases h

theorem decodeBeat_safe (bs : Bytes) (u : Ub) : Impl.V1.decodeBeat bs ≠ .ub u := by
  cases hm : missingSecondGrid bs with
  | false => rw [decodeBeat_eq bs hm]; exact ofOpt_never_ub _ _
  | true =>
    rcases (decodeBeat_lenient bs hm).2 with ⟨sr, sc, h⟩ | h <;> rw [h] <;> simp

theorem decodeBeat_throw (bs : Bytes) (e : Exn) (h : Impl.V1.decodeBeat bs = .throw e) :
    e = .invalid_argument := by
  cases hm : missingSecondGrid bs with
  | false => rw [decodeBeat_eq bs hm] at h; exact ofOpt_throw h
  | true =>
    rcases (decodeBeat_lenient bs hm).2 with ⟨sr, sc, h'⟩ | h' <;> rw [h'] at h
    · cases h
    · injection h with h; exact h.symm

end V1Proofs
end EngineModel
