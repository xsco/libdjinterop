/-
`Res`, the cursor monad `Cur` and the writer monad `Wr` are lawful, so core's lemmas about `>>=`
(`bind_assoc`, `pure_bind`, `bind_pure`, `bind_congr`, …) apply to the hand models and to regenerated code
as they stand.  Mathlib-free.
-/
import EngineModel.Impl.CursorCxx

namespace EngineModel

instance : LawfulMonad Res := LawfulMonad.mk'
  (id_map := fun x => by cases x <;> rfl)
  (pure_bind := fun _ _ => rfl)
  (bind_assoc := fun x _ _ => by cases x <;> rfl)

instance : LawfulMonad Cur := LawfulMonad.mk'
  (id_map := fun m => funext fun bs => by
    show Cur.bind' m _ bs = m bs
    unfold Cur.bind'
    rcases m bs with ⟨a, r⟩ | e | u <;> rfl)
  (pure_bind := fun _ _ => rfl)
  (bind_assoc := fun m f g => funext fun bs => by
    show Cur.bind' (Cur.bind' m f) g bs = Cur.bind' m (fun a => Cur.bind' (f a) g) bs
    unfold Cur.bind'
    rcases m bs with ⟨a, r⟩ | e | u <;> rfl)

instance : LawfulMonad Wr := LawfulMonad.mk'
  (id_map := fun m => funext fun size => funext fun out => by
    show Wr.bind' m _ size out = m size out
    unfold Wr.bind'
    rcases m size out with ⟨a, r⟩ | e | u <;> rfl)
  (pure_bind := fun _ _ => rfl)
  (bind_assoc := fun m f g => funext fun size => funext fun out => by
    show Wr.bind' (Wr.bind' m f) g size out = Wr.bind' m (fun a => Wr.bind' (f a) g) size out
    unfold Wr.bind'
    rcases m size out with ⟨a, r⟩ | e | u <;> rfl)

/-- The C++ `if (c) throw …; rest` and a hand model that tests after a common prefix differ by this. -/
theorem ite_bind {m : Type → Type} [Monad m] {α β} (p : Prop) [Decidable p] (x y : m α) (f : α → m β) :
    (if p then x else y) >>= f = if p then x >>= f else y >>= f := by
  split <;> rfl

end EngineModel
