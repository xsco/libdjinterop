/-
The converse of Proofs/CratesV2WfRaw.lean: a state on which the executable predicate `wfRaw` says `true` — e.g. a
library LOADED from disk whose dump passes the check — satisfies the proof-level invariants `Inv S d` for a
Spec state `S` read off the tables.  Hence every theorem stated for `Inv` (per-operation simulation, refinement,
preservation) applies to loaded well-formed libraries, not only to histories from the empty library.
-/
import Proofs.CratesV2Run

namespace EngineModel.Db.Chain

open EngineModel.Spec EngineModel.ListAux

variable {α : Type}

/-- Every row's `next` is the id of the row after it, the last row's is 0. -/
def Chained : List (Row α) → Prop
  | [] => True
  | x :: rest => x.next = (rest.map (·.id)).headD 0 ∧ Chained rest

theorem lookupNext_some {rows : Table α} {c : Int} {r : Row α} (h : lookupNext rows c = some r) : r ∈ rows ∧ r.next = c := by
  unfold lookupNext at h
  have h1 := List.mem_of_find?_eq_some h
  have h2 := List.find?_some h
  exact ⟨List.mem_reverse.mp h1, by simpa using h2⟩

/-- The walk keeps `acc` chained, with `cur` the id of its first row. -/
theorem walkFuel_chained (rows : Table α) : ∀ (fuel : Nat) (cur : Int) (acc : List (Row α)),
    Chained acc → cur = (acc.map (·.id)).headD 0 → (∀ r ∈ acc, r ∈ rows) →
    Chained (walkFuel rows fuel cur acc) ∧ ∀ r ∈ walkFuel rows fuel cur acc, r ∈ rows := by
  intro fuel
  induction fuel with
  | zero => exact fun cur acc h _ hm => ⟨h, hm⟩
  | succ f ih =>
    intro cur acc h hc hm
    simp only [walkFuel]
    cases hl : lookupNext rows cur with
    | none => exact ⟨h, hm⟩
    | some r =>
      obtain ⟨hr, hn⟩ := lookupNext_some hl
      exact ih r.id (r :: acc) ⟨hn.trans hc, h⟩ rfl (List.forall_mem_cons.mpr ⟨hr, hm⟩)

theorem chained_succ : ∀ (l : List (Row α)), Chained l → (l.map (·.id)).Nodup → ∀ r ∈ l, r.next = succ (l.map (·.id)) r.id := by
  intro l
  induction l with
  | nil => exact fun _ _ r hr => nomatch hr
  | cons x rest ih =>
    intro hc hn r hr
    obtain ⟨hx, hn'⟩ := List.nodup_cons.mp hn
    rcases List.mem_cons.mp hr with rfl | hr'
    · simp only [List.map_cons, succ, if_true]
      exact hc.1
    · have hne : x.id ≠ r.id := fun e => hx (List.mem_map.mpr ⟨r, hr', e.symm⟩)
      simp only [List.map_cons, succ, if_neg hne]
      exact ih hc.2 hn' r hr'

theorem subset_of_nodup_length {l m : List Int} (hl : l.Nodup) (hs : ∀ x ∈ l, x ∈ m) (hlen : m.length ≤ l.length) :
    ∀ x ∈ m, x ∈ l := by
  intro x hx
  refine Classical.byContradiction fun hxl => ?_
  have := length_le_of_nodup_subset hl (m := m.erase x) fun y hy =>
    (List.mem_erase_of_ne fun (e : y = x) => hxl (e ▸ hy)).mpr (hs y hy)
  rw [List.length_erase_of_mem hx] at this
  have := List.length_pos_of_mem hx
  omega

/-- The lists the walk reads off a table. -/
def walked (t : Table α) (k : Int) : List Int :=
  match walkIds t k with
  | .ok l => l
  | _ => []

theorem R_of_chainsOk {t : Table α} (hn : (ids t).Nodup) (hpos : ∀ r ∈ t, 0 < r.id) (hc : V2.chainsOk t = true) :
    R (walked t) t := by
  -- the walk for a key lists the rows of the key, each once, linked by `next`
  have key : ∀ k, ∃ rows : List (Row α), walked t k = rows.map (·.id) ∧ (rows.map (·.id)).Nodup ∧ Chained rows ∧
      ∀ r, r ∈ rows ↔ r ∈ rowsOf t k := by
    intro k
    by_cases hk : rowsOf t k = []
    · exact ⟨[], by simp [walked, walkIds, walkBack, hk, Res.bind], .nil, trivial, fun _ => by rw [hk]⟩
    obtain ⟨r0, hr0⟩ := List.exists_mem_of_ne_nil _ hk
    obtain ⟨hr0, hk0⟩ := mem_rowsOf.mp hr0
    have h := List.all_eq_true.mp hc k (List.mem_eraseDups.mpr (List.mem_map.mpr ⟨r0, hr0, hk0⟩))
    have hne : (rowsOf t k).isEmpty = false := by simpa using hk
    unfold walkIds walkBack at h
    simp only [hne, Bool.false_eq_true, if_false] at h
    cases hl : lookupNext (rowsOf t k) 0 with
    | none => simp [hl, Res.bind] at h
    | some r1 =>
      simp only [hl, Res.bind, Bool.and_eq_true, beq_iff_eq, List.length_map] at h
      obtain ⟨hw1, hw2⟩ := walkFuel_chained (rowsOf t k) (rowsOf t k).length 0 [] trivial rfl (by simp)
      have hnd := V2.nodupB_iff.mp h.2
      refine ⟨_, by simp only [walked, walkIds, walkBack, hne, Bool.false_eq_true, if_false, hl, Res.bind], hnd, hw1,
        fun r => ⟨hw2 r, fun hr => ?_⟩⟩
      -- every row of the key is visited: the walk lists as many different rows as there are
      have hall := subset_of_nodup_length hnd (fun x hx => by
          obtain ⟨y, hy, rfl⟩ := List.mem_map.mp hx
          exact List.mem_map.mpr ⟨y, hw2 y hy, rfl⟩)
        (by simp only [List.length_map]; omega) r.id (List.mem_map.mpr ⟨r, hr, rfl⟩)
      obtain ⟨y, hy, e⟩ := List.mem_map.mp hall
      exact eq_of_id_eq hn (mem_rowsOf.mp (hw2 y hy)).1 (mem_rowsOf.mp hr).1 e ▸ hy
  refine ⟨hn, hpos, fun k => ?_, fun r hr => ?_, fun r hr => ?_, fun k x hx => ?_⟩
  · obtain ⟨rows, h1, h2, _⟩ := key k
    rw [h1]; exact h2
  · obtain ⟨rows, h1, _, _, h4⟩ := key r.key
    rw [h1]; exact List.mem_map.mpr ⟨r, (h4 r).mpr (mem_rowsOf.mpr ⟨hr, rfl⟩), rfl⟩
  · obtain ⟨rows, h1, h2, h3, h4⟩ := key r.key
    rw [h1]; exact chained_succ rows h3 h2 r ((h4 r).mpr (mem_rowsOf.mpr ⟨hr, rfl⟩))
  · obtain ⟨rows, h1, _, _, h4⟩ := key k
    rw [h1] at hx
    obtain ⟨y, hy, rfl⟩ := List.mem_map.mp hx
    obtain ⟨h7, h8⟩ := mem_rowsOf.mp ((h4 y).mp hy)
    exact ⟨y, h7, rfl, h8⟩

end EngineModel.Db.Chain

namespace EngineModel.Db.V2

open EngineModel.Db.Chain EngineModel.Spec EngineModel.ListAux

theorem reachesRoot_mono {t : Table Bytes} : ∀ (n : Nat) (x : Int), reachesRoot t n x = true → reachesRoot t (n + 1) x = true := by
  intro n
  induction n with
  | zero => intro x h; simp [reachesRoot] at h
  | succ n ih =>
    intro x h
    simp only [reachesRoot] at h ⊢
    cases hg : Chain.get t x with
    | none => rw [hg] at h; simp at h
    | some r =>
      rw [hg] at h
      simp only [Bool.or_eq_true, beq_iff_eq] at h ⊢
      rcases h with h | h
      · exact Or.inl h
      · exact Or.inr (ih r.key h)

/-- A rank for the parent relation: with how many of the fuels `0 … length` the walk to the root fails. -/
def rootDist (t : Table Bytes) (x : Int) : Nat := (List.range (t.length + 1)).countP (fun n => !reachesRoot t n x)

/-- The walk from a child fails with fuel 0 and then exactly where the walk from the parent fails with one less;
the walk from the parent does not fail with the last fuel. -/
theorem rootDist_lt {t : Table Bytes} {r : Row Bytes} (hg : Chain.get t r.id = some r) (h0 : r.key ≠ 0)
    (hp : reachesRoot t t.length r.key = true) : rootDist t r.key < rootDist t r.id := by
  have hs : ∀ n, reachesRoot t (n + 1) r.id = reachesRoot t n r.key := fun n => by simp [reachesRoot, hg, h0]
  calc rootDist t r.key = (List.range t.length).countP (fun n => !reachesRoot t n r.key) := by
        simp [rootDist, List.range_succ, List.countP_append, hp]
    _ < rootDist t r.id := by
        simp [rootDist, List.range_succ_eq_map, List.countP_map, Function.comp_def, hs,
          show reachesRoot t 0 r.id = false from rfl]

theorem wf_of_checks {d : Db} (hids : idsOk d.pl d.plSeq = true) (hf : forestOk d.pl = true) (hnm : namesOk d.pl = true) :
    Forest.Forest.Wf (absF d) := by
  obtain ⟨hn, hpos, _, _⟩ := idsOk_iff.mp hids
  unfold forestOk at hf
  rw [List.all_eq_true] at hf
  rw [namesOk_iff] at hnm
  have hcr : ∀ c ∈ (absF d).crates, ∃ r ∈ d.pl, c = rowCrate r := by
    intro c hc
    rw [absF_crates] at hc
    obtain ⟨r, hr, e⟩ := List.mem_map.mp hc
    exact ⟨r, hr, e.symm⟩
  -- a row with a parent: the parent exists and has a smaller rank
  have hstep : ∀ r ∈ d.pl, r.key ≠ 0 → r.key ∈ ids d.pl ∧ rootDist d.pl r.key < rootDist d.pl r.id := by
    intro r hr h0
    have hk0 : (r.key == 0) = false := by simpa using h0
    have hpar : r.key ∈ ids d.pl := by
      have h1 := hf r hr
      -- `reachesRoot` looks the parent up at its second unfolding: hence the lengths 0, 1, m + 2
      match hl : d.pl.length, h1 with
      | 0, h1 => simp [reachesRoot] at h1
      | 1, h1 => simp [reachesRoot, get_of_mem hn hr, hk0] at h1
      | m + 2, h1 =>
        simp only [reachesRoot, get_of_mem hn hr, hk0, Bool.false_or] at h1
        cases hg : Chain.get d.pl r.key with
        | none =>
          rw [hg] at h1
          simp at h1
        | some p => exact get_isSome_iff.mp (by rw [hg]; rfl)
    obtain ⟨rp, hrp, hidp⟩ := List.mem_map.mp hpar
    exact ⟨hpar, rootDist_lt (get_of_mem hn hr) h0 (hidp ▸ hf rp hrp)⟩
  constructor
  case ids_nodup =>
    rw [absF_ids]
    exact hn
  case id_pos =>
    intro c hc
    obtain ⟨r, hr, rfl⟩ := hcr c hc
    exact hpos r hr
  case parent_live =>
    intro c hc p hp
    obtain ⟨r, hr, rfl⟩ := hcr c hc
    simp only [rowCrate] at hp
    obtain ⟨e, h0⟩ := parentOpt_eq_some.mp hp
    rw [absF_ids, ← e]
    exact (hstep r hr (by rw [e]; exact h0)).1
  case ranked =>
    refine ⟨rootDist d.pl, ?_⟩
    intro c hc p hp
    obtain ⟨r, hr, rfl⟩ := hcr c hc
    simp only [rowCrate] at hp ⊢
    obtain ⟨e, h0⟩ := parentOpt_eq_some.mp hp
    rw [← e]
    exact (hstep r hr (by rw [e]; exact h0)).2
  case names_valid =>
    intro c hc
    obtain ⟨r, hr, rfl⟩ := hcr c hc
    exact hnm.1 r hr
  case names_unique =>
    intro c hc c' hc' e1 e2
    obtain ⟨r, hr, rfl⟩ := hcr c hc
    obtain ⟨r', hr', rfl⟩ := hcr c' hc'
    rw [eq_of_id_eq hn hr hr' (hnm.2 r' hr' r hr (parentOpt_inj.mp e1) e2)]

/-- The Spec lists read off the two tables by the library's own walks. -/
def readOrd (d : Db) : Ord :=
  ⟨walked d.pl, fun l => match walkBack d.pe l with
    | .ok rows => rows.map fun r => (r.id, r.val)
    | _ => []⟩

theorem readOrd_entIds (d : Db) (l : Int) : (readOrd d).entIds l = walked d.pe l := by
  unfold Ord.entIds readOrd walked walkIds
  cases hw : walkBack d.pe l <;> simp [hw, Res.bind, List.map_map, Function.comp_def]

/-- A state the executable `wfRaw` accepts satisfies the proof-level invariants — for the Spec state read off the
tables.  (Entries of other databases are allowed; `AllOwn` is not claimed.) -/
theorem inv_of_wfRaw {d : Db} (h : wfRaw d = true) : Inv (readOrd d) d := by
  obtain ⟨h1, h2, h3, h4, h5, h6, h7, h8⟩ := wfRaw_iff.mp h
  obtain ⟨hn1, hp1, hs1, hz1⟩ := idsOk_iff.mp h1
  obtain ⟨hn3, hp3, hs3, hz3⟩ := idsOk_iff.mp h3
  have hRe := R_of_chainsOk hn3 hp3 h4
  rw [entitiesOk_iff] at h7
  have hent := h7.1
  obtain ⟨ht1, ht2, ht3⟩ := tracksOk_iff.mp h8
  refine ⟨⟨R_of_chainsOk hn1 hp1 h2, R_congr hRe (readOrd_entIds d), ?_, ⟨by rw [← ids_eq_cores]; exact hn3, ?_⟩,
      fun r hr => by simp [fires, (hent r hr).2.1], hs1, hz1, hs3, hz3, fun t ht => (ht2 t ht).1, ht3⟩,
    ⟨wf_of_checks h1 h5 h6, hs1, hz1⟩, ⟨?_, ht1, ht2, ht3⟩⟩
  · -- pay: every row is among the walked entries of its list, with its payload
    intro c hc
    obtain ⟨r, hr, rfl⟩ := mem_cores.mp hc
    obtain ⟨rows, hw, hm, hrows⟩ := walkBack_spec hRe r.key
    obtain ⟨y, hy, e⟩ := List.mem_map.mp (hm ▸ hRe.mem r hr)
    have := eq_of_id_eq hn3 (hrows y hy).1 hr e
    show (r.id, r.val) ∈ (readOrd d).ents r.key
    simp only [readOrd, hw]
    exact List.mem_map.mpr ⟨y, hy, by rw [this]⟩
  · -- no (list, payload) twice
    intro c hc c' hc' e1 e2
    obtain ⟨r, hr, rfl⟩ := mem_cores.mp hc
    obtain ⟨r', hr', rfl⟩ := mem_cores.mp hc'
    rw [eq_of_id_eq hn3 hr hr' (h7.2 r' hr' r hr e1 e2)]
  · intro c hc ho
    obtain ⟨r, hr, rfl⟩ := mem_cores.mp hc
    exact ⟨(hent r hr).1, (hent r hr).2.2 ho⟩

end EngineModel.Db.V2
