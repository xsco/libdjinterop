/-
The tracks package's stronger invariant `DbClean` (every stored blob passes the decode-after-encode guard: the hypothesis
of its acceptance theorems `v1_C06_accepts*`) on the composite: kept by every call under the package's float law
`FloatLaw o`, for histories whose `create_track` / `update` snapshots are NaN-free (`noNaNCalls`, decidable — NaN is
outside C01 / C06's quantifier).
-/
import Proofs.Lib1Inv
import Proofs.TracksV1AcceptHist

namespace EngineModel.Lib.V1
open EngineModel.Api
open EngineModel.TracksV1 (DbClean Clean FloatLaw)
open EngineModel.TracksV1.Fl (FOps)

def noNaNCalls : List Call → Bool
  | [] => true
  | .createTrack x :: cs => TracksV1.Spec.NoNaN x && noNaNCalls cs
  | .update _ x :: cs => TracksV1.Spec.NoNaN x && noNaNCalls cs
  | _ :: cs => noNaNCalls cs

theorem noNaNCalls_cons (c : Call) (cs : List Call) : noNaNCalls (c :: cs) = (noNaNCalls [c] && noNaNCalls cs) := by
  cases c <;> simp [noNaNCalls]

theorem clean_step (o : FOps) (hl : FloatLaw o) (s : VSchema) {L : Lib1} (h : DbClean L.tr) (c : Call)
    (hn : noNaNCalls [c] = true) : DbClean (step o s L c).1.tr :=
  rows_eff o s (P := fun r => Clean r = true) c
    (fun x p rows hc hw => (TracksV1.clean_iff _).mpr (TracksV1.writeSnap_clean o hl _ x p rows
      (by rcases hc with rfl | ⟨t, rfl⟩ <;> exact (Bool.and_true _).symm.trans hn) hw))
    (fun r r' f v hr hs => (TracksV1.clean_iff _).mpr (TracksV1.set_cleanP o r r' f v ((TracksV1.clean_iff r).mp hr) hs)) h

theorem clean_run (o : FOps) (hl : FloatLaw o) (s : VSchema) (cs : List Call) {L : Lib1} (h : DbClean L.tr)
    (hn : noNaNCalls cs = true) : DbClean (run o s L cs).tr :=
  (run_induction o s (P := fun L cs => DbClean L.tr ∧ noNaNCalls cs = true)
    (fun L c cs ⟨h, hn⟩ => by
      rw [noNaNCalls_cons, Bool.and_eq_true] at hn
      exact ⟨clean_step o hl s h c hn.1, hn.2⟩) cs L ⟨h, hn⟩).1

end EngineModel.Lib.V1
