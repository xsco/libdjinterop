/-
The INPUT-chunking decision of `zlib_compress` (encode_decode_utils.cpp): which
`deflate()` call gets which window and which flush mode, as a function of the
payload length and the chunk size alone.

    if (ptr + chunk_size < end) { avail_in = chunk_size; flush = Z_NO_FLUSH; }
    else                        { avail_in = end - ptr;  flush = Z_FINISH;   }
    …
    } while (flush != Z_FINISH);

`chunkPlan n` is that decision written out as the list of windows of the outer
loop for a payload of `n` bytes.  `compress_sched` proves — for EVERY oracle,
every payload and every fuel, no contract needed, this is control flow only —
that whenever the Model of the loops returns, its call log is exactly that plan,
window by window: a non-empty run of calls per window, each run carrying the
window's flush mode, the first call of a run seeing the whole window, every call
but the last of a run having filled the output buffer.  Consequences:

 * the `Z_FINISH` calls are exactly the calls of the LAST window, for every
   payload on which the Model returns — one byte, exact multiples of the chunk size
   included; the empty payload does not reach the loops (`compress_empty`)
   (`compress_finish_only_last`);
 * the last window holds `finalChunkLen n` bytes: `n` itself up to one chunk,
   and a FULL chunk when `n` is a non-zero exact multiple of the chunk size
   (`finalChunkLen_mul`) — the case in which "a chunk is final iff it is short"
   is wrong;
 * the variant of the loops that keeps a `remaining` byte counter, marks a chunk
   final only when it is shorter than the chunk size and leaves on
   `remaining > 0` (`cloopRem`) never issues `Z_FINISH` for such a payload
   (`C03_compress_remaining_counter_counterexample`, Properties/C03.lean).
-/
import Proofs.ZlibCompressLoop
-- the `h` of `if h : chunk < n` in `chunkPlan` is used by `decreasing_by` only
set_option linter.unusedVariables false

namespace EngineModel.Impl.Zlib

/-- The windows of the outer loop for `n` payload bytes still ahead of `ptr`:
`(flush, avail_in)` per iteration. -/
def chunkPlan (n : Nat) : List (Flush × Nat) :=
  if h : chunk < n then (Flush.noFlush, chunk) :: chunkPlan (n - chunk) else [(Flush.finish, n)]
termination_by n
decreasing_by
  have : 0 < chunk := by decide
  omega

theorem chunkPlan_more {n : Nat} (h : chunk < n) :
    chunkPlan n = (Flush.noFlush, chunk) :: chunkPlan (n - chunk) := by
  rw [chunkPlan]; simp [h]

theorem chunkPlan_last {n : Nat} (h : ¬ chunk < n) : chunkPlan n = [(Flush.finish, n)] := by
  rw [chunkPlan]; simp [h]

/-- Bytes in the final (`Z_FINISH`) window of an `n`-byte payload. -/
def finalChunkLen (n : Nat) : Nat := n - chunk * ((n - 1) / chunk)

/-- Number of full `Z_NO_FLUSH` windows before the final one. -/
def fullChunks (n : Nat) : Nat := (n - 1) / chunk

theorem fullChunks_add (j r : Nat) (h1 : 0 < r) (h2 : r ≤ chunk) : fullChunks (j * chunk + r) = j := by
  rw [fullChunks, Nat.add_sub_assoc h1, Nat.add_comm, Nat.add_mul_div_right _ _ (by decide),
    Nat.div_eq_of_lt (Nat.lt_of_lt_of_le (Nat.sub_lt h1 Nat.one_pos) h2), Nat.zero_add]

theorem finalChunkLen_add (j r : Nat) (h1 : 0 < r) (h2 : r ≤ chunk) : finalChunkLen (j * chunk + r) = r := by
  unfold finalChunkLen
  rw [show (j * chunk + r - 1) / chunk = j from fullChunks_add j r h1 h2, Nat.mul_comm chunk,
    Nat.add_sub_cancel_left]

theorem chunkPlan_add (j r : Nat) (h1 : 0 < r) (h2 : r ≤ chunk) :
    chunkPlan (j * chunk + r) = List.replicate j (Flush.noFlush, chunk) ++ [(Flush.finish, r)] := by
  induction j with
  | zero => rw [Nat.zero_mul, Nat.zero_add, chunkPlan_last (Nat.not_lt.mpr h2)]; rfl
  | succ j ih =>
    rw [Nat.succ_mul, chunkPlan_more (Nat.lt_of_le_of_lt (Nat.le_add_left _ _) (Nat.lt_add_of_pos_right h1)),
      Nat.add_right_comm, Nat.add_sub_cancel, ih, List.replicate_succ, List.cons_append]

theorem chunkPlan_eq (n : Nat) :
    chunkPlan n = List.replicate (fullChunks n) (Flush.noFlush, chunk) ++ [(Flush.finish, finalChunkLen n)] := by
  by_cases h0 : n = 0
  · subst h0; rw [chunkPlan_last (by decide)]; rfl
  · -- `n = (n − 1) / chunk · chunk + ((n − 1) % chunk + 1)` with a rest between 1 and `chunk`
    have hr : (n - 1) % chunk + 1 ≤ chunk := Nat.mod_lt _ (by decide)
    have hn : (n - 1) / chunk * chunk + ((n - 1) % chunk + 1) = n := by
      rw [← Nat.add_assoc, Nat.div_add_mod', Nat.sub_add_cancel (Nat.pos_of_ne_zero h0)]
    rw [← hn, chunkPlan_add _ _ (Nat.succ_pos _) hr, fullChunks_add _ _ (Nat.succ_pos _) hr,
      finalChunkLen_add _ _ (Nat.succ_pos _) hr]

theorem finalChunkLen_mul (k : Nat) (hk : 0 < k) : finalChunkLen (k * chunk) = chunk := by
  obtain ⟨j, rfl⟩ := Nat.exists_eq_add_one_of_ne_zero (Nat.ne_of_gt hk)
  rw [Nat.succ_mul]
  exact finalChunkLen_add j chunk (by decide) (Nat.le_refl _)

theorem fullChunks_mul (k : Nat) (hk : 0 < k) : fullChunks (k * chunk) = k - 1 := by
  obtain ⟨j, rfl⟩ := Nat.exists_eq_add_one_of_ne_zero (Nat.ne_of_gt hk)
  rw [Nat.succ_mul]
  exact fullChunks_add j chunk (by decide) (Nat.le_refl _)

theorem chunkPlan_mul (k : Nat) (hk : 0 < k) :
    chunkPlan (k * chunk) = List.replicate (k - 1) (Flush.noFlush, chunk) ++ [(Flush.finish, chunk)] := by
  obtain ⟨j, rfl⟩ := Nat.exists_eq_add_one_of_ne_zero (Nat.ne_of_gt hk)
  rw [Nat.succ_mul]
  exact chunkPlan_add j chunk (by decide) (Nat.le_refl _)

theorem chunkPlan_mul_succ (k : Nat) :
    chunkPlan (k * chunk + 1) = List.replicate k (Flush.noFlush, chunk) ++ [(Flush.finish, 1)] :=
  chunkPlan_add k 1 Nat.one_pos (by decide)

theorem chunkPlan_mul_pred (k : Nat) (hk : 0 < k) :
    chunkPlan (k * chunk - 1) =
      List.replicate (k - 1) (Flush.noFlush, chunk) ++ [(Flush.finish, chunk - 1)] := by
  obtain ⟨j, rfl⟩ := Nat.exists_eq_add_one_of_ne_zero (Nat.ne_of_gt hk)
  rw [Nat.succ_mul, Nat.add_sub_assoc (by decide : 1 ≤ chunk)]
  exact chunkPlan_add j (chunk - 1) (by decide) (Nat.sub_le _ _)

example : chunkPlan 0 = [(.finish, 0)] := by rw [chunkPlan_last (by decide)]
example : chunkPlan 1 = [(.finish, 1)] := by rw [chunkPlan_last (by decide)]
example : chunkPlan 16384 = [(.finish, 16384)] := by rw [chunkPlan_last (by decide)]
example : chunkPlan 16385 = [(.noFlush, 16384), (.finish, 1)] := by
  rw [chunkPlan_more (by decide), chunkPlan_last (by decide)]; rfl
example : chunkPlan 32768 = [(.noFlush, 16384), (.finish, 16384)] := by
  rw [chunkPlan_more (by decide), chunkPlan_last (by decide)]; rfl

theorem chunkPlan_sum (n : Nat) : ((chunkPlan n).map (·.2)).sum = n := by
  induction n using Nat.strongRecOn with
  | _ n ih =>
    by_cases h : chunk < n
    · rw [chunkPlan_more h, List.map_cons, List.sum_cons, ih (n - chunk) (by
        have : 0 < chunk := by decide
        omega)]
      show chunk + (n - chunk) = n
      omega
    · rw [chunkPlan_last h]; simp

/-- The calls of one inner loop over a window of `a` bytes with flush mode `f`: at least one
call; each carries `f`; the first sees `a` bytes, each next one what the previous left; every
call but the last filled the output buffer, the last did not. -/
inductive Run (f : Flush) : Nat → List DCall → Prop
  | last (a : Nat) (d : DCall) :
      d.flush = f → d.availIn = a → d.out.length ≠ chunk → Run f a [d]
  | more (a : Nat) (d : DCall) (rest : List DCall) :
      d.flush = f → d.availIn = a → d.out.length = chunk → Run f (a - d.consumed) rest →
      Run f a (d :: rest)

/-- A call log that follows a plan window by window. -/
inductive Sched : List (Flush × Nat) → List DCall → Prop
  | nil : Sched [] []
  | window (f : Flush) (a : Nat) (plan : List (Flush × Nat)) (run rest : List DCall) :
      Run f a run → Sched plan rest → Sched ((f, a) :: plan) (run ++ rest)

theorem Run.ne_nil {f a l} (h : Run f a l) : l ≠ [] := by cases h <;> simp

theorem Run.all_flush {f a l} (h : Run f a l) : ∀ d ∈ l, d.flush = f := by
  induction h with
  | last a d hf _ _ => intro x hx; simp at hx; subst hx; exact hf
  | more a d rest hf _ _ _ ih =>
    intro x hx
    simp only [List.mem_cons] at hx
    rcases hx with rfl | hx
    · exact hf
    · exact ih x hx

theorem Run.head_availIn {f a l} (h : Run f a l) : ∃ d, l.head? = some d ∧ d.availIn = a := by
  cases h with
  | last a d _ ha _ => exact ⟨d, rfl, ha⟩
  | more a d rest _ ha _ _ => exact ⟨d, rfl, ha⟩

/-- Position of the loops → the plan still ahead. -/
def planAhead (len ptr : Nat) : CPhase → List (Flush × Nat)
  | .outer => chunkPlan (len - ptr)
  | .inner _ .noFlush => chunkPlan (len - ptr)
  | .inner _ .finish => []

/-- The calls of a run are the rest of the current window's run followed by a log that follows the plan for the
bytes still ahead. -/
theorem CRun.sched {σ} {o : DOracle σ} {buf : Bytes} {s : σ} {ptr : Nat} {ph : CPhase} {calls : List DCall}
    (h : CRun o buf s ptr ph calls) :
    match ph with
    | .outer => Sched (chunkPlan (buf.length - ptr)) calls
    | .inner win f => ∃ run rest, calls = run ++ rest ∧ Run f win.length run ∧
        Sched (planAhead buf.length ptr (.inner win f)) rest := by
  induction h with
  | more hmore _ ih =>
    obtain ⟨run, rest, rfl, hr, hs⟩ := ih
    rw [window_length buf (Nat.le_sub_of_add_le' (Nat.le_of_lt hmore))] at hr
    rw [chunkPlan_more (Nat.lt_sub_iff_add_lt'.mpr hmore)]
    exact Sched.window _ _ _ _ _ hr (by simpa only [planAhead, Nat.sub_add_eq] using hs)
  | final hmore _ ih =>
    obtain ⟨run, rest, rfl, hr, hs⟩ := ih
    rw [window_length buf (Nat.le_refl _)] at hr
    rw [chunkPlan_last (fun hlt => hmore (Nat.lt_sub_iff_add_lt'.mp hlt))]
    exact Sched.window _ _ _ _ _ hr hs
  | @again s ptr win f calls hfull _ ih =>
    obtain ⟨run, rest, rfl, hr, hs⟩ := ih
    rw [List.length_drop] at hr
    exact ⟨_ :: run, rest, rfl, Run.more _ _ _ rfl rfl hfull hr, by cases f <;> exact hs⟩
  | last hfull => exact ⟨[_], [], rfl, Run.last _ _ rfl rfl hfull, Sched.nil⟩
  | back hfull _ ih => exact ⟨[_], _, rfl, Run.last _ _ rfl rfl hfull, ih⟩

theorem compress_sched {σ} (o : DOracle σ) (s0 : σ) (fuel : Nat) (buf : Bytes)
    (blob : Bytes) (log : List DCall) (h : compress o s0 fuel buf = .ok (blob, log)) :
    Sched (chunkPlan buf.length) log := (compress_run h).2.2.sched

theorem Sched.append_last {plan : List (Flush × Nat)} {f a} {log : List DCall}
    (h : Sched (plan ++ [(f, a)]) log) :
    ∃ pre fin, log = pre ++ fin ∧ Sched plan pre ∧ Run f a fin := by
  induction plan generalizing log with
  | nil =>
    cases h with
    | window f a plan run rest hr hs =>
      cases hs
      exact ⟨[], run, by simp, Sched.nil, hr⟩
  | cons p plan ih =>
    obtain ⟨pf, pa⟩ := p
    cases h with
    | window f' a' plan' run rest hr hs =>
      obtain ⟨pre, fin, h1, h2, h3⟩ := ih hs
      exact ⟨run ++ pre, fin, by rw [h1, List.append_assoc], Sched.window _ _ _ _ _ hr h2, h3⟩

theorem Sched.all_flush_replicate {k : Nat} {f : Flush} {a : Nat} {log : List DCall}
    (h : Sched (List.replicate k (f, a)) log) : ∀ d ∈ log, d.flush = f := by
  induction k generalizing log with
  | zero => cases h; simp
  | succ k ih =>
    rw [List.replicate_succ] at h
    cases h with
    | window f' a' plan run rest hr hs =>
      intro d hd
      rcases List.mem_append.mp hd with hd | hd
      · exact hr.all_flush d hd
      · exact ih hs d hd

/-- **The last window, and only the last window, carries `Z_FINISH` — for every payload on which
`zlib_compress` returns** (the empty one is `ub`, `compress_empty`).  Its call log splits as `pre ++ fin`: every call of
`pre` is a `Z_NO_FLUSH` call, `fin` is the (non-empty) run of `Z_FINISH` calls over the final
window, whose first call is handed exactly `finalChunkLen n` bytes — `n` for `1 ≤ n ≤ chunk`,
a full chunk for an exact multiple of the chunk size. -/
theorem compress_finish_only_last {σ} (o : DOracle σ) (s0 : σ) (fuel : Nat) (buf : Bytes)
    (blob : Bytes) (log : List DCall) (h : compress o s0 fuel buf = .ok (blob, log)) :
    ∃ pre fin, log = pre ++ fin ∧
      (∀ d ∈ pre, d.flush = .noFlush) ∧ (∀ d ∈ fin, d.flush = .finish) ∧ fin ≠ [] ∧
      Sched (List.replicate (fullChunks buf.length) (.noFlush, chunk)) pre ∧
      Run .finish (finalChunkLen buf.length) fin ∧
      ∃ d, fin.head? = some d ∧ d.availIn = finalChunkLen buf.length := by
  have hs := compress_sched o s0 fuel buf blob log h
  rw [chunkPlan_eq] at hs
  obtain ⟨pre, fin, h1, h2, h3⟩ := hs.append_last
  exact ⟨pre, fin, h1, h2.all_flush_replicate, h3.all_flush, h3.ne_nil, h2, h3, h3.head_availIn⟩

/-- In particular the very last call is a `Z_FINISH` call (control flow only; that it answers `Z_STREAM_END` needs
the contract: `compress_complete`). -/
theorem compress_last_is_finish {σ} (o : DOracle σ) (s0 : σ) (fuel : Nat) (buf : Bytes)
    (blob : Bytes) (log : List DCall) (h : compress o s0 fuel buf = .ok (blob, log)) :
    ∃ d, log.getLast? = some d ∧ d.flush = .finish := by
  obtain ⟨pre, fin, h1, _, h3, h4, _⟩ := compress_finish_only_last o s0 fuel buf blob log h
  subst h1
  obtain ⟨d, hd⟩ : ∃ d, fin.getLast? = some d := by
    cases hf : fin.getLast? with
    | none => rw [List.getLast?_eq_none_iff] at hf; exact absurd hf h4
    | some d => exact ⟨d, rfl⟩
  refine ⟨d, ?_, h3 d (List.mem_of_getLast? hd)⟩
  rw [List.getLast?_append, hd]; rfl

/-- The loops with a `remaining` byte counter: `avail_in = min(remaining, chunk)`, the chunk is
final (`Z_FINISH`) only when it is SHORTER than the chunk size, and the outer loop repeats
`while (remaining > 0)`. -/
def cloopRem {σ} (o : DOracle σ) (buf : Bytes) :
    Nat → σ → Nat → CPhase → Bytes → List DCall → Res (Bytes × List DCall)
  | 0, _, _, _, _, _ => .ub .nontermination
  | fuel + 1, s, ptr, .outer, acc, log =>
    let remaining := buf.length - ptr
    let avail := if remaining < chunk then remaining else chunk
    let flush := if avail < chunk then Flush.finish else Flush.noFlush
    cloopRem o buf fuel s (ptr + avail) (.inner ((buf.drop ptr).take avail) flush) acc log
  | fuel + 1, s, ptr, .inner win flush, acc, log =>
    match o.step s win chunk flush with
    | (ret, consumed, out, s') =>
      let acc' := acc ++ out
      let log' := (⟨flush, win.length, consumed, out, ret⟩ : DCall) :: log
      if out.length = chunk then cloopRem o buf fuel s' ptr (.inner (win.drop consumed) flush) acc' log'
      else if buf.length - ptr > 0 then cloopRem o buf fuel s' ptr .outer acc' log'   -- while (remaining > 0)
      else .ok (acc', log'.reverse)

/-- The flush mode `cloopRem` picks for a last window of one byte is `Z_FINISH`, as the unchanged loops do: a payload
one byte longer (or shorter) than a multiple of the chunk size ends in a short window and takes the same path with both,
which is why only exact multiples expose the change (`C03_compress_remaining_counter_counterexample`). -/
example : (if (1 : Nat) < chunk then Flush.finish else Flush.noFlush) = .finish := by decide

end EngineModel.Impl.Zlib
