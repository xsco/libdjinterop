/-
Histories of calls.  Every API model has a step function `S → I → S × O` and iterates it over a list of
calls, for the state (`run`, `runG`, `runF`) and for the answers (`outcomes`, `outcomesG`, `outcomesF`,
`callOutcomes`).  `IsRun` / `IsOutcomes` say that a function is such an iteration; both clauses hold by `rfl`
for each of them, whether it is written by recursion or as a `foldl`.  What is true of every iteration is
proved here once: what the steps keep holds after every history, and two machines related step by step (equal,
one embedding or projecting onto a smaller one, one failing on the prior state where the other acts) are
related on histories.
-/

namespace EngineModel.Machine

variable {S I J O : Type}

structure IsRun (step : S → I → S × O) (run : S → List I → S) : Prop where
  nil : ∀ d, run d [] = d
  cons : ∀ d i t, run d (i :: t) = run (step d i).1 t

structure IsOutcomes (step : S → I → S × O) (outs : S → List I → List O) : Prop where
  nil : ∀ d, outs d [] = []
  cons : ∀ d i t, outs d (i :: t) = (step d i).2 :: outs (step d i).1 t

variable {step : S → I → S × O} {run : S → List I → S} {outs : S → List I → List O}

theorem IsRun.induction (hr : IsRun step run) {P : S → List I → Prop}
    (hstep : ∀ d i t, P d (i :: t) → P (step d i).1 t) : ∀ l d, P d l → P (run d l) [] := by
  intro l
  induction l with
  | nil => intro d h; rw [hr.nil]; exact h
  | cons i t ih => intro d h; rw [hr.cons]; exact ih _ (hstep d i t h)

theorem IsRun.inv_of (hr : IsRun step run) {Inv : S → Prop} {A : I → Prop}
    (hstep : ∀ d i, Inv d → A i → Inv (step d i).1) (l : List I) (d : S) (h : Inv d) (hA : ∀ i ∈ l, A i) :
    Inv (run d l) :=
  (hr.induction (P := fun d l => Inv d ∧ ∀ i ∈ l, A i)
    (fun d i _ h => ⟨hstep d i h.1 (List.forall_mem_cons.1 h.2).1, (List.forall_mem_cons.1 h.2).2⟩)
    l d ⟨h, hA⟩).1

theorem IsRun.inv (hr : IsRun step run) {Inv : S → Prop} (hstep : ∀ d i, Inv d → Inv (step d i).1) :
    ∀ l d, Inv d → Inv (run d l) :=
  fun l d h => hr.inv_of (A := fun _ => True) (fun d i h _ => hstep d i h) l d h fun _ _ => trivial

theorem IsOutcomes.forall_of (ho : IsOutcomes step outs) {Inv : S → Prop} {A : I → Prop} {P : O → Prop}
    (hstep : ∀ d i, Inv d → A i → Inv (step d i).1 ∧ P (step d i).2) :
    ∀ l d, Inv d → (∀ i ∈ l, A i) → ∀ r ∈ outs d l, P r := by
  intro l
  induction l with
  | nil => intro d _ _ r hr; rw [ho.nil] at hr; cases hr
  | cons i t ih =>
    intro d h hA r hr
    obtain ⟨hi, ht⟩ := List.forall_mem_cons.1 hA
    obtain ⟨h1, h2⟩ := hstep d i h hi
    rw [ho.cons, List.mem_cons] at hr
    rcases hr with e | e
    · rw [e]; exact h2
    · exact ih _ h1 ht r e

theorem IsOutcomes.forall (ho : IsOutcomes step outs) {Inv : S → Prop} {P : O → Prop}
    (hstep : ∀ d i, Inv d → Inv (step d i).1 ∧ P (step d i).2) : ∀ l d, Inv d → ∀ r ∈ outs d l, P r :=
  fun l d h => ho.forall_of (A := fun _ => True) (fun d i h _ => hstep d i h) l d h fun _ _ => trivial

theorem IsRun.idle (hr : IsRun step run) {idle : I → Bool} (h : ∀ d i, idle i = true → (step d i).1 = d)
    (l : List I) (d : S) (hl : ∀ i ∈ l, idle i = true) : run d l = d :=
  hr.inv_of (Inv := (· = d)) (A := (idle · = true)) (fun _ i e hi => (h _ i hi).trans e) l d rfl hl

theorem IsRun.filter_idle (hr : IsRun step run) {idle : I → Bool} (h : ∀ d i, idle i = true → (step d i).1 = d) :
    ∀ l d, run d (l.filter fun i => !idle i) = run d l := by
  intro l
  induction l with
  | nil => intro d; rfl
  | cons i t ih =>
    intro d
    cases hi : idle i
    · rw [List.filter_cons_of_pos (by rw [hi]; rfl), hr.cons, hr.cons, ih]
    · rw [List.filter_cons_of_neg (by rw [hi]; exact Bool.false_ne_true), hr.cons, h d i hi, ih]

theorem IsRun.append (hr : IsRun step run) (l l' : List I) : ∀ d, run d (l ++ l') = run (run d l) l' := by
  induction l with
  | nil => intro d; rw [List.nil_append, hr.nil]
  | cons i t ih => intro d; rw [List.cons_append, hr.cons, hr.cons, ih]

theorem IsOutcomes.congr {step' : S → I → S × O} {outs' : S → List I → List O} (ho : IsOutcomes step outs)
    (ho' : IsOutcomes step' outs') (h : ∀ d i, step d i = step' d i) : ∀ l d, outs d l = outs' d l := by
  intro l
  induction l with
  | nil => intro d; rw [ho.nil, ho'.nil]
  | cons i t ih => intro d; rw [ho.cons, ho'.cons, h, ih]

theorem IsRun.map (hr : IsRun step run) (e : J → I) : IsRun (fun d j => step d (e j)) fun d l => run d (l.map e) :=
  ⟨fun d => hr.nil d, fun d j t => hr.cons d (e j) (t.map e)⟩

theorem IsRun.congr_of {O' : Type} {step' : S → I → S × O'} {run' : S → List I → S} (hr : IsRun step run)
    (hr' : IsRun step' run') {Inv : S → Prop} {A : I → Prop}
    (h : ∀ d i, Inv d → A i → Inv (step d i).1 ∧ (step' d i).1 = (step d i).1) :
    ∀ l d, Inv d → (∀ i ∈ l, A i) → run' d l = run d l := by
  intro l
  induction l with
  | nil => intro d _ _; rw [hr.nil, hr'.nil]
  | cons i t ih =>
    intro d hd hA
    obtain ⟨hi, ht⟩ := List.forall_mem_cons.1 hA
    obtain ⟨h1, h2⟩ := h d i hd hi
    rw [hr.cons, hr'.cons, h2]
    exact ih _ h1 ht

theorem IsRun.congr {step' : S → I → S × O} {run' : S → List I → S} (hr : IsRun step run) (hr' : IsRun step' run')
    (h : ∀ d i, step d i = step' d i) : ∀ l d, run d l = run' d l :=
  fun l d => hr'.congr_of hr (Inv := fun _ => True) (A := fun _ => True)
    (fun d i _ _ => ⟨trivial, congrArg Prod.fst (h d i)⟩) l d trivial fun _ _ => trivial

theorem IsRun.abstracts {T : Type} (hr : IsRun step run) (emb : T → S) (stp : T → I → T)
    (h : ∀ d i, (step (emb d) i).1 = emb (stp d i)) : ∀ l d, run (emb d) l = emb (l.foldl stp d) := by
  intro l
  induction l with
  | nil => intro d; rw [hr.nil]; rfl
  | cons i t ih => intro d; rw [hr.cons, h, ih]; rfl

theorem IsRun.abstracts_filterMap {T : Type} (hr : IsRun step run) (emb : T → S) (left : I → Option J) (stp : T → J → T)
    (hm : ∀ d i j, left i = some j → (step (emb d) i).1 = emb (stp d j))
    (hn : ∀ d i, left i = none → (step (emb d) i).1 = emb d) (l : List I) (d : T) :
    run (emb d) l = emb ((l.filterMap left).foldl stp d) := by
  rw [List.foldl_filterMap]
  refine hr.abstracts emb _ (fun d i => ?_) l d
  cases hl : left i with
  | none => exact hn d i hl
  | some j => exact hm d i j hl

theorem IsRun.projects {T : Type} (hr : IsRun step run) {Inv : S → Prop} {A : I → Prop} (abs : S → T) (stp : T → I → T)
    (h : ∀ d i, Inv d → A i → Inv (step d i).1 ∧ abs (step d i).1 = stp (abs d) i) :
    ∀ l d, Inv d → (∀ i ∈ l, A i) → Inv (run d l) ∧ abs (run d l) = l.foldl stp (abs d) := by
  intro l
  induction l with
  | nil => intro d hd _; rw [hr.nil]; exact ⟨hd, rfl⟩
  | cons i t ih =>
    intro d hd hA
    obtain ⟨hi, ht⟩ := List.forall_mem_cons.1 hA
    obtain ⟨h1, h2⟩ := h d i hd hi
    rw [hr.cons, List.foldl_cons, ← h2]
    exact ih _ h1 ht

theorem IsOutcomes.idle (ho : IsOutcomes step outs) {idle : I → Bool} (h : ∀ d i, idle i = true → (step d i).1 = d) :
    ∀ (l : List I) (d : S), (∀ i ∈ l, idle i = true) → outs d l = l.map fun i => (step d i).2 := by
  intro l
  induction l with
  | nil => intro d _; rw [ho.nil]; rfl
  | cons i t ih =>
    intro d hl
    obtain ⟨hi, ht⟩ := List.forall_mem_cons.1 hl
    rw [ho.cons, h d i hi, ih d ht]
    rfl

section fails
variable {O' : Type} {stepF : S → J → S × O'} {runF : S → List J → S} {outsF : S → List J → List O'}

theorem IsRun.sublist (hrF : IsRun stepF runF) (hr : IsRun step run) (e : J → I)
    (h : ∀ d j, (stepF d j).1 = d ∨ (stepF d j).1 = (step d (e j)).1) :
    ∀ l d, ∃ l' : List I, l'.Sublist (l.map e) ∧ runF d l = run d l' := by
  intro l
  induction l with
  | nil => intro d; exact ⟨[], List.Sublist.slnil, by rw [hrF.nil, hr.nil]⟩
  | cons j t ih =>
    intro d
    obtain ⟨l', hl, he⟩ := ih (stepF d j).1
    rcases h d j with e' | e'
    · exact ⟨l', List.Sublist.cons _ hl, by rw [hrF.cons, he, e']⟩
    · exact ⟨e j :: l', List.Sublist.cons_cons _ hl, by rw [hrF.cons, hr.cons, he, e']⟩

theorem keeps_of_fails {p st : S × O} {d : S} {fail : O} (h : p = st ∨ p = (d, fail)) {Inv : S → Prop} {P : O → Prop}
    (hd : Inv d) (hfail : P fail) (hst : Inv st.1 ∧ P st.2) : Inv p.1 ∧ P p.2 := by
  rcases h with e | e <;> rw [e]
  · exact hst
  · exact ⟨hd, hfail⟩

theorem after_failures {stepF : S → J → S × O} {outsF : S → List J → List O} {e : J → I} {fail : O}
    {Inv : S → Prop} {A : I → Prop} {P : O → Prop}
    (hF : ∀ d j, Inv d → stepF d j = step d (e j) ∨ stepF d j = (d, fail)) (hfail : P fail)
    (hstep : ∀ d i, Inv d → A i → Inv (step d i).1 ∧ P (step d i).2)
    (hr : IsRun stepF runF) (ho : IsOutcomes stepF outsF) (l : List J) (d : S) (hd : Inv d) (hA : ∀ j ∈ l, A (e j)) :
    Inv (runF d l) ∧ ∀ r ∈ outsF d l, P r :=
  have h : ∀ d j, Inv d → A (e j) → Inv (stepF d j).1 ∧ P (stepF d j).2 :=
    fun d j hd ha => keeps_of_fails (hF d j hd) hd hfail (hstep d (e j) hd ha)
  ⟨hr.inv_of (A := fun j => A (e j)) (fun d j hd ha => (h d j hd ha).1) l d hd hA,
    ho.forall_of (A := fun j => A (e j)) h l d hd hA⟩

end fails

end EngineModel.Machine
