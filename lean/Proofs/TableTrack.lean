/-
The `track_table` model (Table/Track.lean) for property C18.  The regenerated
binding tables are aligned on the seven schemas (`track_bindings_aligned`,
evaluated in the sorted form `alignedTs`).  Every round trip after a write
reads the stored row through `read_afterUpdate` (what the triggers leave, given
the `view` of the row before them); `update` and the setters share
`tUpdateWhereId_get` and differ in the row before the triggers: `read_written`
for an aligned INSERT / UPDATE, `view_setCol` for a setter
(`C18_track_column_set_frame`, Properties/C18.lean).
-/
import EngineModel.Table.Track
import Proofs.TableCore

namespace EngineModel
namespace Table

-- 49: the members of `track_row`, in the order of their declaration
theorem TField.all_ctorIdx : TField.all.map TField.ctorIdx = List.range 49 := by decide +kernel

theorem TField.mem_all (f : TField) : f ∈ TField.all := by
  have : f.ctorIdx ∈ TField.all.map TField.ctorIdx := by
    rw [TField.all_ctorIdx]; exact List.mem_range.mpr (by cases f <;> decide)
  obtain ⟨g, hg, h⟩ := List.mem_map.mp this
  rwa [← TField.ofNat_ctorIdx f, ← h, TField.ofNat_ctorIdx]

theorem TField.nodup_all : nodupB TField.all = true :=
  (nodupB_iff _).mpr (List.Pairwise.of_map TField.ctorIdx (fun _ _ h heq => h (congrArg _ heq))
    (TField.all_ctorIdx ▸ List.nodup_range))

theorem TField.col_ctorIdx (f : TField) : f.col.ctorIdx = f.ctorIdx := by cases f <;> rfl

/-- Members and columns are declared in the same order (`Table/Names.lean`), so a member is found again from the
constructor index of its column; so too for the playlist, entity and information tables. -/
theorem TField.col_inj {f g : TField} (h : f.col = g.col) : f = g := by
  have hi := congrArg TCol.ctorIdx h
  rw [TField.col_ctorIdx, TField.col_ctorIdx] at hi
  rw [← TField.ofNat_ctorIdx f, hi, TField.ofNat_ctorIdx]

theorem TField.mem_writable {s : Schema2} {f : TField} :
    f ∈ TField.writable s ↔ (f ≠ .id ∧ f.present s = true) := by
  unfold TField.writable
  simp [List.mem_filter, TField.mem_all]

theorem tSpec_fields : tSpec.fields = TField.all := rfl
theorem tSpec_colOf (f : TField) : tSpec.colOf f = f.col := rfl
theorem tSpec_tyOf (f : TField) : tSpec.tyOf f = f.ty := rfl

theorem tSpec_ok : tSpec.Ok := ⟨TField.col_inj, TField.nodup_all, TField.mem_all⟩

theorem alignedT_iff {s : Schema2} {st : TStmts} : alignedT s st = true ↔
    alignedW tSpec (TField.writable s) [] st.ins = true ∧ alignedW tSpec (TField.writable s) [] st.upd = true ∧
    alignedR tSpec (TField.present s) st.sel = true ∧ alignedAcc st.getters = true ∧
    alignedAcc st.setters = true ∧ st.removeChecks = true ∧
    Gen.Bindings.trackFields = TField.all.map (fun f => (f, f.ty)) := by
  simp only [alignedT, Bool.and_eq_true, decide_eq_true_eq]
  exact ⟨fun ⟨⟨⟨⟨⟨⟨h0, h1⟩, h2⟩, h3⟩, h4⟩, h5⟩, h6⟩ => ⟨h1, h2, h3, h4, h5, h6, h0⟩,
    fun ⟨h1, h2, h3, h4, h5, h6, h0⟩ => ⟨⟨⟨⟨⟨⟨h0, h1⟩, h2⟩, h3⟩, h4⟩, h5⟩, h6⟩⟩

/-- `alignedT` with the INSERT and the UPDATE compared, sorted by column, with the
Spec's bindings in declaration order. -/
def alignedTs (s : Schema2) (st : TStmts) : Bool :=
  decide (Gen.Bindings.trackFields = TField.all.map (fun f => (f, f.ty)))
  && alignedWs tSpec TCol.ctorIdx (TField.writable s) st.ins
  && alignedWs tSpec TCol.ctorIdx (TField.writable s) st.upd
  && alignedR tSpec (TField.present s) st.sel
  && alignedAcc st.getters && alignedAcc st.setters && st.removeChecks

theorem alignedTs_sound {s : Schema2} {st : TStmts} (h : alignedTs s st = true) : alignedT s st = true := by
  have hnd : nodupB (TField.writable s) = true :=
    (nodupB_iff _).mpr (((nodupB_iff _).mp TField.nodup_all).filter _)
  simp only [alignedTs, Bool.and_eq_true, decide_eq_true_eq] at h
  obtain ⟨⟨⟨⟨⟨⟨h0, h1⟩, h2⟩, h3⟩, h4⟩, h5⟩, h6⟩ := h
  exact alignedT_iff.mpr ⟨alignedWs_sound (fun _ _ => TField.col_inj) hnd h1,
    alignedWs_sound (fun _ _ => TField.col_inj) hnd h2, h3, h4, h5, h6, h0⟩

/-- The binding tables regenerated from the current source are aligned with the
Spec on each of the seven 2.x schema versions. -/
theorem track_bindings_aligned : ∀ s : Schema2, ∃ st, genStmts s = some st ∧ alignedT s st = true := by
  -- one evaluation for the seven versions (the accessor tables and the column lists that several
  -- versions share are then looked at once), of the form of `alignedT` that sorts the write statements
  have h : Schema2.all.all (fun s => (genStmts s).any (alignedTs s)) = true := by decide +kernel
  intro s
  obtain ⟨st, h1, h2⟩ := (Option.any_eq_true _ _).mp (List.all_eq_true.mp h s (by cases s <;> decide))
  exact ⟨st, h1, alignedTs_sound h2⟩

/-- For the blob members this says that `to_blob` accepted them (`toBlob_eq_ok`). -/
theorem written_converts {s : Schema2} {ps : List (WB TCol TField)} {r : Row TField} {l : List (TCol × Val)}
    (hps : alignedW tSpec (TField.writable s) [] ps = true) (he : evalParams r ps = .ok l)
    {f : TField} (hf : f ≠ .id) (hp : f.present s = true) : ∃ x, wconv f.ty.wconv (r f) = .ok x :=
  (assign_evalParams hps he nullRaw (TField.mem_writable.mpr ⟨hf, hp⟩)).imp fun _ h => h.1

theorem id_not_written {s : Schema2} {ps : List (WB TCol TField)} {r : Row TField} {l : List (TCol × Val)}
    (ha : alignedW tSpec (TField.writable s) [] ps = true) (he : evalParams r ps = .ok l) :
    TCol.id ∉ l.map (·.1) :=
  col_not_written tSpec_ok ha he (f := .id) fun h => (TField.mem_writable.mp h).1 rfl

theorem rowId_applyFix (uuid : Val) (raw : Raw TCol) : rowId .id (applyFix uuid raw) = rowId .id raw := by
  unfold applyFix
  split
  · simp [fixOrigin, rowId, setCol]
  · rfl

theorem applyFix_other (uuid : Val) (raw : Raw TCol) {c : TCol}
    (h1 : c ≠ .originTrackId) (h2 : c ≠ .originDatabaseUuid) : applyFix uuid raw c = raw c := by
  unfold applyFix
  split
  · simp [fixOrigin, setCol, h1, h2]
  · rfl

theorem stampRow_other (st : Option Int) (raw : Raw TCol) {c : TCol} (h : c ≠ .lastEditTime) :
    stampRow st raw c = raw c := by
  cases st with
  | none => rfl
  | some t => exact setCol_other _ _ h

theorem rowId_stampRow (st : Option Int) (raw : Raw TCol) : rowId .id (stampRow st raw) = rowId .id raw := by
  unfold rowId; rw [stampRow_other _ _ (by decide)]

theorem rowId_assign {s : Schema2} {ps : List (WB TCol TField)} {r : Row TField} {l : List (TCol × Val)}
    (hps : alignedW tSpec (TField.writable s) [] ps = true) (he : evalParams r ps = .ok l) (base : Raw TCol) :
    rowId .id (assign base l) = rowId .id base := by
  unfold rowId
  rw [assign_not_mem _ _ _ (id_not_written hps he)]

theorem rowId_afterUpdate (s : Schema2) (d : TDb) {l : List (TCol × Val)} (hidcol : TCol.id ∉ l.map (·.1))
    (old : Raw TCol) : rowId .id (afterUpdate s d (l.map (·.1)) (assign old l)) = rowId .id old := by
  unfold afterUpdate
  rw [rowId_stampRow, rowId_applyFix, rowId, assign_not_mem _ _ _ hidcol]
  rfl

theorem isZeroOrNull_of_typed {c : Val} (h : (match c with | .null | .int _ => true | _ => false) = true) :
    isZeroOrNull c = (FVal.int (readInt c) == FVal.int 0) := by
  cases c <;> first | rfl | cases h
  rename_i k
  show (k == 0) = (FVal.int k == FVal.int 0)
  rw [Bool.eq_iff_iff]; simp

theorem isEmptyOrNull_of_typed {c : Val} (h : (match c with | .null | .text _ => true | _ => false) = true) :
    isEmptyOrNull c = (FVal.str (readStr c) == FVal.str []) := by
  cases c <;> first | rfl | cases h
  rename_i u
  show u.isEmpty = (FVal.str u == FVal.str [])
  rw [Bool.eq_iff_iff]; simp

theorem written_typed {s : Schema2} {ps : List (WB TCol TField)} {r : Row TField} {l : List (TCol × Val)}
    (hps : alignedW tSpec (TField.writable s) [] ps = true) (he : evalParams r ps = .ok l)
    (hr : wtRowT r) (base : Raw TCol) : originTyped (assign base l) = true := by
  obtain ⟨x1, hx1, hc1⟩ := assign_evalParams hps he base
    (TField.mem_writable.mpr ⟨by decide, rfl⟩ : TField.origin_track_id ∈ TField.writable s)
  obtain ⟨x2, hx2, hc2⟩ := assign_evalParams hps he base
    (TField.mem_writable.mpr ⟨by decide, rfl⟩ : TField.origin_database_uuid ∈ TField.writable s)
  obtain ⟨k, _, rfl⟩ := written_i64 (hr .origin_track_id) rfl hx1
  obtain ⟨u, _, rfl⟩ := written_str (hr .origin_database_uuid) rfl hx2
  simp only [originTyped, Bool.and_eq_true]
  rw [show assign base l .originTrackId = .int k from hc1, show assign base l .originDatabaseUuid = .text u from hc2]
  exact ⟨rfl, rfl⟩

theorem absentVal_read (raw : Raw TCol) (ty : FTy) :
    readSrc raw (absentSrc ty : RSrc TCol) = .ok (absentVal ty) := by
  cases ty <;> rfl

theorem view_absent {s : Schema2} {f : TField} (h : f.present s = false) (raw : Raw TCol) :
    view tSpec (TField.present s) raw f = .ok (absentVal f.ty) := by
  simp only [view, expectedSrc, h, Bool.false_eq_true, if_false]
  exact absentVal_read _ _

theorem fixRowT_other (uuid : Val) (r : Row TField) {g : TField}
    (h1 : g ≠ .origin_track_id) (h2 : g ≠ .origin_database_uuid) : fixRowT uuid r g = r g := by
  unfold fixRowT
  split <;> first | rfl | contradiction

theorem stampRowT_other (t : Option Int) (r : Row TField) {g : TField}
    (h : g ≠ .last_edit_time ∨ t = none) : stampRowT t r g = r g := by
  unfold stampRowT
  split
  · rcases h with h | rfl
    · contradiction
    · rfl
  · rfl

/-- Reading, member by member, the row the triggers leave (the origin fix-up
and, when `stamp` is `some t`, the last-edit stamp), given what the SELECT reads
from the row before them (`r1`). -/
theorem read_afterUpdate {s : Schema2} {uuid : Val} {raw0 : Raw TCol} {r1 : Row TField}
    (hA : ∀ g, view tSpec (TField.present s) raw0 g = .ok (r1 g))
    (htyped : originTyped raw0 = true) (stamp : Option Int)
    (hst : ∀ t, stamp = some t → in64 (t * 1000000000) = true ∧ TField.present s .last_edit_time = true)
    (g : TField) :
    view tSpec (TField.present s) (stampRow stamp (applyFix uuid raw0)) g
      = .ok (stampRowT stamp (fixRowT uuid r1) g) := by
  simp only [originTyped, Bool.and_eq_true] at htyped
  have hAid : FVal.int (readInt (raw0 .id)) = r1 .id := Res.ok.inj (hA .id)
  have hAot : FVal.int (readInt (raw0 .originTrackId)) = r1 .origin_track_id := Res.ok.inj (hA .origin_track_id)
  have hAou : FVal.str (readStr (raw0 .originDatabaseUuid)) = r1 .origin_database_uuid :=
    Res.ok.inj (hA .origin_database_uuid)
  -- the trigger condition on the stored row says what `originUnset` says of the row read
  have hfix : needsFix raw0 = originUnset r1 := by
    unfold needsFix originUnset
    rw [isZeroOrNull_of_typed htyped.1, isEmptyOrNull_of_typed htyped.2, hAot, hAou]
  -- the origin fix-up: two columns set
  have hF : view tSpec (TField.present s) (applyFix uuid raw0) g = .ok (fixRowT uuid r1 g) := by
    unfold applyFix fixRowT
    rw [hfix]
    split
    · show view _ _ (setCol (setCol raw0 (tSpec.colOf .origin_track_id) _) (tSpec.colOf .origin_database_uuid) uuid) _ = _
      rw [view_setCol tSpec_ok, view_setCol tSpec_ok]
      split
      · rename_i h; rw [h.1]; rfl
      · split
        · rename_i h; rw [h.1, ← hAid]; rfl
        · rename_i h2 h1
          rw [hA g]
          split
          · exact absurd ⟨rfl, rfl⟩ h1
          · exact absurd ⟨rfl, rfl⟩ h2
          · rfl
    · rw [hA g]; split <;> rfl
  -- the stamp: one column set
  cases stamp with
  | none => rw [stampRowT_other _ _ (.inr rfl)]; exact hF
  | some t =>
    obtain ⟨ht, hpres⟩ := hst t rfl
    show view _ _ (setCol _ (tSpec.colOf .last_edit_time) _) _ = _
    rw [view_setCol tSpec_ok]
    unfold stampRowT
    split
    · rename_i h; rw [h.1]
      show (toTimePoint t).bind (fun t => Res.ok (FVal.time t)) = _
      rw [toTimePoint_of_in64 ht]; rfl
    · rename_i h
      rw [hF]
      split
      · exact absurd ⟨rfl, hpres⟩ h
      · rfl

/-- The row read back from what an aligned write stored over a row of id `i`,
before the triggers: the id, every member the schema has a column for in normal
form, the others at their constants. -/
def writtenRowT (s : Schema2) (i : Int) (r : Row TField) : Row TField := fun f =>
  match f with
  | .id => .int i
  | f => if f.present s then normV f.ty (r f) else absentVal f.ty

theorem writtenRowT_other {s : Schema2} {i : Int} {r : Row TField} {f : TField} (h : f ≠ .id) :
    writtenRowT s i r f = if f.present s then normV f.ty (r f) else absentVal f.ty := by
  unfold writtenRowT
  split
  · contradiction
  · rfl

theorem read_written {s : Schema2} {ps : List (WB TCol TField)} {r : Row TField} {l : List (TCol × Val)}
    (hps : alignedW tSpec (TField.writable s) [] ps = true) (he : evalParams r ps = .ok l)
    (hr : wtRowT r) (base : Raw TCol) (f : TField) :
    view tSpec (TField.present s) (assign base l) f = .ok (writtenRowT s (rowId .id base) r f) := by
  by_cases hw : f ∈ TField.writable s
  · obtain ⟨hfid, hp⟩ := TField.mem_writable.mp hw
    rw [writtenRowT_other hfid, hp, view_assign_mem hps he base hw hp (hr f)]; rfl
  · rw [view_assign_not_mem tSpec_ok hps he rfl base hw]
    by_cases hfid : f = .id
    · subst hfid; rfl
    · have hp : f.present s = false := by simpa [TField.mem_writable, hfid] using hw
      rw [writtenRowT_other hfid, hp]
      exact view_absent hp _

theorem normRowT_other {s : Schema2} {u : Val} {le : Option Int} {i : Int} {r : Row TField} {f : TField}
    (h1 : f ≠ .id) (h2 : f ≠ .origin_track_id) (h3 : f ≠ .origin_database_uuid) (h4 : f ≠ .last_edit_time) :
    normRowT s u le i r f = if f.present s then normV f.ty (r f) else absentVal f.ty := by
  unfold normRowT
  split <;> first | contradiction | rfl

theorem normRowT_eq (s : Schema2) (uuid : Val) (stamp : Option Int) (i : Int) {r : Row TField} (hr : wtRowT r)
    (hst : ∀ t, stamp = some t → TField.present s .last_edit_time = true) :
    normRowT s uuid stamp i r = stampRowT stamp (fixRowT uuid (writtenRowT s i r)) := by
  obtain ⟨k, hk⟩ := wt_i64 (hr .origin_track_id)
  obtain ⟨u, hu⟩ := wt_str (hr .origin_database_uuid)
  have hun : originUnset (writtenRowT s i r) = originUnset r := by
    simp only [originUnset, writtenRowT, TField.present, if_true, TField.ty, hk, hu, normV]
  funext f
  by_cases h1 : f = .id
  · subst h1; rfl
  by_cases h2 : f = .origin_track_id
  · subst h2
    simp only [normRowT, stampRowT, fixRowT, hun, writtenRowT, TField.present, if_true, TField.ty, hk, normV]
  by_cases h3 : f = .origin_database_uuid
  · subst h3
    simp only [normRowT, stampRowT, fixRowT, hun, writtenRowT, TField.present, if_true, TField.ty, hu, normV]
  by_cases h4 : f = .last_edit_time
  · subst h4
    cases stamp with
    | none => rfl
    | some t => simp only [normRowT, stampRowT, hst t rfl, if_true]
  · rw [normRowT_other h1 h2 h3 h4, stampRowT_other _ _ (.inl h4), fixRowT_other _ _ h2 h3, writtenRowT_other h1]

theorem rowId_tInserted {s : Schema2} {ps : List (WB TCol TField)} {r : Row TField} {l : List (TCol × Val)}
    (hps : alignedW tSpec (TField.writable s) [] ps = true) (he : evalParams r ps = .ok l) (uuid : Val) (i : Int) :
    rowId .id (applyFix uuid (assign (setCol nullRaw .id (.int i)) l)) = i := by
  rw [rowId_applyFix, rowId_assign hps he, rowId, setCol_same]
  rfl

theorem tAdd_cases (st : TStmts) (d : TDb) (r : Row TField) :
    ((tAdd st d r).1 = d ∧ ∀ i, (tAdd st d r).2 ≠ .ok i) ∨
    ∃ l, r .id = .int 0 ∧ evalParams r st.ins = .ok l ∧
      tAdd st d r =
        ({ d with rows := d.rows ++ [applyFix d.uuid (assign (setCol nullRaw .id (.int (d.seq + 1))) l)], seq := d.seq + 1 },
          .ok (d.seq + 1)) := by
  generalize hres : tAdd st d r = res
  unfold tAdd at hres
  split at hres
  · subst hres; exact .inl ⟨rfl, nofun⟩
  · rename_i hid
    split at hres
    · subst hres; exact .inl ⟨rfl, nofun⟩
    · subst hres; exact .inl ⟨rfl, nofun⟩
    · rename_i l he
      unfold tInsert at hres
      simp only at hres
      split at hres
      · subst hres; exact .inl ⟨rfl, nofun⟩
      · split at hres <;> subst hres
        · exact .inl ⟨rfl, nofun⟩
        · exact .inr ⟨l, by simpa using hid, he, rfl⟩

theorem tAdd_row {s : Schema2} {st : TStmts} (hins : alignedW tSpec (TField.writable s) [] st.ins = true)
    {d d' : TDb} {r : Row TField} {i : Int} (h : tAdd st d r = (d', .ok i)) :
    ∃ l, evalParams r st.ins = .ok l ∧ i = d.seq + 1 ∧
      rowId .id (applyFix d.uuid (assign (setCol nullRaw .id (.int i)) l)) = i ∧
      d' = { d with rows := d.rows ++ [applyFix d.uuid (assign (setCol nullRaw .id (.int i)) l)], seq := i } := by
  rcases tAdd_cases st d r with ⟨_, hne⟩ | ⟨l, _, he, h'⟩
  · exact absurd (by rw [h]) (hne i)
  · cases h.symm.trans h'
    exact ⟨l, he, rfl, rowId_tInserted hins he _ _, rfl⟩

/-- `get` after `add`: the row written, in normal form, with the assigned id
and the origin pair fixed up. -/
theorem track_add_get {s : Schema2} {st : TStmts} (ha : alignedT s st = true)
    {d d' : TDb} (hwf : idsBelow .id d.rows d.seq) {r : Row TField} (hr : wtRowT r) {i : Int}
    (h : tAdd st d r = (d', .ok i)) :
    tGet st d' i = .ok (some (normRowT s d.uuid none i r)) := by
  obtain ⟨hins, _, hsel, _⟩ := alignedT_iff.mp ha
  obtain ⟨l, he, rfl, hid, rfl⟩ := tAdd_row hins h
  unfold tGet
  simp only
  rw [findRow_append_fresh .id d.rows _ (d.seq + 1) (fun r hr => by have := hwf r hr; omega) hid]
  have hbase : rowId .id (setCol nullRaw TCol.id (.int (d.seq + 1))) = d.seq + 1 := by rw [rowId, setCol_same]; rfl
  have := read_afterUpdate (uuid := d.uuid)
    (fun g => read_written hins he hr (setCol nullRaw TCol.id (.int (d.seq + 1))) g) (written_typed hins he hr _)
    none (fun t ht => by cases ht)
  rw [hbase, ← normRowT_eq s d.uuid none _ hr (fun t ht => by cases ht)] at this
  simp only [stampRow] at this ⊢
  rw [(readRow_eq_ok_iff tSpec_ok hsel).mpr this]

/-- `UPDATE … WHERE id = ?` changes nothing when no row has the id or a UNIQUE
constraint fails, and otherwise replaces the row by what the triggers leave of
the assigned one. -/
theorem tUpdateWhereId_cases (s : Schema2) (d : TDb) (i : Int) (l : List (TCol × Val)) :
    (findRow .id d.rows i = none ∧ tUpdateWhereId s d i l = (d, .ok 0)) ∨
    ∃ old, findRow .id d.rows i = some old ∧
      (tUpdateWhereId s d i l = (d, .throw .sqlite_error) ∨
       tUpdateWhereId s d i l =
        ({ d with rows := updRow .id d.rows i (fun _ => afterUpdate s d (l.map (·.1)) (assign old l)) }, .ok 1)) := by
  unfold tUpdateWhereId
  cases hf : findRow .id d.rows i with
  | none => exact .inl ⟨rfl, rfl⟩
  | some old =>
    refine .inr ⟨old, rfl, ?_⟩
    simp only
    split
    · exact .inl rfl
    · split
      · exact .inl rfl
      · exact .inr rfl

theorem tUpdateWhereId_ok {s : Schema2} {d d' : TDb} {i : Int} {l : List (TCol × Val)} {n : Nat}
    (h : tUpdateWhereId s d i l = (d', .ok n)) :
    (findRow .id d.rows i = none ∧ d' = d ∧ n = 0) ∨
    (∃ old, findRow .id d.rows i = some old ∧ n = 1 ∧
      d' = { d with rows := updRow .id d.rows i (fun _ => afterUpdate s d (l.map (·.1)) (assign old l)) }) := by
  rcases tUpdateWhereId_cases s d i l with ⟨hf, h'⟩ | ⟨old, hf, h' | h'⟩ <;> rw [h'] at h <;> cases h
  · exact .inl ⟨hf, rfl, rfl⟩
  · exact .inr ⟨old, hf, rfl, rfl⟩

theorem tUpdateWhereId_fail {s : Schema2} {d d' : TDb} {i : Int} {l : List (TCol × Val)} {e : Exn}
    (h : tUpdateWhereId s d i l = (d', .throw e)) : d' = d := by
  rcases tUpdateWhereId_cases s d i l with ⟨_, h'⟩ | ⟨_, _, h' | h'⟩ <;> rw [h'] at h <;> cases h
  rfl

theorem tUpdateWhereId_no_ub {s : Schema2} {d : TDb} {i : Int} {l : List (TCol × Val)} {u : Ub} :
    (tUpdateWhereId s d i l).2 ≠ .ub u := by
  rcases tUpdateWhereId_cases s d i l with ⟨_, h'⟩ | ⟨_, _, h' | h'⟩ <;> rw [h'] <;> nofun

theorem tUpdate_cases (s : Schema2) (st : TStmts) (d : TDb) (r : Row TField) :
    ((tUpdate s st d r).1 = d ∧ ∃ e, (tUpdate s st d r).2 = .throw e) ∨
    ∃ i l, r .id = .int i ∧ i ≠ 0 ∧ evalParams r st.upd = .ok l ∧
      tUpdate s st d r = ((tUpdateWhereId s d i l).1, (tUpdateWhereId s d i l).2.bind fun _ => .ok ()) := by
  generalize hres : tUpdate s st d r = res
  unfold tUpdate at hres
  split at hres
  · subst hres; exact .inl ⟨rfl, _, rfl⟩
  · rename_i hid
    split at hres
    · subst hres; exact .inl ⟨rfl, _, rfl⟩
    · rename_i u he; exact absurd he (evalParams_no_ub u)
    · rename_i l he
      split at hres
      · rename_i i hi
        subst hres
        refine .inr ⟨i, l, hi, fun h0 => hid (h0 ▸ hi), he, ?_⟩
        rcases tUpdateWhereId s d i l with ⟨d', n | e | u⟩ <;> rfl
      · subst hres; exact .inl ⟨rfl, _, rfl⟩

theorem tUpdate_ok {s : Schema2} {st : TStmts} {d d' : TDb} {r : Row TField}
    (h : tUpdate s st d r = (d', .ok ())) :
    ∃ i l n, r .id = .int i ∧ i ≠ 0 ∧ evalParams r st.upd = .ok l ∧ tUpdateWhereId s d i l = (d', .ok n) := by
  rcases tUpdate_cases s st d r with ⟨_, e, he⟩ | ⟨i, l, hi, h0, he, h'⟩
  · rw [h] at he; cases he
  · obtain ⟨h1, h2⟩ := Prod.mk.inj (h'.symm.trans h)
    cases hx : (tUpdateWhereId s d i l).2 with
    | ok n => exact ⟨i, l, n, hi, h0, he, Prod.ext h1 hx⟩
    | throw e => rw [hx] at h2; cases h2
    | ub u => rw [hx] at h2; cases h2

/-- The full `UPDATE` names a stamped column, so on 2.20.3+ the database stamps the row. -/
theorem stampOf_full {s : Schema2} {ps : List (WB TCol TField)} {r : Row TField} {l : List (TCol × Val)}
    (hps : alignedW tSpec (TField.writable s) [] ps = true) (he : evalParams r ps = .ok l) (clock : Int) :
    stampOf s clock (l.map (·.1)) = if s.ge .s2_20_3 then some clock else none := by
  have hlen : TCol.length ∈ l.map (·.1) := by
    rw [(evalParams_ok he).1]
    exact alignedW_mem hps (f := .length) (TField.mem_writable.mpr ⟨by decide, rfl⟩)
  have : (l.map (·.1)).any (fun c => tsCols.contains c) = true :=
    List.any_eq_true.mpr ⟨_, hlen, by decide⟩
  unfold stampOf stamps
  rw [this, Bool.and_true]

theorem stamp_ok {s : Schema2} {d : TDb} (hclk : in64 (d.clock * 1000000000) = true) {cols : List TCol} (t : Int)
    (h : stampOf s d.clock cols = some t) :
    in64 (t * 1000000000) = true ∧ TField.present s .last_edit_time = true := by
  unfold stampOf at h
  split at h
  · rename_i hs
    cases h
    simp only [stamps, Bool.and_eq_true] at hs
    exact ⟨hclk, hs.1⟩
  · cases h

/-- `r1`: what the SELECT reads from the assigned row before the triggers. -/
theorem tUpdateWhereId_get {s : Schema2} {st : TStmts} (hsel : alignedR tSpec (TField.present s) st.sel = true)
    {d d' : TDb} {i : Int} {l : List (TCol × Val)} {old : Raw TCol} {n : Nat}
    (hold : findRow .id d.rows i = some old) (hidcol : TCol.id ∉ l.map (·.1))
    {r1 : Row TField} (hA : ∀ g, view tSpec (TField.present s) (assign old l) g = .ok (r1 g))
    (htyped : originTyped (assign old l) = true) (hclk : in64 (d.clock * 1000000000) = true)
    (h : tUpdateWhereId s d i l = (d', .ok n)) :
    tGet st d' i = .ok (some (stampRowT (stampOf s d.clock (l.map (·.1))) (fixRowT d.uuid r1)))
    ∧ (∀ j, j ≠ i → findRow .id d'.rows j = findRow .id d.rows j)
    ∧ d'.seq = d.seq ∧ d'.uuid = d.uuid ∧ d'.clock = d.clock := by
  rcases tUpdateWhereId_ok h with ⟨hnone, _, _⟩ | ⟨old', hold', _, rfl⟩
  · rw [hold] at hnone; cases hnone
  cases hold.symm.trans hold'
  have hnew : rowId .id (afterUpdate s d (l.map (·.1)) (assign old l)) = i :=
    (rowId_afterUpdate s d hidcol old).trans (findRow_some hold).2
  refine ⟨?_, fun j hj => findRow_updRow_other .id d.rows i j _ hj (fun _ _ _ => hnew), rfl, rfl, rfl⟩
  unfold tGet
  simp only
  rw [findRow_updRow_same .id d.rows i _ hold hnew]
  simp only
  unfold afterUpdate
  rw [(readRow_eq_ok_iff tSpec_ok hsel).mpr (read_afterUpdate (uuid := d.uuid) hA htyped _ (stamp_ok hclk))]

/-- `get` after `update` of an existing row: the row written, in normal form;
the origin pair fixed up, the last-edit time stamped by the database on
2.20.3+; every other row is untouched. -/
theorem track_update_get {s : Schema2} {st : TStmts} (ha : alignedT s st = true)
    {d d' : TDb} {r : Row TField} (hr : wtRowT r) {i : Int} (hid : r .id = .int i)
    {old : Raw TCol} (hex : findRow .id d.rows i = some old)
    (hclk : in64 (d.clock * 1000000000) = true)
    (h : tUpdate s st d r = (d', .ok ())) :
    tGet st d' i = .ok (some (normRowT s d.uuid (if s.ge .s2_20_3 then some d.clock else none) i r))
    ∧ (∀ j, j ≠ i → findRow .id d'.rows j = findRow .id d.rows j)
    ∧ d'.seq = d.seq ∧ d'.uuid = d.uuid ∧ d'.clock = d.clock := by
  obtain ⟨_, hupd, hsel, _⟩ := alignedT_iff.mp ha
  obtain ⟨i', l, n, hid', _, he, hu⟩ := tUpdate_ok h
  cases hid.symm.trans hid'
  have := tUpdateWhereId_get hsel hex (id_not_written hupd he) (fun g => read_written hupd he hr old g)
    (written_typed hupd he hr _) hclk hu
  rwa [(findRow_some hex).2, ← normRowT_eq s d.uuid _ _ hr (fun t ht => (stamp_ok hclk t ht).2),
    stampOf_full hupd he] at this

theorem findAcc_aligned {l : List (Acc TCol TField Schema2)} (ha : alignedAcc l = true) {f : TField}
    (hf : f ≠ .id) :
    ∃ a, findAcc l f = some a ∧ a.field = f ∧ a.col = f.col ∧ a.ty = f.accTy ∧ a.minSchema = f.accGuard := by
  simp only [alignedAcc, Bool.and_eq_true, decide_eq_true_eq, List.all_eq_true] at ha
  obtain ⟨hfields, hall⟩ := ha
  have hmem : f ∈ l.map (·.field) := by
    rw [hfields]; simp [List.mem_filter, TField.mem_all, hf]
  unfold findAcc
  cases hfa : l.find? (fun a => a.field == f) with
  | none =>
    obtain ⟨a, ha1, ha2⟩ := List.mem_map.mp hmem
    exact absurd (by simp [ha2]) (List.find?_eq_none.mp hfa a ha1)
  | some a =>
    have hfield : a.field = f := by simpa using List.find?_some hfa
    have := hall a (List.mem_of_find?_eq_some hfa)
    rw [hfield] at this
    exact ⟨a, rfl, hfield, this.1.1, this.1.2, this.2⟩

/-- The accessor pair of a member is guarded by exactly the schema range in which its column exists. -/
theorem guard_present {s : Schema2} (f : TField) : guardFails s f.accGuard = !f.present s := by
  unfold TField.accGuard TField.present
  split <;> first | rfl | (split <;> first | rfl | contradiction)

/-- The accessor pair of a member exchanges the member's own type, except for
the two creation dates (time points exchanged as optional time points). -/
theorem accTy_cases (f : TField) : f.accTy = f.ty ∨ (f.ty = .time ∧ f.accTy = .otime) := by
  unfold TField.accTy
  split <;> first | exact .inr ⟨rfl, rfl⟩ | exact .inl rfl

theorem fromAcc_same {f : TField} (h : f.accTy = f.ty) (v : FVal) : fromAcc f v = v := by
  unfold fromAcc
  rw [h]
  split <;> first | rfl | (rename_i h1 h2; rw [h1] at h2; cases h2)

theorem acc_read (f : TField) (x : Val) {w : FVal} (h : rconv f.ty.pty f.ty.rconv x = .ok w) :
    ∃ v, rconv f.accTy.pty f.accTy.rconv x = .ok v ∧ fromAcc f v = w := by
  rcases accTy_cases f with hsame | ⟨h1, h2⟩
  · exact ⟨w, by rw [hsame]; exact h, fromAcc_same hsame w⟩
  · -- a creation date: NULL reads as the epoch, an integer as that time point
    rw [h1] at h
    rw [h2]
    simp only [FTy.pty, FTy.rconv, rconv] at h ⊢
    cases x with
    | null =>
      cases h
      exact ⟨_, rfl, by simp only [fromAcc, h1, h2]; rfl⟩
    | _ =>
      simp only [readOptInt]
      cases ht : toTimePoint (readInt _) with
      | ok t =>
        rw [ht] at h
        cases h
        exact ⟨_, rfl, by simp only [fromAcc, h1, h2]⟩
      | throw e => rw [ht] at h; cases h
      | ub u => rw [ht] at h; cases h

theorem acc_write_read (f : TField) {v : FVal} {x : Val} (hv : wtv f.accTy v = true)
    (hw : wconv f.accTy.wconv v = .ok x) :
    rconv f.ty.pty f.ty.rconv x = .ok (normV f.ty (fromAcc f v)) := by
  rcases accTy_cases f with hsame | ⟨h1, h2⟩
  · rw [fromAcc_same hsame]
    rw [hsame] at hv hw
    exact conv_roundtrip hv hw
  · rw [h2] at hv hw
    rw [h1]
    cases v <;> simp only [wtv, Bool.false_eq_true] at hv
    case otime o =>
      cases o <;> cases hw
      · simp only [fromAcc, h1, h2]; rfl
      · simp only [fromAcc, h1, h2, FTy.pty, FTy.rconv, rconv, readInt, toTimePoint_of_in64 (truncSec_in64 hv), normV]
        rfl

theorem tGet_found {st : TStmts} {d : TDb} {i : Int} {raw : Raw TCol} {g : Row TField}
    (hfind : findRow .id d.rows i = some raw) (hget : tGet st d i = .ok (some g)) :
    readRow raw st.sel = .ok g := by
  unfold tGet at hget
  rw [hfind] at hget
  simp only at hget
  split at hget <;> cases hget
  assumption

/-- **Per-column getter.**  On an existing row the getter of a member the schema
has a column for denotes the member of the row `get` returns; on a schema
without the column it reports `unsupported_operation`. -/
theorem track_getc {s : Schema2} {st : TStmts} (ha : alignedT s st = true) {d : TDb} {i : Int}
    {raw : Raw TCol} (hfind : findRow .id d.rows i = some raw) {g : Row TField}
    (hget : tGet st d i = .ok (some g)) {f : TField} (hf : f ≠ .id) :
    if f.present s then ∃ v, tGetc s st d f i = .ok v ∧ fromAcc f v = g f
    else tGetc s st d f i = .throw (.dj "unsupported_operation") := by
  obtain ⟨_, _, hsel, hgetters, _⟩ := alignedT_iff.mp ha
  obtain ⟨a, hfa, _, hcol, hty, hguard⟩ := findAcc_aligned hgetters hf
  unfold tGetc
  rw [hfa]
  simp only
  rw [hguard, guard_present f]
  by_cases hp : f.present s = true
  · simp only [hp, if_true, Bool.not_true, Bool.false_eq_true, if_false, hfind]
    rw [hcol, hty]
    exact acc_read f _ ((view_present (sp := tSpec) hp raw).symm.trans
      ((readRow_eq_ok_iff tSpec_ok hsel).mp (tGet_found hfind hget) f))
  · simp only [hp, Bool.false_eq_true, if_false, Bool.not_false, if_true]

theorem tSetc_cases (s : Schema2) (st : TStmts) (d : TDb) (f : TField) (i : Int) (v : FVal) :
    (∃ e, tSetc s st d f i v = (d, .throw e)) ∨
    ∃ a x old, findAcc st.setters f = some a ∧ guardFails s a.minSchema = false ∧ wconv a.ty.wconv v = .ok x ∧
      findRow .id d.rows i = some old ∧
      tUpdateWhereId s d i [(a.col, x)] = ((tSetc s st d f i v).1, .ok 1) ∧ (tSetc s st d f i v).2 = .ok () := by
  unfold tSetc
  split
  · exact .inl ⟨_, rfl⟩
  rename_i a hfa
  split
  · exact .inl ⟨_, rfl⟩
  rename_i hg
  split
  · exact .inl ⟨_, rfl⟩
  · rename_i hw; exact absurd hw (wconv_no_ub _ _ _)
  rename_i x hw
  rcases tUpdateWhereId_cases s d i [(a.col, x)] with ⟨_, h⟩ | ⟨old, hold, h | h⟩ <;> rw [h]
  · exact .inl ⟨_, rfl⟩
  · exact .inl ⟨_, rfl⟩
  · exact .inr ⟨a, x, old, hfa, by simpa using hg, hw, hold, h, rfl⟩

theorem tSetc_aligned {s : Schema2} {st : TStmts} (ha : alignedT s st = true) {f : TField} (hf : f ≠ .id)
    (d : TDb) (i : Int) (v : FVal) :
    (∃ e, tSetc s st d f i v = (d, .throw e)) ∨
    ∃ x old, f.present s = true ∧ wconv f.accTy.wconv v = .ok x ∧ findRow .id d.rows i = some old ∧
      TCol.id ∉ [(f.col, x)].map (·.1) ∧
      tUpdateWhereId s d i [(f.col, x)] = ((tSetc s st d f i v).1, .ok 1) ∧ (tSetc s st d f i v).2 = .ok () := by
  rcases tSetc_cases s st d f i v with h | ⟨a, x, old, hfa, hg, hw, hold, hu, hr⟩
  · exact .inl h
  obtain ⟨_, _, _, _, hsetters, _⟩ := alignedT_iff.mp ha
  obtain ⟨a', hfa', _, hcol, hty, hguard⟩ := findAcc_aligned hsetters hf
  cases hfa.symm.trans hfa'
  rw [hguard, guard_present f] at hg
  rw [hty] at hw
  rw [hcol] at hu
  exact .inr ⟨x, old, by simpa using hg, hw, hold,
    by simpa using fun hc => hf (TField.col_inj (f := f) (g := .id) hc.symm), hu, hr⟩

/-- **Missing rows.**  Every column accessor and `remove` naming an id with no
row reports an error and changes nothing. -/
theorem track_missing_row {s : Schema2} {st : TStmts} (ha : alignedT s st = true) {d : TDb} {i : Int}
    (hmiss : findRow .id d.rows i = none) :
    (∀ f, f ≠ .id → ∃ e, tGetc s st d f i = .throw e) ∧
    (∀ f v, f ≠ .id → ∃ e, tSetc s st d f i v = (d, .throw e)) ∧
    tRemove st d i = (d, .throw .invalid_argument) := by
  obtain ⟨_, _, _, hgetters, _, hrm, _⟩ := alignedT_iff.mp ha
  refine ⟨fun f hf => ?_, fun f v _ => ?_, ?_⟩
  · obtain ⟨a, hfa, _⟩ := findAcc_aligned hgetters hf
    unfold tGetc
    rw [hfa]
    simp only
    split
    · exact ⟨_, rfl⟩
    · rw [hmiss]; exact ⟨_, rfl⟩
  · rcases tSetc_cases s st d f i v with h | ⟨_, _, _, _, _, _, hold, _⟩
    · exact h
    · rw [hmiss] at hold; cases hold
  · unfold tRemove
    rw [hmiss, hrm]
    rfl

end Table
end EngineModel
