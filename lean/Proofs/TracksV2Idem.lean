/-
`Spec.normalize` is idempotent (the read-back snapshot is a fixed point).
-/
import Proofs.TracksV2Convert

namespace EngineModel
namespace TracksV2
namespace Spec

open Prim

theorem normZeroAbsent_idem (v : Option F) : normZeroAbsent (normZeroAbsent v) = normZeroAbsent v := by
  cases v with
  | none => rfl
  | some b =>
    by_cases h : b = 0 ∨ b = F64.negZero
    · simp [normZeroAbsent, h]
    · simp [normZeroAbsent, h]

theorem normCount_idem (v : Option UInt64) : normCount (normCount v) = normCount v := by
  cases v with
  | none => rfl
  | some n => by_cases h : n = 0 <;> simp [normCount, h]

theorem normBpm_idem (v : Option F) : normBpm (normBpm v) = normBpm v := by
  cases v with
  | none => rfl
  | some b =>
    by_cases hn : F64.isNaN b = true
    · simp [normBpm, hn]
    · by_cases hz : b = F64.negZero
      · subst hz; decide
      · simp [normBpm, hn, hz]

theorem normRating_idem (v : Option UInt32) : normRating (normRating v) = normRating v := by
  cases v with
  | none => rfl
  | some r =>
    by_cases h0 : s32 r ≤ 0
    · simp [normRating, h0]
    · by_cases h1 : 100 < s32 r
      · simp only [normRating, h0, h1, if_true, if_false]; decide
      · simp [normRating, h0, h1]

theorem normTime_idem (v : Option UInt64) : normTime (normTime v) = normTime v := by
  cases v with
  | none => rfl
  | some t => simp [normTime, wholeSeconds_idem 1000000000 (by omega)]

theorem normDuration_idem (v : Option UInt64) : normDuration (normDuration v) = normDuration v := by
  cases v with
  | none => rfl
  | some ms =>
    have hr := s64_range ms
    obtain ⟨b1, b2, _, _⟩ := tdiv_bounds (s64 ms) 1000 (by omega) hr.1 hr.2
    by_cases hq : Int.tdiv (s64 ms) 1000 = 0
    · simp [normDuration, hq]
    · have e : Int.tdiv (s64 (wholeSeconds 1000 ms)) 1000 = Int.tdiv (s64 ms) 1000 := by
        unfold wholeSeconds
        rw [s64_u64OfInt _ b1 b2, Int.mul_tdiv_cancel _ (by omega)]
      simp only [normDuration, hq, if_false, e, wholeSeconds_idem 1000 (by omega)]

theorem normCue_idem (c : Option HotCue) : normCue (normCue c) = normCue c := by
  cases c with
  | none => rfl
  | some q => by_cases h : q.off = F64.negOne <;> simp [normCue, h]

theorem pad8_length {α} (l : List (Option α)) (h : l.length ≤ 8) : (pad8 l).length = 8 := by
  simp [pad8]; omega

theorem pad8_of_length {α} (l : List (Option α)) (h : l.length = 8) : pad8 l = l := by
  simp [pad8, h]

theorem labelsOk_pad8 {α} (label : α → Bytes) (l : List (Option α)) :
    labelsOk label (pad8 l) = labelsOk label l := by
  simp [labelsOk, pad8, List.all_append, List.all_replicate]

theorem labelsOk_map_normCue (l : List (Option HotCue)) (h : labelsOk HotCue.label l = true) :
    labelsOk HotCue.label (l.map normCue) = true := by
  unfold labelsOk at h ⊢
  rw [List.all_map]
  rw [List.all_eq_true] at h ⊢
  intro o ho
  have := h o ho
  cases o with
  | none => rfl
  | some q =>
    by_cases hq : q.off = F64.negOne
    · simp [normCue, hq]
    · simpa [normCue, hq] using this

theorem map_normCue_pad8 (l : List (Option HotCue)) :
    (pad8 l).map normCue = pad8 (l.map normCue) := by
  simp [pad8, normCue]

theorem filterMap_length_of_isSome {α β} (f : α → Option β) (l : List α) (h : ∀ i ∈ l, (f i).isSome = true) :
    (l.filterMap f).length = l.length := by
  induction l with
  | nil => rfl
  | cons a r ih =>
    obtain ⟨b, hb⟩ := Option.isSome_iff_exists.mp (h a (List.mem_cons_self ..))
    rw [List.filterMap_cons, hb, List.length_cons, List.length_cons, ih (fun i hi => h i (List.mem_cons_of_mem _ hi))]

theorem filterMap_getElem?_of_isSome {α β} (f : α → Option β) (l : List α) (h : ∀ i ∈ l, (f i).isSome = true)
    (k : Nat) : (l.filterMap f)[k]? = (l[k]?).bind f := by
  induction l generalizing k with
  | nil => rfl
  | cons a r ih =>
    obtain ⟨b, hb⟩ := Option.isSome_iff_exists.mp (h a (List.mem_cons_self ..))
    rw [List.filterMap_cons, hb]
    cases k with
    | zero => exact hb.symm
    | succ k => exact ih (fun i hi => h i (List.mem_cons_of_mem _ hi)) k

theorem opq_idem (e : WEntry) : opq255 (opq255 e) = opq255 e := rfl

theorem overviewOf_def (w : List WEntry) (size : Nat) :
    overviewOf w size = (List.range size).filterMap fun i => (w[w.length * (2 * i + 1) / 2048]?).map opq255 := rfl

theorem overviewOf_fixed (w : List WEntry) (h : w.length = 1024)
    (ho : ∀ e ∈ w, e.lo = 255 ∧ e.mo = 255 ∧ e.ho = 255) : overviewOf w 1024 = w := by
  apply List.ext_getElem?
  intro k
  have hsome : ∀ i ∈ List.range 1024, ((w[w.length * (2 * i + 1) / 2048]?).map opq255).isSome = true := by
    intro i hi
    have := idx_lt w.length i (by omega) (by simpa using hi)
    simp [List.getElem?_eq_getElem this]
  rw [overviewOf_def, filterMap_getElem?_of_isSome _ _ hsome k]
  by_cases hk : k < 1024
  · have e : w.length * (2 * k + 1) / 2048 = k := by rw [h]; omega
    have hk' : k < w.length := by omega
    simp only [List.getElem?_range hk, Option.bind_some, e, List.getElem?_eq_getElem hk', Option.map_some]
    have := ho w[k] (List.getElem_mem hk')
    congr 1
    cases hw : w[k] with
    | mk a b c d e f =>
      rw [hw] at this
      simp only [opq255]
      obtain ⟨h1, h2, h3⟩ := this
      simp at h1 h2 h3
      subst h1 h2 h3; rfl
  · have : w[k]? = none := by simp; omega
    simp [this, hk]

theorem overviewOf_idem (w : List WEntry) (hw : w ≠ []) :
    overviewOf (overviewOf w 1024) 1024 = overviewOf w 1024 := by
  have hl : 0 < w.length := List.length_pos_iff.mpr hw
  have hsome : ∀ i ∈ List.range 1024, ((w[w.length * (2 * i + 1) / 2048]?).map opq255).isSome = true := by
    intro i hi
    have := idx_lt w.length i hl (by simpa using hi)
    simp [List.getElem?_eq_getElem this]
  refine overviewOf_fixed _ ?_ ?_
  · rw [overviewOf_def, filterMap_length_of_isSome _ _ hsome, List.length_range]
  · intro e he
    rw [overviewOf_def, List.mem_filterMap] at he
    obtain ⟨i, _, hi⟩ := he
    obtain ⟨e0, _, rfl⟩ := Option.map_eq_some_iff.mp hi
    exact ⟨rfl, rfl, rfl⟩

theorem integerPart_zero : integerPart 0 = some 0 := by decide
theorem integerPart_negZero : integerPart F64.negZero = some 0 := by decide

theorem normWaveform_idem (w wv : List WEntry) (c : Option UInt64) (r : Option F)
    (h : normWaveform w c r = some wv) :
    normWaveform wv (normCount c) (normZeroAbsent r) = some wv := by
  unfold normWaveform at h
  by_cases hw : w = []
  · simp [hw] at h; subst h; simp [normWaveform]
  · simp only [hw, if_false] at h
    cases c with
    | none => simp at h
    | some n =>
      cases r with
      | none => simp at h
      | some rate =>
        simp only [] at h
        cases ht : integerPart rate with
        | none => simp [ht] at h
        | some t =>
          simp only [ht] at h
          by_cases h0 : n.toNat = 0 ∨ Pure.Waveform.qn t.natAbs = 0
          · simp [Pure.Waveform.ovSize, h0] at h
          · simp only [Pure.Waveform.ovSize, h0, if_false, (by decide : ¬ (1024 : Nat) = 0), Option.some.injEq] at h
            have hn : ¬ n = 0 := fun hh => h0 (Or.inl (by subst hh; rfl))
            have hr : ¬ (rate = 0 ∨ rate = F64.negZero) := by
              rintro (hh | hh)
              · subst hh; rw [integerPart_zero] at ht; cases ht; exact h0 (Or.inr (by decide))
              · subst hh; rw [integerPart_negZero] at ht; cases ht; exact h0 (Or.inr (by decide))
            subst h
            unfold normWaveform
            by_cases he : overviewOf w 1024 = []
            · simp [he]
            · simp only [he, if_false, normCount, hn, normZeroAbsent, hr, ht, Pure.Waveform.ovSize, h0,
                overviewOf_idem w hw, (by decide : ¬ (1024 : Nat) = 0)]

end Spec
end TracksV2
end EngineModel
