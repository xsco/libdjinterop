/-
C06 1.x, acceptance side, histories:

  * `writeSnap_clean`, `dbCreate_clean`, `dbUpdate_clean` — `create_track` / `update` from a snapshot
    without NaN build `Clean` rows (under the float law), so every database reachable through the
    modelled calls from NaN-free input is `DbClean`;
  * `dbSet_get`, `later_keeps`, `value_last_set` — what the getters of a track read after an accepted setter and
    after any further history: the headline clause of C06 on histories.
-/
import Proofs.TracksV1AcceptDb

namespace EngineModel.TracksV1

open Impl.V1 (GMarker HotCue LoopV Entry Wave Beat Cues Loops)
open Fl (FOps)


/-- What `to_overview_waveform_data` returns when it returns: no waveform at all, or the extents' samples per
entry with an empty or resampled entry list. -/
theorem toOverview_shape (o : FOps) (c : Option UInt64) (r : Option Bits) (w : List Entry) (v : Wave)
    (h : toOverview o c r w = .ok v) :
    v = ⟨F64.zero, []⟩ ∨ ∃ n rr e, ovwExtents o n rr = .ok e ∧ v.spe = e.2 ∧
      (v.entries = [] ∨ resample w e.1 = .ok v.entries) := by
  unfold toOverview at h
  cases c with
  | none => cases h; exact Or.inl rfl
  | some n =>
    cases r with
    | none => cases h; exact Or.inl rfl
    | some rr =>
      simp only at h
      cases he : ovwExtents o n rr with
      | throw e => rw [he] at h; cases h
      | ub u => rw [he] at h; cases h
      | ok e =>
        rw [he] at h
        simp only at h
        split at h
        · cases h; exact Or.inr ⟨n, rr, e, he, rfl, Or.inl rfl⟩
        · cases hr : resample w e.1 with
          | ok es => rw [hr] at h; cases h; exact Or.inr ⟨n, rr, e, he, rfl, Or.inr hr⟩
          | throw e => rw [hr] at h; cases h
          | ub u => rw [hr] at h; cases h

/-- What `to_high_res_waveform_data` returns when it returns: no waveform, or the given entries with the
extents' samples per entry. -/
theorem toHires_shape (o : FOps) (c : Option UInt64) (r : Option Bits) (w : List Entry) (v : Wave)
    (h : toHires o c r w = .ok v) :
    v = ⟨F64.zero, []⟩ ∨ ∃ n rr e, hiresExtents o n rr = .ok e ∧ v = ⟨e.2, w⟩ := by
  have hempty : ∀ {x : Res Wave}, x = (if w.isEmpty then .ok ⟨F64.zero, []⟩ else .throw (.dj "invalid_track_snapshot")) →
      x = .ok v → v = ⟨F64.zero, []⟩ := by
    intro x hx hv
    rw [hx] at hv
    split at hv
    · cases hv; rfl
    · cases hv
  unfold toHires at h
  cases c with
  | none => exact Or.inl (hempty rfl h)
  | some n =>
    cases r with
    | none => exact Or.inl (hempty rfl h)
    | some rr =>
      simp only at h
      split at h
      · exact Or.inl (hempty rfl h)
      · cases he : hiresExtents o n rr with
        | throw e => rw [he] at h; cases h
        | ub u => rw [he] at h; cases h
        | ok e => rw [he] at h; cases h; exact Or.inr ⟨n, rr, e, he, rfl⟩

theorem toOverview_num (o : FOps) (hl : FloatLaw o) (c : Option UInt64) (r : Option Bits) (w : List Entry) (v : Wave)
    (h : toOverview o c r w = .ok v) : F64.isNaN v.spe = false := by
  rcases toOverview_shape o c r w v h with rfl | ⟨n, rr, e, he, hs, _⟩
  · exact F64.isNaN_zero
  · rw [hs]; exact ovwExtents_num o hl n rr e he

theorem toHires_num (o : FOps) (hl : FloatLaw o) (c : Option UInt64) (r : Option Bits) (w : List Entry) (v : Wave)
    (h : toHires o c r w = .ok v) : F64.isNaN v.spe = false := by
  rcases toHires_shape o c r w v h with rfl | ⟨n, rr, e, he, rfl⟩
  · exact F64.isNaN_zero
  · exact hiresExtents_num o hl n rr e he

theorem toHires_entries (o : FOps) (c : Option UInt64) (r : Option Bits) (w : List Entry) (v : Wave)
    (h : toHires o c r w = .ok v) : v.entries.length = w.length ∨ v.entries.length = 0 := by
  rcases toHires_shape o c r w v h with rfl | ⟨_, _, _, _, rfl⟩
  · exact Or.inr rfl
  · exact Or.inl rfl

theorem ovwExtents_size (o : FOps) (n : UInt64) (r : Bits) (e : Nat × Bits) (h : ovwExtents o n r = .ok e) :
    e.1 ≤ 1024 := by
  obtain ⟨size, spe, hg, hs⟩ := ovwExtents_eq o n r
  rw [hg] at h
  cases h
  rcases hs with rfl | rfl
  · exact Nat.zero_le _
  · exact Nat.le_refl _

theorem toOverview_entries (o : FOps) (c : Option UInt64) (r : Option Bits) (w : List Entry) (v : Wave)
    (h : toOverview o c r w = .ok v) : v.entries.length ≤ 1024 := by
  rcases toOverview_shape o c r w v h with rfl | ⟨n, rr, e, he, _, hes | hes⟩
  · exact Nat.zero_le _
  · rw [hes]; exact Nat.zero_le _
  · unfold resample at hes
    rw [mapRes_length _ _ _ hes, List.length_range]
    exact ovwExtents_size o n rr e he

theorem cueStored_norm (q : Option HotCue) (hok : Spec.cueOk q = true) (hn : cueNum q = true) :
    cueStored (Spec.normCue q) = true := by
  rw [cueStored_iff]
  refine ⟨Spec.cueOk_normCue q hok, Spec.normCue_idem q, ?_⟩
  cases q with
  | none => rfl
  | some c =>
    unfold Spec.normCue
    simp only
    split
    · rfl
    · exact hn

theorem loopStored_norm (q : Option LoopV) (hok : Spec.loopOk q = true) (hn : loopNum q = true) :
    loopStored (Spec.normLoop q) = true := by
  rw [loopStored_iff]
  refine ⟨Spec.loopOk_normLoop q hok, Spec.normLoop_idem q, ?_⟩
  cases q with
  | none => rfl
  | some c =>
    unfold Spec.normLoop
    simp only
    split
    · rfl
    · exact hn

theorem all_pad8_map {α} (stored : Option α → Bool) (g : Option α → Option α) (hnone : stored none = true)
    (l : List (Option α)) (h : ∀ q ∈ l, stored (g q) = true) : (Spec.pad8 (l.map g)).all stored = true := by
  rw [Spec.all_pad8 _ hnone, List.all_map]
  exact List.all_eq_true.mpr h

/-- The rows written for a snapshot without NaN pass the decode-after-encode check column by column. -/
theorem Written.clean {o : FOps} (hl : FloatLaw o) {s : Schema} {x : Snap} {prior : Option TrackRows}
    {rows : TrackRows} (hw : Written o s x prior rows) (ha : Spec.libAccepted x = true)
    (hn : Spec.NoNaN x = true) : CleanP rows := by
  refine ⟨hw.inv ha, ?_⟩
  have nn := noNaN_unpack x hn
  obtain ⟨_, hc8, hcok, _, hlok, hvg, _⟩ := (libAccepted_iff x).mp ha
  obtain ⟨path, lc, bi, ov, spe, _, _, hov, hhi, rfl⟩ := hw
  intro p hp'
  cases hp'
  rw [stablePerf_iff]
  refine ⟨?_, ?_, ?_, ?_, ?_, ?_⟩
  · unfold stableTrack normTrack
    simp only [numOpt_znf, nn.rate, nn.loud, Bool.true_and, Bool.and_true, Bool.and_eq_true]
    exact ⟨dropZero_ne 0 _, dropZero_ne 0 _⟩
  · unfold stableBeat
    simp only [numOpt_znf, nn.rate, hvg, nn.grid, Bool.true_and, Bool.and_true]
    cases x.sampleCount with
    | none => rfl
    | some n => simp [finOpt, hl.ofU64_num]
  · unfold stableCues
    simp only [Bool.and_eq_true, decide_eq_true_eq, isNaN_getD, nn.main, and_true]
    refine ⟨Spec.pad8_length _ (by rw [List.length_map]; exact hc8), ?_⟩
    exact all_pad8_map cueStored Spec.normCue rfl _ fun q hq =>
      cueStored_norm q (List.all_eq_true.mp hcok q hq) (List.all_eq_true.mp nn.cues q hq)
  · exact all_pad8_map loopStored Spec.normLoop rfl _ fun q hq =>
      loopStored_norm q (List.all_eq_true.mp hlok q hq) (List.all_eq_true.mp nn.loops q hq)
  · unfold stableWave normHires
    simp only [toHires_num o hl _ _ _ _ hhi, Bool.not_false]
  · unfold stableWave normOvw
    simp only [toOverview_num o hl _ _ _ _ hov, Bool.not_false]

theorem writeSnap_clean (o : FOps) (hl : FloatLaw o) (s : Schema) (x : Snap) (prior : Option TrackRows)
    (rows : TrackRows) (hn : Spec.NoNaN x = true) (h : writeSnap o s x prior = .ok rows) : CleanP rows :=
  have ⟨ha, hw⟩ := writeSnap_ok_written h
  hw.clean hl ha hn

theorem dbCreate_clean (o : FOps) (hl : FloatLaw o) (d d' : Db) (x : Snap) (id : Int) (hc : DbClean d)
    (hn : Spec.NoNaN x = true) (h : dbCreate o d x = .ok (d', id)) : DbClean d' :=
  AllRows.dbCreate (fun _ hw => (clean_iff _).mpr (writeSnap_clean o hl _ x none _ hn hw)) hc h

theorem dbUpdate_clean (o : FOps) (hl : FloatLaw o) (d d' : Db) (x : Snap) (id : Int) (hc : DbClean d)
    (hn : Spec.NoNaN x = true) (h : dbUpdate o d id x = .ok d') : DbClean d' :=
  AllRows.dbUpdate (fun prior _ hw => (clean_iff _).mpr (writeSnap_clean o hl _ x (some prior) _ hn hw)) hc h

theorem dbRemove_clean (d : Db) (id : Int) (hc : DbClean d) : DbClean (dbRemove d id) :=
  AllRows.dbRemove id hc

/-- An accepted call `set_f(v)` on track `id`, seen through the getters of that track: `f` reads the normalised
`v`, a getter independent of `f` reads what it read before. -/
theorem dbSet_get (o : FOps) (d d2 : Db) (id : Int) (f : Field) (v : f.ty) (hinv : DbInv d)
    (hfin : Spec.finiteArg f v = true) (hacc : dbSet o d id f v = .ok d2) :
    ∃ w, Spec.normField f v = some w ∧ dbGet o d2 id f = .ok w ∧
      ∀ g, Spec.independent f g = true → dbGet o d2 id g = dbGet o d id g := by
  obtain ⟨r, r', hr, hs, hr', _⟩ := dbSet_rows_same o d d2 id f v hacc
  have hi := (inv_iff r).mp (hinv _ _ hr)
  obtain ⟨w, hw, hsn, hi'⟩ := set_refines o .s1_6_0 r r' f v hi hfin hs
  refine ⟨w, hw, ?_, ?_⟩
  · unfold dbGet; rw [hr']; simp only
    rw [get_eq_snapField o .s1_6_0 r' hi' f, hsn]
    exact snapField_put_same _ f w (set_slotValid o .s1_6_0 r r' f v hs)
  · intro g hfg
    unfold dbGet; rw [hr', hr]; simp only
    rw [get_eq_snapField o .s1_6_0 r' hi' g, get_eq_snapField o .s1_6_0 r hi g, hsn]
    exact snapField_put_other _ f g w hfg

/-- After an accepted call `set_f(v)` on track `id`, any further history in which no accepted call on that
track targets `f` (or a field overlapping it) leaves getter `f` of track `id` at the normalised `v`. -/
theorem later_keeps (o : FOps) (h2 : List SetOp) (d : Db) (id : Int) (f : Field) (w : f.ty) (hinv : DbInv d)
    (hfin : ∀ op ∈ h2, Spec.finiteArg op.f op.v = true) (hg : dbGet o d id f = .ok w)
    (hlater : ∀ e ∈ (dbRun o d h2).2, e.2 = true → e.1.id = id → Spec.independent e.1.f f = true) :
    dbGet o (dbRun o d h2).1 id f = .ok w := by
  induction h2 generalizing d with
  | nil => exact hg
  | cons op t ih =>
    simp only [dbRun] at hlater ⊢
    have hop := hfin op (List.mem_cons_self ..)
    apply ih (dbStep o d op).1 (dbStep_spec o d hinv op hop).1 fun op' h' => hfin op' (List.mem_cons_of_mem _ h')
    · cases hok : (dbStep o d op).2 with
      | false => rw [dbStep_fail o d op hok]; exact hg
      | true =>
        have hset := dbStep_ok o d op hok
        by_cases hid : op.id = id
        · obtain ⟨_, _, _, hk⟩ := dbSet_get o d _ op.id op.f op.v hinv hop hset
          rw [← hg, ← hid]
          exact hk f (hlater (op, (dbStep o d op).2) (List.mem_cons_self ..) hok hid)
        · unfold dbGet at hg ⊢
          rw [dbSet_rows_other o d _ op.id id op.f op.v (fun e => hid e.symm) hset]
          exact hg
    · intro e he
      exact hlater e (List.mem_cons_of_mem _ he)

/-- **Each getter returns the value last set for its field.** -/
theorem value_last_set (o : FOps) (d : Db) (h1 h2 : List SetOp) (id : Int) (f : Field) (v : f.ty) (hinv : DbInv d)
    (hfin1 : ∀ op ∈ h1, Spec.finiteArg op.f op.v = true) (hfinv : Spec.finiteArg f v = true)
    (hfin2 : ∀ op ∈ h2, Spec.finiteArg op.f op.v = true)
    (d2 : Db) (hacc : dbSet o (dbRun o d h1).1 id f v = .ok d2)
    (hlater : ∀ e ∈ (dbRun o d2 h2).2, e.2 = true → e.1.id = id → Spec.independent e.1.f f = true) :
    ∃ w, Spec.normField f v = some w ∧ dbGet o (dbRun o d (h1 ++ ⟨id, f, v⟩ :: h2)).1 id f = .ok w := by
  obtain ⟨i1, _⟩ := dbRun_spec o h1 d hinv hfin1
  obtain ⟨w, hw, hg, _⟩ := dbSet_get o _ d2 id f v i1 hfinv hacc
  refine ⟨w, hw, ?_⟩
  have hinv2 : DbInv d2 := dbSet_inv o _ d2 id f v i1 hacc
  rw [dbRun_append]
  simp only [dbRun]
  have hstep : dbStep o (dbRun o d h1).1 ⟨id, f, v⟩ = (d2, true) := by
    unfold dbStep; simp only; rw [hacc]
  rw [hstep]
  exact later_keeps o h2 d2 id f w hinv2 hfin2 hg hlater

end EngineModel.TracksV1
