/-
Typed columns (property C18):
what an aligned write or a setter stores in a column is `colTyped` for the
member's declared type (`RowTyped`), the triggers keep rows typed, and a typed
row is read by an aligned SELECT without `ub` and without an exception
(`track_get_defined`).
-/
import Proofs.TableTrack
namespace EngineModel
namespace Table

/-- A column typed for the accessor type of a member is typed for the member
(the two creation dates: an optional time point for a time point). -/
theorem colTyped_acc (f : TField) {x : Val} (h : colTyped f.accTy x = true) : colTyped f.ty x = true := by
  rcases accTy_cases f with hsame | ⟨h1, h2⟩
  · rw [← hsame]; exact h
  · rw [h1]; rw [h2] at h
    cases x <;> exact h

/-- `rowTypedT`, member by member. -/
def RowTyped (raw : Raw TCol) : Prop := ∀ f : TField, colTyped f.ty (raw f.col) = true

theorem rowTypedT_iff (raw : Raw TCol) : rowTypedT raw = true ↔ RowTyped raw := by
  unfold rowTypedT RowTyped
  rw [List.all_eq_true]
  exact ⟨fun h f => h f (TField.mem_all f), fun h f _ => h f⟩

theorem RowTyped.originTyped {raw : Raw TCol} (h : RowTyped raw) : originTyped raw = true := by
  have h1 : colTyped .i64 (raw .originTrackId) = true := h .origin_track_id
  have h2 : colTyped .str (raw .originDatabaseUuid) = true := h .origin_database_uuid
  unfold Table.originTyped
  rw [Bool.and_eq_true]
  constructor
  · generalize raw .originTrackId = x at h1 ⊢
    cases x <;> first | rfl | cases h1
  · generalize raw .originDatabaseUuid = x at h2 ⊢
    cases x <;> first | rfl | cases h2

theorem RowTyped.applyFix {uuid : Val} (hu : uuidTyped uuid = true) {raw : Raw TCol} (h : RowTyped raw) :
    RowTyped (applyFix uuid raw) := by
  intro f
  by_cases h1 : f = .origin_track_id
  · subst h1
    unfold Table.applyFix
    split
    · simp only [fixOrigin]
      rw [show TField.origin_track_id.col = TCol.originTrackId from rfl,
        setCol_other _ _ (by decide), setCol_same]
      rfl
    · exact h _
  by_cases h2 : f = .origin_database_uuid
  · subst h2
    unfold Table.applyFix
    split
    · simp only [fixOrigin]
      rw [show TField.origin_database_uuid.col = TCol.originDatabaseUuid from rfl, setCol_same]
      cases uuid <;> first | rfl | (simp only [uuidTyped, Bool.false_eq_true] at hu)
    · exact h _
  rw [applyFix_other _ _ (fun hc => h1 (TField.col_inj (g := .origin_track_id) hc))
    (fun hc => h2 (TField.col_inj (g := .origin_database_uuid) hc))]
  exact h f

theorem RowTyped.stampRow {raw : Raw TCol} (h : RowTyped raw) (st : Option Int)
    (hst : ∀ t, st = some t → in64 (t * 1000000000) = true) : RowTyped (stampRow st raw) := by
  intro f
  cases st with
  | none => exact h f
  | some t =>
    by_cases hf : f = .last_edit_time
    · subst hf
      simp only [Table.stampRow]
      rw [show TField.last_edit_time.col = TCol.lastEditTime from rfl, setCol_same]
      exact hst t rfl
    · rw [stampRow_other _ _ (fun hc => hf (TField.col_inj (g := .last_edit_time) hc))]
      exact h f

theorem RowTyped.written {s : Schema2} {ps : List (WB TCol TField)} {r : Row TField} {l : List (TCol × Val)}
    (hps : alignedW tSpec (TField.writable s) [] ps = true) (he : evalParams r ps = .ok l)
    (hr : wtRowT r) {base : Raw TCol}
    (hbase : ∀ f, f ∉ TField.writable s → colTyped f.ty (base f.col) = true) :
    RowTyped (assign base l) :=
  Typed.assign tSpec_ok hps he rfl (fun f _ => hr f) hbase

theorem RowTyped.setCol {old : Raw TCol} (h : RowTyped old) {f : TField} {v : FVal} {x : Val}
    (hv : wtv f.accTy v = true) (hw : wconv f.accTy.wconv v = .ok x) : RowTyped (setCol old f.col x) :=
  Typed.setCol tSpec_ok h (colTyped_acc f (wconv_colTyped hv hw))

/-- **`get` is defined on well-formed states**: it answers `nullopt` for an id
with no row and a row otherwise — never `ub`, never an exception. -/
theorem track_get_defined {s : Schema2} {st : TStmts} (ha : alignedT s st = true) {d : TDb} (hwf : d.Wf) (i : Int) :
    (findRow .id d.rows i = none ∧ tGet st d i = .ok none) ∨
    (∃ raw g, findRow .id d.rows i = some raw ∧ tGet st d i = .ok (some g)) := by
  obtain ⟨_, _, hsel, _⟩ := alignedT_iff.mp ha
  cases hf : findRow .id d.rows i with
  | none => left; exact ⟨rfl, by unfold tGet; rw [hf]⟩
  | some raw =>
    right
    obtain ⟨hmem, _⟩ := findRow_some hf
    have htyped := (rowTypedT_iff raw).mp (hwf.cols raw hmem)
    obtain ⟨g, hg⟩ := readRow_defined hsel (raw := raw) fun f => view_typed _ fun _ => htyped f
    exact ⟨raw, g, rfl, by unfold tGet; rw [hf]; simp only [hg]⟩

theorem track_get_of_find {s : Schema2} {st : TStmts} (ha : alignedT s st = true) {d : TDb} (hwf : d.Wf) {i : Int}
    {raw : Raw TCol} (hf : findRow .id d.rows i = some raw) : ∃ g, tGet st d i = .ok (some g) := by
  rcases track_get_defined ha hwf i with ⟨h, _⟩ | ⟨_, g, _, hg⟩
  · rw [hf] at h; cases h
  · exact ⟨g, hg⟩

end Table
end EngineModel
