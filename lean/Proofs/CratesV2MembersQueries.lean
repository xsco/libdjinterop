/-
Schema 2.x crate contents: crate::tracks against Spec.Members, and the frame property of the Spec judge.
-/
import Proofs.CratesV2Members

namespace EngineModel.Db.V2

open EngineModel.Db.Chain EngineModel.Spec EngineModel.ListAux

theorem nodup_map_of_inj_on {β γ δ : Type} {l : List β} (f : β → γ) (g : β → δ) (h : (l.map f).Nodup)
    (hinj : ∀ x ∈ l, ∀ y ∈ l, g x = g y → f x = f y) : (l.map g).Nodup := by
  induction l with
  | nil => simp
  | cons a l ih =>
    simp only [List.map_cons, List.nodup_cons, List.mem_map, not_exists, not_and] at h ⊢
    refine ⟨?_, ih h.2 (fun x hx y hy => hinj x (List.mem_cons_of_mem _ hx) y (List.mem_cons_of_mem _ hy))⟩
    intro y hy e
    exact h.1 y hy (hinj y (List.mem_cons_of_mem _ hy) a (by simp) e)

/-- crate::tracks lists exactly the Spec's contents of the crate: each track once, only live tracks — whatever
entries of other databases the list holds besides. -/
theorem qTracks_spec {S : Ord} {d : Db} (hC : ChInv S d) (hM : MemInv d) (c : Int) :
    ∃ l, qTracks d c = .ok l ∧ l.Nodup ∧ (∀ t, t ∈ l ↔ t ∈ Members.tracksOf (absM d) c) ∧ ∀ t ∈ l, t ∈ qAllTracks d := by
  obtain ⟨rows, hw, hm, hr⟩ := walkBack_spec hC.re c
  have hmemiff : ∀ t, t ∈ (rows.filter (·.val.uuid == 0)).map (·.val.track) ↔ (c, t) ∈ (absM d).pairs := by
    intro t
    rw [mem_pairs_iff]
    constructor
    · intro h
      obtain ⟨r, hrm, rfl⟩ := List.mem_map.mp h
      obtain ⟨hr1, hr2⟩ := List.mem_filter.mp hrm
      exact ⟨r, (hr r hr1).1, (hr r hr1).2, rfl, by simpa using hr2⟩
    · rintro ⟨r, hrt, hk, hv, hu⟩
      have h1 : r.id ∈ S.entIds c := hk ▸ hC.re.mem r hrt
      rw [← hm] at h1
      obtain ⟨r', hr', e⟩ := List.mem_map.mp h1
      have := eq_of_id_eq hC.re.ids_nodup (hr r' hr').1 hrt e
      rw [← hv]
      exact List.mem_map.mpr ⟨r', List.mem_filter.mpr ⟨hr', by rw [this]; simpa using hu⟩, by rw [this]⟩
  refine ⟨(rows.filter (·.val.uuid == 0)).map (·.val.track), by simp [qTracks, hw, Res.bind], ?_, ?_, ?_⟩
  · have hnd : ((rows.filter (·.val.uuid == 0)).map (fun r : Row Ent => r.id)).Nodup :=
      List.Nodup.sublist (List.Sublist.map _ List.filter_sublist) (hm ▸ hC.re.nodup c)
    apply nodup_map_of_inj_on (l := rows.filter (·.val.uuid == 0)) (fun r : Row Ent => r.id) (fun r : Row Ent => r.val.track) hnd
    intro x hx y hy e
    obtain ⟨hx1, hx2⟩ := List.mem_filter.mp hx
    obtain ⟨hy1, hy2⟩ := List.mem_filter.mp hy
    have hxv : x.val = y.val := ent_eq.mpr ⟨e, (of_decide_eq_true hx2 : x.val.uuid = 0).trans (of_decide_eq_true hy2).symm⟩
    have := hC.pairs.pair_unique (core x) (mem_cores.mpr ⟨x, (hr x hx1).1, rfl⟩) (core y) (mem_cores.mpr ⟨y, (hr y hy1).1, rfl⟩)
      ((hr x hx1).2.trans (hr y hy1).2.symm) hxv
    exact congrArg (·.1) this
  · intro t; rw [hmemiff, Members.mem_tracksOf]
  · intro t ht
    obtain ⟨r, hrt, _, hv, hu⟩ := mem_pairs_iff.mp ((hmemiff t).mp ht)
    exact hv ▸ (hM.live (core r) (mem_cores.mpr ⟨r, hrt, rfl⟩) hu).2

/-- The pairs an operation of the membership Spec is about. -/
def touches : Members.Op → Int × Int → Prop
  | .add c t, p => p = (c, t)
  | .remove c t, p => p = (c, t)
  | .clear c, p => p.1 = c
  | .dropTrack t, p => p.2 = t
  | .dropCrates cs, p => p.1 ∈ cs
  | .newCrate _, _ => False
  | .newTrack _, _ => False

theorem next_cases {v : Members.Verdict} {s s' : Members.State} {ok : Bool} (h : v.next s ok = some s') :
    s' = s ∨ v = .accept s' ∨ v = .either s' := by
  cases v <;> cases ok <;> simp [Members.Verdict.next] at h <;> simp [h]

theorem judgeM1_next {s s' : Members.State} {mop : Members.Op} {ok : Bool} (h : judgeM1 s mop ok = some s') :
    (Members.step s mop).next s ok = some s' := by
  -- `judgeM1` is `(Members.step s mop).next s ok`, except that it refuses a new track whose id is present
  cases mop with
  | newTrack t =>
    simp only [judgeM1] at h
    split at h
    · cases h
    · exact h
  | _ => exact h

theorem step_untouched {s s' : Members.State} {mop : Members.Op}
    (e : Members.step s mop = .accept s' ∨ Members.step s mop = .either s') (p : Int × Int) (hp : ¬ touches mop p) :
    p ∈ s'.pairs ↔ p ∈ s.pairs := by
  -- Unfolded, `e` says which branch of `step` produced `s'`; the rejecting branches contradict it.  In the others
  -- `s'.pairs` is `s.pairs` itself (newCrate, newTrack, every tolerated `either s`, add of a present pair),
  -- `s.pairs` filtered by a test that `hp` makes true of `p` (dropCrates, dropTrack, remove, clear),
  -- or `s.pairs ++ [(c, t)]` where `hp` says `p ≠ (c, t)` (add).
  cases mop
  all_goals simp only [Members.step, touches] at e hp
  all_goals repeat' split at e
  all_goals simp only [Members.Verdict.accept.injEq, Members.Verdict.either.injEq, reduceCtorEq, or_false, false_or,
    or_self] at e
  all_goals subst e
  all_goals simp [List.mem_filter, hp]

theorem spec_frame {s s' : Members.State} {mop : Members.Op} {ok : Bool} (h : judgeM1 s mop ok = some s')
    (p : Int × Int) (hp : ¬ touches mop p) : p ∈ s'.pairs ↔ p ∈ s.pairs := by
  rcases next_cases (judgeM1_next h) with rfl | e
  · rfl
  · exact step_untouched e p hp

theorem foldlM_frame (ok : Bool) (p : Int × Int) : ∀ (mops : List Members.Op) (s s' : Members.State),
    mops.foldlM (fun s mop => judgeM1 s mop ok) s = some s' → (∀ mop ∈ mops, ¬ touches mop p) →
    (p ∈ s'.pairs ↔ p ∈ s.pairs) := by
  intro mops
  induction mops with
  | nil => intro s s' h _; simp at h; rw [h]
  | cons m mops ih =>
    intro s s' h hp
    simp only [List.foldlM_cons] at h
    cases h1 : judgeM1 s m ok with
    | none => rw [h1] at h; simp at h
    | some s1 =>
      rw [h1] at h
      simp only [Option.bind_eq_bind, Option.bind_some] at h
      rw [ih s1 s' h (fun mop hm => hp mop (List.mem_cons_of_mem _ hm)), spec_frame h1 p (hp m (by simp))]

/-- Frame: an operation leaves untouched every (crate, track) pair it is not about. -/
theorem step_frame {S : Ord} {d : Db} (hI : Inv S d) (op : Op) (hm : memOp op = true) (p : Int × Int)
    (hp : ∀ mop ∈ membersOps (absF d) op (step d op).2, ¬ touches mop p) :
    p ∈ (absM (step d op).1).pairs ↔ p ∈ (absM d).pairs := by
  have hj := (mstep hI.mem hI.pl hI.ch op hm).judge
  unfold judgeM at hj
  cases ho : outcome (step d op).2 with
  | none => rw [ho] at hj; simp at hj
  | some ok =>
    rw [ho] at hj
    exact foldlM_frame ok p _ _ _ hj hp

end EngineModel.Db.V2
