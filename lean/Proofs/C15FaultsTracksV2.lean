/-
Lemmas for Properties/C15FaultsTracks.lean, schema 2.x tracks.

1. C14 side: a track call executed as its statement program under any fault plan ends on the prior table or on the
   table of the statement-level call `TDb.step` (`Txn.shape_sound` + `topStmts_atomic`).
2. The BRIDGE between the statement-level table `TDb` (where the programs live) and the API model of the C15 track
   theorems (`Api/C15TracksV2.step` over the row store `TracksV2.Db`): on every table satisfying the structural
   invariant `SInv`, `TDb.step` IS `C15TracksV2.step` on the projection `view`, state and outcome (`step_view`).
3. Hence the invariants (`Inv` of C11, `dbOk` of C15) survive every history with failures, the state after such a
   history is a state of the fault-free C15 model (the run of the calls that took effect), and a removed track stays
   removed.
-/
import EngineModel.Api.FaultsTracksV2
import Proofs.TracksV2Stmts
import Proofs.TracksV2Gone
import Proofs.NoUbGuardsTracksV2
import Proofs.NoUbStaleTracksV2
import Proofs.Machine

namespace EngineModel.Proofs.C15FaultsTracksV2
open EngineModel EngineModel.TracksV2 EngineModel.Api.C15TracksV2 EngineModel.Api.GuardedTracksV2
open EngineModel.Api.FaultsTracksV2 EngineModel.Spec.Txn EngineModel.Spec.Stmts
open EngineModel.Machine

/-- A raised run restores the prior table, whatever made it raise (an injected fault at any position, or a
statement refusing by itself), with or without SQLite's own rollback -/
theorem raised_restores (ops : FOps) (s : Schema) (d : TDb) (op : TOp) (fault : Option Nat) (auto : Bool)
    (hr : (call fault auto (topStmts ops s d op) d).raised = true) :
    (call fault auto (topStmts ops s d op) d).conn = Conn.idle d :=
  (Proofs.Txn.shape_sound (topStmts ops s d op) (topStmts_atomic ops s d op) fault auto d).1 hr

theorem callF_some (ops : FOps) (s : Schema) (d : TDb) (op : TOp) (p : Plan) :
    callF ops s d op (some p) =
      Proofs.Stmts.faulted (d.step ops s op) (call (some p.k) p.auto (topStmts ops s d op) d) := by
  show (match (d.step ops s op).2 with | .ub _ => _ | _ => _) = _
  unfold Proofs.Stmts.faulted; cases (d.step ops s op).2 <;> rfl

theorem callF_cases (ops : FOps) (s : Schema) (d : TDb) (op : TOp) (plan : Option Plan) :
    callF ops s d op plan = d.step ops s op ∨ callF ops s d op plan = (d, .throw .sqlite_error) := by
  cases plan with
  | none => exact .inl rfl
  | some p => exact callF_some ops s d op p ▸ Proofs.Stmts.faulted_atomic _ _ (topStmts_atomic ops s d op) _ _ d

theorem callF_state (ops : FOps) (s : Schema) (d : TDb) (op : TOp) (plan : Option Plan) :
    (callF ops s d op plan).1 = d ∨ (callF ops s d op plan).1 = (d.step ops s op).1 :=
  (callF_cases ops s d op plan).symm.imp (congrArg Prod.fst) (congrArg Prod.fst)

theorem callF_outcome (ops : FOps) (s : Schema) (d : TDb) (op : TOp) (plan : Option Plan) :
    (callF ops s d op plan).2 = (d.step ops s op).2 ∨ (callF ops s d op plan).2 = .throw .sqlite_error :=
  (callF_cases ops s d op plan).imp (congrArg Prod.snd) (congrArg Prod.snd)

theorem callF_fault_inside (ops : FOps) (s : Schema) (d : TDb) (op : TOp) (p : Plan) (hk : p.k < positions ops s d op)
    (hu : ∀ u, (d.step ops s op).2 ≠ .ub u) : callF ops s d op (some p) = (d, .throw .sqlite_error) :=
  callF_some ops s d op p ▸ Proofs.Stmts.faulted_inside _ _ (topStmts_atomic ops s d op) p.k p.auto d hk hu

/-- A call that does not return normally leaves the table exactly as it was — whether a statement failed
(injected fault, constraint) or the call threw by itself -/
theorem callF_failed_unchanged (ops : FOps) (s : Schema) {d : TDb} (hs : SInv d) (op : TOp) (plan : Option Plan)
    (hfail : ¬ ∃ v, (callF ops s d op plan).2 = .ok v) : (callF ops s d op plan).1 = d := by
  rcases callF_cases ops s d op plan with e | e <;> rw [e] at hfail ⊢
  exact step_failed_unchanged ops s op hs hfail

theorem view_eq (d : TDb) : view d = d.toDb := rfl

theorem lift_snd {α} (db : Db) (r : Res α) (f : α → Out) : (lift db r f).2 = mapRes f r := by
  cases r <;> rfl

theorem step_toOp (ops : FOps) (s : Schema) (v : Db) (op : TOp) :
    (step ops s v (toOp op)).1 = (v.call ops s op).1 ∧
    (step ops s v (toOp op)).2 = mapRes (outOf op) (v.call ops s op).2 := by
  have drop : ∀ {α} (r : Res α), mapRes (fun _ : Nat => Out.unit) (r.bind fun _ => .ok 0) = mapRes (fun _ => Out.unit) r :=
    fun r => by cases r <;> rfl
  cases op with
  | create x => exact ⟨lift_fst _ _ _, lift_snd _ _ _⟩
  | update id x =>
    have hstep : step ops s v (.update id x) =
        lift (v.update ops s id x).1 (v.update ops s id x).2 fun _ => Out.unit := by
      simp only [step]; split <;> rfl
    exact ⟨by rw [toOp, hstep, lift_fst]; rfl, by rw [toOp, hstep, lift_snd]; exact (drop _).symm⟩
  | set id σ => exact ⟨lift_fst _ _ _, by simp only [toOp, step, lift_snd]; exact (drop _).symm⟩
  | remove id => exact ⟨lift_fst _ _ _, by simp only [toOp, step, lift_snd]; exact (drop _).symm⟩

theorem step_view (ops : FOps) (s : Schema) {d : TDb} (hs : SInv d) (op : TOp) :
    view (d.step ops s op).1 = (step ops s (view d) (toOp op)).1 ∧
    (step ops s (view d) (toOp op)).2 = mapRes (outOf op) (d.step ops s op).2 := by
  obtain ⟨h1, h2⟩ := step_toOp ops s d.toDb op
  rw [step_conj ops s op hs, view_eq, view_eq, h1, h2]
  exact ⟨toDb_unview _ _ (Nat.le_trans (Nat.le_add_left 1 d.seq) (call_ran ops s d.toDb op).eff.nextId_le), rfl⟩

/-- the invariant of the composition: the structural invariant of the Track table (C11: ids, paths and origin
columns are keys / agree, derived columns follow the path) and the invariant of the C15 track theorems on the row
store (every stored `length` scales back to milliseconds inside `int64_t`) -/
structure FInv (d : TDb) : Prop where
  inv : Inv d
  ok : dbOk (view d) = true

theorem finv_empty (uuid : Bytes) : FInv (TDb.empty uuid) := ⟨inv_empty uuid, rfl⟩

theorem finv_step (ops : FOps) (s : Schema) {d : TDb} (h : FInv d) (op : TOp) : FInv (d.step ops s op).1 :=
  ⟨inv_step ops s op h.inv, by rw [(step_view ops s h.inv.s op).1]; exact step_dbOk ops s _ h.ok _⟩

theorem tstep_defined (ops : FOps) (s : Schema) {d : TDb} (h : FInv d) (op : TOp) (u : Ub) :
    (d.step ops s op).2 ≠ .ub u := by
  intro hu
  have h2 := (step_view ops s h.inv.s op).2
  rw [hu] at h2
  exact step_defined ops s (view d) h.ok (toOp op) u h2

theorem callF_keeps (ops : FOps) (s : Schema) {d : TDb} (h : FInv d) (op : TOp) (plan : Option Plan) :
    FInv (callF ops s d op plan).1 ∧ ∀ u, (callF ops s d op plan).2 ≠ .ub u :=
  keeps_of_fails (Inv := FInv) (P := fun r => ∀ u, r ≠ .ub u) (callF_cases ops s d op plan) h (fun _ h => nomatch h)
    ⟨finv_step ops s h op, tstep_defined ops s h op⟩

theorem finv_callF (ops : FOps) (s : Schema) {d : TDb} (h : FInv d) (op : TOp) (plan : Option Plan) :
    FInv (callF ops s d op plan).1 :=
  (callF_keeps ops s h op plan).1

theorem callF_defined (ops : FOps) (s : Schema) {d : TDb} (h : FInv d) (op : TOp) (plan : Option Plan) (u : Ub) :
    (callF ops s d op plan).2 ≠ .ub u :=
  (callF_keeps ops s h op plan).2 u

theorem runF_isRun (ops : FOps) (s : Schema) : IsRun (fun d (c : FCall) => callF ops s d c.1 c.2) (runF ops s) :=
  ⟨fun _ => rfl, fun _ _ _ => rfl⟩

theorem after_faults (ops : FOps) (s : Schema) (hist : List FCall) {d : TDb} (h : FInv d) :
    FInv (runF ops s d hist) ∧ ∀ r ∈ outcomesF ops s d hist, ∀ u, r ≠ .ub u :=
  after_failures (step := fun d op => TDb.step ops s d op) (e := Prod.fst) (Inv := FInv) (A := fun _ => True)
    (P := fun r => ∀ u, r ≠ .ub u)
    (fun d c _ => callF_cases ops s d c.1 c.2) (fun _ h => nomatch h)
    (fun _ op h _ => ⟨finv_step ops s h op, tstep_defined ops s h op⟩)
    (runF_isRun ops s) ⟨fun _ => rfl, fun _ _ _ => rfl⟩ hist d h fun _ _ => trivial

theorem finv_runF (ops : FOps) (s : Schema) (hist : List FCall) {d : TDb} (h : FInv d) : FInv (runF ops s d hist) :=
  (after_faults ops s hist h).1

theorem after_faults_defined (ops : FOps) (s : Schema) {d : TDb} (h : FInv d) (hist : List FCall) :
    (∀ r ∈ outcomesF ops s d hist, ∀ u, r ≠ .ub u) ∧
    (∀ op u, (stepG ops s (view (runF ops s d hist)) op).2 ≠ .ub u) ∧
    (∀ c u, (callG ops s (view (runF ops s d hist)) c).2 ≠ .ub u) ∧
    (∀ op plan u, (callF ops s (runF ops s d hist) op plan).2 ≠ .ub u) :=
  have ⟨hI, hout⟩ := after_faults ops s hist h
  ⟨hout, fun op u => stepG_defined ops s _ hI.ok op u, fun c u => callG_defined ops s _ hI.ok c u,
    fun op plan u => callF_defined ops s hI op plan u⟩

/-- the calls of the history that took effect (those that failed are dropped) -/
def effective (ops : FOps) (s : Schema) (d : TDb) : List FCall → List Op
  | [] => []
  | c :: t =>
    if (callF ops s d c.1 c.2).1 = d then effective ops s d t
    else toOp c.1 :: effective ops s (callF ops s d c.1 c.2).1 t

theorem effective_sublist (ops : FOps) (s : Schema) (hist : List FCall) :
    ∀ d : TDb, (effective ops s d hist).Sublist (hist.map fun c => toOp c.1) := by
  induction hist with
  | nil => intro d; exact List.Sublist.slnil
  | cons c t ih =>
    intro d
    simp only [effective, List.map_cons]
    split
    · exact List.Sublist.cons _ (ih d)
    · exact List.Sublist.cons_cons _ (ih _)

/-- Reachability: the row store after any history with failures is the row store the fault-free C15 model
reaches by the calls of the history that took effect, in order.  Not the one-line instance of `IsRun.sublist` that
the 1.x tracks have: the two machines run on different states (`TDb` and its `view`), and a step agrees with the
model's only on tables of `FInv`, so the invariant travels through the induction. -/
theorem view_runF (ops : FOps) (s : Schema) (hist : List FCall) : ∀ {d : TDb}, FInv d →
    view (runF ops s d hist) = run ops s (view d) (effective ops s d hist) := by
  induction hist with
  | nil => intro d _; rfl
  | cons c t ih =>
    intro d h
    simp only [runF, effective]
    split
    · rename_i e
      have := ih (d := (callF ops s d c.1 c.2).1) (finv_callF ops s h c.1 c.2)
      rw [this, e]
    · rename_i ne
      have e : (callF ops s d c.1 c.2).1 = (d.step ops s c.1).1 := by
        rcases callF_state ops s d c.1 c.2 with e | e
        · exact absurd e ne
        · exact e
      rw [ih (finv_callF ops s h c.1 c.2)]
      simp only [run]
      rw [← (step_view ops s h.inv.s c.1).1, e]

theorem gone_runF (ops : FOps) (s : Schema) (hist : List FCall) {d : TDb} (h : FInv d) {id : Nat} (hg : Gone d id) :
    Gone (runF ops s d hist) id :=
  ((runF_isRun ops s).inv (Inv := fun d => FInv d ∧ Gone d id)
    (fun d c h => ⟨finv_callF ops s h.1 c.1 c.2, by
      rcases callF_state ops s d c.1 c.2 with e | e <;> rw [e]
      exacts [h.2, gone_step ops s c.1 h.1.inv h.2]⟩) hist d ⟨h, hg⟩).2

/-- a `remove_track` that RETURNED NORMALLY (whatever its plan) has removed the track for good -/
theorem gone_of_removed (ops : FOps) (s : Schema) {d : TDb} (h : FInv d) (id : Nat) (plan : Option Plan) (v : Nat)
    (hv : (callF ops s d (.remove id) plan).2 = .ok v) : Gone (callF ops s d (.remove id) plan).1 id := by
  -- the call returned normally: it is `TDb.step`
  have hstep : callF ops s d (.remove id) plan = d.step ops s (.remove id) :=
    (callF_cases ops s d (.remove id) plan).resolve_right fun e => by rw [e] at hv; cases hv
  rw [hstep] at hv ⊢
  have hb : d.step ops s (.remove id) = ((callRemove id d).1, (callRemove id d).2.bind fun _ => .ok 0) :=
    M.bind_pure _ _ _
  rw [hb] at hv ⊢
  cases hf : d.find id with
  | none =>
    exfalso
    have hz : (d.rows.filter fun e => e.id == id).length = 0 := by
      rw [List.length_eq_zero_iff, List.filter_eq_nil_iff]
      intro e he; simpa using find_none hf e he
    rw [callRemove_eq, if_pos hz] at hv
    cases hv
  | some t => exact (gone_of_remove h.inv hf).2

theorem view_get_of_gone {d : TDb} {id : Nat} (hg : Gone d id) : (view d).get id = none := by
  rw [view_eq, toDb_get, hg.1]; rfl

end EngineModel.Proofs.C15FaultsTracksV2
