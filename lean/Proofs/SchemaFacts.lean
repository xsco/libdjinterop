/-
C12, soundness of the kernel decision on class indices (`Spec/SchemaFactsCore.lean`):

  classesOk texts cls → schemaEqIdx cls a b → schemaEq (toDump texts strs a) (toDump texts strs b)

and its lift to the whole table of pairs (`tableOk_sound`).
-/
import EngineModel.Spec.SchemaFactsCore

namespace EngineModel.Spec.SchemaFacts
open EngineModel.Spec.SqlCanon EngineModel.Spec.SchemaDump

theorem subsetB_iff {α : Type} [DecidableEq α] (xs ys : List α) :
    subsetB xs ys = true ↔ ∀ x ∈ xs, x ∈ ys := by
  simp [subsetB, List.all_eq_true]

theorem sameSet_iff {α : Type} [DecidableEq α] (xs ys : List α) :
    sameSet xs ys = true ↔ (∀ x, x ∈ xs ↔ x ∈ ys) ∧ xs.length = ys.length := by
  simp only [sameSet, Bool.and_eq_true, subsetB_iff, beq_iff_eq]
  constructor
  · intro h
    exact ⟨fun x => ⟨h.1.1 x, h.1.2 x⟩, h.2⟩
  · intro h
    exact ⟨⟨fun x => (h.1 x).1, fun x => (h.1 x).2⟩, h.2⟩

theorem sameSet_refl {α : Type} [DecidableEq α] (xs : List α) : sameSet xs xs = true := by
  simp [sameSet_iff]

theorem sameSet_map {α β : Type} [DecidableEq α] [DecidableEq β] (f : α → β) {xs ys : List α}
    (h : sameSet xs ys = true) : sameSet (xs.map f) (ys.map f) = true := by
  rw [sameSet_iff] at *
  exact ⟨fun y => by simp only [List.mem_map, h.1], by simp only [List.length_map, h.2]⟩

theorem classesOk_canon {texts : List Str} {cls : List Nat} (h : classesOk texts cls = true) (i : Nat) :
    canonChars (textAt texts i) = canonChars (textAt texts (clsOf cls i)) := by
  simp only [classesOk, Bool.and_eq_true, beq_iff_eq, List.all_eq_true, List.mem_range,
    Bool.or_eq_true] at h
  obtain ⟨hlen, hall⟩ := h
  by_cases hi : i < texts.length
  · cases hall i hi with
    | inl h1 => rw [h1]
    | inr h2 => exact h2
  · have hc : clsOf cls i = i := by
      unfold clsOf
      rw [List.getD_eq_getElem?_getD, List.getElem?_eq_none (by omega)]
      rfl
    rw [hc]

def rowOfClass (texts strs : List Str) (r : CRowI) : CMasterRow :=
  ⟨toStr strs r.db, toStr strs r.type, toStr strs r.name, toStr strs r.tbl, r.cls.map fun i => canonChars (textAt texts i)⟩

theorem canonRow_toRow {texts : List Str} {cls : List Nat} (strs : List Str) (hc : classesOk texts cls = true) (r : IRow) :
    canonRow (toRow texts strs r) = rowOfClass texts strs (classRow cls r) := by
  cases r with
  | mk db type name tbl sql =>
    cases sql with
    | none => rfl
    | some i =>
      simp only [canonRow, toRow, rowOfClass, classRow, Option.map_some]
      rw [classesOk_canon hc i]

theorem master_canon {texts : List Str} {cls : List Nat} (strs : List Str) (hc : classesOk texts cls = true) (a : IDump) :
    (canonDump (toDump texts strs a)).master = (a.master.map (classRow cls)).map (rowOfClass texts strs) := by
  simp only [canonDump, toDump, List.map_map]
  apply List.map_congr_left
  intro r _
  exact canonRow_toRow strs hc r

def idxOf (strs : List Str) (p : NStr × NStr × IIndex) : Str × Str × Index :=
  (toStr strs p.1, toStr strs p.2.1, toIndex strs p.2.2)

theorem indexes_canon (texts strs : List Str) (a : IDump) :
    (canonDump (toDump texts strs a)).indexes = (flatIdx a).map (idxOf strs) := by
  simp only [canonDump, toDump, flatIdx]
  generalize a.indexes = l
  induction l with
  | nil => rfl
  | cons t ts ih =>
    simp only [List.map_cons, List.flatMap_cons, List.map_append, ih]
    congr 1
    simp only [toTableIdx, List.map_map]
    rfl

theorem schemaEqIdx_sound {texts : List Str} {cls : List Nat} (strs : List Str) (hc : classesOk texts cls = true) {a b : IDump}
    (h : schemaEqIdx cls a b = true) : schemaEq (toDump texts strs a) (toDump texts strs b) = true := by
  simp only [schemaEqIdx, Bool.and_eq_true] at h
  obtain ⟨⟨hm, ht⟩, hi⟩ := h
  simp only [schemaEq, cdumpEq, Bool.and_eq_true]
  refine ⟨⟨?_, ?_⟩, ?_⟩
  · rw [master_canon strs hc a, master_canon strs hc b]
    exact sameSet_map _ hm
  · show sameSet (a.tables.map (toTable strs)) (b.tables.map (toTable strs)) = true
    exact sameSet_map _ ht
  · rw [indexes_canon texts strs a, indexes_canon texts strs b]
    exact sameSet_map _ hi

theorem tableOk_sound {texts : List Str} {cls : List Nat} (strs : List Str) {dumps : List IDump} {pairs : List (Nat × Nat)}
    (hc : classesOk texts cls = true) (ht : tableOk cls dumps pairs = true) :
    ∀ p ∈ pairs, schemaEq (toDump texts strs (dumpAt dumps p.1)) (toDump texts strs (dumpAt dumps p.2)) = true := by
  intro p hp
  simp only [tableOk, List.all_eq_true] at ht
  exact schemaEqIdx_sound strs hc (ht p hp)

namespace Example

/-- `a [b]` and `a  b`. -/
def texts : List Str := [['a', ' ', '[', 'b', ']'], ['a', ' ', ' ', 'b']]
def cls : List Nat := [0, 0]

def strs : List Str := [['m'], ['t'], ['x']]
def row (i : Nat) : IRow := ⟨0, 1, 2, 2, some i⟩
def dumps : List IDump := [⟨[row 0], [], []⟩, ⟨[row 1], [], []⟩]

example : texts.getD 0 [] ≠ texts.getD 1 [] := by decide
example : classesOk texts cls = true := by decide +kernel
example : tableOk cls dumps [(0, 1)] = true := by decide +kernel

example : schemaEq (toDump texts strs (dumpAt dumps 0)) (toDump texts strs (dumpAt dumps 1)) = true :=
  tableOk_sound (texts := texts) (cls := cls) strs (dumps := dumps) (pairs := [(0, 1)])
    (by decide +kernel) (by decide +kernel) (0, 1) (List.mem_singleton.mpr rfl)

end Example

end EngineModel.Spec.SchemaFacts
