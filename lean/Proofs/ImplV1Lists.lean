/-
Agreement of the Model's schema-1.x quick-cue and loop codecs with the Spec
(`Format/V1.lean`): the wire formats are the 2.x ones (`V2.cuesRaw`,
`V2.loops`), the 1.x decoders add the "offset −1.0 = empty slot" reading, a
flag check and the no-trailing-data check; the encoders the non-empty-label
rule, the 8-slot sizing and the fixed-size buffer.
-/
import Proofs.ImplV1

namespace EngineModel
namespace V1Proofs
open Codec Cur Impl.V2

theorem decodeLoop_eq : Impl.V1.decodeLoop = (Impl.V2.decodeLoop >>= fun l => pure (V1.loopOfWire l)) := rfl

theorem decodeLoops_eq (bs : Bytes) : Impl.V1.decodeLoops bs = ofOpt (V1.decodeLoops bs) := by
  unfold Impl.V1.decodeLoops V1.decodeLoops
  by_cases h8 : bs.length < 8
  · simp only [if_pos h8, V2.loops, counted, u64le_fixed.dec_none h8]; rfl
  · rw [if_neg h8]
    simp only [decodeLoop_eq, forN_map_bind, bind_assoc, pure_bind]
    rw [counted_run_bind u64le_fixed V2.loop_exact (w := 23) (by omega)
      (fun a _ => by rw [loop_enc_length]; omega)
      (fun k bs h _ => forN_look (m := Impl.V2.decodeLoop) V2.loop_exact (Nat.le_refl 0)
        (fun bs _ => by rw [look_zero, Impl.V2.decodeLoop_eq]) k bs h)
      23 rfl _ bs (by omega), look_zero]
    simp only [bind_run, liftDec, show V2.loops = counted u64le V2.loop from rfl]
    cases (counted u64le V2.loop).dec bs with
    | none => rfl
    | some p =>
      obtain ⟨ws, r⟩ := p
      cases r <;> rfl

theorem encodeLoopSlot_ok (s : Option Impl.V1.LoopV) (h : V1.loopSlotOk s = true) :
    Impl.V1.encodeLoopSlot s = .ok (V2.loop.enc (V1.loopToWire s)) := by
  cases s with
  | none => rfl
  | some l =>
    simp only [V1.loopSlotOk, decide_eq_true_eq] at h
    have h1 : ¬ l.label.length = 0 := by omega
    have h2 : ¬ 255 < l.label.length := by omega
    simp only [Impl.V1.encodeLoopSlot, h1, h2, if_false, V1.loopToWire]
    simp [V2.loop, map, pair, u8, List.append_assoc]

theorem encodeLoopSlot_bad (s : Option Impl.V1.LoopV) (h : V1.loopSlotOk s = false) :
    ∃ e, Impl.V1.encodeLoopSlot s = .throw e := by
  cases s with
  | none => simp [V1.loopSlotOk] at h
  | some l =>
    simp only [V1.loopSlotOk, decide_eq_false_iff_not] at h
    by_cases h1 : l.label.length = 0
    · exact ⟨.logic_error, by simp [Impl.V1.encodeLoopSlot, h1]⟩
    · have h2 : 255 < l.label.length := by omega
      exact ⟨.invalid_argument, by simp [Impl.V1.encodeLoopSlot, h1, h2]⟩

theorem encodeSlots_ok {α β} (f : α → Res Bytes) (c : Codec β) (g : α → β) (ok : α → Bool)
    (hf : ∀ a, ok a = true → f a = .ok (c.enc (g a))) :
    ∀ l : List α, l.all ok = true → Impl.V1.encodeSlots f l = .ok (encL c (l.map g)) := by
  intro l
  induction l with
  | nil => intro _; rfl
  | cons a l ih =>
    intro h
    simp only [List.all_cons, Bool.and_eq_true] at h
    simp only [Impl.V1.encodeSlots, hf a h.1, ih h.2, List.map_cons, encL]

theorem encodeSlots_bad {α} (f : α → Res Bytes) (ok : α → Bool)
    (hok : ∀ a, ok a = true → ∃ b, f a = .ok b)
    (hbad : ∀ a, ok a = false → ∃ e, f a = .throw e) :
    ∀ l : List α, l.all ok = false → ∃ e, Impl.V1.encodeSlots f l = .throw e := by
  intro l
  induction l with
  | nil => intro h; simp at h
  | cons a l ih =>
    intro h
    cases ha : ok a with
    | false =>
      obtain ⟨e, he⟩ := hbad a ha
      exact ⟨e, by simp only [Impl.V1.encodeSlots, he]⟩
    | true =>
      obtain ⟨b, hb⟩ := hok a ha
      have hl : l.all ok = false := by
        simp only [List.all_cons, ha, Bool.true_and] at h
        exact h
      obtain ⟨e, he⟩ := ih hl
      exact ⟨e, by simp only [Impl.V1.encodeSlots, hb, he]⟩

/-- The labels the C++ sizes its buffer by are those of the wire slots: an empty slot is written
with an empty label. -/
theorem slotLabels_len {α β} (lab : α → Bytes) (toWire : Option α → β) (lab' : β → Bytes)
    (hn : lab' (toWire none) = []) (hs : ∀ a, lab' (toWire (some a)) = lab a) (v : List (Option α)) :
    labelsLen (v.filterMap fun q => q.map lab) = labelsLen ((v.map toWire).map lab') := by
  induction v with
  | nil => rfl
  | cons s v ih =>
    cases s with
    | none =>
      simp only [List.filterMap_cons, Option.map_none, List.map_cons, hn, labelsLen, List.sum_cons,
        List.length_nil, Nat.zero_add] at ih ⊢
      exact ih
    | some l =>
      simp only [List.filterMap_cons, Option.map_some, List.map_cons, hs, labelsLen, List.sum_cons] at ih ⊢
      rw [ih]

theorem loopLabels_len (v : Impl.V1.Loops) :
    labelsLen (Impl.V1.loopLabels v) = labelsLen ((v.map V1.loopToWire).map (·.label)) :=
  slotLabels_len Impl.V1.LoopV.label V1.loopToWire (·.label) rfl (fun _ => rfl) v

theorem encodeLoops_ok (v : Impl.V1.Loops) (h : v.all V1.loopSlotOk = true) :
    Impl.V1.encodeLoops v = .ok (V2.loops.enc (v.map V1.loopToWire)) := by
  unfold Impl.V1.encodeLoops
  rw [encodeSlots_ok Impl.V1.encodeLoopSlot V2.loop V1.loopToWire V1.loopSlotOk encodeLoopSlot_ok v h]
  have e : u64le.enc (UInt64.ofNat v.length) ++ encL V2.loop (v.map V1.loopToWire) =
      V2.loops.enc (v.map V1.loopToWire) := by
    simp [V2.loops, counted]
  have hlen : (V2.loops.enc (v.map V1.loopToWire)).length =
      8 + 23 * v.length + labelsLen (Impl.V1.loopLabels v) := by
    rw [loops_enc_length, loopLabels_len]; simp
  simp only [e, hlen, Nat.lt_irrefl, if_false]

theorem encodeLoops_reject (v : Impl.V1.Loops) (h : v.all V1.loopSlotOk = false) :
    ∃ e, Impl.V1.encodeLoops v = .throw e := by
  unfold Impl.V1.encodeLoops
  obtain ⟨e, he⟩ := encodeSlots_bad Impl.V1.encodeLoopSlot V1.loopSlotOk
    (fun a ha => ⟨_, encodeLoopSlot_ok a ha⟩) encodeLoopSlot_bad v h
  exact ⟨e, by rw [he]⟩

theorem encodeLoops_follows (v : Impl.V1.Loops) : Follows (Impl.V1.encodeLoops v) (V1.encodeLoops v) := by
  cases h : v.all V1.loopSlotOk with
  | true => exact .accepts (by simp [V1.encodeLoops, h]) (encodeLoops_ok v h)
  | false => exact .rejects (by simp [V1.encodeLoops, h]) (encodeLoops_reject v h)

theorem decodeCue_eq : Impl.V1.decodeCue = (Impl.V2.decodeCue >>= fun q => pure (V1.cueOfWire q)) := rfl

/-- The 1.x quick-cue decoder: the 2.x wire value (`decodeCue_look`, `cuesRaw_look`), then the flag check
and no trailing data. -/
theorem decodeCues_eq (bs : Bytes) : Impl.V1.decodeCues bs = ofOpt (V1.decodeCues bs) := by
  unfold Impl.V1.decodeCues V1.decodeCues
  by_cases h25 : bs.length < 25
  · rw [if_pos h25, dec_none_of_short V2.cuesRaw_exact (n := 25)
      (fun a _ => by rw [Impl.V2.cuesRaw_enc_length]; omega) h25]
    rfl
  · rw [if_neg h25]
    simp only [decodeCue_eq, forN_map_bind, bind_assoc, pure_bind]
    rw [cueList_run _ bs (by omega), cuesRaw_look]
    simp only [bind_run, liftDec]
    cases V2.cuesRaw.dec bs with
    | none => rfl
    | some p =>
      obtain ⟨raw, r⟩ := p
      dsimp only
      by_cases hb : raw.isAdj.toNat > 1 ∨ (raw.isAdj.toNat = 0 ∧ F64.ne raw.adjMain raw.defMain = true)
      · rw [if_pos hb]; cases r <;> simp [hb, Res.bind]
      · rw [if_neg hb]; cases r <;> simp [hb, Res.bind]

theorem encodeCueSlot_ok (s : Option Impl.V1.HotCue) (h : V1.cueSlotOk s = true) :
    Impl.V1.encodeCueSlot s = .ok (V2.cue.enc (V1.cueToWire s)) := by
  cases s with
  | none => rfl
  | some q =>
    simp only [V1.cueSlotOk, decide_eq_true_eq] at h
    have h1 : ¬ q.label.length = 0 := by omega
    have h2 : ¬ 255 < q.label.length := by omega
    simp only [Impl.V1.encodeCueSlot, h1, h2, if_false, V1.cueToWire]
    simp [V2.cue, map, pair, List.append_assoc]

theorem encodeCueSlot_bad (s : Option Impl.V1.HotCue) (h : V1.cueSlotOk s = false) :
    ∃ e, Impl.V1.encodeCueSlot s = .throw e := by
  cases s with
  | none => simp [V1.cueSlotOk] at h
  | some q =>
    simp only [V1.cueSlotOk, decide_eq_false_iff_not] at h
    by_cases h1 : q.label.length = 0
    · exact ⟨.invalid_argument, by simp [Impl.V1.encodeCueSlot, h1]⟩
    · have h2 : 255 < q.label.length := by omega
      exact ⟨.invalid_argument, by simp [Impl.V1.encodeCueSlot, h1, h2]⟩

theorem cueLabels_len (v : List (Option Impl.V1.HotCue)) :
    labelsLen (Impl.V1.cueLabels v) = labelsLen ((v.map V1.cueToWire).map (·.label)) :=
  slotLabels_len Impl.V1.HotCue.label V1.cueToWire (·.label) rfl (fun _ => rfl) v

/-- The wire value a 1.x quick-cues struct is written as. -/
def cuesWire (v : Impl.V1.Cues) : V2.CuesRaw :=
  ⟨v.cues.map V1.cueToWire, v.adjMain, if F64.eq v.adjMain v.defMain then 0 else 1, v.defMain⟩

/-- The C++ buffer holds exactly eight slots. -/
theorem encodeCues_slots (v : Impl.V1.Cues) (h : v.cues.all V1.cueSlotOk = true) :
    Impl.V1.encodeCues v =
      if 8 < v.cues.length then .throw (.dj "hot_cues_overflow")
      else if v.cues.length < 8 then .throw .runtime_error
      else .ok (V2.cuesRaw.enc (cuesWire v)) := by
  unfold Impl.V1.encodeCues
  split
  · rfl
  · rw [encodeSlots_ok Impl.V1.encodeCueSlot V2.cue V1.cueToWire V1.cueSlotOk encodeCueSlot_ok v.cues h]
    have e : u64be.enc (UInt64.ofNat v.cues.length) ++ encL V2.cue (v.cues.map V1.cueToWire) ++
        u64be.enc v.adjMain ++ [if F64.eq v.adjMain v.defMain then (0 : UInt8) else 1] ++ u64be.enc v.defMain =
        V2.cuesRaw.enc (cuesWire v) := by
      simp [V2.cuesRaw, cuesWire, map, pair, counted, u8, List.append_assoc]
    have hlen : (V2.cuesRaw.enc (cuesWire v)).length =
        25 + 13 * v.cues.length + labelsLen (Impl.V1.cueLabels v.cues) := by
      rw [cuesRaw_enc_length, cueLabels_len]
      simp [cuesWire]
    simp only [e, hlen]
    split
    · omega
    · split
      · rw [if_pos (by omega)]
      · rw [if_neg (by omega)]

theorem encodeCues_ok (v : Impl.V1.Cues) (h8 : v.cues.length = 8) (h : v.cues.all V1.cueSlotOk = true) :
    Impl.V1.encodeCues v = .ok (V2.cuesRaw.enc (cuesWire v)) := by
  rw [encodeCues_slots v h, if_neg (by omega), if_neg (by omega)]

theorem encodeCues_reject (v : Impl.V1.Cues) (h : ¬ (v.cues.length = 8 ∧ v.cues.all V1.cueSlotOk = true)) :
    ∃ e, Impl.V1.encodeCues v = .throw e := by
  cases hall : v.cues.all V1.cueSlotOk with
  | false =>
    unfold Impl.V1.encodeCues
    split
    · exact ⟨_, rfl⟩
    · obtain ⟨e, he⟩ := encodeSlots_bad Impl.V1.encodeCueSlot V1.cueSlotOk
        (fun a ha => ⟨_, encodeCueSlot_ok a ha⟩) encodeCueSlot_bad v.cues hall
      exact ⟨e, by rw [he]⟩
  | true =>
    rw [encodeCues_slots v hall]
    split
    · exact ⟨_, rfl⟩
    · rw [if_pos (by have : ¬ v.cues.length = 8 := fun e => h ⟨e, hall⟩; omega)]
      exact ⟨_, rfl⟩

theorem encodeCues_follows (v : Impl.V1.Cues) : Follows (Impl.V1.encodeCues v) (V1.encodeCues v) := by
  by_cases h : v.cues.length = 8 ∧ v.cues.all V1.cueSlotOk = true
  · exact .accepts (by simp only [V1.encodeCues, h, and_self, if_true]; rfl) (encodeCues_ok v h.1 h.2)
  · exact .rejects (by simp only [V1.encodeCues, h, if_false]) (encodeCues_reject v h)

end V1Proofs
end EngineModel
