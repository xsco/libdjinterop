/-
`zlib_uncompress` regenerated from the C++ (`Gen/ZlibGen.lean`, tools/tr_zlib.py) against the hand model
`Impl.Zlib.uncompress`; the same for `zlib_compress` is in `Proofs/ZlibGenCompressEq.lean`, which builds on the
arithmetic and window lemmas of this file.

`uncompress_eq_partial` holds for every inflate oracle that never claims more input than its window or more output
than `avail_out` (`Sized` — the first two conjuncts of `Contract.step_ok`) and for EVERY fuel, the same number on both
sides: both count one unit per outer-loop head and per `inflate` call.  Without `Sized` it is false (comment at the end
of the file).

The proof is a simulation (`sim`) between the nested regenerated loops and the flat hand state machine `loop`,
from per-body lemmas (`body1_eq`, `body2_eq`) that unfold the regenerated bodies: a change of the C++ that
changes the translation breaks them.
-/
import EngineModel.Gen.ZlibGen
import Proofs.ZlibLoop
-- The proofs face regenerated text (Gen/ZlibGen.lean): a lemma of a `simp only` list or a hypothesis of a body lemma
-- may be needed only for another spelling of it.
set_option linter.unusedVariables false
set_option linter.unusedSimpArgs false

namespace EngineModel.Impl.ZlibCxx

/-- The outcome `x` of a regenerated loop against the hand model's verdict `y`: the same exception, the same
undefined behaviour, or a normal exit in a state `v` with `post v y`; a loop is never left by `break` or `return`. -/
def Agrees {S ρ Y} (post : S → Res Y → Prop) (x : Out S ρ) (y : Res Y) : Prop :=
  match x with
  | .ok (.norm, v, _) => post v y
  | .ok (.brk, _, _) => False
  | .ok (.ret _, _, _) => False
  | .throw e => y = .throw e
  | .ub u => y = .ub u

/-- What follows the loop (`k`, then the function result through `g`) matters only after a normal exit. -/
theorem Agrees.result {S ρ Y Z} {post : S → Res Y → Prop} {x : Out S ρ} {y : Res Y} (h : Agrees post x y)
    (k : S → Nat → Out S ρ) (g : ρ × S → Res Z) (y' : Res Z)
    (hthrow : ∀ e, y = .throw e → y' = .throw e) (hub : ∀ u, y = .ub u → y' = .ub u)
    (hk : ∀ v f, post v y → (result (k v f)).bind g = y') :
    (result (andThen x k)).bind g = y' := by
  rcases x with ⟨⟨fl, v, f⟩⟩ | e | u
  · cases fl with
    | norm => exact hk v f h
    | brk => exact h.elim
    | ret r => exact h.elim
  · exact (hthrow e h).symm
  · exact (hub u h).symm

theorem doWhile_zero {S ρ} (body : S → Nat → Out S ρ) (cond : S → Bool) (g : Nat) (v : S) :
    doWhile body cond g v 0 = .ub .nontermination := by
  cases g <;> rfl

end EngineModel.Impl.ZlibCxx

namespace EngineModel.Gen.Zlib
open EngineModel EngineModel.Impl EngineModel.Impl.Zlib EngineModel.Impl.ZlibCxx

/-- the oracle never claims more input than it was given nor more output than `avail_out` -/
def Sized {σ} (o : Oracle σ) : Prop :=
  ∀ s win n, (o.step s win n).2.1 ≤ win.length ∧ (o.step s win n).2.2.1.length ≤ n

theorem Sized.of_contract {σ} {o : Oracle σ} (c : Contract o) : Sized o :=
  fun s win n => ⟨(c.step_ok s win n).1, (c.step_ok s win n).2.1⟩

theorem toU32_sub (a b : Nat) (h : b ≤ a) (h2 : a - b < 4294967296) : toU32 ((a : Int) - (b : Int)) = a - b := by
  rw [toU32, ← Int.ofNat_sub h, Int.emod_eq_of_lt (Int.natCast_nonneg _) (by omega), Int.toNat_natCast]

/-- the window the head of either outer loop hands to its inner loop, as the C++ computes it -/
theorem avail_eq (len ptr : Nat) (hle : ptr ≤ len) :
    (if ptr + 16384 < len then 16384 else toU32 ((len : Int) - (ptr : Int)))
      = if ptr + chunk < len then chunk else len - ptr := by
  show _ = if ptr + 16384 < len then 16384 else len - ptr
  split
  · rfl
  · exact toU32_sub _ _ hle (by omega)

theorem u32sub_chunk (n : Nat) (h : n ≤ 16384) : u32sub 16384 (16384 - n) = n := by
  unfold u32sub; omega

theorem retCode_err (r : Ret) :
    (retCode r = 2 ∨ retCode r = -3 ∨ retCode r = -4) ↔ (r = .needDict ∨ r = .dataError ∨ r = .memError) := by
  cases r <;> simp [retCode]

theorem retCode_end (r : Ret) : retCode r = 1 ↔ r = .streamEnd := by
  cases r <;> simp [retCode]

theorem take_drop_window (buf : Bytes) (ni ai c : Nat) :
    ((buf.drop ni).take ai).drop c = (buf.drop (ni + c)).take (ai - c) := by
  rw [List.drop_take, List.drop_drop]

theorem window_advance {ni ai ptr c : Nat} (hw : ni + ai = ptr) (hc : c ≤ ai) : ni + c + (ai - c) = ptr := by
  omega

/-- what the regenerated state has in common with a position of the hand model's loop.  The fields of `v` are the
parameters and locals of `zlib_uncompress` in declaration order (Gen/ZlibGen.lean): `p0` compressed, `p1` uncompressed,
`l1` ptr, `l2` end, `l3` chunk_size, `l6` out, `l7` strm. -/
structure Inv {σ} (buf : Bytes) (v : UncompressVars σ) (s : σ) (ptr : Nat) (acc : Bytes) : Prop where
  h0 : v.p0 = buf
  h1 : v.p1 = acc
  hp : v.l1 = ptr
  he : v.l2 = buf.length
  hc : v.l3 = 16384
  ho : v.l6.length = 16384
  hs : v.l7.st = some s
  hle : ptr ≤ buf.length

/-- the outer loop ends with `ret == Z_STREAM_END` exactly when the hand model returns the bytes collected -/
def Rel {σ} : Out (UncompressVars σ) Bytes → Res Bytes → Prop :=
  Agrees fun v y => if v.l4 = 1 then y = .ok v.p1 else y = .throw .system_error

/-- one `inflate` call of the inner loop, given what the oracle answered -/
theorem body2_eq {σ} (o : Oracle σ) (s0 : σ) (buf : Bytes) (v : UncompressVars σ) (s : σ)
    (ptr : Nat) (acc : Bytes) (fuel : Nat) (hi : Inv buf v s ptr acc) (hw : v.l7.next_in + v.l7.avail_in = ptr)
    (ret : Ret) (consumed : Nat) (produced : Bytes) (s' : σ)
    (hr : o.step s ((buf.drop v.l7.next_in).take v.l7.avail_in) 16384 = (ret, consumed, produced, s'))
    (hcons : consumed ≤ v.l7.avail_in) (hprod : produced.length ≤ 16384) :
    uncompress_body2 o s0 v fuel =
      if retCode ret = 2 ∨ retCode ret = -3 ∨ retCode ret = -4 then .throw .system_error else
      .ok (.norm,
        { v with p1 := acc ++ produced, l4 := retCode ret, l5 := produced.length,
                 l6 := produced ++ v.l6.drop produced.length,
                 l7 := { next_in := v.l7.next_in + consumed, avail_in := v.l7.avail_in - consumed,
                         next_out := produced.length, avail_out := 16384 - produced.length, st := some s' } },
        fuel) := by
  obtain ⟨h0, h1, hp, he, hc, ho, hs, hle⟩ := hi
  -- `v` is taken apart BEFORE the body is unfolded (here and in `cbody2_eq`): over an opaque `v` the chain of
  -- `{ v with … }` updates makes the kernel's check exponential
  obtain ⟨p0, p1, l0, l1, l2, l3, l4, l5, l6, ⟨ni, ai, no, ao, st⟩⟩ := v
  simp only at h0 h1 hp he hc ho hs hw hr hcons ⊢
  subst h0 h1 hp hc hs
  have hreg1 : ¬ (p0.length < ni + ai) := by omega
  have hreg2 : ¬ (l6.length < 16384) := by omega
  have hsz2 : ¬ (ai < consumed ∨ 16384 < produced.length) := by omega
  unfold uncompress_body2
  simp only [ZlibCxx.inflate, hreg1, hreg2, hr, hsz2, if_false, Res.bind, ZlibCxx.inflateEnd,
    List.take_zero, List.nil_append, Nat.zero_add, u32sub_chunk produced.length hprod]
  by_cases e2 : retCode ret = 2
  · simp [e2]
  · by_cases e3 : retCode ret = -3
    · simp [e3]
    · by_cases e4 : retCode ret = -4
      · simp [e4]
      · have hins : ¬ ((produced ++ List.drop produced.length l6).length < produced.length ∨ produced.length < 0) := by
          simp only [List.length_append]; omega
        simp only [e2, e3, e4, if_false, false_or, ZlibCxx.insertRange, hins, List.drop_zero, Nat.sub_zero,
          List.take_left']

theorem body2_throw {σ} (o : Oracle σ) (s0 : σ) (buf : Bytes) (v : UncompressVars σ) (s : σ)
    (ptr : Nat) (acc : Bytes) (fuel : Nat) (hi : Inv buf v s ptr acc) (hw : v.l7.next_in + v.l7.avail_in = ptr)
    (ret : Ret) (consumed : Nat) (produced : Bytes) (s' : σ)
    (hr : o.step s ((buf.drop v.l7.next_in).take v.l7.avail_in) 16384 = (ret, consumed, produced, s'))
    (hcons : consumed ≤ v.l7.avail_in) (hprod : produced.length ≤ 16384)
    (herr : ret = .needDict ∨ ret = .dataError ∨ ret = .memError) :
    uncompress_body2 o s0 v fuel = .throw .system_error := by
  rw [body2_eq o s0 buf v s ptr acc fuel hi hw ret consumed produced s' hr hcons hprod,
    if_pos ((retCode_err ret).mpr herr)]

theorem body2_ok {σ} (o : Oracle σ) (s0 : σ) (buf : Bytes) (v : UncompressVars σ) (s : σ)
    (ptr : Nat) (acc : Bytes) (fuel : Nat) (hi : Inv buf v s ptr acc) (hw : v.l7.next_in + v.l7.avail_in = ptr)
    (ret : Ret) (consumed : Nat) (produced : Bytes) (s' : σ)
    (hr : o.step s ((buf.drop v.l7.next_in).take v.l7.avail_in) 16384 = (ret, consumed, produced, s'))
    (hcons : consumed ≤ v.l7.avail_in) (hprod : produced.length ≤ 16384)
    (herr : ¬ (ret = .needDict ∨ ret = .dataError ∨ ret = .memError)) :
    ∃ v', uncompress_body2 o s0 v fuel = .ok (.norm, v', fuel) ∧ Inv buf v' s' ptr (acc ++ produced) ∧
      v'.l4 = retCode ret ∧ v'.l7.next_in = v.l7.next_in + consumed ∧ v'.l7.avail_in = v.l7.avail_in - consumed ∧
      v'.l7.avail_out = 16384 - produced.length := by
  have herr' : ¬ (retCode ret = 2 ∨ retCode ret = -3 ∨ retCode ret = -4) := fun h => herr ((retCode_err ret).mp h)
  refine ⟨_, (body2_eq o s0 buf v s ptr acc fuel hi hw ret consumed produced s' hr hcons hprod).trans (if_neg herr'),
    ⟨hi.h0, rfl, hi.hp, hi.he, hi.hc, ?_, rfl, hi.hle⟩, rfl, rfl, rfl, rfl⟩
  have := hi.ho
  simp only [List.length_append, List.length_drop]; omega

/-- the head of the outer loop up to the inner loop -/
theorem body1_eq {σ} (o : Oracle σ) (s0 : σ) (buf : Bytes) (v : UncompressVars σ) (s : σ)
    (ptr : Nat) (acc : Bytes) (fuel : Nat) (hi : Inv buf v s ptr acc) (avail : Nat)
    (hav : (if ptr + chunk < buf.length then chunk else buf.length - ptr) = avail) :
    uncompress_body1 o s0 v fuel =
      if buf.length < ptr + avail then .ub .oob_read else
      if avail = 0 then
        .ok (.brk, { v with l1 := ptr + avail, l7 := { v.l7 with next_in := ptr, avail_in := avail } }, fuel)
      else
        andThen (doWhile (uncompress_body2 o s0) uncompress_cond2 fuel
          { v with l1 := ptr + avail, l7 := { v.l7 with next_in := ptr, avail_in := avail } } fuel)
          fun v fuel => .ok (.norm, v, fuel) := by
  simp only [uncompress_body1, hi.hp, hi.he, hi.hc, hi.h0, decide_eq_true_eq, avail_eq _ _ hi.hle, hav,
    ptrAdvance]
  by_cases hadv : buf.length < ptr + avail <;> simp only [hadv, if_true, if_false, Res.bind]

/-- The simulation, by induction on the fuel both sides count.  `g`, `gi` are the `gas` of the outer and the inner
`doWhile` (it only makes their recursion structural and never runs out before the fuel: `fuel ≤ g`, `fuel ≤ gi`).
First conjunct: the outer loop from its head against `loop` at `.outer`.  Second: the rest of one outer iteration from
the middle of the inner loop (inner `doWhile`, then the outer loop's `step`) against `loop` at `.inner`.  They go
together because each phase of `loop` continues in the other with one unit of fuel less. -/
theorem sim {σ} (o : Oracle σ) (hsz : Sized o) (s0 : σ) (buf : Bytes) : ∀ fuel : Nat,
    (∀ g v s ptr acc, fuel ≤ g → Inv buf v s ptr acc → v.l4 ≠ 1 →
      Rel (doWhile (uncompress_body1 o s0) uncompress_cond1 g v fuel)
        (loop o buf buf.length fuel s ptr .outer acc)) ∧
    (∀ gi g v s ptr acc, fuel ≤ gi → fuel ≤ g → Inv buf v s ptr acc → v.l7.next_in + v.l7.avail_in = ptr →
      Rel (step uncompress_cond1 (doWhile (uncompress_body1 o s0) uncompress_cond1 g)
            (andThen (doWhile (uncompress_body2 o s0) uncompress_cond2 gi v fuel) fun v fuel => .ok (.norm, v, fuel)))
        (loop o buf buf.length fuel s ptr (.inner ((buf.drop v.l7.next_in).take v.l7.avail_in)) acc)) := by
  intro fuel
  induction fuel with
  | zero =>
    refine ⟨?_, ?_⟩
    · intro g v s ptr acc _ _ _
      rw [doWhile_zero]; rfl
    · intro gi g v s ptr acc _ _ _ _
      rw [doWhile_zero]; rfl
  | succ fuel ih =>
    obtain ⟨ih1, ih2⟩ := ih
    refine ⟨?_, ?_⟩
    · intro g v s ptr acc hg hi hne
      obtain ⟨g, rfl⟩ := Nat.exists_eq_add_one_of_ne_zero (Nat.ne_of_gt (Nat.lt_of_lt_of_le fuel.succ_pos hg))
      simp only [doWhile, loop]
      rw [body1_eq o s0 buf v s ptr acc fuel hi _ rfl]
      generalize hav : (if ptr + chunk < buf.length then chunk else buf.length - ptr) = avail
      have hreg : ¬ buf.length < ptr + avail := by
        have := hi.hle
        rw [← hav]; split <;> omega
      simp only [hreg, if_false]
      by_cases hz : avail = 0
      · rw [if_pos hz, if_pos hz]
        simp only [step, Rel, Agrees, hne, if_false]
      · simp only [hz, if_false]
        have hi' : Inv buf { v with l1 := ptr + avail, l7 := { v.l7 with next_in := ptr, avail_in := avail } }
            s (ptr + avail) acc :=
          ⟨hi.h0, hi.h1, rfl, hi.he, hi.hc, hi.ho, hi.hs, Nat.le_of_not_lt hreg⟩
        have := ih2 fuel g _ s (ptr + avail) acc (Nat.le_refl _) (Nat.le_of_succ_le_succ hg) hi' rfl
        dsimp only at this
        exact this
    · intro gi g v s ptr acc hgi hg hi hw
      obtain ⟨gi, rfl⟩ := Nat.exists_eq_add_one_of_ne_zero (Nat.ne_of_gt (Nat.lt_of_lt_of_le fuel.succ_pos hgi))
      have hwl := window_length buf (Nat.le_sub_of_add_le' (hw ▸ hi.hle))
      have hsz' := hsz s ((buf.drop v.l7.next_in).take v.l7.avail_in) 16384
      rw [hwl] at hsz'
      rcases hr : o.step s ((buf.drop v.l7.next_in).take v.l7.avail_in) 16384 with ⟨ret, consumed, produced, s'⟩
      rw [hr] at hsz'
      obtain ⟨hcons, hprod⟩ := hsz'
      simp only at hcons hprod
      have hr' : o.step s ((buf.drop v.l7.next_in).take v.l7.avail_in) chunk = (ret, consumed, produced, s') := hr
      simp only [doWhile]
      rw [loop, hr']
      simp only
      by_cases herr : ret = .needDict ∨ ret = .dataError ∨ ret = .memError
      · rw [body2_throw o s0 buf v s ptr acc fuel hi hw ret consumed produced s' hr hcons hprod herr]
        simp only [herr, if_true, step, andThen, Rel, Agrees]
      · obtain ⟨v', hb, hi', hl4, hni, hai, hao⟩ :=
          body2_ok o s0 buf v s ptr acc fuel hi hw ret consumed produced s' hr hcons hprod herr
        rw [hb]
        simp only [herr, if_false]
        by_cases hfull : produced.length = chunk
        · have hc2 : uncompress_cond2 v' = true := decide_eq_true (by rw [hao, hfull]; exact Nat.sub_self _)
          simp only [step, hc2, if_true, hfull]
          have := ih2 gi g v' s' ptr (acc ++ produced) (Nat.le_of_succ_le_succ hgi) (Nat.le_of_succ_le hg) hi'
            (by rw [hni, hai]; exact window_advance hw hcons)
          rw [hni, hai, ← take_drop_window] at this
          exact this
        · have hc2 : uncompress_cond2 v' = false :=
            decide_eq_false (by rw [hao]; exact Nat.sub_ne_zero_of_lt (Nat.lt_of_le_of_ne hprod hfull))
          simp only [step, hc2, andThen, hfull, if_false, Bool.false_eq_true]
          by_cases hend : ret = .streamEnd
          · have h41 : v'.l4 = 1 := by rw [hl4]; exact (retCode_end ret).mpr hend
            have hc1 : uncompress_cond1 v' = false := by
              simp only [uncompress_cond1, h41, decide_eq_false_iff_not, Decidable.not_not, ne_eq, not_true_eq_false,
                not_false_eq_true]
            simp only [hc1, hend, if_true, if_false, Bool.false_eq_true, Rel, Agrees, h41, hi'.h1]
          · have hne1 : v'.l4 ≠ 1 := by rw [hl4]; exact fun h => hend ((retCode_end ret).mp h)
            have hc1 : uncompress_cond1 v' = true := by
              simp only [uncompress_cond1, decide_eq_true_eq]; exact hne1
            simp only [hc1, hend, if_true, if_false]
            exact ih1 g v' s' ptr (acc ++ produced) (Nat.le_of_succ_le hg) hi' hne1

theorem decode_apparent (buf : Bytes) (h : ¬ (buf.length ≠ 0 ∧ buf.length < 4)) :
    (if buf.isEmpty then (.ok 0 : Res Int) else decodeI32BEAt buf 0) = .ok (apparentSize buf) := by
  match buf, h with
  | [], _ => rfl
  | [_], h => simp at h
  | [_, _], h => simp at h
  | [_, _, _], h => simp at h
  | a :: b :: c :: d :: r, _ => rfl

theorem apparentSize_range (buf : Bytes) : -2147483648 ≤ apparentSize buf ∧ apparentSize buf < 2147483648 := by
  unfold apparentSize
  split
  · rename_i a b c d _
    generalize Prim.decU32BE a b c d = x
    have := x.toNat_lt
    unfold Prim.s32; split <;> omega
  · omega

theorem tooLong_toU64 (a : Int) (h : -2147483648 ≤ a ∧ a < 2147483648) : tooLong (toU64 a) = decide (a < 0) := by
  unfold tooLong toU64
  by_cases h0 : a < 0
  · simp only [h0, decide_true, decide_eq_true_eq]; omega
  · simp only [h0, decide_false, decide_eq_false_iff_not]; omega

/-- **`zlib_uncompress` regenerated from the C++ = the hand model**, same fuel.  (C05 registers this statement under
this name: tools/props/_implgen.py.) -/
theorem uncompress_eq_partial {σ} (o : Oracle σ) (hsz : Sized o) (s0 : σ) (fuel : Nat) (buf u0 : Bytes) :
    uncompress o s0 fuel buf u0 = Impl.Zlib.uncompress o s0 buf.length fuel buf := by
  unfold uncompress uncompress_fn uncompress_init Impl.Zlib.uncompress prologue
  by_cases h1 : buf.length ≠ 0 ∧ buf.length < 4
  · have : ((!buf.isEmpty) && decide (buf.length < 4)) = true := by
      obtain ⟨ha, hb⟩ := h1
      cases buf with
      | nil => simp at ha
      | cons x xs => simpa using hb
    rw [if_pos this, if_pos h1]; rfl
  · have hg : ((!buf.isEmpty) && decide (buf.length < 4)) = false := by
      cases buf with
      | nil => rfl
      | cons x xs => simp at h1 ⊢; omega
    simp only [hg, Bool.false_eq_true, if_false, h1, decode_apparent buf h1, Res.bind]
    by_cases h2 : apparentSize buf = 0
    · simp only [h2, decide_true, if_true, result]
    · simp only [h2, decide_false, Bool.false_eq_true, if_false, tooLong_toU64 _ (apparentSize_range buf)]
      by_cases h3 : apparentSize buf < 0
      · simp only [h3, decide_true, if_true, result]
      · simp only [h3, decide_false, Bool.false_eq_true, if_false, ZlibCxx.inflateInit, ne_eq, not_true_eq_false]
        have h4 : 4 ≤ buf.length := by
          apply prologue_none_length
          unfold prologue; simp only [h1, h2, h3, if_false]
        have hrel := (sim o hsz s0 buf fuel).1 fuel
          ⟨buf, [], apparentSize buf, 0 + 4, 0 + buf.length, 16384, 0, 0, List.replicate 16384 0,
            ⟨0, 0, 0, 0, some s0⟩⟩ s0 4 [] (Nat.le_refl _)
          ⟨rfl, rfl, rfl, Nat.zero_add _, rfl, List.length_replicate, rfl, h4⟩ (by show (0 : Int) ≠ 1; decide)
        refine Agrees.result hrel _ _ _ (fun _ h => h) (fun _ h => h) fun v f hp => ?_
        by_cases h41 : v.l4 = 1
        · simp only [h41, if_true] at hp
          simp only [ZlibCxx.inflateEnd, h41, ne_eq, not_true_eq_false, decide_false, Bool.false_eq_true, if_false,
            result, hp, Res.bind]
        · simp only [h41, if_false] at hp
          simp only [h41, ne_eq, not_false_eq_true, decide_true, if_true, result, hp, Res.bind]

/- The statement without `Sized` is false: for an oracle that answers `avail_out + 1` bytes (e.g.
`step _ _ n := (.streamEnd, 0, List.replicate (n + 1) 7, ())`, input `[0, 0, 0, 1, 0]`) the regenerated function
is `ub oob_write` (the answer does not fit the local array) while the hand model returns the 16385 bytes. -/

end EngineModel.Gen.Zlib
