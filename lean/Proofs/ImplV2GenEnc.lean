/-
The encoders regenerated from the C++ `to_blob` functions (`Gen.ImplV2.encode*`,
tools/tr_blobs.py) write exactly the bytes of the independent Spec layouts
(Format/V2.lean) followed by the extra data, or throw `invalid_argument` for a
label longer than 255 bytes.

Unlike `Impl.V2.encode*` (which are *defined* as `writeInto size (Spec.enc v ++ extra)`),
the generated encoders are explicit sequences of primitive writes in the C++
statement order, through writers with their own byte-order definitions
(Impl/CxxPrims.lean: shifts and masks).  So these theorems carry the content
"same field order, same widths, same endianness, same count / length prefixes,
exact buffer size": none of it holds by definition.

Hypothesis of every theorem: the payload fits in a `std::vector<std::byte>`
(`< 2^63` bytes).  The generated code computes the buffer size in `size_t`
(wrapping), the label total in `int64_t` through `std::accumulate`, and the
vector constructor throws `length_error` above `max_size()`; the Spec uses
unbounded naturals.  Full statements (without the hypothesis) are false only for
values no machine can hold.
-/
import EngineModel.Gen.ImplV2Gen
import EngineModel.Impl.V2
import Proofs.WrLemmas
import Proofs.CxxPrimsLemmas
import Proofs.ImplV2Lists
-- As in ImplV2Gen.lean: one set normalises the `size_t` arithmetic of every encoder, with or without a product
-- (`Cxx.U64.mul_small`); `flatMap_singleton` stands in the closing `simp` of both label writers though the present goal
-- closes without it.
set_option linter.unusedSimpArgs false

namespace EngineModel.Gen.ImplV2
open Codec Wr EngineModel.V2

/-- `track_data_blob::to_blob` (payload level). -/
theorem encodeTrack_spec_partial (v : Track) (extra : Bytes)
    (h : (track.enc v ++ extra).length < 9223372036854775808) :
    encodeTrack v extra = .ok (track.enc v ++ extra) := by
  have hl : (track.enc v ++ extra).length = 44 + extra.length := by simp [track_enc_length]
  unfold encodeTrack
  rw [hl] at h
  simp (disch := omega) only [Cxx.U64.add_small, Cxx.U64.mul_small]
  refine run_of_writes ?_ hl (by omega)
  simp only [CxxPrims.encode_double_be_eq, CxxPrims.encode_int64_be_eq, CxxPrims.encode_int32_be_eq]
  refine Writes.congr
    ((Writes.put _).bind <| (Writes.put _).bind <| (Writes.put _).bind <| (Writes.put _).bind <|
      (Writes.put _).bind <| (Writes.put _).bind <| Writes.put _) ?_
  simp [track, map, pair]

theorem encodeGrid_body1_writes (m : Marker) : Writes (encodeGrid_body1 m) (marker.enc m) := by
  unfold encodeGrid_body1
  simp only [CxxPrims.encode_double_le_eq, CxxPrims.encode_int64_le_eq, CxxPrims.encode_int32_le_eq]
  refine Writes.congr
    ((Writes.put _).bind <| (Writes.put _).bind <| (Writes.put _).bind <| Writes.put _) ?_
  simp [marker, map, pair]

theorem encodeGrid_writes (g : List Marker) : Writes (encodeGrid g) (grid.enc g) := by
  unfold encodeGrid
  simp only [CxxPrims.encode_int64_be_eq, count_bits]
  refine Writes.congr ((Writes.put _).bind <| Writes.forIn encodeGrid_body1_writes g) ?_
  simp [grid, counted, encL_eq_flatMap]

theorem encodeBeat_spec_partial (v : Beat) (extra : Bytes)
    (h : (beat.enc v ++ extra).length < 9223372036854775808) :
    encodeBeat v extra = .ok (beat.enc v ++ extra) := by
  have hl : (beat.enc v ++ extra).length = 33 + 24 * (v.dflt.length + v.adj.length) + extra.length := by
    simp [Impl.V2.beat_enc_length]
  unfold encodeBeat
  rw [hl] at h
  simp (disch := omega) only [Cxx.U64.add_small, Cxx.U64.mul_small]
  refine run_of_writes ?_ hl (by omega)
  simp only [CxxPrims.encode_double_be_eq, CxxPrims.encode_uint8_eq]
  refine Writes.congr
    ((Writes.put _).bind <| (Writes.put _).bind <| (Writes.put _).bind <| (encodeGrid_writes _).bind <|
      (encodeGrid_writes _).bind <| Writes.put _) ?_
  simp [beat, map, pair]

theorem encodeOvw_body1_writes (e : UInt8 × UInt8 × UInt8) : Writes (encodeOvw_body1 e) [e.1, e.2.1, e.2.2] := by
  unfold encodeOvw_body1
  simp only [CxxPrims.encode_uint8_eq]
  exact Writes.congr ((Writes.put _).bind <| (Writes.put _).bind <| Writes.put _) (by simp [u8])

/-- `overview_waveform_data_blob::to_blob`, for values the Lean representation can hold faithfully
(`Ovw.Valid`: a whole number of 3-byte points, a 3-byte maximum point). -/
theorem encodeOvw_spec_partial (v : Ovw) (hv : v.Valid) (extra : Bytes)
    (h : (ovw.enc v ++ extra).length < 9223372036854775808) :
    encodeOvw v extra = .ok (ovw.enc v ++ extra) := by
  obtain ⟨h1, h2, h3⟩ := hv
  have hl : (ovw.enc v ++ extra).length = 27 + 3 * (v.points.length / 3) + extra.length := by
    simp [Impl.V2.ovw_enc_length, h3]; omega
  have ht := triples_length v.points
  unfold encodeOvw
  simp only [ht]
  rw [hl] at h
  simp (disch := omega) only [Cxx.U64.add_small, Cxx.U64.mul_small]
  refine run_of_writes ?_ hl (by omega)
  simp only [CxxPrims.encode_double_be_eq, CxxPrims.encode_int64_be_eq, CxxPrims.encode_uint8_eq, count_bits]
  refine Writes.congr
    ((Writes.put _).bind <| (Writes.put _).bind <| (Writes.put _).bind <|
      (Writes.forIn encodeOvw_body1_writes _).bind <|
      (Writes.put _).bind <| (Writes.put _).bind <| (Writes.put _).bind <| Writes.put _) ?_
  rw [triples_flat v.points h1]
  have := triple_bytes v.maxPt h3
  simp [ovw, dep, filter, ovwBody, map, pair, expect, bytesN, Ovw.count, u8]
  rw [← this]; rfl

theorem encodeCues_body2_writes (q : Cue) (hq : ¬ (255 < q.label.length)) :
    Writes (encodeCues_body2 q) (cue.enc q) := by
  unfold encodeCues_body2
  have hq' : ¬ (q.label.length > 255) := hq
  simp only [CxxPrims.encode_double_be_eq, CxxPrims.encode_uint8_eq, hq', decide_false,
    Bool.false_eq_true, if_false]
  refine Writes.congr
    ((Writes.put _).bind <| (Writes.forIn (g := fun c => [c]) (fun _ => Writes.put _) _).bind <|
      (Writes.put _).bind <| (Writes.put _).bind <| (Writes.put _).bind <| (Writes.put _).bind <|
      Writes.put _) ?_
  simp [cue, map, pair, lp8, color, u8, flatMap_singleton]

theorem encodeCues_body2_throws (q : Cue) (hq : 255 < q.label.length) :
    Throws (encodeCues_body2 q) .invalid_argument 0 := by
  intro size out _
  unfold encodeCues_body2
  have hq' : q.label.length > 255 := hq
  simp [hq']

/-- The buffer size of the two list blobs: `fixed + per * n + total_label_length + extra.size()` in wrapping
`size_t`, the label total accumulated in `int64_t`. -/
theorem listSize {α} (len : α → Nat) (l : List α) (fixed per extra : Nat)
    (h : fixed + per * l.length + (l.map len).sum + extra < 9223372036854775808) :
    Cxx.U64.add (Cxx.U64.add (Cxx.U64.add fixed (Cxx.U64.mul per l.length))
      (Cxx.u64OfInt (List.foldl (fun (x : Int) (q : α) => Cxx.i64OfU64 (Cxx.U64.add (Cxx.u64OfInt x) (len q))) 0 l)))
      extra = fixed + per * l.length + (l.map len).sum + extra := by
  rw [accumulate_lengths_u64 len l (by omega)]
  simp (disch := omega) only [Cxx.U64.add_small, Cxx.U64.mul_small]

theorem labelsLen_map {α} (label : α → Bytes) (l : List α) :
    Impl.V2.labelsLen (l.map label) = (l.map fun q => (label q).length).sum := by
  simp [Impl.V2.labelsLen, List.map_map, Function.comp_def]

theorem encodeCues_ok_partial (v : Cues) (hf : ∀ q ∈ v.cues, q.label.length ≤ 255) (extra : Bytes)
    (h : (cues.enc v ++ extra).length < 9223372036854775808) :
    encodeCues v extra = .ok (cues.enc v ++ extra) := by
  have hl : (cues.enc v ++ extra).length =
      25 + 13 * v.cues.length + Impl.V2.labelsLen (v.cues.map (·.label)) + extra.length := by
    simp [Impl.V2.cues_enc_length]
  have hs := labelsLen_map (fun q : Cue => q.label) v.cues
  rw [hl] at h
  unfold encodeCues
  -- `simp only []` reduces the `let`s of the regenerated function
  simp only []
  rw [listSize _ _ _ _ _ (by omega), ← hs]
  refine run_of_writes ?_ hl (by omega)
  simp only [CxxPrims.encode_double_be_eq, CxxPrims.encode_int64_be_eq, CxxPrims.encode_uint8_eq, count_bits]
  refine Writes.congr
    ((Writes.put _).bind <| (Writes.forIn_mem (g := cue.enc) _
        (fun q hq => encodeCues_body2_writes q (by have := hf q hq; omega))).bind <|
      (Writes.put _).bind <| (Writes.put _).bind <| (Writes.put _).bind <| Writes.put _) ?_
  simp [cues, cuesRaw, Cues.toRaw, map, pair, counted, encL_eq_flatMap, u8]

/-- `quick_cues_blob::to_blob`, some label longer than 255 bytes: `invalid_argument`, never a
truncated label and never a write past the buffer. -/
theorem encodeCues_reject_partial (v : Cues) (hbad : ∃ q ∈ v.cues, 255 < q.label.length) (extra : Bytes)
    (h : (cues.enc v ++ extra).length < 9223372036854775808) :
    encodeCues v extra = .throw .invalid_argument := by
  have hl : (cues.enc v ++ extra).length =
      25 + 13 * v.cues.length + Impl.V2.labelsLen (v.cues.map (·.label)) + extra.length := by
    simp [Impl.V2.cues_enc_length]
  have hs := labelsLen_map (fun q : Cue => q.label) v.cues
  rw [hl] at h
  unfold encodeCues
  simp only []
  rw [listSize _ _ _ _ _ (by omega), ← hs]
  -- the count is written, then the loop throws at the first long label; the cues before it fit
  refine run_of_throws ((Writes.put _).bindThrows <|
    (forIn_throws (g := cue.enc) _ encodeCues_body2_writes encodeCues_body2_throws v.cues hbad).bind _) ?_
    (by omega)
  rw [← encL_eq_flatMap, Impl.V2.encL_cue_length, CxxPrims.encode_int64_be_eq, Impl.V2.u64be_enc_length]
  omega

theorem encodeLoops_body2_writes (l : Loop) (hq : ¬ (255 < l.label.length)) :
    Writes (encodeLoops_body2 l) (loop.enc l) := by
  unfold encodeLoops_body2
  have hq' : ¬ (l.label.length > 255) := hq
  simp only [CxxPrims.encode_double_le_eq, CxxPrims.encode_uint8_eq, hq', decide_false,
    Bool.false_eq_true, if_false]
  refine Writes.congr
    ((Writes.put _).bind <| (Writes.forIn (g := fun c => [c]) (fun _ => Writes.put _) _).bind <|
      (Writes.put _).bind <| (Writes.put _).bind <| (Writes.put _).bind <| (Writes.put _).bind <|
      (Writes.put _).bind <| (Writes.put _).bind <| (Writes.put _).bind <| Writes.put _) ?_
  simp [loop, map, pair, lp8, color, u8, flatMap_singleton]

theorem encodeLoops_body2_throws (l : Loop) (hq : 255 < l.label.length) :
    Throws (encodeLoops_body2 l) .invalid_argument 0 := by
  intro size out _
  unfold encodeLoops_body2
  have hq' : l.label.length > 255 := hq
  simp [hq']

theorem encodeLoops_ok_partial (v : Loops) (hf : ∀ l ∈ v, l.label.length ≤ 255) (extra : Bytes)
    (h : (loops.enc v ++ extra).length < 9223372036854775808) :
    encodeLoops v extra = .ok (loops.enc v ++ extra) := by
  have hl : (loops.enc v ++ extra).length =
      8 + 23 * v.length + Impl.V2.labelsLen (v.map (·.label)) + extra.length := by
    simp [Impl.V2.loops_enc_length]
  have hs := labelsLen_map (fun q : Loop => q.label) v
  rw [hl] at h
  unfold encodeLoops
  simp only []
  rw [listSize _ _ _ _ _ (by omega), ← hs]
  refine run_of_writes ?_ hl (by omega)
  simp only [CxxPrims.encode_int64_le_eq, count_bits]
  refine Writes.congr
    ((Writes.put _).bind <| (Writes.forIn_mem (g := loop.enc) _
        (fun q hq => encodeLoops_body2_writes q (by have := hf q hq; omega))).bind <| Writes.put _) ?_
  simp [loops, counted, encL_eq_flatMap]

theorem encodeLoops_reject_partial (v : Loops) (hbad : ∃ l ∈ v, 255 < l.label.length) (extra : Bytes)
    (h : (loops.enc v ++ extra).length < 9223372036854775808) :
    encodeLoops v extra = .throw .invalid_argument := by
  have hl : (loops.enc v ++ extra).length =
      8 + 23 * v.length + Impl.V2.labelsLen (v.map (·.label)) + extra.length := by
    simp [Impl.V2.loops_enc_length]
  have hs := labelsLen_map (fun q : Loop => q.label) v
  rw [hl] at h
  unfold encodeLoops
  simp only []
  rw [listSize _ _ _ _ _ (by omega), ← hs]
  refine run_of_throws ((Writes.put _).bindThrows <|
    (forIn_throws (g := loop.enc) _ encodeLoops_body2_writes encodeLoops_body2_throws v hbad).bind _) ?_
    (by omega)
  rw [← encL_eq_flatMap, Impl.V2.encL_loop_length, CxxPrims.encode_int64_le_eq, Impl.V2.u64le_enc_length]
  omega

/-! ### non-vacuity -/

example : (track.enc default ++ [1, 2, 3]).length < 9223372036854775808 := by decide
example : encodeTrack default [1, 2, 3] = .ok (track.enc default ++ [1, 2, 3]) := by decide
example : ∃ l ∈ ([⟨List.replicate 256 0, 0, 0, 0, 0, default⟩] : Loops), 255 < l.label.length :=
  ⟨_, List.mem_singleton.mpr rfl, by simp only [List.length_replicate]; omega⟩

end EngineModel.Gen.ImplV2
