/-
C06 on the legacy layout, the database level: the row invariant after `create_track` / `update` / a setter
(`dbCreate_inv`, `dbUpdate_inv`, `dbSet_inv`), absence of undefined behaviour in the setters (`set_defined`,
`dbSet_defined`), and the lift to the database (several tracks, `UNIQUE(path)`; `AllRows`) and to arbitrary finite
histories.
-/
import Proofs.TracksV1SetRefines
import Proofs.Machine

namespace EngineModel.TracksV1

open Impl.V1 (GMarker HotCue LoopV Entry Wave Beat Cues Loops)
open Fl (FOps)


theorem Written.inv {o : FOps} {s : Schema} {x : Snap} {prior : Option TrackRows} {rows : TrackRows}
    (hw : Written o s x prior rows) (ha : Spec.libAccepted x = true) : InvP rows := by
  obtain ⟨path, lc, bi, ov, spe, _, _, _, _, rfl⟩ := hw
  obtain ⟨_, hc8, _, hl8, _⟩ := (libAccepted_iff x).mp ha
  refine ⟨⟨path, rfl⟩, ?_, ?_, ?_, ?_, ?_⟩
  · intro l hl
    simp only [assemble, writeTrackRow] at hl
    cases hd : x.duration with
    | none => rw [hd] at hl; cases hl
    | some d => rw [hd] at hl; cases hl; exact mul_tdivPos_fits d 1000
  · intro t ht
    simp only [assemble, cell_mi1] at ht
    cases hd : x.lastPlayedAt with
    | none => rw [hd] at ht; cases ht
    | some d => rw [hd] at ht; cases ht; exact mul_tdivPos_fits d 1000000000
  · intro p hp'
    cases hp'
    exact Spec.pad8_length _ (by rw [List.length_map]; exact hc8)
  · intro p hp'
    cases hp'
    exact Spec.pad8_length _ (by rw [List.length_map]; exact hl8)
  · intro p hp' k hk
    cases hp'
    simp only [normTrack] at hk
    simp only [assemble, cell_mi4]
    cases hkey : x.key with
    | none => rw [hkey] at hk; cases hk
    | some kv =>
      rw [hkey] at hk
      simp only [Option.bind_some] at hk
      split at hk <;> cases hk
      rfl

theorem writeSnap_inv (o : FOps) (s : Schema) (x : Snap) (prior : Option TrackRows) (rows : TrackRows)
    (h : writeSnap o s x prior = .ok rows) : InvP rows :=
  have ⟨ha, hw⟩ := writeSnap_ok_written h
  hw.inv ha

theorem set_defined (o : FOps) (r : TrackRows) (f : Field) (v : f.ty) (hc : f = .bpm → CeilInRange o) :
    Defined (set o r f v) := by
  rw [set_eq_setPlan]
  exact Defined.bind (setPlan_defined o r f v hc) fun P _ => runCols_defined _ _

/-- Every setter keeps the invariant (for `set_bpm` whatever the value: it touches two `Track` columns only). -/
theorem set_inv (o : FOps) (s : Schema) (r r' : TrackRows) (f : Field) (v : f.ty) (hinv : InvP r)
    (h : set o r f v = .ok r') : InvP r' := by
  by_cases hfin : Spec.finiteArg f v = true
  · obtain ⟨_, _, _, hi⟩ := set_refines o s r r' f v hinv hfin h
    exact hi
  · cases f with
    | bpm =>
      obtain ⟨P, hP, _, hr⟩ := set_ok_form h
      obtain ⟨c, _, hP⟩ := Res.bind_eq_ok.mp hP
      cases hP
      obtain ⟨_, rfl⟩ := hr.resolve_right fun h => h.1 rfl
      exact hinv.of_same rfl rfl rfl rfl rfl
    | _ => exact absurd rfl hfin

theorem dbSet_some (o : FOps) (d : Db) (id : Int) (f : Field) (v : f.ty) (r : TrackRows) (hr : d.rows id = some r) :
    dbSet o d id f v =
      if pathConflict d id f v = true then .throw .sqlite_error else
        match set o r f v with
        | .ok r' => .ok { d with tracks := aset id r' d.tracks }
        | .throw e => .throw e
        | .ub u => .ub u := by
  unfold dbSet
  rw [hr]
  cases f <;> rfl

/-- On the handle of a track that is not (or no longer) in the database every setter throws. -/
theorem dbSet_absent (o : FOps) (d : Db) (id : Int) (f : Field) (v : f.ty) (h : d.rows id = none) :
    ∃ e, dbSet o d id f v = .throw e := by
  unfold dbSet
  rw [h]
  simp only
  by_cases hrs : f.rowSetter = true
  · rw [if_pos hrs]; exact ⟨_, rfl⟩
  · rw [if_neg hrs]
    have hnb : f = .bpm → CeilInRange o := by
      intro hf; subst hf; exact absurd rfl hrs
    cases hs : set o blankRows f v with
    | ok r' => exact ⟨_, rfl⟩
    | throw e => exact ⟨e, rfl⟩
    | ub u => exact absurd hs (set_defined o blankRows f v hnb u)

theorem dbSet_ok (o : FOps) (d d' : Db) (id : Int) (f : Field) (v : f.ty) (h : dbSet o d id f v = .ok d') :
    ∃ r r', d.rows id = some r ∧ set o r f v = .ok r' ∧ d' = { d with tracks := aset id r' d.tracks } := by
  cases hr : d.rows id with
  | none => obtain ⟨e, he⟩ := dbSet_absent o d id f v hr; rw [he] at h; cases h
  | some r =>
    rw [dbSet_some o d id f v r hr] at h
    split at h
    · cases h
    · cases hs : set o r f v with
      | ok r' => rw [hs] at h; cases h; exact ⟨r, r', rfl, hs, rfl⟩
      | throw e => rw [hs] at h; cases h
      | ub u => rw [hs] at h; cases h

theorem dbSet_rows_same (o : FOps) (d d' : Db) (id : Int) (f : Field) (v : f.ty) (h : dbSet o d id f v = .ok d') :
    ∃ r r', d.rows id = some r ∧ set o r f v = .ok r' ∧ d'.rows id = some r' ∧ d'.schema = d.schema := by
  obtain ⟨r, r', h1, h2, h3⟩ := dbSet_ok o d d' id f v h
  subst h3
  exact ⟨r, r', h1, h2, aget_aset_same _ _ _, rfl⟩

theorem dbSet_rows_other (o : FOps) (d d' : Db) (id id' : Int) (f : Field) (v : f.ty) (hne : id' ≠ id)
    (h : dbSet o d id f v = .ok d') : d'.rows id' = d.rows id' := by
  obtain ⟨r, r', h1, h2, h3⟩ := dbSet_ok o d d' id f v h
  subst h3
  exact aget_aset_other _ _ _ _ hne

theorem dbStep_fail (o : FOps) (d : Db) (op : SetOp) (h : (dbStep o d op).2 = false) : (dbStep o d op).1 = d := by
  unfold dbStep at h ⊢
  cases hs : dbSet o d op.id op.f op.v with
  | ok d' => rw [hs] at h; cases h
  | throw e => rfl
  | ub u => rfl

theorem dbStep_ok (o : FOps) (d : Db) (op : SetOp) (h : (dbStep o d op).2 = true) :
    dbSet o d op.id op.f op.v = .ok (dbStep o d op).1 := by
  unfold dbStep at h ⊢
  cases hs : dbSet o d op.id op.f op.v with
  | ok d' => rfl
  | throw e => rw [hs] at h; cases h
  | ub u => rw [hs] at h; cases h

theorem dbRun_isRun (o : FOps) : Machine.IsRun (dbStep o) fun d l => (dbRun o d l).1 :=
  ⟨fun _ => rfl, fun _ _ _ => rfl⟩

/-- Every stored track satisfies `Q`; `DbInv` and `DbClean` are `AllRows (Inv · = true)`, `AllRows (Clean · = true)`. -/
def AllRows (Q : TrackRows → Prop) (d : Db) : Prop := ∀ id r, d.rows id = some r → Q r

namespace AllRows
variable {Q : TrackRows → Prop} {o : FOps} {d d' : Db}

/-- A call that touches the rows of the one track `id`. -/
theorem of_one (id : Int) (h : AllRows Q d) (hother : ∀ id', id' ≠ id → d'.rows id' = d.rows id')
    (hsame : ∀ r, d'.rows id = some r → Q r) : AllRows Q d' := by
  intro id' r hr
  by_cases hid : id' = id
  · subst hid; exact hsame r hr
  · rw [hother id' hid] at hr; exact h id' r hr

theorem dbSet {id : Int} {f : Field} {v : f.ty} (hset : ∀ r r', Q r → set o r f v = .ok r' → Q r')
    (h : AllRows Q d) (hs : dbSet o d id f v = .ok d') : AllRows Q d' := by
  obtain ⟨r0, r0', h0, hs', h0', _⟩ := dbSet_rows_same o d d' id f v hs
  refine of_one id h (fun id' hid => dbSet_rows_other o d d' id id' f v hid hs) fun r hr => ?_
  cases h0'.symm.trans hr
  exact hset r0 _ (h _ _ h0) hs'

theorem dbCreate {x : Snap} {id : Int} (hw : ∀ rows, writeSnap o d.schema x none = .ok rows → Q rows)
    (h : AllRows Q d) (hc : dbCreate o d x = .ok (d', id)) : AllRows Q d' := by
  obtain ⟨rows, hw', _, rfl, rfl⟩ := dbCreate_eq_ok hc
  intro id' r hr
  rcases aget_append_singleton _ _ _ _ _ hr with h1 | rfl
  · exact h id' r h1
  · exact hw _ hw'

theorem dbUpdate {x : Snap} {id : Int}
    (hw : ∀ prior rows, writeSnap o d.schema x (some prior) = .ok rows → Q rows)
    (h : AllRows Q d) (hu : dbUpdate o d id x = .ok d') : AllRows Q d' := by
  obtain ⟨prior, rows, _, hw', _, rfl⟩ := dbUpdate_eq_ok hu
  refine of_one id h (fun id' hid => aget_aset_other _ _ _ _ hid) fun r hr => ?_
  cases (aget_aset_same id rows d.tracks).symm.trans hr
  exact hw prior _ hw'

theorem dbRemove (id : Int) (h : AllRows Q d) : AllRows Q (dbRemove d id) := by
  refine of_one id h (fun id' hid => aget_filter_other _ _ _ hid) fun r hr => ?_
  cases (aget_filter_ne d.tracks id).symm.trans hr

theorem dbRun (hset : ∀ r r' f v, Q r → set o r f v = .ok r' → Q r') (l : List SetOp) {d : Db} (h : AllRows Q d) :
    AllRows Q (dbRun o d l).1 := by
  refine (dbRun_isRun o).inv (fun d op h => ?_) l d h
  cases hok : (dbStep o d op).2 with
  | false => rw [dbStep_fail o d op hok]; exact h
  | true => exact AllRows.dbSet (hset · · op.f op.v) h (dbStep_ok o d op hok)

end AllRows

theorem dbStep_spec (o : FOps) (d : Db) (hinv : DbInv d) (op : SetOp) (hfin : Spec.finiteArg op.f op.v = true) :
    DbInv (dbStep o d op).1 ∧ (dbStep o d op).1.schema = d.schema ∧
    ((dbStep o d op).2 = true → (Spec.normField op.f op.v).isSome = true) ∧
    (∀ id, d.rows id = none → (dbStep o d op).1.rows id = none) ∧
    (∀ id r, d.rows id = some r → ∃ r', (dbStep o d op).1.rows id = some r' ∧
      snapOf o d.schema r' =
        (if (dbStep o d op).2 && decide (op.id = id) then Spec.applyOk (snapOf o d.schema r) op.f op.v
         else snapOf o d.schema r)) := by
  cases hok : (dbStep o d op).2 with
  | false =>
    rw [dbStep_fail o d op hok]
    refine ⟨hinv, rfl, (by intro h; cases h), fun _ h => h, ?_⟩
    intro id r hr
    exact ⟨r, hr, by simp⟩
  | true =>
    have hset := dbStep_ok o d op hok
    generalize (dbStep o d op).1 = d' at hset ⊢
    obtain ⟨r0, r0', hr0, hs0, hr0', hsch⟩ := dbSet_rows_same o d d' op.id op.f op.v hset
    have hi0 : InvP r0 := (inv_iff r0).mp (hinv _ _ hr0)
    obtain ⟨w, hw, hsnap, _⟩ := set_refines o d.schema r0 r0' op.f op.v hi0 hfin hs0
    refine ⟨AllRows.dbSet (fun r r' hr hs => (inv_iff _).mpr (set_inv o d.schema r r' op.f op.v ((inv_iff r).mp hr) hs))
      hinv hset, hsch, ?_, ?_, ?_⟩
    · intro _; rw [hw]; rfl
    · intro id hn
      by_cases hid : id = op.id
      · subst hid; rw [hr0] at hn; cases hn
      · rw [dbSet_rows_other o d d' op.id id op.f op.v hid hset]; exact hn
    · intro id r hr
      by_cases hid : id = op.id
      · subst hid
        rw [hr0] at hr
        cases hr
        refine ⟨r0', hr0', ?_⟩
        simp only [Bool.true_and, decide_true, if_true, Spec.applyOk, hw]
        exact hsnap
      · have hid' : ¬ op.id = id := fun h => hid h.symm
        refine ⟨r, by rw [dbSet_rows_other o d d' op.id id op.f op.v hid hset]; exact hr, ?_⟩
        simp [hid']

theorem dbRun_spec (o : FOps) (h : List SetOp) (d : Db) (hinv : DbInv d)
    (hfin : ∀ op ∈ h, Spec.finiteArg op.f op.v = true) :
    DbInv (dbRun o d h).1 ∧ (dbRun o d h).1.schema = d.schema ∧
    (∀ e ∈ (dbRun o d h).2, e.2 = true → (Spec.normField e.1.f e.1.v).isSome = true) ∧
    (∀ id, d.rows id = none → (dbRun o d h).1.rows id = none) ∧
    (∀ id r, d.rows id = some r → ∃ r', (dbRun o d h).1.rows id = some r' ∧
      snapOf o d.schema r' = Spec.replay id (dbRun o d h).2 (snapOf o d.schema r)) := by
  induction h generalizing d with
  | nil =>
    refine ⟨hinv, rfl, ?_, fun _ h => h, ?_⟩
    · intro e he; cases he
    · intro id r hr; exact ⟨r, hr, rfl⟩
  | cons op t ih =>
    obtain ⟨s1, s2, s3, s4, s5⟩ := dbStep_spec o d hinv op (hfin op (List.mem_cons_self ..))
    obtain ⟨i1, i2, i3, i4, i5⟩ := ih (dbStep o d op).1 s1 (fun op' h' => hfin op' (List.mem_cons_of_mem _ h'))
    simp only [dbRun]
    refine ⟨i1, by rw [i2, s2], ?_, ?_, ?_⟩
    · intro e he
      cases he with
      | head => exact s3
      | tail _ he' => exact i3 e he'
    · intro id hn; exact i4 id (s4 id hn)
    · intro id r hr
      obtain ⟨r1, hr1, hsn1⟩ := s5 id r hr
      obtain ⟨r', hr', hsn'⟩ := i5 id r1 hr1
      refine ⟨r', hr', ?_⟩
      rw [s2] at hsn'
      rw [hsn', hsn1]
      rfl

theorem dbRun_other (o : FOps) (h : List SetOp) (d : Db) (id : Int) (hne : ∀ op ∈ h, op.id ≠ id) :
    (dbRun o d h).1.rows id = d.rows id := by
  refine (dbRun_isRun o).inv_of (Inv := fun d' => d'.rows id = d.rows id) (A := fun op => op.id ≠ id)
    (fun d' op e hop => ?_) h d rfl hne
  cases hok : (dbStep o d' op).2 with
  | false => rw [dbStep_fail o d' op hok]; exact e
  | true => exact (dbSet_rows_other o d' _ op.id id op.f op.v (fun h => hop h.symm) (dbStep_ok o d' op hok)).trans e

theorem dbCreate_inv (o : FOps) (d d' : Db) (x : Snap) (id : Int) (hinv : DbInv d)
    (h : dbCreate o d x = .ok (d', id)) : DbInv d' :=
  AllRows.dbCreate (fun _ hw => (inv_iff _).mpr (writeSnap_inv o _ x none _ hw)) hinv h

theorem dbUpdate_inv (o : FOps) (d d' : Db) (x : Snap) (id : Int) (hinv : DbInv d)
    (h : dbUpdate o d id x = .ok d') : DbInv d' :=
  AllRows.dbUpdate (fun _ _ hw => (inv_iff _).mpr (writeSnap_inv o _ x _ _ hw)) hinv h

theorem dbSet_inv (o : FOps) (d d' : Db) (id : Int) (f : Field) (v : f.ty) (hinv : DbInv d)
    (h : dbSet o d id f v = .ok d') : DbInv d' :=
  AllRows.dbSet (fun r r' hr hs => (inv_iff r').mpr (set_inv o .s1_6_0 r r' f v ((inv_iff r).mp hr) hs)) hinv h

theorem dbSet_defined (o : FOps) (hc : CeilInRange o) (d : Db) (id : Int) (f : Field) (v : f.ty) :
    Defined (dbSet o d id f v) := by
  cases hr : d.rows id with
  | none =>
    obtain ⟨e, he⟩ := dbSet_absent o d id f v hr
    rw [he]; exact Defined.throw _
  | some r =>
    rw [dbSet_some o d id f v r hr]
    split
    · exact Defined.throw _
    · cases hs : set o r f v with
      | ok r' => exact Defined.ok _
      | throw e => exact Defined.throw _
      | ub u => exact absurd hs (set_defined o r f v (fun _ => hc) u)

end EngineModel.TracksV1
