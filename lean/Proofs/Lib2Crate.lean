/-
Composite 2.x library, crate side: what follows from the crate package's `Does` for a call made through the
composite (`crateCall`) — on the view it is the package's own step (`crateCall_crates`), and when it does not return
normally it has written nothing at all (`crateCall_failed`).
-/
import EngineModel.Lib.V2
import Proofs.CratesV2Members

namespace EngineModel.Lib.V2
open EngineModel EngineModel.Db.Chain EngineModel.Db.V2

theorem crates_withCrates (L : Lib2) (d : CDb) (h1 : d.tracks = L.crates.tracks) (h2 : d.trSeq = L.crates.trSeq) :
    (L.withCrates d).crates = d := by
  cases d
  simp only [Lib2.crates, Lib2.withCrates] at *
  subst h1 h2
  rfl

theorem crateCall_crates (L : Lib2) (op : COp) (h1 : op ≠ .createTrack) (h2 : ∀ t, op ≠ .removeTrack t) :
    (crateCall op L).1.crates = (EngineModel.Db.V2.step L.crates op).1 :=
  -- only `createTrack` / `removeTrack` write the package's stand-in for the Track table (`Does.tracks_kept`): this is
  -- what lets the composite hand the package a read-only view of the real one
  have h := (step_does L.crates op).tracks_kept h1 h2
  crates_withCrates L _ h.1 h.2

theorem crateCall_same {L : Lib2} {op : COp} {r : Res EngineModel.Db.V2.Out}
    (h : EngineModel.Db.V2.step L.crates op = (L.crates, r)) : crateCall op L = (L, r) := by
  unfold crateCall; rw [h]; rfl

theorem crateCall_failed (L : Lib2) (op : COp) (h : ∀ v, (crateCall op L).2 ≠ .ok v) : (crateCall op L).1 = L := by
  unfold crateCall at h ⊢
  rcases (step_does L.crates op).cases with e | ⟨v, e⟩
  · simp only [e]; rfl
  · exact absurd e (h v)

end EngineModel.Lib.V2
