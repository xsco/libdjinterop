/-
The independent inflate decoder (`EngineModel.Zlib.inflate`, written from
RFC 1950/1951) inverts the stored-block encoder (`deflateStored`) on every
byte list: multi-block streams (inputs longer than 65535 bytes) and the
Adler-32 trailer check included.  Corollary: `unframe (frame x) = some x`.
-/
import EngineModel.Zlib.Stored

namespace EngineModel
namespace Zlib

theorem toNat_toUInt8_mod (n : Nat) : (n % 256).toUInt8.toNat = n % 256 := by
  simp [Nat.toUInt8]

theorem be32_value {n : Nat} (h : n < 4294967296) :
    (n / 16777216 % 256).toUInt8.toNat * 16777216 + (n / 65536 % 256).toUInt8.toNat * 65536 +
      (n / 256 % 256).toUInt8.toNat * 256 + (n % 256).toUInt8.toNat = n := by
  have h1 := Nat.div_add_mod n 256
  have h2 := Nat.div_add_mod (n / 256) 256
  have h3 := Nat.div_add_mod (n / 65536) 256
  have h4 : n / 16777216 < 256 := Nat.div_lt_of_lt_mul (show n < 16777216 * 256 from h)
  rw [Nat.div_div_eq_div_mul] at h2 h3
  simp only [toNat_toUInt8_mod, Nat.reduceMul] at h2 h3 ⊢
  rw [Nat.mod_eq_of_lt h4]
  -- quotients and digits become variables: what is left is linear
  generalize n / 65536 % 256 = c2 at *
  generalize n / 256 % 256 = c1 at *
  generalize n % 256 = c0 at *
  generalize n / 16777216 = a3 at *
  generalize n / 65536 = a2 at *
  generalize n / 256 = a1 at *
  omega

theorem foldl_push_toList (l : Bytes) (out : Array UInt8) :
    (l.foldl Array.push out).toList = out.toList ++ l := by
  induction l generalizing out with
  | nil => simp
  | cons a l ih => simp

/-- The block header: BFINAL (1 bit) and BTYPE = 00 (2 bits) are read from the
single header byte, which is `1` for the final block and `0` otherwise. -/
theorem blocks_header (fin : Bool) (fuel : Nat) (rest : Bytes) (out : Array UInt8) :
    blocks (fuel + 1) ⟨(if fin then 1 else 0) :: rest, 0⟩ out =
      match stored ⟨(if fin then 1 else 0) :: rest, 3⟩ out with
      | none => none
      | some (b, o) => if fin then some (b, o) else blocks fuel b o := by
  cases fin <;> simp [blocks, Bits.take, Bits.bit] <;> rfl

/-- `stored` on a cursor 3 bits into the header byte: the header byte is
dropped, LEN/NLEN are checked and `LEN` bytes are copied. -/
theorem stored_eq (h l0 l1 n0 n1 : UInt8) (r : Bytes) (out : Array UInt8)
    (hlen : l0.toNat + 256 * l1.toNat + (n0.toNat + 256 * n1.toNat) = 65535)
    (hr : l0.toNat + 256 * l1.toNat ≤ r.length) :
    stored ⟨h :: l0 :: l1 :: n0 :: n1 :: r, 3⟩ out =
      some (⟨r.drop (l0.toNat + 256 * l1.toNat), 0⟩,
        (r.take (l0.toNat + 256 * l1.toNat)).foldl Array.push out) := by
  simp [stored, Bits.align, hlen]
  omega

theorem le16_value {n : Nat} (h : n < 65536) : n % 256 + 256 * (n / 256 % 256) = n := by
  rw [Nat.mod_eq_of_lt (Nat.div_lt_of_lt_mul (show n < 256 * 256 from h)), Nat.mod_add_div]

theorem stored_chunk (h : UInt8) (chunk tail : Bytes) (out : Array UInt8)
    (hn : chunk.length ≤ 65535) :
    stored ⟨h :: (le16 chunk.length ++ le16 (65535 - chunk.length) ++ chunk ++ tail), 3⟩ out =
      some (⟨tail, 0⟩, chunk.foldl Array.push out) := by
  have h1 := le16_value (n := chunk.length) (by omega)
  have h2 := le16_value (n := 65535 - chunk.length) (by omega)
  simp only [le16, List.cons_append, List.nil_append]
  rw [stored_eq]
  · simp only [toNat_toUInt8_mod, h1, List.drop_left, List.take_left]
  · simp only [toNat_toUInt8_mod, h1, h2]
    omega
  · simp only [toNat_toUInt8_mod, h1, List.length_append]
    omega

theorem blocks_storedBlock (fin : Bool) (chunk tail : Bytes) (out : Array UInt8) (fuel : Nat)
    (hn : chunk.length ≤ 65535) :
    blocks (fuel + 1) ⟨storedBlock fin chunk ++ tail, 0⟩ out =
      if fin then some (⟨tail, 0⟩, chunk.foldl Array.push out)
      else blocks fuel ⟨tail, 0⟩ (chunk.foldl Array.push out) := by
  unfold storedBlock
  rw [List.cons_append, blocks_header, stored_chunk _ _ _ _ hn]

theorem blocks_storedBlocks (f : Nat) :
    ∀ (x tail : Bytes) (out : Array UInt8) (fuel : Nat),
      x.length ≤ 65535 * (f + 1) → f + 1 ≤ fuel →
      blocks fuel ⟨storedBlocks f x ++ tail, 0⟩ out =
        some (⟨tail, 0⟩, x.foldl Array.push out) := by
  induction f with
  | zero =>
    intro x tail out fuel hx hf
    obtain ⟨k, rfl⟩ : ∃ k, fuel = k + 1 := ⟨fuel - 1, by omega⟩
    have hx' : x.length ≤ 65535 := by omega
    have ht : x.take 65535 = x := List.take_of_length_le hx'
    simp only [storedBlocks, ht]
    rw [blocks_storedBlock _ _ _ _ _ hx']
    simp
  | succ f ih =>
    intro x tail out fuel hx hf
    obtain ⟨k, rfl⟩ : ∃ k, fuel = k + 1 := ⟨fuel - 1, by omega⟩
    by_cases h : x.length ≤ 65535
    · simp only [storedBlocks, if_pos h]
      rw [blocks_storedBlock _ _ _ _ _ h]
      simp
    · simp only [storedBlocks, if_neg h]
      have htake : (x.take 65535).length ≤ 65535 := by
        rw [List.length_take]; omega
      have hdrop : (x.drop 65535).length ≤ 65535 * (f + 1) := by
        rw [List.length_drop]; omega
      rw [List.append_assoc, blocks_storedBlock _ _ _ _ _ htake]
      simp only [Bool.false_eq_true, if_false]
      rw [ih (x.drop 65535) tail _ k hdrop (by omega), ← List.foldl_append,
        List.take_append_drop]

theorem storedBlock_length (fin : Bool) (chunk : Bytes) : (storedBlock fin chunk).length = chunk.length + 5 := by
  simp only [storedBlock, le16, List.length_cons, List.length_append, List.length_nil]
  omega

theorem storedBlocks_length (f : Nat) :
    ∀ x : Bytes, x.length ≤ 65535 * (f + 1) → x.length ≤ (storedBlocks f x).length := by
  induction f with
  | zero =>
    intro x hx
    rw [storedBlocks, List.take_of_length_le (by omega), storedBlock_length]
    exact Nat.le_add_right _ 5
  | succ f ih =>
    intro x hx
    rw [storedBlocks]
    split
    · rw [storedBlock_length]
      exact Nat.le_add_right _ 5
    · have := ih (x.drop 65535) (by rw [List.length_drop]; omega)
      rw [List.length_drop] at this
      rw [List.length_append, storedBlock_length, List.length_take]
      omega

theorem inflateRaw_storedBlocks (x tail : Bytes) :
    inflateRaw (storedBlocks x.length x ++ tail) = some (x, tail) := by
  have hx : x.length ≤ 65535 * (x.length + 1) := by omega
  have hlen := storedBlocks_length x.length x hx
  have hfuel : x.length + 1 ≤ 8 * (storedBlocks x.length x ++ tail).length + 1 := by
    rw [List.length_append]; omega
  unfold inflateRaw
  rw [Bits.ofBytes, blocks_storedBlocks x.length x tail #[] _ hx hfuel]
  simp [Bits.align]

theorem adler32_fold_lt (data : Bytes) :
    ∀ p : Nat × Nat, p.1 < 65521 → p.2 < 65521 →
      (data.foldl (fun (p : Nat × Nat) x =>
        let a := (p.1 + x.toNat) % 65521
        (a, (p.2 + a) % 65521)) p).1 < 65521 ∧
      (data.foldl (fun (p : Nat × Nat) x =>
        let a := (p.1 + x.toNat) % 65521
        (a, (p.2 + a) % 65521)) p).2 < 65521 := by
  induction data with
  | nil => intro p h1 h2; exact ⟨h1, h2⟩
  | cons a l ih =>
    intro p h1 h2
    rw [List.foldl_cons]
    apply ih
    · exact Nat.mod_lt _ (by decide)
    · exact Nat.mod_lt _ (by decide)

theorem adler32_lt (data : Bytes) : adler32 data < 4294967296 := by
  have h := adler32_fold_lt data (1, 0) (by decide) (by decide)
  unfold adler32
  generalize List.foldl _ (1, 0) data = q at h ⊢
  obtain ⟨a, b⟩ := q
  simp only at h ⊢
  omega

theorem inflate_deflateStored (x r : Bytes) : inflate (deflateStored x ++ r) = some (x, r) := by
  have hshape : deflateStored x ++ r =
      0x78 :: 0x01 :: (storedBlocks x.length x ++ (be32 (adler32 x) ++ r)) := by
    simp only [deflateStored, List.append_assoc, List.cons_append, List.nil_append]
  rw [hshape]
  unfold inflate
  simp only []
  rw [if_neg (by decide), if_neg (by decide), if_neg (by decide), if_neg (by decide), inflateRaw_storedBlocks]
  simp only [be32, List.cons_append, List.nil_append]
  rw [if_pos (be32_value (adler32_lt x))]

theorem inflate_stored (x : Bytes) : inflate (deflateStored x) = some (x, []) := by
  have := inflate_deflateStored x []
  simpa using this

/-- Engine framing round trip (the length prefix must fit its 4 bytes). -/
theorem unframe_frame (x : Bytes) (h : x.length < 4294967296) : unframe (frame x) = some x := by
  simp only [frame, be32, List.cons_append, List.nil_append, unframe, be32_value h, inflate_stored]
  by_cases h0 : x.length = 0
  · rw [if_pos h0, List.eq_nil_of_length_eq_zero h0]
  · rw [if_neg h0]
    rfl

end Zlib
end EngineModel
