/-
The directory model `EngineModel.Spec.Dir` (C10 iii, C16).  Loading never changes the directory (`loadDatabase_dir`
and its siblings: C16).  `load_database` answers "not found" exactly when neither or both of `m.db` and
`Database2/m.db` are there (`load_notFound_iff`, over the closed form `loadDatabase_snd`), so that
`create_or_load_database` creates or loads by what is there (`createOrLoadAt_eq`; `createOrLoadAt_fresh` /
`createOrLoadAt_existing` are its two branches: C10 iii).  Creating where no library is writes a stamp that is
detected as the requested schema (`detect_stampOf`), hence loads back as it (`createDatabase_fresh`).
-/
import EngineModel.Spec.Dir

namespace EngineModel.Proofs.Dir
open EngineModel EngineModel.Spec.Dir EngineModel.Pure.Detect

/-- all 4·4·2·4·2 shapes -/
macro "dir_cases" d:ident : tactic =>
  `(tactic| (rcases $d:ident with ⟨dir, m, p, d2, dm, stL, stD⟩; cases dir <;> cases m <;> cases p <;> cases d2 <;> cases dm))

-- No lemma below needs all of these shapes: each splits only the files the guard in question reads.

theorem notFound_ne_unsupported : notFound ≠ unsupported := by decide

theorem detectFile_ne_notFound (f : FileSt) (st : Stamp) : detectFile f st ≠ .throw notFound := by
  unfold detectFile
  cases f <;> simp [notFound, inconsistency]
  -- left is a valid file, whose stamp gives a schema or `unsupported`; every other state answers `inconsistency`
  split <;> simp [unsupported]

/-! Each loader looks at `path_exists` before it opens a file, and opening a file that is there does
not change it: only the files the guard mentions matter. -/

theorem loadLegacySqlite_dir (d : Dir) : (loadLegacySqlite d).1 = d := by
  obtain ⟨dir, m, p, d2, dm, stL, stD⟩ := d
  cases dir <;> cases m <;> cases p <;> rfl

theorem loadDb2Sqlite_dir (d : Dir) : (loadDb2Sqlite d).1 = d := by
  obtain ⟨dir, m, p, d2, dm, stL, stD⟩ := d
  cases dir <;> cases d2 <;> cases dm <;> rfl

theorem v2Load_dir (d : Dir) : (v2Load d).1 = d := loadDb2Sqlite_dir d

theorem loadDatabase_dir (d : Dir) : (loadDatabase d).1 = d := by
  unfold loadDatabase loadDatabaseWith
  split
  · rfl
  · rfl
  · exact loadLegacySqlite_dir d
  · exact v2Load_dir d

theorem databaseExists_dir (d : Dir) : (databaseExists d).1 = d := loadDatabase_dir d

theorem loadDatabase_eq (d : Dir) : loadDatabase d = (d, (loadDatabase d).2) :=
  Prod.ext (loadDatabase_dir d) rfl

theorem detectIsDb2_eq (d : Dir) :
    detectIsDb2 d = if legacyExists d = db2Exists d then .throw notFound else .ok (db2Exists d) := by
  unfold detectIsDb2 legacyExists db2Exists
  cases d.dir <;> cases d.m.present <;> cases d.d2 <;> cases d.dm.present <;> rfl

/-- `load_database` by layout: "not found" when neither or both of `m.db` / `Database2/m.db`
exist, otherwise the answer of the loader of the one layout that is there. -/
theorem loadDatabase_snd (d : Dir) :
    (loadDatabase d).2 =
      if legacyExists d = db2Exists d then .throw notFound
      else if db2Exists d then requireDb2Schema (v2Load d).2
      else (loadLegacyWith loadLegacySqlite d).2 := by
  unfold loadDatabase loadDatabaseWith
  rw [detectIsDb2_eq]
  by_cases h : legacyExists d = db2Exists d
  · rw [if_pos h, if_pos h]
  · rw [if_neg h, if_neg h]
    cases db2Exists d <;> rfl

theorem bind_detect_ne_notFound (r : Res Unit) (f : FileSt) (st : Stamp) (h : r ≠ .throw notFound) :
    (r.bind fun _ => detectFile f st) ≠ .throw notFound := by
  cases r with
  | ok u => exact detectFile_ne_notFound f st
  | throw e => simpa [Res.bind] using h
  | ub u => simp [Res.bind]

theorem requireDb2_ne_notFound (r : Res Schema) (h : r ≠ .throw notFound) : requireDb2Schema r ≠ .throw notFound := by
  cases r with
  | ok s => by_cases hle : Schema.schema_2_18_0.ord ≤ s.ord <;> simp [requireDb2Schema, hle, notFound, inconsistency]
  | throw e => exact h
  | ub u => simp [requireDb2Schema]

theorem loadLegacySqlite_ne_notFound {d : Dir} (h : legacyExists d = true) :
    (loadLegacySqlite d).2 ≠ .throw notFound := by
  obtain ⟨dir, m, p, d2, dm, stL, stD⟩ := d
  revert h
  cases dir <;> cases m <;> cases p <;>
    simp [legacyExists, loadLegacySqlite, openCreate, FileSt.present, notFound, inconsistency]

theorem loadDb2Sqlite_ne_notFound {d : Dir} (h : db2Exists d = true) :
    (loadDb2Sqlite d).2 ≠ .throw notFound := by
  obtain ⟨dir, m, p, d2, dm, stL, stD⟩ := d
  revert h
  cases dir <;> cases d2 <;> cases dm <;>
    simp [db2Exists, loadDb2Sqlite, openCreate, FileSt.present, notFound]

theorem load_notFound_iff (d : Dir) :
    (loadDatabase d).2 = .throw notFound ↔ legacyExists d = db2Exists d := by
  rw [loadDatabase_snd]
  by_cases h : legacyExists d = db2Exists d
  · simp only [h, if_true]
  · simp only [h, if_false, iff_false]
    cases h2 : db2Exists d
    · have hl : legacyExists d = true := by cases hl : legacyExists d <;> simp_all
      exact bind_detect_ne_notFound _ _ _ (loadLegacySqlite_ne_notFound hl)
    · exact requireDb2_ne_notFound _ (bind_detect_ne_notFound _ _ _ (loadDb2Sqlite_ne_notFound h2))

theorem detect_stampOf (s : Schema) : detectFile .valid (stampOf s) = .ok s := by
  cases s <;> rfl

/-- `create_or_load_database` by cases: it creates when neither `m.db` nor `Database2/m.db` is
there, and otherwise is `load_database`. -/
theorem createOrLoadAt_eq (d : Dir) (req : Schema) :
    createOrLoadAt d req =
      if legacyExists d = false ∧ db2Exists d = false then
        ⟨(createDatabase d req).1, true, (createDatabase d req).2⟩
      else ⟨d, false, (loadDatabase d).2⟩ := by
  unfold createOrLoadAt createOrLoadAtWith
  simp only [loadDatabase_dir]
  by_cases hnf : (loadDatabase d).2 = .throw notFound
  · -- "not found": neither file is there or both are, and with both what is thrown again is the loader's answer
    have he : legacyExists d = db2Exists d := (load_notFound_iff d).1 hnf
    rw [if_pos hnf, he, hnf]
    cases db2Exists d <;> rfl
  · -- any other answer: exactly one of the two files is there, and the answer is passed on
    have hne : legacyExists d ≠ db2Exists d := mt (load_notFound_iff d).2 hnf
    rw [if_neg hnf, if_neg fun h => hne (h.1.trans h.2.symm)]

theorem createOrLoadAt_fresh (d : Dir) (req : Schema) (hl : legacyExists d = false) (h2 : db2Exists d = false) :
    createOrLoadAt d req = ⟨(createDatabase d req).1, true, (createDatabase d req).2⟩ := by
  rw [createOrLoadAt_eq, if_pos ⟨hl, h2⟩]

theorem createOrLoadAt_existing (d : Dir) (req : Schema) (h : legacyExists d = true ∨ db2Exists d = true) :
    createOrLoadAt d req = ⟨d, false, (loadDatabase d).2⟩ := by
  rw [createOrLoadAt_eq, if_neg]
  rcases h with h | h <;> simp [h]

theorem present_eq_false {f : FileSt} : f.present = false ↔ f = .absent := by
  cases f <;> simp [FileSt.present]

/-- In a well-formed directory without a library neither `m.db` nor `Database2/m.db` is there
(a file needs its directory, so `path_exists` of the file is the file's own state). -/
theorem absent_of_no_library {d : Dir} (hwf : d.wf = true) (hl : legacyExists d = false)
    (h2 : db2Exists d = false) : d.m = .absent ∧ d.dm = .absent := by
  have key : d.m.present = false ∧ d.dm.present = false := by
    revert hwf hl h2
    unfold Dir.wf legacyExists db2Exists
    cases d.dir <;> cases d.m.present <;> cases d.d2 <;> cases d.dm.present <;> simp
  exact ⟨present_eq_false.1 key.1, present_eq_false.1 key.2⟩

theorem createLegacy_fresh (d : Dir) (s : Schema) (hm : d.m = .absent) (hp : d.p = .absent ∨ d.p = .zero) :
    createLegacy d s = ({ d with dir := true, m := .valid, p := .valid, stL := stampOf s }, .ok s) := by
  obtain ⟨dir, m, p, d2, dm, stL, stD⟩ := d
  subst hm
  rcases hp with rfl | rfl <;> rfl

theorem createDb2_fresh (d : Dir) (s : Schema) (hdm : d.dm = .absent) :
    createDb2 d s = ({ d with dir := true, d2 := true, dm := .valid, stD := stampOf s }, .ok s) := by
  obtain ⟨dir, m, p, d2, dm, stL, stD⟩ := d
  subst hdm
  rfl

theorem loadDatabase_legacy_valid {d : Dir} (hdir : d.dir = true) (hm : d.m = .valid) (hp : d.p = .valid)
    (hdm : d.dm = .absent) : (loadDatabase d).2 = detectFile .valid d.stL := by
  obtain ⟨dir, m, p, d2, dm, stL, stD⟩ := d
  subst hdir hm hp hdm
  cases d2 <;> rfl

theorem loadDatabase_db2_valid {d : Dir} (hdir : d.dir = true) (hm : d.m = .absent) (hd2 : d.d2 = true)
    (hdm : d.dm = .valid) : (loadDatabase d).2 = requireDb2Schema (detectFile .valid d.stD) := by
  obtain ⟨dir, m, p, d2, dm, stL, stD⟩ := d
  subst hdir hm hd2 hdm
  rfl

/-- Creating where no library is and creation is possible (a 2.x request, or no stray `p.db` that
already holds tables / is not a database) succeeds, and what was written loads back as the
requested schema. -/
theorem createDatabase_fresh {d : Dir} (req : Schema) (hwf : d.wf = true) (hl : legacyExists d = false)
    (h2 : db2Exists d = false) (hp : createsDb2 req = true ∨ d.p = .absent ∨ d.p = .zero) :
    (createDatabase d req).2 = .ok req ∧ (loadDatabase (createDatabase d req).1).2 = .ok req ∧
      (legacyExists (createDatabase d req).1 = true ∨ db2Exists (createDatabase d req).1 = true) := by
  obtain ⟨hm, hdm⟩ := absent_of_no_library hwf hl h2
  unfold createDatabase
  cases hc : createsDb2 req
  · rw [if_neg (by simp), createLegacy_fresh d req hm (by simpa [hc] using hp)]
    refine ⟨rfl, ?_, .inl rfl⟩
    exact (loadDatabase_legacy_valid (d := { d with dir := true, m := .valid, p := .valid, stL := stampOf req })
      rfl rfl rfl hdm).trans (detect_stampOf req)
  · rw [if_pos rfl, createDb2_fresh d req hdm]
    refine ⟨rfl, (loadDatabase_db2_valid
      (d := { d with dir := true, d2 := true, dm := .valid, stD := stampOf req }) rfl hm rfl rfl).trans ?_, .inr rfl⟩
    show requireDb2Schema (detectFile .valid (stampOf req)) = .ok req
    rw [detect_stampOf req, requireDb2Schema, if_pos]
    simpa [createsDb2] using hc

/-- A 1.x request where no library is but a stray `p.db` already holds tables or is not a database:
the creator throws, and the `m.db` it made before failing stays. -/
theorem createLegacy_stray (d : Dir) (s : Schema) (hm : d.m = .absent) (hp : d.p = .valid ∨ d.p = .garbage) :
    (createLegacy d s).2 = .throw .sqlite_error ∧ (createLegacy d s).1.m.present = true ∧
      (createLegacy d s).1.p = d.p := by
  obtain ⟨dir, m, p, d2, dm, stL, stD⟩ := d
  subst hm
  rcases hp with rfl | rfl <;> exact ⟨rfl, rfl, rfl⟩

end EngineModel.Proofs.Dir
