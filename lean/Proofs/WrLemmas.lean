/-
Laws of the writer monad `Wr` (Impl/CursorCxx.lean) in which the generated encoders run: a writer that only appends
bytes (`Writes m w`; `Returns m a w` when it also returns a value) fills a buffer of exactly `w.length` bytes with `w`;
one that throws after appending at most `n` bytes (`Throws m e n`) throws from every buffer with room for them.  Then
the size arithmetic of the encoders (`size_t` sums that do not wrap, `std::accumulate` in `int64_t`).
-/
import EngineModel.Impl.CursorCxx
import EngineModel.Format.Codec
import Proofs.Cxx

namespace EngineModel
namespace Wr

@[simp] theorem bind_run {α β} (m : Wr α) (f : α → Wr β) (size : Nat) (out : Bytes) :
    (m >>= f) size out = match m size out with
      | .ok (a, o) => f a size o
      | .throw e => .throw e
      | .ub u => .ub u := rfl
@[simp] theorem pure_run {α} (a : α) (size : Nat) (out : Bytes) : (pure a : Wr α) size out = .ok (a, out) := rfl
@[simp] theorem throwW_run {α} (e : Exn) (size : Nat) (out : Bytes) : (throwW e : Wr α) size out = .throw e := rfl

/-- `m` appends exactly `w` whenever it fits, and returns `a`. -/
def Returns {α} (m : Wr α) (a : α) (w : Bytes) : Prop :=
  ∀ size out, out.length + w.length ≤ size → m size out = .ok (a, out ++ w)

theorem Returns.pure {α} (a : α) : Returns (pure a : Wr α) a [] := by
  intro size out _
  simp

theorem Returns.bind {α β} {m : Wr α} {k : α → Wr β} {v : α} {w : β} {a b : Bytes} (hm : Returns m v a)
    (hk : Returns (k v) w b) : Returns (m >>= k) w (a ++ b) := by
  intro size out h
  simp only [List.length_append] at h
  simp only [bind_run, hm size out (by omega)]
  rw [hk size (out ++ a) (by simp; omega), List.append_assoc]

/-- `m` appends exactly the bytes `w` whenever they fit. -/
def Writes (m : Wr Unit) (w : Bytes) : Prop := Returns m () w

theorem Writes.put (b : Bytes) : Writes (put b) b := by
  intro size out h
  simp [Wr.put, h]

theorem Writes.pure : Writes (pure ()) [] := Returns.pure ()

theorem Writes.bind {α} {m : Wr Unit} {n : Wr α} {v : α} {a b : Bytes} (hm : Writes m a) (hn : Returns n v b) :
    Returns (m >>= fun _ => n) v (a ++ b) :=
  Returns.bind hm hn

theorem Writes.forIn_mem {α} {f : α → Wr Unit} {g : α → Bytes} :
    ∀ xs : List α, (∀ x ∈ xs, Writes (f x) (g x)) → Writes (forIn' xs f) (xs.flatMap g) := by
  intro xs
  induction xs with
  | nil => intro _; exact Writes.pure
  | cons x r ih =>
    intro h
    simp only [forIn', List.flatMap_cons]
    exact (h x (by simp)).bind (ih (fun y hy => h y (by simp [hy])))

theorem Writes.forIn {α} {f : α → Wr Unit} {g : α → Bytes} (h : ∀ x, Writes (f x) (g x)) (xs : List α) :
    Writes (forIn' xs f) (xs.flatMap g) :=
  Writes.forIn_mem xs fun x _ => h x

theorem Writes.congr {m : Wr Unit} {a b : Bytes} (hm : Writes m a) (e : a = b) : Writes m b := e ▸ hm

/-- Exact buffer sizing: the returned vector is what was written. -/
theorem run_of_writes {m : Wr Unit} {w : Bytes} {size : Nat} (h : Writes m w) (hs : w.length = size)
    (hm : size ≤ 9223372036854775807) : run size m = .ok w := by
  have := h size [] (by simp; omega)
  have hnot : ¬ (9223372036854775807 < size) := by omega
  simp [run, this, hs, hnot]

/-- `m` throws `e` whenever `n` more bytes fit: what it appends before the `throw` stays inside the buffer. -/
def Throws {α} (m : Wr α) (e : Exn) (n : Nat) : Prop :=
  ∀ size out, out.length + n ≤ size → m size out = .throw e

theorem Throws.bind {α β} {m : Wr α} {e : Exn} {n : Nat} (hm : Throws m e n) (f : α → Wr β) :
    Throws (m >>= f) e n := by
  intro size out h
  simp only [bind_run, hm size out h]

theorem Writes.bindThrows {α} {m : Wr Unit} {n : Wr α} {a : Bytes} {e : Exn} {k : Nat}
    (hm : Writes m a) (hn : Throws n e k) : Throws (m >>= fun _ => n) e (a.length + k) := by
  intro size out h
  simp only [bind_run, hm size out (by omega)]
  exact hn size (out ++ a) (by rw [List.length_append]; omega)

theorem run_of_throws {m : Wr Unit} {e : Exn} {n size : Nat} (h : Throws m e n) (hn : n ≤ size)
    (hm : size ≤ 9223372036854775807) : run size m = .throw e := by
  have hnot : ¬ (9223372036854775807 < size) := by omega
  simp only [run, hnot, if_false, h size [] (by simpa using hn)]

/-- A loop whose body throws on the first "bad" element, and only appends bytes before it,
throws — it cannot overflow the buffer first when the buffer has room for all the appended bytes. -/
theorem forIn_throws {α} {f : α → Wr Unit} {g : α → Bytes} {e : Exn} (bad : α → Prop)
    (hgood : ∀ x, ¬ bad x → Writes (f x) (g x)) (hbad : ∀ x, bad x → Throws (f x) e 0) :
    ∀ xs : List α, (∃ x ∈ xs, bad x) → Throws (forIn' xs f) e (xs.flatMap g).length := by
  intro xs
  induction xs with
  | nil => intro ⟨x, hx, _⟩; simp at hx
  | cons x r ih =>
    intro hex
    simp only [forIn', List.flatMap_cons, List.length_append]
    by_cases hb : bad x
    · exact fun size out _ => (hbad x hb).bind _ size out (by omega)
    · obtain ⟨y, hy, hyb⟩ := hex
      have hy' : y ∈ r := (List.mem_cons.mp hy).resolve_left fun h => hb (h ▸ hyb)
      exact (hgood x hb).bindThrows (ih ⟨y, hy', hyb⟩)

/-- `static_cast<int64_t>(v.size())` stored as a bit pattern is the count itself. -/
theorem count_bits (n : Nat) : Prim.u64OfInt (Cxx.i64OfU64 n) = UInt64.ofNat n := by
  apply UInt64.toNat_inj.mp
  unfold Prim.u64OfInt Cxx.i64OfU64 Cxx.two64
  simp only [UInt64.toNat_ofNat']
  split <;> omega

theorem flatMap_singleton (l : Bytes) : l.flatMap (fun c => [c]) = l := by
  induction l with
  | nil => rfl
  | cons a l ih => simp [List.flatMap_cons, ih]

theorem i64OfU64_small {n : Nat} (h : n < 9223372036854775808) : Cxx.i64OfU64 n = n := by
  unfold Cxx.i64OfU64 Cxx.two64; omega

/-- `std::accumulate` of the label lengths in `int64_t` (with the conversions through `size_t`
that the lambda performs) is their sum as long as it stays below 2^63. -/
theorem accumulate_lengths {α} (len : α → Nat) : ∀ (l : List α) (m : Nat),
    m + (l.map len).sum < 9223372036854775808 →
    List.foldl (fun (x : Int) (e : α) => Cxx.i64OfU64 (Cxx.U64.add (Cxx.u64OfInt x) (len e))) (m : Int) l =
      ((m + (l.map len).sum : Nat) : Int)
  | [], m, _ => rfl
  | a :: l, m, h => by
    simp only [List.map_cons, List.sum_cons] at h
    rw [List.foldl_cons, Cxx.u64OfInt_natCast _ (by omega), Cxx.U64.add_small _ _ (by omega), i64OfU64_small (by omega),
      accumulate_lengths len l (m + len a) (by omega), List.map_cons, List.sum_cons, Nat.add_assoc]

/-- The same sum as the `size_t` it is converted back to for the buffer size. -/
theorem accumulate_lengths_u64 {α} (len : α → Nat) (l : List α) (h : (l.map len).sum < 9223372036854775808) :
    Cxx.u64OfInt (List.foldl (fun (x : Int) (e : α) => Cxx.i64OfU64 (Cxx.U64.add (Cxx.u64OfInt x) (len e))) 0 l) =
      (l.map len).sum := by
  have := accumulate_lengths len l 0 (by omega)
  rw [Nat.zero_add] at this
  rw [show (0 : Int) = ((0 : Nat) : Int) from rfl, this, Cxx.u64OfInt_natCast _ (by omega)]

theorem triples_length : ∀ b : Bytes, (triples b).length = b.length / 3
  | [] => rfl
  | [_] | [_, _] => by simp [triples]
  | _ :: _ :: _ :: r => by
    simp only [triples, List.length_cons, triples_length r]; omega

theorem triples_flat : ∀ b : Bytes, b.length % 3 = 0 → (triples b).flatMap (fun e => [e.1, e.2.1, e.2.2]) = b
  | [], _ => rfl
  | [_], h | [_, _], h => by simp at h
  | x :: y :: z :: r, h => by
    simp only [triples, List.flatMap_cons, triples_flat r (by simp at h; omega)]; rfl

theorem triple_bytes (b : Bytes) (h : b.length = 3) : [(triple b).1, (triple b).2.1, (triple b).2.2] = b := by
  match b, h with
  | [x, y, z], _ => rfl

end Wr
end EngineModel
