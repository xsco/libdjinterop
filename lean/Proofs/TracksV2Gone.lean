/-
Removed tracks on the statement-level table: once an id is gone (no row, id within
the AUTOINCREMENT counter) no later call brings it back.
-/
import Proofs.TracksV2Wf

namespace EngineModel
namespace TracksV2

/-- the track `id` has been removed (or never existed) and its id can no longer be issued -/
def Gone (db : TDb) (id : Nat) : Prop := db.find id = none ∧ id ≤ db.seq

theorem gone_toDb (db : TDb) (id : Nat) :
    Gone db id ↔ id < db.toDb.nextId ∧ ∀ e ∈ db.toDb.rows, e.1 ≠ id := by
  unfold Gone
  refine and_comm.trans (and_congr Nat.lt_succ_iff.symm ⟨fun h e he => ?_, fun h => ?_⟩)
  · obtain ⟨t, ht, rfl⟩ := List.mem_map.mp he
    exact find_none h t ht
  · unfold TDb.find
    rw [List.find?_eq_none]
    intro t ht hc
    exact h (t.id, t.row) (List.mem_map.mpr ⟨t, ht, rfl⟩) (by simpa using hc)

theorem gone_step (ops : FOps) (s : Schema) (op : TOp) {db : TDb} (hI : Inv db) {id : Nat} (h : Gone db id) :
    Gone (db.step ops s op).1 id := by
  have hr := (call_ran ops s db.toDb op).eff
  rw [gone_toDb] at h ⊢
  rw [step_conj ops s op hI.s, toDb_unview _ _ (Nat.le_trans (Nat.le_add_left 1 db.seq) hr.nextId_le)]
  exact hr.gone h.1 h.2

theorem gone_run (ops : FOps) (s : Schema) (hist : List TOp) {db : TDb} (hI : Inv db) {id : Nat} (h : Gone db id) :
    Gone (db.run ops s hist) id :=
  ((isRun ops s).inv (Inv := fun d => Inv d ∧ Gone d id)
    (fun _ op h => ⟨inv_step ops s op h.1, gone_step ops s op h.1 h.2⟩) hist db ⟨hI, h⟩).2

theorem gone_of_remove {db : TDb} (hI : Inv db) {id : Nat} {t : TRow} (hf : db.find id = some t) :
    (callRemove id db).2 = .ok () ∧ Gone (callRemove id db).1 id := by
  obtain ⟨ht, hid⟩ := find_mem hf
  rw [callRemove_present hf]
  refine ⟨rfl, ?_, by rw [← hid]; exact (hI.s.pos t ht).2⟩
  show (db.rows.filter fun e => !(e.id == id)).find? (·.id == id) = none
  rw [List.find?_eq_none]
  intro x hx
  have := (List.mem_filter.mp hx).2
  simpa using this

end TracksV2
end EngineModel
