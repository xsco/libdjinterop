/-
The 1.x waveform encoders regenerated from the C++ sources (`Gen.ImplV1.encodeOvw`, `encodeHires`,
tools/tr_blobs_v1.py) equal the hand-written mirror `Impl.V1.encodeOvw` / `encodeHires`.

The regenerated code is the C++ statement by statement: a header of three primitive writes, a range-`for`
that writes the entry bytes *and* keeps the running maxima in locals of the function (`Wr.foldS` with
the locals as state), the maxima, and the closing `if (ptr != end) throw`.  The hand model is *defined*
as `writeInto size (header ++ flatMap … ++ [maxOf …])`; so the equality carries "same field order, same
widths, the maxima are the maxima of the right members, exact buffer size".

Hypothesis (`_partial`): the payload fits in a `std::vector<std::byte>` (`< 2^63` bytes) — the
regenerated code computes the size in wrapping `size_t` and the vector constructor throws
`length_error` above `max_size()`; the hand model uses unbounded naturals.
-/
import EngineModel.Gen.ImplV1Gen
import EngineModel.Impl.V1
import Proofs.WrLemmas
import Proofs.CxxPrimsLemmas
import Proofs.CursorCxxV1Lemmas
import Proofs.ImplV2
import Proofs.ListAux
-- As in the other `ImplV1Gen*` files; at present every listed lemma is used.
set_option linter.unusedSimpArgs false

namespace EngineModel
namespace Gen.ImplV1
open Codec Wr

/-- `std::max(m, x)` on `uint8_t` as the translator writes it -/
def mx (f : Impl.V1.Entry → UInt8) (m : UInt8) (e : Impl.V1.Entry) : UInt8 := if m < f e then f e else m

theorem maxOf_foldl (f : Impl.V1.Entry → UInt8) (es : List Impl.V1.Entry) :
    Impl.V1.maxOf f es = es.foldl (mx f) 0 := rfl

def ovwStep (s : UInt8 × UInt8 × UInt8) (e : Impl.V1.Entry) : UInt8 × UInt8 × UInt8 :=
  (mx (·.lv) s.1 e, mx (·.mv) s.2.1 e, mx (·.hv) s.2.2 e)

theorem encodeOvw_body1_returns (e : Impl.V1.Entry) (s : UInt8 × UInt8 × UInt8) :
    Returns (encodeOvw_body1 e s) (ovwStep s e) [e.lv, e.mv, e.hv] := by
  obtain ⟨a, b, c⟩ := s
  unfold encodeOvw_body1
  simp only [CxxPrims.encode_uint8_eq]
  exact (Writes.put _).bind <| (Writes.put _).bind <| (Writes.put _).bind <| Returns.pure _

theorem ovwStep_foldl (es : List Impl.V1.Entry) :
    es.foldl ovwStep (0, 0, 0) =
      (Impl.V1.maxOf (·.lv) es, Impl.V1.maxOf (·.mv) es, Impl.V1.maxOf (·.hv) es) := by
  simp only [maxOf_foldl]
  rw [← ListAux.foldl_prod (mx (·.mv)) (mx (·.hv)), ← ListAux.foldl_prod (mx (·.lv))]
  rfl

/-- `overview_waveform_data::encode`.
Full statement: `encodeOvw = Impl.V1.encodeOvw` — false only for waveforms of 2^63 bytes and more (no machine holds
one): the buffer size `27 + 3 * n` is computed in wrapping `size_t` and `std::vector<std::byte>(size)` throws
`length_error` above `max_size()`; the hand model has unbounded naturals. -/
theorem encodeOvw_eq_partial (v : Impl.V1.Wave) (h : 27 + 3 * v.entries.length < 9223372036854775808) :
    encodeOvw v = Impl.V1.encodeOvw v := by
  have hfl := ListAux.flatMap_length_const (fun e : Impl.V1.Entry => [e.lv, e.mv, e.hv]) 3 (fun _ => rfl) v.entries
  have hl : (u64be.enc (UInt64.ofNat v.entries.length) ++ u64be.enc (UInt64.ofNat v.entries.length) ++
      u64be.enc v.spe ++ v.entries.flatMap (fun e => [e.lv, e.mv, e.hv]) ++
      [Impl.V1.maxOf (·.lv) v.entries, Impl.V1.maxOf (·.mv) v.entries, Impl.V1.maxOf (·.hv) v.entries]).length =
      27 + 3 * v.entries.length := by
    simp only [List.length_append, Impl.V2.u64be_enc_length, hfl, List.length_cons, List.length_nil]
    omega
  unfold encodeOvw Impl.V1.encodeOvw
  -- `simp only []` reduces the `let`s of the regenerated function
  simp only []
  rw [Impl.V2.writeInto_exact hl]
  simp (disch := omega) only [Cxx.U64.add_small, Cxx.U64.mul_small]
  refine run_of_writesEnd_full (e := .runtime_error) ?_ hl (by omega)
  simp only [CxxPrims.encode_double_be_eq, CxxPrims.encode_int64_be_eq, count_bits]
  refine WritesEnd.congr
    ((Writes.put _).bindEnd <| (Writes.put _).bindEnd <| (Writes.put _).bindEnd <|
      (foldS_returns encodeOvw_body1_returns v.entries (0, 0, 0)).bindEnd (b := [Impl.V1.maxOf (·.lv) v.entries,
          Impl.V1.maxOf (·.mv) v.entries, Impl.V1.maxOf (·.hv) v.entries]) ?_) ?_
  · rw [ovwStep_foldl]
    simp only [CxxPrims.encode_uint8_eq]
    exact WritesEnd.congr
      ((Writes.put _).bindEnd <| (Writes.put _).bindEnd <| (Writes.put _).bindEnd <| WritesEnd.endCheck _) (by simp [u8])
  · simp only [List.append_assoc]

abbrev S6 := UInt8 × UInt8 × UInt8 × UInt8 × UInt8 × UInt8

def hiresStep (s : S6) (e : Impl.V1.Entry) : S6 :=
  (mx (·.lv) s.1 e, mx (·.mv) s.2.1 e, mx (·.hv) s.2.2.1 e, mx (·.lo) s.2.2.2.1 e, mx (·.mo) s.2.2.2.2.1 e,
    mx (·.ho) s.2.2.2.2.2 e)

theorem encodeHires_body1_returns (e : Impl.V1.Entry) (s : S6) :
    Returns (encodeHires_body1 e s) (hiresStep s e) [e.lv, e.mv, e.hv, e.lo, e.mo, e.ho] := by
  obtain ⟨a, b, c, d, f, g⟩ := s
  unfold encodeHires_body1
  simp only [CxxPrims.encode_uint8_eq]
  exact (Writes.put _).bind <| (Writes.put _).bind <| (Writes.put _).bind <|
    (Writes.put _).bind <| (Writes.put _).bind <| (Writes.put _).bind <| Returns.pure _

theorem hiresStep_foldl (es : List Impl.V1.Entry) :
    es.foldl hiresStep (0, 0, 0, 0, 0, 0) =
      (Impl.V1.maxOf (·.lv) es, Impl.V1.maxOf (·.mv) es, Impl.V1.maxOf (·.hv) es,
        Impl.V1.maxOf (·.lo) es, Impl.V1.maxOf (·.mo) es, Impl.V1.maxOf (·.ho) es) := by
  simp only [maxOf_foldl]
  rw [← ListAux.foldl_prod (mx (·.mo)) (mx (·.ho)), ← ListAux.foldl_prod (mx (·.lo)), ← ListAux.foldl_prod (mx (·.hv)),
    ← ListAux.foldl_prod (mx (·.mv)), ← ListAux.foldl_prod (mx (·.lv))]
  rfl

/-- `high_res_waveform_data::encode`.
Full statement: `encodeHires = Impl.V1.encodeHires`; false only for waveforms of 2^63 bytes and more (see
`encodeOvw_eq_partial`). -/
theorem encodeHires_eq_partial (v : Impl.V1.Wave) (h : 30 + 6 * v.entries.length < 9223372036854775808) :
    encodeHires v = Impl.V1.encodeHires v := by
  have hfl := ListAux.flatMap_length_const (fun e : Impl.V1.Entry => [e.lv, e.mv, e.hv, e.lo, e.mo, e.ho]) 6 (fun _ => rfl)
    v.entries
  have hl : (u64be.enc (UInt64.ofNat v.entries.length) ++ u64be.enc (UInt64.ofNat v.entries.length) ++
      u64be.enc v.spe ++ v.entries.flatMap (fun e => [e.lv, e.mv, e.hv, e.lo, e.mo, e.ho]) ++
      [Impl.V1.maxOf (·.lv) v.entries, Impl.V1.maxOf (·.mv) v.entries, Impl.V1.maxOf (·.hv) v.entries,
       Impl.V1.maxOf (·.lo) v.entries, Impl.V1.maxOf (·.mo) v.entries, Impl.V1.maxOf (·.ho) v.entries]).length =
      30 + 6 * v.entries.length := by
    simp only [List.length_append, Impl.V2.u64be_enc_length, hfl, List.length_cons, List.length_nil]
    omega
  unfold encodeHires Impl.V1.encodeHires
  simp only []
  rw [Impl.V2.writeInto_exact hl]
  simp (disch := omega) only [Cxx.U64.add_small, Cxx.U64.mul_small]
  refine run_of_writesEnd_full (e := .runtime_error) ?_ hl (by omega)
  simp only [CxxPrims.encode_double_be_eq, CxxPrims.encode_int64_be_eq, count_bits]
  refine WritesEnd.congr
    ((Writes.put _).bindEnd <| (Writes.put _).bindEnd <| (Writes.put _).bindEnd <|
      (foldS_returns encodeHires_body1_returns v.entries (0, 0, 0, 0, 0, 0)).bindEnd
        (b := [Impl.V1.maxOf (·.lv) v.entries, Impl.V1.maxOf (·.mv) v.entries, Impl.V1.maxOf (·.hv) v.entries,
          Impl.V1.maxOf (·.lo) v.entries, Impl.V1.maxOf (·.mo) v.entries, Impl.V1.maxOf (·.ho) v.entries]) ?_) ?_
  · rw [hiresStep_foldl]
    simp only [CxxPrims.encode_uint8_eq]
    exact WritesEnd.congr
      ((Writes.put _).bindEnd <| (Writes.put _).bindEnd <| (Writes.put _).bindEnd <| (Writes.put _).bindEnd <|
        (Writes.put _).bindEnd <| (Writes.put _).bindEnd <| WritesEnd.endCheck _) (by simp [u8])
  · simp only [List.append_assoc]

end Gen.ImplV1
end EngineModel
