/-
Association lists with primary-key semantics (`aset`, `aget` of `TracksV1/Types`, `cell` of the Model): what a lookup
finds, and which rows there are, after a write, an append, a filter, a map.
-/
import EngineModel.TracksV1.Model

namespace EngineModel.TracksV1

theorem cell_aset_same {β} (k : Int) (v : Option β) (l : List (Int × Option β)) : cell k (aset k v l) = v := by
  unfold cell; rw [aget_aset_same]; rfl

theorem cell_aset_other {β} (k k2 : Int) (v : Option β) (l : List (Int × Option β)) (h : k2 ≠ k) :
    cell k2 (aset k v l) = cell k2 l := by
  unfold cell; rw [aget_aset_other _ _ _ _ h]

/-- Both cases at once, for `simp` on a snapshot that reads many cells after one was written. -/
theorem cell_aset {β} (k k2 : Int) (v : Option β) (l : List (Int × Option β)) :
    cell k2 (aset k v l) = if k2 = k then v else cell k2 l := by
  split
  · next h => rw [h, cell_aset_same]
  · next h => rw [cell_aset_other _ _ _ _ h]

theorem aset_aset {β} (l : List (Int × β)) (k : Int) (v v' : β) : aset k v' (aset k v l) = aset k v' l := by
  induction l with
  | nil => simp [aset]
  | cons hd t ih =>
    obtain ⟨k', w⟩ := hd
    by_cases hk : k' = k
    · simp [aset, hk]
    · simp [aset, hk, ih]

theorem mem_aset_weak {β} (k : Int) (v : β) : ∀ (l : List (Int × β)) (e : Int × β), e ∈ aset k v l → e = (k, v) ∨ e ∈ l := by
  intro l
  induction l with
  | nil => intro e he; exact .inl (List.mem_singleton.mp he)
  | cons hd t ih =>
    intro e he
    obtain ⟨k0, v0⟩ := hd
    simp only [aset] at he
    split at he <;> simp only [List.mem_cons] at he ⊢
    · exact he.imp_right .inr
    · exact he.elim (fun h => .inr (.inl h)) fun h => (ih e h).imp_right .inr

theorem mem_aset {β} (k : Int) (v : β) (l : List (Int × β)) (hnd : (l.map (·.1)).Nodup) (e : Int × β)
    (he : e ∈ aset k v l) : e = (k, v) ∨ (e ∈ l ∧ e.1 ≠ k) := by
  induction l with
  | nil => simp [aset] at he; exact Or.inl he
  | cons hd t ih =>
    obtain ⟨k0, v0⟩ := hd
    simp only [List.map_cons, List.nodup_cons] at hnd
    obtain ⟨hk0, hnt⟩ := hnd
    by_cases hk : k0 = k
    · simp only [aset, hk, if_true] at he
      cases he with
      | head => exact Or.inl rfl
      | tail _ h' =>
        right
        refine ⟨List.mem_cons_of_mem _ h', ?_⟩
        intro hek
        apply hk0
        rw [hk, ← hek]
        exact List.mem_map.mpr ⟨e, h', rfl⟩
    · simp only [aset, hk, if_false] at he
      cases he with
      | head => exact Or.inr ⟨List.mem_cons_self .., hk⟩
      | tail _ h' =>
        rcases ih hnt h' with h1 | ⟨h1, h2⟩
        · exact Or.inl h1
        · exact Or.inr ⟨List.mem_cons_of_mem _ h1, h2⟩

theorem keys_aset {β} (k : Int) (v : β) (l : List (Int × β)) :
    (aset k v l).map (·.1) = if k ∈ l.map (·.1) then l.map (·.1) else l.map (·.1) ++ [k] := by
  induction l with
  | nil => simp [aset]
  | cons hd t ih =>
    obtain ⟨k0, v0⟩ := hd
    by_cases hk : k0 = k
    · simp [aset, hk]
    · have hk' : ¬ k = k0 := fun e => hk e.symm
      simp only [aset, hk, if_false, List.map_cons, ih, List.mem_cons, hk', false_or]
      split <;> simp

theorem nodup_aset {β} (k : Int) (v : β) (l : List (Int × β)) (hnd : (l.map (·.1)).Nodup) :
    ((aset k v l).map (·.1)).Nodup := by
  rw [keys_aset]
  split
  · exact hnd
  · rename_i hk
    rw [List.nodup_append]
    refine ⟨hnd, by simp, ?_⟩
    intro a ha b hb
    simp only [List.mem_singleton] at hb
    subst hb
    intro hab; subst hab; exact hk ha

theorem aget_mem {β} (l : List (Int × β)) (k : Int) (v : β) (h : aget k l = some v) : (k, v) ∈ l := by
  induction l with
  | nil => cases h
  | cons hd t ih =>
    obtain ⟨k0, v0⟩ := hd
    simp only [aget] at h
    split at h
    · rename_i hk; cases h; rw [hk]; exact List.mem_cons_self ..
    · exact List.mem_cons_of_mem _ (ih h)

theorem mem_rows_isSome {β} : ∀ (l : List (Int × β)) (e : Int × β), e ∈ l → (aget e.1 l).isSome = true := by
  intro l
  induction l with
  | nil => intro e he; cases he
  | cons hd t ih =>
    intro e he
    obtain ⟨k, v⟩ := hd
    by_cases hk : k = e.1
    · simp [aget, hk]
    · rcases List.mem_cons.mp he with rfl | h'
      · exact absurd rfl hk
      · simp only [aget, hk, if_false]; exact ih e h'

theorem aget_append {β} (k : Int) (l l' : List (Int × β)) : aget k (l ++ l') = (aget k l).or (aget k l') := by
  induction l with
  | nil => rfl
  | cons hd t ih =>
    obtain ⟨k0, v⟩ := hd
    by_cases hk : k0 = k <;> simp [aget, hk, ih]

theorem aget_append_other {β} (l : List (Int × β)) (k k' : Int) (v : β) (h : k' ≠ k) :
    aget k' (l ++ [(k, v)]) = aget k' l := by
  rw [aget_append, show aget k' [(k, v)] = none from if_neg fun e => h e.symm, Option.or_none]

theorem aget_append_singleton {β} (l : List (Int × β)) (k k' : Int) (v b : β)
    (h : aget k' (l ++ [(k, v)]) = some b) : aget k' l = some b ∨ b = v := by
  rw [aget_append, Option.or_eq_some_iff] at h
  refine h.imp_right fun h => ?_
  simp only [aget] at h
  split at h <;> cases h.2
  rfl

theorem aget_append_fresh {β} (l : List (Int × β)) (k : Int) (v : β) (h : aget k l = none) :
    aget k (l ++ [(k, v)]) = some v := by
  rw [aget_append, h, Option.none_or]
  exact if_pos rfl

theorem aset_append_fresh {β} (l : List (Int × β)) (k : Int) (v v' : β) (h : aget k l = none) :
    aset k v' (l ++ [(k, v)]) = l ++ [(k, v')] := by
  induction l with
  | nil => simp [aset]
  | cons hd t ih =>
    obtain ⟨k', w⟩ := hd
    simp only [aget] at h
    by_cases hk : k' = k
    · rw [if_pos hk] at h; cases h
    · rw [if_neg hk] at h
      simp only [List.cons_append, aset, if_neg hk]
      rw [ih h]

theorem aget_filter_ne {β} (l : List (Int × β)) (k : Int) : aget k (l.filter fun e => e.1 ≠ k) = none := by
  induction l with
  | nil => rfl
  | cons hd t ih =>
    obtain ⟨k0, v0⟩ := hd
    simp only [ne_eq, decide_not] at ih ⊢
    by_cases hk : k0 = k
    · simp [List.filter, hk, ih]
    · simp [List.filter, hk, aget, ih]

theorem aget_filter_other {β} (l : List (Int × β)) (k k' : Int) (h : k' ≠ k) :
    aget k' (l.filter fun e => e.1 ≠ k) = aget k' l := by
  induction l with
  | nil => rfl
  | cons hd t ih =>
    obtain ⟨k0, v0⟩ := hd
    simp only [ne_eq, decide_not] at ih ⊢
    by_cases hk : k0 = k
    · simp [List.filter, hk, aget, ih]
      intro e; exact absurd e.symm h
    · by_cases hk' : k0 = k'
      · subst hk'
        simp [List.filter, hk, aget]
      · simp [List.filter, hk, aget, hk', ih]

theorem aget_map {β γ} (g : β → γ) (k : Int) (l : List (Int × β)) :
    aget k (l.map fun e => (e.1, g e.2)) = (aget k l).map g := by
  induction l with
  | nil => rfl
  | cons hd t ih =>
    obtain ⟨k', v'⟩ := hd
    simp only [List.map_cons, aget, ih, apply_ite (Option.map g), Option.map_some]

theorem map_aset {β γ} (g : β → γ) (k : Int) (v : β) (l : List (Int × β)) :
    (aset k v l).map (fun e => (e.1, g e.2)) = aset k (g v) (l.map fun e => (e.1, g e.2)) := by
  induction l with
  | nil => rfl
  | cons hd t ih =>
    obtain ⟨k', v'⟩ := hd
    simp only [List.map_cons, aset, ← ih, apply_ite (List.map _)]

end EngineModel.TracksV1
