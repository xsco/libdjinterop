/-
C06 1.x, acceptance side: every setter against its explicit guard.

  * `set_keepsPerf`   — a setter that returns normally neither creates nor deletes the PerformanceData
                        row and leaves every blob of it in a form that passes the guard again
                        (`set_perfStable`, `set_perf_isSome`): read off the stores of its plan;
  * `acceptsRow_iff`  — on `Clean` rows, under the float law, a setter returns normally exactly when
                        `acceptsRow` holds.  By `set_isOk_iff` a blob setter returns normally iff every
                        column of its plan passes the guard and the PerformanceData row exists; on a
                        `Clean` row the guard on the new column is the guard on the value
                        (`stableTrack_loud` … `stableCues_setAt`), and `acceptsRow_iff_of` puts the two
                        together.
-/
import Proofs.TracksV1Db

namespace EngineModel.TracksV1

open Impl.V1 (GMarker HotCue LoopV Entry Wave Beat Cues Loops)
open Fl (FOps)


def PerfStable (r : TrackRows) : Prop := ∀ p, r.perf = some p → stablePerf p = true

structure CleanP (r : TrackRows) : Prop where
  inv : InvP r
  perf : PerfStable r

theorem clean_iff (r : TrackRows) : Clean r = true ↔ CleanP r := by
  unfold Clean
  rw [Bool.and_eq_true, inv_iff, Option.all_eq_true]
  exact ⟨fun ⟨h1, h2⟩ => ⟨h1, h2⟩, fun ⟨h1, h2⟩ => ⟨h1, h2⟩⟩

structure StableP (p : PerfRow) : Prop where
  track : stableTrack p.trackData = true
  beat : stableBeat p.beat = true
  cues : stableCues p.cues = true
  loops : stableLoops p.loops = true
  hires : stableWave p.hires = true
  ovw : stableWave p.overview = true

theorem stablePerf_iff (p : PerfRow) : stablePerf p = true ↔ StableP p := by
  unfold stablePerf
  simp only [Bool.and_eq_true]
  constructor
  · intro ⟨⟨⟨⟨⟨a, b⟩, c⟩, d⟩, e⟩, f⟩; exact ⟨a, b, c, d, e, f⟩
  · intro ⟨a, b, c, d, e, f⟩; exact ⟨⟨⟨⟨⟨a, b⟩, c⟩, d⟩, e⟩, f⟩

theorem PerfStable.of_eq {r r' : TrackRows} (h : PerfStable r) (he : r'.perf = r.perf) : PerfStable r' := by
  intro p hp; rw [he] at hp; exact h p hp

/-- The relation every setter keeps between the rows before and after: the PerformanceData row is neither
created nor deleted, and blobs that pass the guard are followed by blobs that pass it. -/
structure KeepsPerf (r r' : TrackRows) : Prop where
  stable : PerfStable r → PerfStable r'
  present : r'.perf.isSome = r.perf.isSome

theorem KeepsPerf.of_eq {r r' : TrackRows} (h : r'.perf = r.perf) : KeepsPerf r r' :=
  ⟨fun hs => hs.of_eq h, by rw [h]⟩

theorem KeepsPerf.trans {a b c : TrackRows} (h1 : KeepsPerf a b) (h2 : KeepsPerf b c) : KeepsPerf a c :=
  ⟨fun hs => h2.stable (h1.stable hs), h2.present.trans h1.present⟩

theorem KeepsPerf.setCol {r r' : TrackRows} {put : PerfRow → PerfRow}
    (h : ∃ p, r.perf = some p ∧ r' = { r with perf := some (put p) })
    (hput : ∀ p, StableP p → StableP (put p)) : KeepsPerf r r' := by
  obtain ⟨p, hp, rfl⟩ := h
  refine ⟨fun hs q hq => ?_, by rw [hp]; rfl⟩
  cases hq
  exact (stablePerf_iff _).mpr (hput p ((stablePerf_iff p).mp (hs p hp)))

theorem ColWrite.put_stable {w : ColWrite} (hw : w.stable = true) {p : PerfRow} (hp : StableP p) : StableP (w.put p) := by
  cases w with
  | track v => exact { hp with track := hw }
  | beat v => exact { hp with beat := hw }
  | cues v => exact { hp with cues := hw }
  | loops v => exact { hp with loops := hw }
  | hires v => exact { hp with hires := hw }
  | ovw v => exact { hp with ovw := hw }

theorem foldl_put_stable (ws : List ColWrite) (hws : ∀ w ∈ ws, w.stable = true) {p : PerfRow} (hp : StableP p) :
    StableP (ws.foldl ColWrite.put p) := by
  induction ws generalizing p with
  | nil => exact hp
  | cons w ws ih =>
    exact ih (fun w' h' => hws w' (List.mem_cons_of_mem _ h')) (ColWrite.put_stable (hws w (List.mem_cons_self ..)) hp)

theorem runCols_keeps {ws : List ColWrite} {r r' : TrackRows} (h : runCols ws r = .ok r') : KeepsPerf r r' := by
  obtain ⟨hall, ⟨_, rfl⟩ | ⟨_, hp⟩⟩ := (runCols_ok_iff ws r r').mp h
  · exact .of_eq rfl
  · exact .setCol (put := ws.foldl ColWrite.put) hp fun _ => foldl_put_stable ws hall

theorem set_keepsPerf (o : FOps) (r r' : TrackRows) (f : Field) (v : f.ty) (h : set o r f v = .ok r') :
    KeepsPerf r r' := by
  rw [set_eq_setPlan] at h
  obtain ⟨P, _, h⟩ := Res.bind_eq_ok.mp h
  exact (KeepsPerf.of_eq (r := r) (r' := P.edit r) rfl).trans (runCols_keeps h)

theorem set_perfStable (o : FOps) (r r' : TrackRows) (f : Field) (v : f.ty) (hs : PerfStable r)
    (h : set o r f v = .ok r') : PerfStable r' :=
  (set_keepsPerf o r r' f v h).stable hs

theorem set_perf_isSome (o : FOps) (r r' : TrackRows) (f : Field) (v : f.ty) (h : set o r f v = .ok r') :
    r'.perf.isSome = r.perf.isSome :=
  (set_keepsPerf o r r' f v h).present

theorem set_cleanP (o : FOps) (r r' : TrackRows) (f : Field) (v : f.ty) (hc : CleanP r)
    (h : set o r f v = .ok r') : CleanP r' :=
  ⟨set_inv o .s1_6_0 r r' f v hc.inv h, set_perfStable o r r' f v hc.perf h⟩

theorem isNaN_of_isZero (a : Bits) (h : F64.isZero a = true) : F64.isNaN a = false := by
  rcases (F64.isZero_iff a).mp h with h | h <;> subst h <;> decide

theorem numOpt_znf (v : Option Bits) : numOpt (zeroNoneF v) = finOpt v := by
  cases v with
  | none => rfl
  | some a =>
    unfold zeroNoneF
    simp only [Option.bind_some]
    by_cases hz : F64.isZero a = true
    · simp [numOpt, finOpt, hz, isNaN_of_isZero a hz]
    · simp [numOpt, finOpt, hz]

theorem isNaN_getD (v : Option Bits) : (!F64.isNaN (v.getD F64.zero)) = finOpt v := by
  cases v with
  | none => simp [finOpt]; decide
  | some a => simp [finOpt]

theorem slotOf_8_iff (i : UInt32) : (∃ k, Spec.slotOf i 8 = some k) ↔ Spec.slotInRange i = true := by
  unfold Spec.slotOf Spec.slotInRange
  simp only [decide_eq_true_eq]
  constructor
  · intro ⟨k, h⟩
    split at h
    · rename_i hh; exact ⟨hh.1, by omega⟩
    · cases h
  · intro ⟨h1, h2⟩
    have : 0 ≤ Prim.s32 i ∧ Prim.s32 i < ((8 : Nat) : Int) := ⟨h1, by omega⟩
    exact ⟨_, if_pos this⟩

section
variable {t : Impl.V1.Track} (ht : stableTrack t = true)
include ht

theorem stableTrack_loud (v : Option Bits) :
    stableTrack { t with loudness := if F64.isZero (v.getD F64.zero) then none else v } = finOpt v := by
  have hz : (if F64.isZero (v.getD F64.zero) then none else v) = zeroNoneF v :=
    (loud_eq v).trans (zeroNoneF_eq_dropZero v).symm
  unfold stableTrack at ht ⊢
  simp only [Bool.and_eq_true] at ht
  simp only [ht.1.1.1, ht.1.1.2, ht.2, hz, numOpt_znf, Bool.true_and, Bool.and_true]

theorem stableTrack_key (x : Option UInt32) :
    stableTrack { t with key := x } = (x != some 0) := by
  unfold stableTrack at ht ⊢
  simp only [Bool.and_eq_true] at ht
  simp only [ht.1.1.1, ht.1.1.2, ht.1.2, Bool.true_and]

theorem stableTrack_count (x : Option UInt64) :
    stableTrack { t with sampleCount := x } = (x != some 0) := by
  unfold stableTrack at ht ⊢
  simp only [Bool.and_eq_true] at ht
  simp only [ht.1.1.1, ht.1.2, ht.2, Bool.true_and, Bool.and_true]

theorem stableTrack_rate (x : Option Bits) :
    stableTrack { t with sampleRate := x } = numOpt x := by
  unfold stableTrack at ht ⊢
  simp only [Bool.and_eq_true] at ht
  simp only [ht.1.1.2, ht.1.2, ht.2, Bool.and_true]

end

section
variable {b : Beat} (hb : stableBeat b = true)
include hb

theorem stableBeat_rate (x : Option Bits) :
    stableBeat { b with sampleRate := x } = numOpt x := by
  unfold stableBeat at hb ⊢
  simp only [Bool.and_eq_true] at hb
  simp only [hb.1.1.1.1.2, hb.1.1.1.2, hb.1.1.2, hb.1.2, hb.2, Bool.and_true]

theorem stableBeat_count (x : Option Bits) :
    stableBeat { b with sampleCount := x } = numOpt x := by
  unfold stableBeat at hb ⊢
  simp only [Bool.and_eq_true] at hb
  simp only [hb.1.1.1.1.1, hb.1.1.1.2, hb.1.1.2, hb.1.2, hb.2, Bool.true_and, Bool.and_true]

/-- Without NaN the codec's `validGrid` is the Spec's `gridOk`; with one, both sides are false. -/
theorem stableBeat_grid (g : List GMarker) :
    stableBeat { b with adj := g, dflt := g } = (Spec.gridOk g && gridNum g) := by
  unfold stableBeat at hb ⊢
  simp only [Bool.and_eq_true] at hb
  simp only [hb.1.1.1.1.1, hb.1.1.1.1.2, Bool.true_and]
  cases hn : gridNum g with
  | false => simp only [Bool.and_false]
  | true => simp only [validGrid_eq_gridOk g (gridNum_spec g hn), Bool.and_self, Bool.and_true]

end

section
variable {c : Cues} (hc : stableCues c = true)
include hc

theorem stableCues_pad (v : List (Option HotCue)) :
    stableCues { c with cues := padTo8 v } = (decide (v.length ≤ 8) && v.all cueStored) := by
  unfold stableCues at hc ⊢
  simp only [Bool.and_eq_true] at hc
  simp only [hc.1.2, hc.2, Bool.and_true, padTo8_all cueStored rfl, padTo8_len_iff]

theorem stableCues_main (v : Option Bits) :
    stableCues { c with adjMain := v.getD F64.zero, defMain := v.getD F64.zero } = finOpt v := by
  unfold stableCues at hc ⊢
  simp only [Bool.and_eq_true] at hc
  simp only [hc.1.1.1, hc.1.1.2, Bool.true_and, isNaN_getD, Bool.and_self]

theorem stableCues_setAt (k : Nat) (hk : k < c.cues.length)
    (v : Option HotCue) : stableCues { c with cues := setAt c.cues k v } = cueStored v := by
  unfold stableCues at hc ⊢
  simp only [Bool.and_eq_true] at hc
  unfold setAt
  simp only [List.length_set, hc.1.1.1, ListAux.all_set_iff cueStored _ k v hk hc.1.1.2, hc.1.2, hc.2, Bool.true_and,
    Bool.and_true]

end

/-- What the setters read of a `Clean` row that has PerformanceData. -/
structure StableCols (r : TrackRows) : Prop where
  track : stableTrack (colTrack r) = true
  beat : stableBeat (colBeat r) = true
  cues : stableCues (colCues r) = true
  loops : stableLoops (colLoops r) = true
  cuesLen : (colCues r).cues.length = 8
  loopsLen : (colLoops r).length = 8

theorem CleanP.cols {r : TrackRows} {p : PerfRow} (hc : CleanP r) (hp : r.perf = some p) : StableCols r := by
  have hs := (stablePerf_iff p).mp (hc.perf p hp)
  have hi := hc.inv
  cases r
  cases hp
  exact ⟨hs.track, hs.beat, hs.cues, hs.loops, hi.cues p rfl, hi.loops p rfl⟩

theorem isOk_of_setPlan_one {o : FOps} {r : TrackRows} {f : Field} {v : f.ty} {P : SetPlan} {w : ColWrite}
    (hP : setPlan o r f v = .ok P) (hw : P.cols = [w]) :
    (∃ r', set o r f v = .ok r') ↔ (w.stable = true ∧ ∃ p, r.perf = some p) := by
  refine (set_isOk_iff o r f v).trans ⟨fun ⟨P', hP', hall, hp⟩ => ?_, fun ⟨hs, hp⟩ => ⟨P, hP, ?_, Or.inr hp⟩⟩
  · cases hP.symm.trans hP'
    rw [hw] at hall hp
    exact ⟨hall w (List.mem_singleton.mpr rfl), hp.resolve_left (List.cons_ne_nil _ _)⟩
  · rw [hw]
    intro w' hw'
    cases List.mem_singleton.mp hw'
    exact hs

/-- A slot setter looks the index up in the stored list first, then stores the column. -/
theorem isOk_of_setPlan_slot {α} {o : FOps} {r : TrackRows} {f : Field} {v : f.ty} {l : List α} {i : UInt32}
    {w : Nat → ColWrite} (hP : setPlan o r f v = (slotIndex i l).bind fun k => .ok { cols := [w k] }) :
    (∃ r', set o r f v = .ok r') ↔
      ((∃ k, Spec.slotOf i l.length = some k ∧ (w k).stable = true) ∧ ∃ p, r.perf = some p) := by
  rw [slotIndex_eq] at hP
  cases hk : Spec.slotOf i l.length with
  | none =>
    rw [hk] at hP
    refine (set_isOk_iff o r f v).trans ⟨fun ⟨_, hP', _⟩ => ?_, fun ⟨⟨_, h, _⟩, _⟩ => (nomatch h)⟩
    cases hP.symm.trans hP'
  | some k =>
    rw [hk] at hP
    refine (isOk_of_setPlan_one hP rfl).trans ⟨fun ⟨hs, hp⟩ => ⟨⟨k, rfl, hs⟩, hp⟩, fun ⟨⟨_, hk', hs⟩, hp⟩ => ?_⟩
    cases hk'
    exact ⟨hs, hp⟩

theorem slot8_guard (i : UInt32) {S : Nat → Bool} {b : Bool} (hS : ∀ k, k < 8 → S k = b) :
    (∃ k, Spec.slotOf i 8 = some k ∧ S k = true) ↔ (Spec.slotInRange i && b) = true := by
  rw [Bool.and_eq_true, ← slotOf_8_iff]
  constructor
  · intro ⟨k, hk, h⟩
    exact ⟨⟨k, hk⟩, (hS k (slotOf_lt _ _ _ hk)).symm.trans h⟩
  · intro ⟨⟨k, hk⟩, h⟩
    exact ⟨k, hk, (hS k (slotOf_lt _ _ _ hk)).trans h⟩

/-- The shape of every blob setter's case: the call `c` returns normally iff some guard `S` holds and the
PerformanceData row exists, and on a `Clean` row `S` is the guard on the value. -/
theorem acceptsRow_iff_of {r : TrackRows} (hc : CleanP r) {f : Field} {v : f.ty} (hb : f.blobSetter = true)
    {c : Res TrackRows} {S : Prop} (hok : (∃ r', c = .ok r') ↔ (S ∧ ∃ p, r.perf = some p))
    (hS : StableCols r → (S ↔ valueOk f v = true)) : acceptsRow r f v = true ↔ ∃ r', c = .ok r' := by
  unfold acceptsRow
  rw [hok, hb, Bool.not_true, Bool.false_or, Bool.and_eq_true, Option.isSome_iff_exists]
  exact and_comm.trans (and_congr_left fun ⟨p, hp⟩ => (hS (hc.cols hp)).symm)

/-- The common shape of the two `…_waveform_extents` functions of `track_utils.hpp`: whichever branch ran, the
samples-per-entry value is one of two doubles that are not NaN. -/
theorem extents_num {W : Option Int} {c : Int → Prop} [∀ q, Decidable (c q)] {z : Nat × Bits} {d : Int → Option Nat}
    {g : Int → Nat → Nat × Bits} {u : Ub} {e : Nat × Bits}
    (h : liftUb (W.bind fun q => if c q then some z else (d q).bind fun t => some (g q t)) u = .ok e)
    (hz : F64.isNaN z.2 = false) (hg : ∀ q t, F64.isNaN (g q t).2 = false) : F64.isNaN e.2 = false := by
  cases W with
  | none => cases h
  | some q =>
    rw [Option.bind_some] at h
    split at h
    · cases h; exact hz
    · cases hd : d q with
      | none => rw [hd] at h; cases h
      | some t => rw [hd] at h; cases h; exact hg q t

theorem ovwExtents_num (o : FOps) (hl : FloatLaw o) (n : UInt64) (r : Bits) (e : Nat × Bits)
    (h : ovwExtents o n r = .ok e) : F64.isNaN e.2 = false :=
  extents_num h (hl.ofI64_num 0) fun _ _ => hl.div_num _

theorem hiresExtents_num (o : FOps) (hl : FloatLaw o) (n : UInt64) (r : Bits) (e : Nat × Bits)
    (h : hiresExtents o n r = .ok e) : F64.isNaN e.2 = false :=
  extents_num h (hl.ofI64_num 0) fun _ _ => hl.ofI64_num _

theorem numOpt_count (o : FOps) (hl : FloatLaw o) (n0 : Option UInt64) :
    numOpt ((n0.bind fun x => if x = 0 then none else some x).map fun k => o.ofU64 k.toNat) = true := by
  cases n0 with
  | none => rfl
  | some x =>
    by_cases hx : x = 0
    · simp [hx, numOpt]
    · have hpos : 0 < x.toNat := Nat.pos_of_ne_zero fun h => hx (UInt64.toNat_inj.mp h)
      simp [hx, numOpt, hl.ofU64_num, hl.ofU64_pos _ hpos x.toNat_lt]

theorem stableWave_spe {w : Wave} (h : F64.isNaN w.spe = false) : stableWave w = true := by
  unfold stableWave
  rw [h]
  rfl

theorem respe_stable (hl : ∀ e, x = .ok e → F64.isNaN e.2 = false) {w : Wave} {mk : Wave → ColWrite}
    (hmk : ∀ v, (mk v).stable = stableWave v) {t : List ColWrite} (h : respe x w mk = .ok t) :
    ∀ c ∈ t, c.stable = true := by
  rcases respe_ok h with rfl | ⟨e, he, rfl⟩
  · exact fun _ hc => (nomatch hc)
  · intro c hc
    cases List.mem_singleton.mp hc
    exact (hmk _).trans (stableWave_spe (hl e he))

section Composite
variable (o : FOps) (r : TrackRows)

theorem sampleCount_isOk (hc : CleanP r) (hl : FloatLaw o) (v : Option UInt64) :
    (∃ r', set o r .sampleCount v = .ok r') ↔ (valueOk .sampleCount v = true ∧ ∃ p, r.perf = some p) := by
  refine (set_isOk_iff o r .sampleCount v).trans ⟨fun ⟨P, hP, _, hp⟩ => ?_, fun ⟨_, p, hp⟩ => ?_⟩
  · obtain ⟨_, _, _, _, rfl⟩ := (setPlan_sampleCount o r v P).mp hP
    exact ⟨rfl, hp.resolve_left (List.cons_ne_nil _ _)⟩
  · have cols := hc.cols hp
    obtain ⟨secs, hsecs⟩ := lengthCalculated_ok (v.bind fun x => if x = 0 then none else some x) (colTrack r).sampleRate
    obtain ⟨tail, ht⟩ := respe_isOk (ovwExtents_ok o ((v.bind fun x => if x = 0 then none else some x).getD 0)
      ((colTrack r).sampleRate.getD F64.zero)) (colOvw r) .ovw
    refine ⟨_, (setPlan_sampleCount o r v _).mpr ⟨secs, tail, hsecs, ht, rfl⟩, ?_, Or.inr ⟨p, hp⟩⟩
    intro w hw
    rcases List.mem_cons.mp hw with rfl | hw
    · exact (stableBeat_count cols.beat _).trans (numOpt_count o hl v)
    rcases List.mem_cons.mp hw with rfl | hw
    · exact (stableTrack_count cols.track _).trans (dropZero_ne 0 v)
    · exact respe_stable (fun e he => ovwExtents_num o hl _ _ e he) (fun _ => rfl) ht w hw

theorem sampleRate_isOk (hc : CleanP r) (hl : FloatLaw o) (v : Option Bits) :
    (∃ r', set o r .sampleRate v = .ok r') ↔ (valueOk .sampleRate v = true ∧ ∃ p, r.perf = some p) := by
  refine (set_isOk_iff o r .sampleRate v).trans ⟨fun ⟨P, hP, hall, hp⟩ => ?_, fun ⟨hv, p, hp⟩ => ?_⟩
  · obtain ⟨_, _, _, _, _, _, rfl⟩ := (setPlan_sampleRate o r v P).mp hP
    have hb := hall _ (List.mem_cons_self ..)
    simp only [ColWrite.stable, stableBeat, Bool.and_eq_true] at hb
    exact ⟨(numOpt_znf v).symm.trans hb.1.1.1.1.1, hp.resolve_left (List.cons_ne_nil _ _)⟩
  · have cols := hc.cols hp
    have hz : numOpt (zeroNoneF v) = true := (numOpt_znf v).trans hv
    obtain ⟨secs, hsecs⟩ := lengthCalculated_ok (colTrack r).sampleCount (zeroNoneF v)
    obtain ⟨t1, h1⟩ := respe_isOk (hiresExtents_ok o ((colTrack r).sampleCount.getD 0) ((zeroNoneF v).getD F64.zero))
      (colHires r) .hires
    obtain ⟨t2, h2⟩ := respe_isOk (ovwExtents_ok o ((colTrack r).sampleCount.getD 0) ((zeroNoneF v).getD F64.zero))
      (colOvw r) .ovw
    refine ⟨_, (setPlan_sampleRate o r v _).mpr ⟨secs, t1, t2, hsecs, h1, h2, rfl⟩, ?_, Or.inr ⟨p, hp⟩⟩
    intro w hw
    rcases List.mem_cons.mp hw with rfl | hw
    · exact (stableBeat_rate cols.beat _).trans hz
    rcases List.mem_cons.mp hw with rfl | hw
    · exact (stableTrack_rate cols.track _).trans hz
    rcases List.mem_append.mp hw with hw | hw
    · exact respe_stable (fun e he => hiresExtents_num o hl _ _ e he) (fun _ => rfl) h1 w hw
    · exact respe_stable (fun e he => ovwExtents_num o hl _ _ e he) (fun _ => rfl) h2 w hw

theorem waveform_isOk (hl : FloatLaw o) (v : List Entry) :
    (∃ r', set o r .waveform v = .ok r') ↔ (valueOk .waveform v = true ∧ ∃ p, r.perf = some p) := by
  refine (set_isOk_iff o r .waveform v).trans ⟨fun ⟨P, hP, _, hp⟩ => ?_, fun ⟨_, hp⟩ => ?_⟩
  · obtain ⟨_, _, rfl, _⟩ := (setPlan_waveform o r v P).mp hP
    exact ⟨rfl, hp.resolve_left (List.cons_ne_nil _ _)⟩
  · have two : ∀ {ov hi : Wave}, stableWave ov = true → stableWave hi = true →
        ∀ w ∈ [ColWrite.ovw ov, ColWrite.hires hi], w.stable = true := by
      intro ov hi h1 h2 w hw
      rcases List.mem_cons.mp hw with rfl | hw
      · exact h1
      · cases List.mem_singleton.mp hw; exact h2
    by_cases hv : v = []
    · exact ⟨_, (setPlan_waveform o r v _).mpr ⟨_, _, rfl, Or.inl ⟨hv, rfl, rfl⟩⟩, two (by decide) (by decide), Or.inr hp⟩
    · obtain ⟨oe, hoe⟩ := ovwExtents_ok o ((colTrack r).sampleCount.getD 0) ((colTrack r).sampleRate.getD F64.zero)
      obtain ⟨es, hes⟩ := resample_ok v oe.1 hv
      obtain ⟨he, hhe⟩ := hiresExtents_ok o ((colTrack r).sampleCount.getD 0) ((colTrack r).sampleRate.getD F64.zero)
      exact ⟨_, (setPlan_waveform o r v _).mpr ⟨_, _, rfl, Or.inr ⟨hv, oe, es, he, hoe, hes, hhe, rfl, rfl⟩⟩,
        two (stableWave_spe (ovwExtents_num o hl _ _ oe hoe)) (stableWave_spe (hiresExtents_num o hl _ _ he hhe)),
        Or.inr hp⟩

end Composite

/-- **Acceptance.**  On rows as the library builds them, under the float law: a setter returns normally
exactly when its explicit guard holds. -/
theorem acceptsRow_iff (o : FOps) (r : TrackRows) (hc : CleanP r) (hl : FloatLaw o) (f : Field) (v : f.ty) :
    acceptsRow r f v = true ↔ ∃ r', set o r f v = .ok r' := by
  cases f with
  | album | artist | comment | composer | genre | publisher | title | bitrate | duration | lastPlayedAt | rating
  | relativePath | trackNumber | year => exact ⟨fun _ => ⟨_, rfl⟩, fun _ => rfl⟩
  | bpm =>
    refine ⟨fun _ => (set_isOk_iff o r .bpm v).mpr ?_, fun _ => rfl⟩
    have hd := ceiledBpm_defined o hl.ceil v
    cases hcb : ceiledBpm o v with
    | ok c => exact ⟨_, show (ceiledBpm o v).bind _ = _ by rw [hcb]; rfl, fun _ hw => absurd hw List.not_mem_nil, Or.inl rfl⟩
    -- `ceiledBpm` has no throwing branch
    | throw e => unfold ceiledBpm at hcb; split at hcb <;> (try split at hcb) <;> (try split at hcb) <;> cases hcb
    | ub u => exact absurd hcb (hd u)
  | averageLoudness =>
    exact acceptsRow_iff_of hc rfl (isOk_of_setPlan_one rfl rfl) fun cols =>
      Bool.eq_iff_iff.mp (stableTrack_loud cols.track v)
  | beatgrid =>
    exact acceptsRow_iff_of hc rfl (isOk_of_setPlan_one rfl rfl) fun cols =>
      Bool.eq_iff_iff.mp (stableBeat_grid cols.beat v)
  | hotCues =>
    exact acceptsRow_iff_of hc rfl (isOk_of_setPlan_one rfl rfl) fun cols =>
      Bool.eq_iff_iff.mp (stableCues_pad cols.cues v)
  | mainCue =>
    exact acceptsRow_iff_of hc rfl (isOk_of_setPlan_one rfl rfl) fun cols =>
      Bool.eq_iff_iff.mp (stableCues_main cols.cues v)
  | hotCueAt i =>
    refine acceptsRow_iff_of hc rfl (isOk_of_setPlan_slot rfl) fun cols => ?_
    rw [cols.cuesLen]
    exact slot8_guard i fun k hk => stableCues_setAt cols.cues k (by rw [cols.cuesLen]; exact hk) v
  | loopAt i =>
    refine acceptsRow_iff_of hc rfl (isOk_of_setPlan_slot rfl) fun cols => ?_
    rw [cols.loopsLen]
    exact slot8_guard i fun k hk => ListAux.all_set_iff loopStored _ k v (by rw [cols.loopsLen]; exact hk) cols.loops
  | loops =>
    -- `rw` does not see through `Field.ty`
    revert v
    intro (v : List (Option LoopV))
    refine acceptsRow_iff_of hc rfl (S := v.length ≤ 8 ∧ stableLoops (padTo8 v) = true) ?_ fun _ => ?_
    · by_cases h8 : 8 < v.length
      · have hP : setPlan o r .loops v = .throw (.dj "loops_overflow") := (setPlan_loops o r v).trans (if_pos h8)
        refine (set_isOk_iff o r .loops v).trans ⟨fun ⟨_, hP', _⟩ => ?_, fun h => absurd h.1.1 (Nat.not_le.mpr h8)⟩
        cases hP.symm.trans hP'
      · have hP : setPlan o r .loops v = .ok { cols := [.loops (padTo8 v)] } := (setPlan_loops o r v).trans (if_neg h8)
        rw [isOk_of_setPlan_one hP rfl, and_assoc]
        exact (and_iff_right (Nat.not_lt.mp h8)).symm
    · unfold stableLoops
      rw [padTo8_all loopStored rfl, ← decide_eq_true_eq (p := v.length ≤ 8), ← Bool.and_eq_true]
      exact Iff.rfl
  | key =>
    exact acceptsRow_iff_of hc rfl (isOk_of_setPlan_one rfl rfl) fun cols =>
      iff_of_true ((stableTrack_key cols.track _).trans (dropZero_ne 0 v)) rfl
  | sampleCount =>
    exact acceptsRow_iff_of hc rfl (sampleCount_isOk o r hc hl v) fun _ => Iff.rfl
  | sampleRate =>
    exact acceptsRow_iff_of hc rfl (sampleRate_isOk o r hc hl v) fun _ => Iff.rfl
  | waveform =>
    exact acceptsRow_iff_of hc rfl (waveform_isOk o r hl v) fun _ => Iff.rfl

end EngineModel.TracksV1
