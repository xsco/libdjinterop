/-
Preservation of the structural invariant `FInv` by the two shapes of change the
schema-1.x crate code makes to (ids, CrateParentList, CrateHierarchy): giving a crate
a parent or none (`FInv.setParent`: a live crate moves with its sub-tree; a new crate,
which no row mentions yet, is the case of an empty sub-tree and no old ancestors,
`FInv.add`), and removing a sub-tree (`FInv.remove`).
-/
import Proofs.CratesV1Forest

namespace EngineModel.Api.CratesV1
open EngineModel.Pure.Detect EngineModel.Spec

variable {db : Db}

theorem anc_rows_nodup (h : FInv db) (n q : Id) : ((anc db q).map (fun a => (a, n)) ++ [(q, n)]).Nodup := by
  rw [List.nodup_append]
  refine ⟨?_, by simp, ?_⟩
  · apply List.Nodup.map_on _ (h.anc_nodup q)
    intro x _ y _ hxy
    exact (Prod.mk.inj hxy).1
  · intro a ha b hb
    rw [List.mem_singleton] at hb
    rw [List.mem_map] at ha
    obtain ⟨x, hx, rfl⟩ := ha
    rintro rfl
    have : x = q := (Prod.mk.inj hb).1
    exact h.chIrrefl q (FInv.mem_anc.mp (this ▸ hx))

theorem hierarchyRowsFor_eq (h : FInv db) (n q : Id) :
    hierarchyRowsFor db.ch n q = (anc db q).map (fun a => (a, n)) ++ [(q, n)] := by
  unfold hierarchyRowsFor
  have : (db.ch.filter (·.2 == q)).map (fun r => (r.1, n)) = (anc db q).map (fun a => (a, n)) := by
    unfold anc; rw [List.map_map]; rfl
  rw [this]
  exact ListAux.eraseDups_of_nodup (anc_rows_nodup h n q)

theorem hierarchyRowsFor_nodup (h : FInv db) (n q : Id) : (hierarchyRowsFor db.ch n q).Nodup := by
  rw [hierarchyRowsFor_eq h]; exact anc_rows_nodup h n q

theorem mem_hierarchyRowsFor (h : FInv db) (n q : Id) (x : Id × Id) :
    x ∈ hierarchyRowsFor db.ch n q ↔ x.2 = n ∧ (x.1 = q ∨ (x.1, q) ∈ db.ch) := by
  rw [hierarchyRowsFor_eq h, List.mem_append, List.mem_map, List.mem_singleton]
  constructor
  · rintro (⟨a, ha, rfl⟩ | rfl)
    · exact ⟨rfl, Or.inr (FInv.mem_anc.mp ha)⟩
    · exact ⟨rfl, Or.inl rfl⟩
  · rintro ⟨h2, h1 | h1⟩
    · right; exact Prod.ext h1 h2
    · left; exact ⟨x.1, FInv.mem_anc.mpr h1, Prod.ext rfl h2.symm⟩

def Sub (db : Db) (c y : Id) : Prop := y = c ∨ (c, y) ∈ db.ch

namespace FInv

theorem anc_not_sub (h : FInv db) {c a : Id} (ha : (a, c) ∈ db.ch) : ¬ Sub db c a := by
  rintro (rfl | hm)
  · exact h.chIrrefl _ ha
  · exact h.chIrrefl c (h.ch_trans c c a hm ha)

theorem sub_par (h : FInv db) {c y p : Id} (hs : Sub db c y) (hyc : y ≠ c) (hp : Par db y p) : Sub db c p := by
  rcases hs with rfl | hm
  · exact absurd rfl hyc
  · rcases (h.ch_up hp).mp hm with rfl | hm
    · exact Or.inl rfl
    · exact Or.inr hm

theorem not_sub_par (h : FInv db) {c y p : Id} (hs : ¬ Sub db c y) (hp : Par db y p) : ¬ Sub db c p := by
  rintro (rfl | hm)
  · exact hs (Or.inr (h.ch_of_par hp))
  · exact hs (Or.inr ((h.ch_up hp).mpr (Or.inr hm)))

theorem not_sub_anc (h : FInv db) {c y a : Id} (hs : ¬ Sub db c y) (ha : (a, y) ∈ db.ch) : ¬ Sub db c a := by
  rintro (rfl | hm)
  · exact hs (Or.inr ha)
  · exact hs (Or.inr (h.ch_trans y c a hm ha))

theorem sub_anc (h : FInv db) (c a : Id) : ∀ y, Sub db c y → (a, y) ∈ db.ch → Sub db c a ∨ (a, c) ∈ db.ch := by
  apply h.par_induction (P := fun y => Sub db c y → (a, y) ∈ db.ch → Sub db c a ∨ (a, c) ∈ db.ch)
  intro y ih hs ha
  by_cases hyc : y = c
  · subst hyc; exact Or.inr ha
  · obtain ⟨p, hp, hor⟩ := (h.chStep a y).mp ha
    have hsp := h.sub_par hs hyc hp
    rcases hor with rfl | hm
    · exact Or.inl hsp
    · exact ih p hp hsp hm

theorem sub_child (h : FInv db) {top x k : Id} (hsub : Sub db top x) (hk : Par db k x) : Sub db top k := by
  rcases hsub with rfl | hm
  · exact Or.inr (h.ch_of_par hk)
  · exact Or.inr (h.ch_trans k top x hm (h.ch_of_par hk))

theorem outside_sub (h : FInv db) {c q a : Id} (hqc : q ≠ c) (hcq : (c, q) ∉ db.ch) (ha : a = q ∨ (a, q) ∈ db.ch) :
    ¬ Sub db c a := by
  intro hs
  rcases ha with rfl | hm
  · exact hs.elim hqc hcq
  · rcases hs with rfl | hs
    · exact hcq hm
    · exact hcq (h.ch_trans q c a hs hm)

theorem new_anc_not_sub (h : FInv db) {c : Id} {parent : Option Id}
    (hq : ∀ q, parent = some q → q ∈ ids db ∧ q ≠ c ∧ (c, q) ∉ db.ch) :
    ∀ a q, parent = some q → (a = q ∨ (a, q) ∈ db.ch) → ¬ Sub db c a :=
  fun _ q hpq => h.outside_sub (hq q hpq).2.1 (hq q hpq).2.2

end FInv

/-- After the sub-tree of `c` has been moved, the hierarchy is again closed under the new parent list: the ancestors
of `y` are its new parent and that parent's ancestors.  Three cases by where `y` lies: `y = c` (the new parent and its
old ancestors, none of them in the moved sub-tree), `y` strictly inside the sub-tree (parent unchanged; the old
ancestors above `c` are replaced by the new ones), `y` outside (nothing changes, and its ancestors are outside too). -/
theorem FInv.reparent_chStep (h : FInv db) {db' : Db} {c : Id} {parent : Option Id}
    (hq : ∀ q, parent = some q → q ∈ ids db ∧ q ≠ c ∧ (c, q) ∉ db.ch)
    (hpar : ∀ y p, Par db' y p ↔ ((y ≠ c ∧ Par db y p) ∨ (y = c ∧ parent = some p)))
    (hmem : ∀ a y, (a, y) ∈ db'.ch ↔
      (((a, y) ∈ db.ch ∧ ¬ ((a, c) ∈ db.ch ∧ Sub db c y)) ∨
       (∃ q, parent = some q ∧ (a = q ∨ (a, q) ∈ db.ch) ∧ Sub db c y))) :
    ∀ a y, (a, y) ∈ db'.ch ↔ ∃ p, Par db' y p ∧ (a = p ∨ (a, p) ∈ db'.ch) := by
  have hnew := h.new_anc_not_sub hq
  intro a y
  rw [hmem]
  by_cases hyc : y = c
  · subst hyc
    have hsy : Sub db y y := Or.inl rfl
    constructor
    · rintro (⟨hm, hn⟩ | ⟨q, hpq, hor, _⟩)
      · exact absurd ⟨hm, hsy⟩ hn
      · refine ⟨q, (hpar _ _).mpr (Or.inr ⟨rfl, hpq⟩), ?_⟩
        rcases hor with rfl | hm
        · exact Or.inl rfl
        · right
          rw [hmem]
          left
          exact ⟨hm, fun hh => (hq q hpq).2.2 (by
            rcases hh.2 with e | hs
            · exact absurd e (hq q hpq).2.1
            · exact hs)⟩
    · rintro ⟨p, hp, hor⟩
      rcases (hpar _ _).mp hp with ⟨hne, _⟩ | ⟨_, hpq⟩
      · exact absurd rfl hne
      · right
        refine ⟨p, hpq, ?_, hsy⟩
        rcases hor with rfl | hm
        · exact Or.inl rfl
        · rcases (hmem _ _).mp hm with ⟨hm, _⟩ | ⟨q', hpq', _, hs⟩
          · exact Or.inr hm
          · exact absurd hs (hnew p p hpq (Or.inl rfl))
  · by_cases hs : Sub db c y
    · -- inside the moved sub-tree, below its top
      have hcy : (c, y) ∈ db.ch := by
        rcases hs with e | hm
        · exact absurd e hyc
        · exact hm
      obtain ⟨p, hp, _⟩ := (h.chStep c y).mp hcy
      have hsp := h.sub_par hs hyc hp
      have hp' : Par db' y p := (hpar _ _).mpr (Or.inl ⟨hyc, hp⟩)
      constructor
      · rintro (⟨hm, hn⟩ | ⟨q, hpq, hor, _⟩)
        · refine ⟨p, hp', ?_⟩
          rcases (h.ch_up hp).mp hm with rfl | hm'
          · exact Or.inl rfl
          · right
            rw [hmem]
            left
            exact ⟨hm', fun hh => hn ⟨hh.1, hs⟩⟩
        · refine ⟨p, hp', Or.inr ?_⟩
          rw [hmem]
          right
          exact ⟨q, hpq, hor, hsp⟩
      · rintro ⟨p2, hp2, hor⟩
        rcases (hpar _ _).mp hp2 with ⟨_, hp2⟩ | ⟨e, _⟩
        · have : p2 = p := h.par_unique hp2 hp
          subst this
          rcases hor with rfl | hm
          · left
            exact ⟨h.ch_of_par hp, fun hh => h.anc_not_sub hh.1 hsp⟩
          · rcases (hmem _ _).mp hm with ⟨hm, hn⟩ | ⟨q, hpq, hor, _⟩
            · left
              exact ⟨(h.ch_up hp).mpr (Or.inr hm), fun hh => hn ⟨hh.1, hsp⟩⟩
            · right
              exact ⟨q, hpq, hor, hs⟩
        · exact absurd e hyc
    · -- outside the moved sub-tree nothing changes
      constructor
      · rintro (⟨hm, _⟩ | ⟨_, _, _, hs'⟩)
        · obtain ⟨p, hp, hor⟩ := (h.chStep a y).mp hm
          refine ⟨p, (hpar _ _).mpr (Or.inl ⟨hyc, hp⟩), ?_⟩
          rcases hor with rfl | hm'
          · exact Or.inl rfl
          · right
            rw [hmem]
            left
            exact ⟨hm', fun hh => h.not_sub_par hs hp hh.2⟩
        · exact absurd hs' hs
      · rintro ⟨p, hp, hor⟩
        rcases (hpar _ _).mp hp with ⟨_, hp⟩ | ⟨e, _⟩
        · left
          refine ⟨(h.chStep a y).mpr ⟨p, hp, ?_⟩, fun hh => hs hh.2⟩
          rcases hor with rfl | hm
          · exact Or.inl rfl
          · rcases (hmem _ _).mp hm with ⟨hm, _⟩ | ⟨_, _, _, hs'⟩
            · exact Or.inr hm
            · exact absurd hs' (h.not_sub_par hs hp)
        · exact absurd e hyc

/-- The crate `c` (live, or not yet in any table) gets the parent `parent`: its sub-tree is detached from its old
ancestors and attached below the new ones. -/
theorem FInv.setParent (h : FInv db) {db' : Db} {c : Id} (parent : Option Id)
    (hq : ∀ q, parent = some q → q ∈ ids db ∧ q ≠ c ∧ (c, q) ∉ db.ch)
    (h1 : ∀ y, y ∈ ids db' ↔ y ∈ ids db ∨ y = c) (hnd1 : (ids db').Nodup)
    (h2 : ∀ r, r ∈ db'.cpl ↔ (r ∈ db.cpl ∧ r.1 ≠ c) ∨ r = (c, parent.getD c)) (hnd2 : (db'.cpl.map (·.1)).Nodup)
    (hmem : ∀ a y, (a, y) ∈ db'.ch ↔
      (((a, y) ∈ db.ch ∧ ¬ ((a, c) ∈ db.ch ∧ Sub db c y)) ∨
       (∃ q, parent = some q ∧ (a = q ∨ (a, q) ∈ db.ch) ∧ Sub db c y)))
    (hnd : db'.ch.Nodup) : FInv db' := by
  have hpar : ∀ y p, Par db' y p ↔ ((y ≠ c ∧ Par db y p) ∨ (y = c ∧ parent = some p)) := by
    intro y p
    unfold Par
    rw [h2]
    constructor
    · rintro ⟨⟨hm, hyc⟩ | e, hne⟩
      · exact Or.inl ⟨hyc, hm, hne⟩
      · obtain ⟨rfl, hpe⟩ := Prod.mk.inj e
        refine Or.inr ⟨rfl, ?_⟩
        cases parent with
        | none => exact absurd hpe hne
        | some q => exact congrArg some hpe.symm
    · rintro (⟨hyc, hm, hne⟩ | ⟨rfl, rfl⟩)
      · exact ⟨Or.inl ⟨hm, hyc⟩, hne⟩
      · exact ⟨Or.inr rfl, (hq p rfl).2.1⟩
  have hnew := h.new_anc_not_sub hq
  have hold : ∀ {y}, y ∈ ids db → y ∈ ids db' := fun hy => (h1 _).mpr (Or.inl hy)
  exact {
    idsNodup := hnd1
    cplNodup := hnd2
    cplTotal := by
      intro y
      rw [h1, List.mem_map]
      constructor
      · rintro ⟨r, hr, rfl⟩
        rcases (h2 r).mp hr with ⟨hm, _⟩ | rfl
        · exact Or.inl ((h.cplTotal _).mp (mem_map_fst hm))
        · exact Or.inr rfl
      · intro hy
        by_cases hyc : y = c
        · exact ⟨_, (h2 _).mpr (Or.inr rfl), hyc.symm⟩
        · obtain ⟨p, hp⟩ := h.live_has_row (hy.resolve_right hyc)
          exact ⟨(y, p), (h2 _).mpr (Or.inl ⟨hp, hyc⟩), rfl⟩
    cplParentLive := by
      intro r hr
      rcases (h2 r).mp hr with ⟨hm, _⟩ | rfl
      · exact hold (h.cplParentLive r hm)
      · cases hp : parent with
        | none => exact (h1 _).mpr (Or.inr rfl)
        | some q => exact hold (hq q hp).1
    chNodup := hnd
    chLive := by
      intro r hr
      rcases (hmem r.1 r.2).mp hr with ⟨hm, _⟩ | ⟨q, hpq, hor, hs⟩
      · exact ⟨hold (h.chLive _ hm).1, hold (h.chLive _ hm).2⟩
      · refine ⟨hold (hor.elim (fun e => e ▸ (hq q hpq).1) fun hm => (h.chLive _ hm).1), ?_⟩
        exact hs.elim (fun e => (h1 _).mpr (Or.inr e)) fun hm => hold (h.chLive _ hm).2
    chStep := h.reparent_chStep hq hpar hmem
    chIrrefl := by
      intro y hm
      rcases (hmem _ _).mp hm with ⟨hm, _⟩ | ⟨q, hpq, hor, hs⟩
      · exact h.chIrrefl y hm
      · exact hnew y q hpq hor hs
  }

/-- create_root_crate (`q = none`) and create_sub_crate (`q = some p`): the fresh crate `n` gets its parent. -/
theorem FInv.add (h : FInv db) {db' : Db} {n : Id} (q : Option Id) (hn : n ∉ ids db) (hq : ∀ p, q = some p → p ∈ ids db)
    (h1 : ids db' = ids db ++ [n]) (h2 : db'.cpl = db.cpl ++ [(n, q.getD n)])
    (h3 : db'.ch = match q with | some p => db.ch ++ hierarchyRowsFor db.ch n p | none => db.ch) : FInv db' := by
  -- no row mentions `n` yet: it has no ancestors, and its sub-tree is itself
  have hno : ∀ a, (a, n) ∉ db.ch ∧ (n, a) ∉ db.ch := fun a => ⟨fun hm => hn (h.chLive _ hm).2, fun hm => hn (h.chLive _ hm).1⟩
  have hsub : ∀ y, Sub db n y ↔ y = n := fun y => ⟨fun hs => hs.elim id fun hm => absurd hm (hno y).2, Or.inl⟩
  have hcpl : ∀ r ∈ db.cpl, r.1 ≠ n := fun r hr e => hn (e ▸ (h.cplTotal _).mp (mem_map_fst hr))
  refine h.setParent q (fun p hp => ⟨hq p hp, fun (e : p = n) => hn (e ▸ hq p hp), (hno p).2⟩) ?_ ?_ ?_ ?_ ?_ ?_
  · intro y; rw [h1, List.mem_append, List.mem_singleton]
  · rw [h1]; exact nodup_snoc h.idsNodup hn
  · intro r
    rw [h2, List.mem_append, List.mem_singleton]
    exact or_congr_left ⟨fun hr => ⟨hr, hcpl r hr⟩, And.left⟩
  · rw [h2, List.map_append]; exact nodup_snoc h.cplNodup fun hm => hn ((h.cplTotal _).mp hm)
  · intro a y
    simp only [hsub, (hno a).1, false_and, not_false_eq_true, and_true]
    rw [h3]
    cases q with
    | none => simp
    | some p =>
      simp only [List.mem_append, mem_hierarchyRowsFor h, Option.some.injEq, exists_eq_left']
      exact or_congr_right and_comm
  · rw [h3]
    cases q with
    | none => exact h.chNodup
    | some p =>
      refine List.nodup_append.mpr ⟨h.chNodup, hierarchyRowsFor_nodup h n p, fun a ha b hb e => ?_⟩
      exact (hno a.1).1 (((mem_hierarchyRowsFor h n p b).mp hb).1 ▸ e ▸ ha)

/-- remove_crate: the crate and its whole sub-tree disappear from all three relations. -/
theorem FInv.remove (h : FInv db) {db' : Db} {c : Id}
    (h1 : ∀ y, y ∈ ids db' ↔ (y ∈ ids db ∧ ¬ Sub db c y)) (hnd1 : (ids db').Nodup)
    (h2 : ∀ r, r ∈ db'.cpl ↔ (r ∈ db.cpl ∧ ¬ Sub db c r.1)) (hnd2 : (db'.cpl.map (·.1)).Nodup)
    (h3 : ∀ r, r ∈ db'.ch ↔ (r ∈ db.ch ∧ ¬ Sub db c r.1 ∧ ¬ Sub db c r.2)) (hnd3 : db'.ch.Nodup) : FInv db' := by
  have hpar : ∀ y p, Par db' y p ↔ (Par db y p ∧ ¬ Sub db c y) := by
    intro y p
    unfold Par
    rw [h2]
    constructor
    · rintro ⟨⟨hm, hs⟩, hne⟩; exact ⟨⟨hm, hne⟩, hs⟩
    · rintro ⟨⟨hm, hne⟩, hs⟩; exact ⟨⟨hm, hs⟩, hne⟩
  exact {
    idsNodup := hnd1
    cplNodup := hnd2
    cplTotal := by
      intro y
      rw [h1, ← h.cplTotal y]
      simp only [List.mem_map]
      constructor
      · rintro ⟨r, hr, rfl⟩
        rw [h2] at hr
        exact ⟨⟨r, hr.1, rfl⟩, hr.2⟩
      · rintro ⟨⟨r, hr, rfl⟩, hs⟩
        exact ⟨r, (h2 r).mpr ⟨hr, hs⟩, rfl⟩
    cplParentLive := by
      intro r hr
      rw [h2] at hr
      rw [h1]
      refine ⟨h.cplParentLive r hr.1, ?_⟩
      by_cases he : r.2 = r.1
      · rw [he]; exact hr.2
      · exact h.not_sub_par hr.2 (p := r.2) ⟨hr.1, he⟩
    chNodup := hnd3
    chLive := by
      intro r hr
      rw [h3] at hr
      rw [h1, h1]
      exact ⟨⟨(h.chLive r hr.1).1, hr.2.1⟩, ⟨(h.chLive r hr.1).2, hr.2.2⟩⟩
    chStep := by
      intro a y
      rw [h3]
      constructor
      · rintro ⟨hm, hsa, hsy⟩
        obtain ⟨p, hp, hor⟩ := (h.chStep a y).mp hm
        refine ⟨p, (hpar _ _).mpr ⟨hp, hsy⟩, ?_⟩
        rcases hor with rfl | hm'
        · exact Or.inl rfl
        · right
          rw [h3]
          exact ⟨hm', hsa, h.not_sub_par hsy hp⟩
      · rintro ⟨p, hp, hor⟩
        obtain ⟨hp, hsy⟩ := (hpar _ _).mp hp
        rcases hor with rfl | hm
        · exact ⟨h.ch_of_par hp, h.not_sub_par hsy hp, hsy⟩
        · rw [h3] at hm
          exact ⟨(h.ch_up hp).mpr (Or.inr hm.1), hm.2.1, hsy⟩
    chIrrefl := by
      intro y hm
      rw [h3] at hm
      exact h.chIrrefl y hm.1
  }

end EngineModel.Api.CratesV1
