/-
`Db/V2CratesStmts.lean`: the statement programs of the 2.x crate / membership
calls are what `Db.V2.step` computes, and each is an atomic shape.
-/
import EngineModel.Db.V2CratesStmts
import Proofs.Stmts
import Proofs.CratesV2Does

namespace EngineModel.Proofs.V2CratesStmts
open EngineModel EngineModel.Db.V2 EngineModel.Db.Chain EngineModel.Spec.Txn EngineModel.Spec.Stmts
open EngineModel.Proofs.Stmts

theorem ite_both {β : Type} {c : Prop} [Decidable c] {P : β → Prop} {a b : β} (ha : P a) (hb : P b) :
    P (if c then a else b) := by
  split <;> assumption

theorem body_rw (d : Db) (op : Op) : ∀ x ∈ body d op, Cmd.rw x = true := by
  cases op
  case removeCrate c =>
    exact List.forall_mem_cons.2 ⟨rfl, List.forall_mem_cons.2 ⟨rfl, List.forall_mem_append.2
      ⟨List.forall_mem_map.2 fun _ _ => rfl, List.forall_mem_map.2 fun _ _ => rfl⟩⟩⟩
  case removeTrack t =>
    exact List.forall_mem_append.2 ⟨List.forall_mem_map.2 fun _ _ => rfl, rw_of_all rfl⟩
  case rename c n =>
    show ∀ x ∈ (match get d.pl c with | some row => _ | none => _ : Prog), _
    cases get d.pl c <;> exact rw_of_all rfl
  case setParent c p =>
    show ∀ x ∈ (match get d.pl c with | some row => _ | none => _ : Prog), _
    cases get d.pl c with
    | none => exact rw_of_all rfl
    | some row =>
      cases p with
      | none => exact ite_both (P := fun b => ∀ x ∈ b, Cmd.rw x = true) (rw_of_all rfl) (rw_of_all rfl)
      | some q => exact ite_both (P := fun b => ∀ x ∈ b, Cmd.rw x = true) (rw_of_all rfl) (rw_of_all rfl)
  case addTrack c t =>
    show ∀ x ∈ (match peFind d c t 0 with | some _ => _ | none => _ : Prog), _
    cases peFind d c t 0 <;> exact rw_of_all rfl
  case removeTrackFrom c t =>
    show ∀ x ∈ (match peFind d c t 0 with | some e => _ | none => _ : Prog), _
    cases peFind d c t 0 <;> exact rw_of_all rfl
  case peAddBack l t u f =>
    show ∀ x ∈ (match peFind d l t u with | some _ => _ | none => _ : Prog), _
    cases peFind d l t u <;> exact rw_of_all rfl
  all_goals exact rw_of_all rfl

/-- a call that is its reads and one write -/
theorem replay_ok (f : Db → Db × Res Out) (d : Db) (out : Out) (h : (f d).2 = .ok out) :
    applyAll [fun x => okState (f x)] d = some (f d).1 := by
  show (okState (f d)).bind some = _
  unfold okState; rw [h]; rfl

/-- a guard that throws has passed when the call returns normally -/
theorem guard_ok {b : Prop} [Decidable b] {d : Db} {e : Exn} {r r' : Db × Res Out} {out : Out}
    (hr : (if b then (d, .throw e) else r) = r') (h : r'.2 = .ok out) : r = r' := by
  split at hr
  · subst hr; cases h
  · exact hr

theorem foldl_pe (xs : List Int) (g : Table Ent → Int → Table Ent) (d : Db) :
    xs.foldl (fun acc x => { acc with pe := g acc.pe x }) d = { d with pe := xs.foldl g d.pe } := by
  induction xs generalizing d with
  | nil => rfl
  | cons x xs ih => exact ih _

theorem foldl_pl (xs : List Int) (g : Table Bytes → Int → Table Bytes) (d : Db) :
    xs.foldl (fun acc x => { acc with pl := g acc.pl x }) d = { d with pl := xs.foldl g d.pl } := by
  induction xs generalizing d with
  | nil => rfl
  | cons x xs ih => exact ih _

/-- **The statement program is the model's call**: whenever `step` returns normally, applying the writes of the
program in order to the prior tables gives exactly the tables `step` returns.  Alternative by alternative of `Does`:
what the guards have established (the row read, the entry found, the descendants the view delivered) is what `body`
branches on, and the write `body` then names is the one the alternative performs. -/
theorem body_replay (d : Db) (op : Op) (out : Out) (h : (step d op).2 = .ok out) :
    applyAll (writesOf (body d op)) d = some (step d op).1 := by
  have hd := step_does d op
  generalize step d op = r at hd h ⊢
  cases hd with
  | throws | diverges => cases h
  | inserted p n a b hlive hfree hv hb =>
    have e := plAdd_valid d (keyOf p) b hv
    have this := replay_ok (fun x => plAdd x n (keyOf p) b) d _ (congrArg Prod.snd e)
    rw [e] at this
    cases a with
    | none => subst hb; cases p <;> exact this
    | some a =>
      obtain ⟨row, hg, _, rfl⟩ := hb
      have hn : nextOf d a = row.next := by simp only [nextOf, hg]
      cases p
      · show applyAll [fun x => okState (plAdd x n 0 (nextOf d a))] d = _
        rw [hn]; exact this
      · show applyAll [fun x => okState (plAdd x n _ (nextOf d a))] d = _
        rw [hn]; exact this
  | retitled c n row hg hv hc =>
    have e := plUpdate_same d hv hg hc
    have this := replay_ok (fun x => plUpdate x c n row.key row.next) d _ (congrArg Prod.snd e)
    rw [e] at this
    show applyAll (writesOf (match get d.pl c with | some row => _ | none => _)) d = _
    rw [hg]; exact this
  | reparented c p row hg hp hv hc =>
    have e := plUpdate_reparent (keyOf p) hv hg
    rw [hc, if_neg Bool.false_ne_true] at e
    have this := replay_ok (fun x => plUpdate x c row.val (keyOf p) (if row.key = keyOf p then row.next else 0)) d _
      (congrArg Prod.snd e)
    rw [e] at this
    show applyAll (writesOf (match get d.pl c with | some row => _ | none => _)) d = _
    rw [hg]
    by_cases hk : row.key = keyOf p
    · have hb : (row.key != keyOf p) = false := by simpa using hk
      conv at this => lhs; rw [if_pos hk, ← hk]
      cases p <;> simp only [keyOf] at hb <;> simp only [hb] <;> exact this
    · have hb : (row.key != keyOf p) = true := by simpa using hk
      rw [if_neg hk] at this
      cases p <;> simp only [keyOf] at hb <;> simp only [hb] <;> exact this
  | removed c ds he hds =>
    show applyAll (writesOf (.read :: .read :: ((c :: removedBelow d c).map wClearKey ++
      (c :: removedBelow d c).map wDeleteList))) d = _
    unfold removedBelow
    rw [hds]
    show applyAll (writesOf (((c :: ds).map fun l => tot fun d : Db => { d with pe := clearKey fires d.pe l }) ++
      (c :: ds).map fun i => tot fun d : Db => { d with pl := deleteCascade d.pl i })) d = _
    rw [writesOf_append, writesOf_map_tot, writesOf_map_tot, EngineModel.Proofs.Txn.applyAll_append,
      applyAll_tot_foldl, Option.bind_some, applyAll_tot_foldl,
      foldl_pe _ (fun pe l => clearKey fires pe l), foldl_pl _ (fun pl i => deleteCascade pl i)]
    rfl
  | trackCreated => rfl
  | trackRemoved t ht =>
    show applyAll (writesOf (((ids d.pl).map fun l => tot fun d : Db => { d with pe := rmTrackIn t d.pe l }) ++
      [wDeleteTrack t])) d = _
    rw [writesOf_append, writesOf_map_tot, EngineModel.Proofs.Txn.applyAll_append, applyAll_tot_foldl,
      foldl_pe _ (fun pe l => rmTrackIn t pe l)]
    rfl
  | present l t u e hop hf =>
    rcases hop with ⟨rfl, rfl, _⟩ | ⟨f, rfl⟩
    · show applyAll (writesOf (match peFind d l t 0 with | some _ => _ | none => _)) d = _
      rw [hf]; rfl
    · show applyAll (writesOf (match peFind d l t u with | some _ => _ | none => _)) d = _
      rw [hf]; rfl
  | appended l t u hop hf =>
    rcases hop with ⟨rfl, rfl, _⟩ | ⟨f, rfl⟩
    · show applyAll (writesOf (match peFind d l t 0 with | some _ => _ | none => _)) d = _
      rw [hf]; rfl
    · show applyAll (writesOf (match peFind d l t u with | some _ => _ | none => _)) d = _
      rw [hf]; rfl
  | entryRemoved l e row hrow hop =>
    obtain ⟨_, rfl, _⟩ := hrow
    rcases hop with ⟨t, rfl, hf⟩ | rfl
    · show applyAll (writesOf (match peFind d l t 0 with | some e => _ | none => _)) d = _
      rw [hf]; rfl
    · rfl
  | absent l t hf =>
    show applyAll (writesOf (match peFind d l t 0 with | some e => _ | none => _)) d = _
    rw [hf]; rfl
  | cleared l hop => rcases hop with rfl | rfl <;> rfl

theorem flat_one_write (d : Db) (op : Op) (h : scopedAt d op = false) :
    ((body d op).filter (·.kind == .write)).length ≤ 1 := by
  cases op
  case rename | setParent | removeCrate | removeTrack => cases h
  case addTrack c t =>
    show ((match peFind d c t 0 with | some _ => _ | none => _ : Prog).filter _).length ≤ 1
    cases hf : peFind d c t 0 with
    | none => rw [show scopedAt d (.addTrack c t) = (peFind d c t 0).isNone from rfl, hf] at h; cases h
    | some e => exact Nat.zero_le 1
  case peAddBack l t u f =>
    show ((match peFind d l t u with | some _ => _ | none => _ : Prog).filter _).length ≤ 1
    cases hf : peFind d l t u with
    | none => rw [show scopedAt d (.peAddBack l t u f) = (peFind d l t u).isNone from rfl, hf] at h; cases h
    | some e => exact Nat.zero_le 1
  case removeTrackFrom c t =>
    show ((match peFind d c t 0 with | some e => _ | none => _ : Prog).filter _).length ≤ 1
    cases peFind d c t 0 with
    | none => exact Nat.zero_le 1
    | some e => exact Nat.le_refl 1
  all_goals exact Nat.le_refl 1

/-- every public mutating call of the 2.x crate / membership code issues an atomic shape, on every prior state -/
theorem stmts_atomic (d : Db) (op : Op) : atomicShape (shapeOf op d) = true :=
  atomic_form (scopedAt d op) _ (body_rw d op) (flat_one_write d op)

theorem stmts_run (d : Db) (op : Op) (out : Out) (auto : Bool) (h : (step d op).2 = .ok out) :
    (call none auto (stmts d op) d).raised = false ∧
    (call none auto (stmts d op) d).conn = Conn.idle (step d op).1 :=
  form_run (scopedAt d op) auto _ (body_rw d op) d _ (body_replay d op out h)

/-- the skeleton of a successful call is one of the operation's allowed skeletons -/
theorem stmts_skeleton (d : Db) (op : Op) (out : Out) (h : (step d op).2 = .ok out) :
    ∃ k ∈ allowed op, skeleton (shapeOf op d) = k.kinds := by
  cases op
  case rename c n =>
    refine ⟨.scope, .head _, skeleton_scope _ (body_rw d _) ?_⟩
    show hasWrite (match get d.pl c with | some row => _ | none => _) = true
    cases hg : get d.pl c with
    | some row => rfl
    | none =>
      change (match get d.pl c with | none => _ | some row => _ : Db × Res Out).2 = _ at h
      rw [hg] at h; cases h
  case setParent c p =>
    refine ⟨.scope, .head _, skeleton_scope _ (body_rw d _) ?_⟩
    show hasWrite (match get d.pl c with | some row => _ | none => _) = true
    cases hg : get d.pl c with
    | some row => cases p <;> exact ite_both (P := fun b => hasWrite b = true) rfl rfl
    | none =>
      generalize hr : step d (.setParent c p) = r at h
      have hr := guard_ok hr h
      rw [hg] at hr; subst hr; cases h
  case removeCrate c => exact ⟨.scope, .head _, skeleton_scope _ (body_rw d _) rfl⟩
  case removeTrack t =>
    refine ⟨.scope, .head _, skeleton_scope _ (body_rw d _) ?_⟩
    show ((ids d.pl).map (fun l => wRemoveFromList l t) ++ [wDeleteTrack t]).any _ = true
    rw [List.any_append, Bool.or_eq_true]; exact Or.inr rfl
  case addTrack c t =>
    unfold shapeOf stmts
    show ∃ k ∈ _, skeleton ((if (peFind d c t 0).isNone = true then txn (match peFind d c t 0 with
      | some _ => _ | none => _) else (match peFind d c t 0 with | some _ => _ | none => _) : Prog).map Cmd.kind) = _
    cases peFind d c t 0 with
    | none => exact ⟨.scope, .head _, rfl⟩
    | some e => exact ⟨.none, .tail _ (.head _), rfl⟩
  case peAddBack l t u f =>
    unfold shapeOf stmts
    show ∃ k ∈ _, skeleton ((if (peFind d l t u).isNone = true then txn (match peFind d l t u with
      | some _ => _ | none => _) else (match peFind d l t u with | some _ => _ | none => _) : Prog).map Cmd.kind) = _
    cases peFind d l t u with
    | none => exact ⟨.scope, .head _, rfl⟩
    | some e => exact ⟨.none, .tail _ (.head _), rfl⟩
  case removeTrackFrom c t =>
    unfold shapeOf stmts
    show ∃ k ∈ _, skeleton ((match peFind d c t 0 with | some e => _ | none => _ : Prog).map Cmd.kind) = _
    cases peFind d c t 0 with
    | some e => exact ⟨.single, .head _, rfl⟩
    | none => exact ⟨.none, .tail _ (.head _), rfl⟩
  all_goals exact ⟨.single, .head _, rfl⟩

end EngineModel.Proofs.V2CratesStmts
