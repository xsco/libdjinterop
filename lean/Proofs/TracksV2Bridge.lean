/-
Bridge between the row store of the 2.x track model (`tablePut`, C01 / C06) and
the table layer of C18 (`EngineModel/Table/Track.lean`: the INSERT / UPDATE /
SELECT column lists of `track_table.cpp`, regenerated from the source for each
schema range): for each of the seven versions `tablePut s` is exactly what
`get ∘ add` and `get ∘ update` return.  This is where the schema parameter of
C01V2 / C06V2 gets its content.
-/
import Proofs.TableTrack
import Proofs.TableTrackWf
import Proofs.TracksV2Convert
import EngineModel.TracksV2.Model

namespace EngineModel
namespace TracksV2

open Prim Table

def Schema.to2 : Schema → Schema2
  | .s2_18_0 => .s2_18_0 | .s2_20_1 => .s2_20_1 | .s2_20_2 => .s2_20_2 | .s2_20_3 => .s2_20_3
  | .s2_21_0 => .s2_21_0 | .s2_21_1 => .s2_21_1 | .s2_21_2 => .s2_21_2

/-- The `track_row` value the 2.x track code hands to `track_table::add` /
`update` (and gets from `get`): the columns of `Row` plus the id, the origin
pair, `date_added` and `last_edit_time`, as the typed members of C18's table
model. -/
def toTable (id : Int) (ouuid : Bytes) (oid : Int) (dateAdded lastEdit : Int) (r : Row) : Table.Row TField
  | .id => .int id
  | .play_order => .oint (r.playOrder.map s64)
  | .length => .int (s64 r.length)
  | .bpm => .oint (r.bpm.map s64)
  | .year => .oint (r.year.map s64)
  | .path => .str r.path
  | .filename => .str r.filename
  | .bitrate => .oint (r.bitrate.map s64)
  | .bpm_analyzed => .oreal r.bpmAnalyzed
  | .album_art_id => .int (s64 r.albumArtId)
  | .file_bytes => .oint (r.fileBytes.map s64)
  | .title => .ostr r.title
  | .artist => .ostr r.artist
  | .album => .ostr r.album
  | .genre => .ostr r.genre
  | .comment => .ostr r.comment
  | .label => .ostr r.label
  | .composer => .ostr r.composer
  | .remixer => .ostr r.remixer
  | .key => .oint (r.key.map s32)
  | .rating => .int (s64 r.rating)
  | .album_art => .ostr r.albumArt
  | .time_last_played => .otime (r.timeLastPlayed.map s64)
  | .is_played => .bool r.isPlayed
  | .file_type => .str r.fileType
  | .is_analyzed => .bool r.isAnalyzed
  | .date_created => .time (s64 r.dateCreated)
  | .date_added => .time dateAdded
  | .is_available => .bool r.isAvailable
  | .is_metadata_of_packed_track_changed => .bool r.isMetadataOfPackedTrackChanged
  | .is_performance_data_of_packed_track_changed => .bool r.isPerformanceDataOfPackedTrackChanged
  | .played_indicator => .oint (r.playedIndicator.map s64)
  | .is_metadata_imported => .bool r.isMetadataImported
  | .pdb_import_key => .int (s64 r.pdbImportKey)
  | .streaming_source => .ostr r.streamingSource
  | .uri => .ostr r.uri
  | .is_beat_grid_locked => .bool r.isBeatGridLocked
  | .origin_database_uuid => .str ouuid
  | .origin_track_id => .int oid
  | .track_data => .blob (.track r.trackData.1 r.trackData.2)
  | .overview_waveform_data => .blob (.ovw r.ovw.1 r.ovw.2)
  | .beat_data => .blob (.beat r.beat.1 r.beat.2)
  | .quick_cues => .blob (.cues r.cues.1 r.cues.2)
  | .loops => .blob (.loops r.loops.1 r.loops.2)
  | .third_party_source_id => .oint (r.thirdPartySourceId.map s64)
  | .streaming_flags => .int (s64 r.streamingFlags)
  | .explicit_lyrics => .bool r.explicitLyrics
  | .active_on_load_loops => .oint (r.activeOnLoadLoops.map s64)
  | .last_edit_time => .time lastEdit

theorem in64_s64 (x : UInt64) : in64 (s64 x) = true := by
  unfold in64 s64
  have := x.toNat_lt
  simp only [decide_eq_true_eq]
  split <;> omega

theorem in32_s32 (x : UInt32) : in32 (s32 x) = true := by
  unfold in32 s32
  have := x.toNat_lt
  simp only [decide_eq_true_eq]
  split <;> omega

theorem wtv_oi64 (o : Option UInt64) : wtv .oi64 (.oint (o.map s64)) = true := by
  cases o <;> simp [wtv, in64_s64]
theorem wtv_oi32 (o : Option UInt32) : wtv .oi32 (.oint (o.map s32)) = true := by
  cases o <;> simp [wtv, in32_s32]
theorem wtv_otime (o : Option UInt64) : wtv .otime (.otime (o.map s64)) = true := by
  cases o <;> simp [wtv, in64_s64]

theorem wt_toTable (id : Int) (ou : Bytes) (oid da le : Int) (r : Row) (h1 : in64 id = true) (h2 : in64 oid = true)
    (h3 : in64 da = true) (h4 : in64 le = true) : wtRowT (toTable id ou oid da le r) := by
  intro f
  cases f
  case id => exact h1
  case origin_track_id => exact h2
  case date_added => exact h3
  case last_edit_time => exact h4
  case key => exact wtv_oi32 _
  case time_last_played => exact wtv_otime _
  case length | album_art_id | rating | pdb_import_key | streaming_flags | date_created => exact in64_s64 _
  case play_order | bpm | year | bitrate | file_bytes | played_indicator | third_party_source_id
    | active_on_load_loops => exact wtv_oi64 _
  -- strings, reals, booleans and blobs of their own kind: `wtv` computes to `true`
  all_goals rfl

theorem s64_storeTime (t : UInt64) : s64 (storeTime t) = truncSec (s64 t) * 1000000000 := by
  unfold storeTime truncSec
  have hb := in64_s64 t
  unfold in64 at hb
  simp only [decide_eq_true_eq] at hb
  rw [tdiv_cases (s64 t) 1000000000]
  split
  · rw [s64_u64OfInt _ (by omega) (by omega)]
  · rw [s64_u64OfInt _ (by omega) (by omega)]

/-- **The row store of C01 / C06 is the per-schema table layer of C18.**
`tablePut s r` is, member for member, the normal form `normRowT` that C18 proves
`get ∘ add` (and `get ∘ update`) to return from the column lists regenerated
from `track_table.cpp` for schema `s` — with the id assigned, the origin pair
repaired by the trigger, `date_added` at whole seconds and `last_edit_time` as
the schema has it. -/
theorem tablePut_normRowT (s : Schema) (r r' : Row) (h : tablePut s r = .ok r') (u : Bytes) (da le : Int)
    (lastEdit : Option Int) (i i0 : Int) :
    normRowT s.to2 (.text u) lastEdit i (toTable i0 u 0 da le r) =
      toTable i u i (truncSec da * 1000000000)
        (if s.to2.ge .s2_20_3 then (match lastEdit with | some t => t * 1000000000 | none => truncSec le * 1000000000) else 0)
        r' := by
  obtain ⟨_, _, rfl⟩ := tablePut_eq_ok.mp h
  funext f
  cases f
  case bpm_analyzed =>
    show normV .odbl (.oreal r.bpmAnalyzed) = .oreal (storeReal r.bpmAnalyzed)
    cases hb : r.bpmAnalyzed with
    | none => rfl
    | some x =>
      simp only [storeReal, normV, F64.zero]
      by_cases h1 : F64.isNaN x = true
      · simp [h1]
      · by_cases h2 : x = F64.negZero
        · subst h2; simp [h1]
        · simp [h1, h2]
  case time_last_played =>
    show normV .otime (.otime (r.timeLastPlayed.map s64)) = .otime ((r.timeLastPlayed.map storeTime).map s64)
    cases r.timeLastPlayed with
    | none => rfl
    | some t => simp only [Option.map_some, s64_storeTime, normV]
  case date_created =>
    show FVal.time (truncSec (s64 r.dateCreated) * 1000000000) = .time (s64 (storeTime r.dateCreated))
    rw [s64_storeTime]
  case active_on_load_loops => cases s <;> rfl
  case last_edit_time => cases s <;> cases lastEdit <;> rfl
  -- every other member is present on all schemas, keeps its value under `normV`, and is not touched by `tablePut`
  all_goals rfl

theorem stmts_aligned (s : Schema) : ∃ st, genStmts s.to2 = some st ∧ alignedT s.to2 st = true :=
  track_bindings_aligned s.to2

/-- if the parameters of an aligned INSERT / UPDATE could be evaluated, the row passes `tablePut`'s `to_blob()`
checks: the statement binds every writable member through its conversion, the cues and the loops among them -/
theorem tablePut_ok_of_params {ps : List (WB TCol TField)} {l : List (TCol × Val)} (s : Schema) (i0 : Int) (u : Bytes)
    (oid da le : Int) (r : Row) (hps : alignedW tSpec (TField.writable s.to2) [] ps = true)
    (he : evalParams (toTable i0 u oid da le r) ps = .ok l) : ∃ r', tablePut s r = .ok r' := by
  obtain ⟨_, h1⟩ := written_converts hps he (f := .quick_cues) (by decide) rfl
  obtain ⟨_, h2⟩ := written_converts hps he (f := .loops) (by decide) rfl
  exact ⟨_, tablePut_eq_ok.mpr ⟨(toBlob_eq_ok.mp h1).1, (toBlob_eq_ok.mp h2).1, rfl⟩⟩

/-- **`create_track`'s table layer, per schema version.**  For each of the seven
2.x versions, with the INSERT and SELECT column lists regenerated from
`track_table.cpp` for that version: if `track_table::add` of the row
`snapshot_to_row` built (id 0, origin (uuid, 0)) succeeds with id `i`, then
`track_table::get(i)` returns exactly the row `tablePut s` describes, with id
`i` and origin (uuid, `i`). -/
theorem tablePut_is_get_add (s : Schema) :
    ∃ st, genStmts s.to2 = some st ∧
    ∀ (d d' : Table.TDb) (u : Bytes) (r : Row) (da le i : Int),
      d.Wf → d.uuid = .text u → in64 da = true → in64 le = true →
      tAdd st d (toTable 0 u 0 da le r) = (d', .ok i) →
      ∃ r', tablePut s r = .ok r' ∧
        tGet st d' i = .ok (some (toTable i u i (truncSec da * 1000000000)
          (if s.to2.ge .s2_20_3 then truncSec le * 1000000000 else 0) r')) := by
  obtain ⟨st, h1, h2⟩ := stmts_aligned s
  refine ⟨st, h1, ?_⟩
  intro d d' u r da le i hwf hu hda hle hadd
  obtain ⟨l, he, _⟩ := tAdd_row (alignedT_iff.mp h2).1 hadd
  obtain ⟨r', hput⟩ := tablePut_ok_of_params s 0 u 0 da le r (alignedT_iff.mp h2).1 he
  refine ⟨r', hput, ?_⟩
  have hwt := wt_toTable 0 u 0 da le r (by decide) (by decide) hda hle
  rw [track_add_get h2 hwf.ids hwt hadd, hu, tablePut_normRowT s r r' hput u da le none i 0]

/-- **`track::update`'s table layer, per schema version**: `get ∘ update` of the
row `snapshot_to_row` built (id of the track, origin (uuid, 0)) is `tablePut s`,
with the origin pair repaired and `last_edit_time` stamped by the database on
2.20.3 and later. -/
theorem tablePut_is_get_update (s : Schema) :
    ∃ st, genStmts s.to2 = some st ∧
    ∀ (d d' : Table.TDb) (u : Bytes) (r : Row) (da le i : Int) (old : Raw TCol),
      d.uuid = .text u → in64 i = true → in64 da = true → in64 le = true →
      findRow .id d.rows i = some old → in64 (d.clock * 1000000000) = true →
      tUpdate s.to2 st d (toTable i u 0 da le r) = (d', .ok ()) →
      ∃ r', tablePut s r = .ok r' ∧
        tGet st d' i = .ok (some (toTable i u i (truncSec da * 1000000000)
          (if s.to2.ge .s2_20_3 then d.clock * 1000000000 else 0) r')) ∧
        ∀ j, j ≠ i → findRow .id d'.rows j = findRow .id d.rows j := by
  obtain ⟨st, h1, h2⟩ := stmts_aligned s
  refine ⟨st, h1, ?_⟩
  intro d d' u r da le i old hu hi hda hle hex hclk hupd
  obtain ⟨i', l, n, _, _, he, _⟩ := tUpdate_ok hupd
  obtain ⟨r', hput⟩ := tablePut_ok_of_params s i u 0 da le r (alignedT_iff.mp h2).2.1 he
  refine ⟨r', hput, ?_⟩
  have hwt := wt_toTable i u 0 da le r hi (by decide) hda hle
  obtain ⟨g1, g2, _⟩ := track_update_get h2 hwt (rfl : toTable i u 0 da le r .id = .int i) hex hclk hupd
  refine ⟨?_, g2⟩
  rw [g1, hu, tablePut_normRowT s r r' hput u da le _ i i]
  cases s <;> rfl

end TracksV2
end EngineModel
