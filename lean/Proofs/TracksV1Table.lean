/-
The `Track` table's own constraints on the 1.x database model: the primary key
and `UNIQUE ([path])` (from 1.11.1 on), kept by create_track / update / every
setter / remove_track together with the row invariant of C06.
-/
import Proofs.TracksV1Db

namespace EngineModel.TracksV1

open Impl.V1 (GMarker HotCue LoopV Entry Wave Beat Cues Loops)
open Fl (FOps)


theorem pathTaken_false (d : Db) (id : Int) (p : Bytes) (h : pathTaken d id p = false)
    (hs : d.schema.ge .s1_11_1 = true) : ∀ e ∈ d.tracks, e.1 ≠ id → e.2.track.path ≠ some p := by
  intro e he hne hp
  unfold pathTaken at h
  rw [hs, Bool.true_and] at h
  have : (d.tracks.any fun e => e.1 ≠ id && e.2.track.path == some p) = true := by
    apply List.any_eq_true.mpr
    exact ⟨e, he, by simp [hne, hp]⟩
  rw [this] at h; cases h

theorem foldl_max_le (l : List (Int × TrackRows)) (m : Int) :
    m ≤ l.foldl (fun m e => if m < e.1 then e.1 else m) m ∧
    ∀ e ∈ l, e.1 ≤ l.foldl (fun m e => if m < e.1 then e.1 else m) m := by
  induction l generalizing m with
  | nil => exact ⟨Int.le_refl _, fun e he => by cases he⟩
  | cons hd t ih =>
    simp only [List.foldl_cons]
    by_cases hm : m < hd.1
    · simp only [hm, if_true]
      obtain ⟨h1, h2⟩ := ih hd.1
      refine ⟨by omega, ?_⟩
      intro e he
      cases he with
      | head => exact h1
      | tail _ h' => exact h2 e h'
    · simp only [hm, if_false]
      obtain ⟨h1, h2⟩ := ih m
      refine ⟨h1, ?_⟩
      intro e he
      cases he with
      | head => omega
      | tail _ h' => exact h2 e h'

theorem nextId_fresh (d : Db) : ∀ e ∈ d.tracks, e.1 < nextId d := by
  intro e he
  have := (foldl_max_le d.tracks 0).2 e he
  unfold nextId
  omega

theorem aget_nextId (d : Db) : aget (nextId d) d.tracks = none := by
  cases h : aget (nextId d) d.tracks with
  | none => rfl
  | some r =>
    have hm := aget_mem _ _ _ h
    have := nextId_fresh d _ hm
    simp only at this
    omega

theorem set_path_same (o : FOps) (r r' : TrackRows) (f : Field) (v : f.ty) (hf : f ≠ .relativePath)
    (h : set o r f v = .ok r') : r'.track.path = r.track.path :=
  congrArg (·.1) (set_cells o hf h)

theorem dbSet_path_free (o : FOps) (d d' : Db) (id : Int) (p : Bytes) (h : dbSet o d id .relativePath p = .ok d') :
    pathTaken d id p = false := by
  obtain ⟨r, _, hr, _⟩ := dbSet_ok o d d' id .relativePath p h
  rw [dbSet_some o d id .relativePath p r hr] at h
  split at h
  · cases h
  · next hc => exact Bool.eq_false_iff.mpr hc

/-- Replacing the rows of one track by rows whose path collides with no other track keeps the table well-formed. -/
theorem tableOk_aset (d : Db) (id : Int) (r' : TrackRows) (hok : TableOk d) (hinv : Inv r' = true)
    (hfree : d.schema.ge .s1_11_1 = true → ∀ e ∈ d.tracks, e.1 ≠ id → ∀ p, r'.track.path = some p → e.2.track.path ≠ some p) :
    TableOk { d with tracks := aset id r' d.tracks } := by
  obtain ⟨hk, hp, hr⟩ := hok
  refine ⟨nodup_aset _ _ _ hk, ?_, ?_⟩
  · intro hs e1 he1 e2 he2 hne p hp1
    rcases mem_aset _ _ _ hk e1 he1 with h1 | ⟨h1, h1'⟩ <;> rcases mem_aset _ _ _ hk e2 he2 with h2 | ⟨h2, h2'⟩
    · subst h1; subst h2; exact absurd rfl hne
    · subst h1; exact hfree hs e2 h2 h2' p hp1
    · subst h2
      intro hp2
      exact hfree hs e1 h1 h1' p hp2 hp1
    · exact hp hs e1 h1 e2 h2 hne p hp1
  · refine AllRows.of_one id hr (fun id' hid => aget_aset_other _ _ _ _ hid) fun r h => ?_
    cases (aget_aset_same id r' d.tracks).symm.trans h
    exact hinv

theorem dbSet_tableOk (o : FOps) (d d' : Db) (id : Int) (f : Field) (v : f.ty) (hok : TableOk d)
    (h : dbSet o d id f v = .ok d') : TableOk d' := by
  obtain ⟨r, r', hr, hs, hd'⟩ := dbSet_ok o d d' id f v h
  subst hd'
  have hi := (inv_iff r).mp (hok.rows _ _ hr)
  have hi' : Inv r' = true := (inv_iff r').mpr (set_inv o .s1_6_0 r r' f v hi hs)
  apply tableOk_aset d id r' hok hi'
  intro hsch e he hne p hp'
  by_cases hf : f = .relativePath
  · subst hf
    have hfree := dbSet_path_free o d _ id v h
    simp only [set, Res.ok.injEq] at hs
    subst hs
    have hvp : v = p := Option.some.inj hp'
    subst hvp
    exact pathTaken_false d id _ hfree hsch e he hne
  · have hpath := set_path_same o r r' f v hf hs
    rw [hpath] at hp'
    have hmem := aget_mem _ _ _ hr
    intro hc
    exact hok.paths hsch (id, r) hmem e he (fun h => hne h.symm) p hp' hc

theorem dbUpdate_tableOk (o : FOps) (d d' : Db) (id : Int) (x : Snap) (hok : TableOk d)
    (h : dbUpdate o d id x = .ok d') : TableOk d' := by
  obtain ⟨prior, rows, _, hw, hc, rfl⟩ := dbUpdate_eq_ok h
  have hi' := (inv_iff rows).mpr (writeSnap_inv o _ x _ _ hw)
  apply tableOk_aset d id rows hok hi'
  intro hsch e he hne p hp'
  rw [hp'] at hc
  exact pathTaken_false d id p hc hsch e he hne

theorem dbCreate_tableOk (o : FOps) (d d' : Db) (id : Int) (x : Snap) (hok : TableOk d)
    (h : dbCreate o d x = .ok (d', id)) : TableOk d' := by
  have hinv' := dbCreate_inv o d d' x id hok.rows h
  obtain ⟨rows, _, hc, rfl, _⟩ := dbCreate_eq_ok h
  have hfresh := nextId_fresh d
  have hnew : ∀ e ∈ d.tracks, e.1 ≠ nextId d := fun e he => by have := hfresh e he; omega
  refine ⟨?_, ?_, hinv'⟩
  · unfold KeysDistinct
    simp only [List.map_append, List.map_cons, List.map_nil]
    rw [List.nodup_append]
    refine ⟨hok.keys, by simp, ?_⟩
    intro a ha b hb
    simp only [List.mem_singleton] at hb
    subst hb
    obtain ⟨e, he, rfl⟩ := List.mem_map.mp ha
    exact hnew e he
  · intro hsch e1 he1 e2 he2 hne p hp1
    simp only [List.mem_append, List.mem_singleton] at he1 he2
    rcases he1 with h1 | h1 <;> rcases he2 with h2 | h2
    · exact hok.paths hsch e1 h1 e2 h2 hne p hp1
    · subst h2
      intro hp2
      simp only at hp2
      rw [hp2] at hc
      exact pathTaken_false d _ p hc hsch e1 h1 (hnew e1 h1) hp1
    · subst h1
      simp only at hp1
      rw [hp1] at hc
      exact pathTaken_false d _ p hc hsch e2 h2 (hnew e2 h2)
    · subst h1; subst h2; exact absurd rfl hne

theorem dbRemove_tableOk (d : Db) (id : Int) (hok : TableOk d) : TableOk (dbRemove d id) := by
  refine ⟨?_, ?_, AllRows.dbRemove id hok.rows⟩
  · unfold KeysDistinct dbRemove
    exact List.Nodup.sublist (List.Sublist.map _ (List.filter_sublist)) hok.keys
  · intro hsch e1 he1 e2 he2 hne p hp1
    exact hok.paths hsch e1 (List.mem_filter.mp he1).1 e2 (List.mem_filter.mp he2).1 hne p hp1

end EngineModel.TracksV1
