/-
The Track table as a keyed list: lookups after `put` / append.
-/
import EngineModel.TracksV2.Lens
import Proofs.TracksV2Basic
import Proofs.ListAux

namespace EngineModel
namespace TracksV2

/-- every stored id is below the next id to be allocated (AUTOINCREMENT) -/
def Db.Fresh (db : Db) : Prop := ∀ e ∈ db.rows, e.1 < db.nextId

theorem find?_map_update {α} (key : α → Nat) (u : α → α) (k id : Nat) (hu : ∀ e, key e = k → key (u e) = k)
    (l : List α) :
    (l.map fun e => if key e == k then u e else e).find? (key · == id) =
      (l.find? (key · == id)).map fun e => if id = k then u e else e := by
  rw [List.find?_map]
  have hp : ((fun x => key x == id) ∘ fun e => if key e == k then u e else e) = fun x => key x == id := by
    funext e
    by_cases h : key e = k
    · simp only [Function.comp, h, beq_self_eq_true, if_true, hu e h]
    · simp only [Function.comp, beq_eq_false_iff_ne.mpr h, Bool.false_eq_true, if_false]
  rw [hp]
  cases hf : l.find? (key · == id) with
  | none => rfl
  | some e =>
    have he : key e = id := by simpa using List.find?_some hf
    simp only [Option.map_some, he, beq_iff_eq]

theorem find_put (rows : List (Nat × Row)) (id id' : Nat) (r : Row) :
    ((rows.map fun e => if e.1 == id then (id, r) else e).find? (·.1 == id')).map (·.2) =
      if id' = id then ((rows.find? (·.1 == id)).map fun _ => r) else (rows.find? (·.1 == id')).map (·.2) := by
  rw [find?_map_update (·.1) (fun _ => (id, r)) id id' (fun _ _ => rfl), Option.map_map]
  by_cases h : id' = id
  · subst h; simp only [if_true, Function.comp_def]
  · simp only [h, if_false, Function.comp_def]

theorem get_mem (db : Db) (id : Nat) (r : Row) (h : db.get id = some r) : (id, r) ∈ db.rows := by
  unfold Db.get at h
  cases hf : db.rows.find? (·.1 == id) with
  | none => simp [hf] at h
  | some e =>
    simp [hf] at h
    have h1 := List.find?_some hf
    have h2 := List.mem_of_find?_eq_some hf
    simp at h1
    cases e with
    | mk a b => simp at h h1; subst h h1; exact h2

theorem Db.get_put (db : Db) (id id' : Nat) (r : Row) :
    (db.put id r).get id' = if id' = id then (db.get id).map (fun _ => r) else db.get id' := by
  unfold Db.put Db.get
  show (((db.rows.map fun e => if e.1 == id then (id, r) else e).find? (·.1 == id')).map (·.2)) = _
  rw [find_put]
  split <;> simp [Option.map_map, Function.comp_def]

theorem Db.get_put_same (db : Db) (id : Nat) (r r0 : Row) (h : db.get id = some r0) :
    (db.put id r).get id = some r := by
  rw [Db.get_put]; simp [h]

theorem Db.get_put_other (db : Db) (id id' : Nat) (r : Row) (h : id' ≠ id) :
    (db.put id r).get id' = db.get id' := by
  rw [Db.get_put]; simp [h]

theorem Db.get_append_new (db : Db) (hf : db.Fresh) (r : Row) (id' : Nat) :
    (Db.get ⟨db.rows ++ [(db.nextId, r)], db.nextId + 1⟩ id') =
      if id' = db.nextId then some r else db.get id' := by
  unfold Db.get
  simp only [List.find?_append]
  by_cases h : id' = db.nextId
  · subst h
    have : db.rows.find? (·.1 == db.nextId) = none := by
      rw [List.find?_eq_none]
      intro e he
      have := hf e he
      simp; omega
    simp [this]
  · have hb : (db.nextId == id') = false := by simp; omega
    cases hfnd : db.rows.find? (·.1 == id') <;> simp [h, hb]

theorem Db.get_none_of_fresh (db : Db) (hf : db.Fresh) (id : Nat) (h : db.nextId ≤ id) : db.get id = none := by
  unfold Db.get
  have : db.rows.find? (·.1 == id) = none := by
    rw [List.find?_eq_none]
    intro e he
    have := hf e he
    simp; omega
  simp [this]

end TracksV2
end EngineModel
