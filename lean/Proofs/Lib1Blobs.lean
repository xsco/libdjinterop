/-
"Every stored performance blob decodes", on the composite model.

`BlobsFix L`: every stored PerformanceData row is `RowFix` (TracksV1BlobBytes: each column is a fixed point of its codec, so
its bytes exist and decode to exactly the column).  `writeSnap` establishes it and every setter keeps it (`writeSnap_fix`,
`set_fix`), hence by `rows_eff` it holds in every reachable state of the composite.
-/
import Proofs.Lib1Inv
import Proofs.TracksV1BlobBytes

namespace EngineModel.Lib.V1
open EngineModel.Api
open EngineModel.TracksV1 (Snap Field TrackRows PerfRow aget aset RowFix PerfFix dbCreate dbUpdate dbSet)
open EngineModel.TracksV1.Fl (FOps)

def BlobsFix (L : Lib1) : Prop := ∀ id r, L.tr.rows id = some r → RowFix r

theorem blobsFix_empty (s : VSchema) (um up dir : Bytes) : BlobsFix (Lib1.empty s um up dir) := by
  intro id r h; cases h

theorem blobsFix_step (o : FOps) (s : VSchema) {L : Lib1} (h : BlobsFix L) (c : Call) : BlobsFix (step o s L c).1 :=
  rows_eff o s c (fun x p r _ => TracksV1.writeSnap_fix o _ x p r) (fun _ _ _ _ hr hs => TracksV1.set_fix o hr hs) h

theorem blobsFix_run (o : FOps) (s : VSchema) (cs : List Call) {L : Lib1} (h : BlobsFix L) : BlobsFix (run o s L cs) :=
  run_induction o s (P := fun L _ => BlobsFix L) (fun _ c _ h => blobsFix_step o s h c) cs L h

end EngineModel.Lib.V1
