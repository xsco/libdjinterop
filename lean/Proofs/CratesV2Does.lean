/-
What a call of the 2.x crate model does to the three tables (`Does`, `step_does`), for every state and without any
invariant: it throws and leaves the state alone, for a reason `Refused` names; or the recursive view does not end;
or it returns, having done one of a few table writes, with what the guards have established on the way.  The
simulations (forest, ordered lists, memberships), the absence of undefined behaviour, the frame facts of the composite
library and the statement programs all start from a case split on `Does`.
Core Lean only: the statement programs of C14 import this module.
-/
import Proofs.CratesV2Abs

namespace EngineModel.Db.V2

open EngineModel.Db.Chain EngineModel.Spec EngineModel.ListAux

section
/- Naming these eight functions in a simp attribute makes Lean generate their equation lemmas (one per branch of their `match`) here; a later
module that unfolds one of them by `simp [f]` then finds the lemmas instead of generating them again in each declaration.  Keep the section. -/
attribute [local simp] step Forest.step Members.step ordOk membersOps forestOp kidsChangeOk entsChangeOk
end

theorem ensureValidName_eq (n : Bytes) :
    ensureValidName n = if Forest.validName n then .ok () else .throw (exn "crate_invalid_name") := by
  unfold ensureValidName Forest.validName
  rw [show semicolon = Forest.semicolon from rfl]
  cases n.isEmpty <;> cases n.contains Forest.semicolon <;> rfl

theorem plAdd_invalid (d : Db) {title : Bytes} (parent next : Int) (h : Forest.validName title = false) :
    plAdd d title parent next = (d, .throw (exn "crate_invalid_name")) := by
  simp [plAdd, ensureValidName_eq, h]

theorem plAdd_valid (d : Db) {title : Bytes} (parent next : Int) (h : Forest.validName title = true) :
    plAdd d title parent next =
      ({ d with pl := insertBefore d.pl (d.plSeq + 1) parent next title, plSeq := d.plSeq + 1 }, .ok (some (d.plSeq + 1))) := by
  simp [plAdd, ensureValidName_eq, h]

theorem plUpdate_invalid (d : Db) (i : Int) {title : Bytes} (parent next : Int) (h : Forest.validName title = false) :
    plUpdate d i title parent next = (d, .throw (exn "crate_invalid_name")) := by
  simp [plUpdate, ensureValidName_eq, h]

theorem plUpdate_clash (d : Db) {i : Int} {title : Bytes} {parent : Int} (next : Int) {old : Row Bytes}
    (h : Forest.validName title = true) (hg : get d.pl i = some old) (hc : titleClash d.pl i parent title = true) :
    plUpdate d i title parent next = (d, .throw .sqlite_error) := by
  simp only [plUpdate, ensureValidName_eq, h, if_true, hg, hc]
  split <;> rfl

theorem plUpdate_same (d : Db) {i : Int} {title : Bytes} {old : Row Bytes}
    (h : Forest.validName title = true) (hg : get d.pl i = some old) (hc : titleClash d.pl i old.key title = false) :
    plUpdate d i title old.key old.next = ({ d with pl := setVal d.pl i title }, .ok none) := by
  simp [plUpdate, ensureValidName_eq, h, hg, hc]

theorem plUpdate_move (d : Db) {i : Int} {title : Bytes} {parent : Int} (next : Int) {old : Row Bytes}
    (h : Forest.validName title = true) (hg : get d.pl i = some old) (hk : old.key ≠ parent)
    (hc : titleClash d.pl i parent title = false) :
    plUpdate d i title parent next = ({ d with pl := move d.pl i old.key old.next parent next title }, .ok none) := by
  have : (old.next == next && old.key == parent) = false := by simp [hk]
  simp [plUpdate, ensureValidName_eq, h, hg, hc, this]

/-- set_parent's update: either way the row keeps its title and gets parent `k`, unless the title is taken there. -/
theorem plUpdate_reparent {d : Db} {c : Int} {row : Row Bytes} (k : Int) (hv : Forest.validName row.val = true)
    (hg : get d.pl c = some row) :
    plUpdate d c row.val k (if row.key = k then row.next else 0) =
      if titleClash d.pl c k row.val then (d, .throw .sqlite_error) else
      ({ d with pl := if row.key = k then setVal d.pl c row.val else move d.pl c row.key row.next k 0 row.val }, .ok none) := by
  by_cases hk : row.key = k
  · subst hk
    cases hc : titleClash d.pl c row.key row.val with
    | true => simp [plUpdate_clash d row.next hv hg hc]
    | false => simp [plUpdate_same d hv hg hc]
  · cases hc : titleClash d.pl c k row.val with
    | true => simp [hk, plUpdate_clash d 0 hv hg hc]
    | false => simp [hk, plUpdate_move d 0 hv hg hk hc]

theorem peFind_some {d : Db} {l t u : Int} {e : Row Ent} (h : peFind d l t u = some e) :
    e ∈ d.pe ∧ e.key = l ∧ e.val = ⟨t, u⟩ := by
  obtain ⟨h1, h2⟩ := List.mem_filter.mp (List.mem_of_getLast? h)
  simp only [Bool.and_eq_true, beq_iff_eq] at h2
  cases hv : e.val
  simp_all

theorem levels_ne_throw (t : Table Bytes) : ∀ (n : Nat) (L : List Int) (e : Exn), levels t n L ≠ .throw e := by
  intro n
  induction n with
  | zero => intro L e h; cases L <;> cases h
  | succ n ih =>
    intro L e h
    cases L with
    | nil => cases h
    | cons a L =>
      simp only [levels] at h
      cases hl : levels t n ((a :: L).flatMap (kidsOf t)) with
      | ok r => rw [hl] at h; cases h
      | throw e' => exact ih _ _ hl
      | ub u => rw [hl] at h; cases h

theorem descendantIds_ne_throw (t : Table Bytes) (c : Int) (e : Exn) : descendantIds t c ≠ .throw e := by
  unfold descendantIds
  split
  · exact levels_ne_throw t _ _ e
  · exact nofun

/-- Under an optional parent, after an optional sibling. -/
def mkCreate : Option Int → Bytes → Option Int → Op
  | none, n, none => .createRoot n
  | none, n, some a => .createRootAfter n a
  | some p, n, none => .createSub p n
  | some p, n, some a => .createSubAfter p n a

/-- The four creations as one, under an optional parent `p` and after an optional sibling: existence test of the
parent, name test under its key, lookup of `after`, INSERT. -/
def createCore (d : Db) (p : Option Int) (name : Bytes) (after : Option Int) : Db × Res Out :=
  if p.any (!plExists d ·) then (d, .throw (exn "crate_deleted"))
  else if (findId d (keyOf p) name).isSome then (d, .throw (exn "crate_already_exists"))
  else match after with
    | none => plAdd d name (keyOf p) 0
    | some a =>
      match get d.pl a with
      | none => (d, .throw (exn "crate_deleted"))
      | some r => if r.key != keyOf p then (d, .throw (exn "crate_invalid_parent")) else plAdd d name (keyOf p) r.next

/-- `create_root_crate*` / `create_sub_crate*` as one operation under an optional parent. -/
def createOp (p : Option Int) (n : Bytes) : Forest.Op :=
  match p with
  | none => .createRoot n
  | some q => .createSub q n

/-- Why a call is turned down: the guard that failed, in the Model's own terms. -/
inductive Refused (d : Db) : Op → Prop
  | parentGone (q : Int) (n : Bytes) (a : Option Int) (h : plExists d q = false) : Refused d (mkCreate (some q) n a)
  | nameTaken (p : Option Int) (n : Bytes) (a : Option Int) (hlive : ∀ q, p = some q → plExists d q = true)
      (h : (findId d (keyOf p) n).isSome = true) : Refused d (mkCreate p n a)
  | notSibling (p : Option Int) (n : Bytes) (a : Int) (hlive : ∀ q, p = some q → plExists d q = true)
      (h : ∀ r, get d.pl a = some r → r.key ≠ keyOf p) : Refused d (mkCreate p n (some a))
  | badName (p : Option Int) (n : Bytes) (a : Option Int) (h : Forest.validName n = false) : Refused d (mkCreate p n a)
  | noRow {op : Op} (c : Int) (h : get d.pl c = none) (hop : (∃ n, op = .rename c n) ∨ ∃ p, op = .setParent c p) :
      Refused d op
  | renameBad (c : Int) (n : Bytes) (h : Forest.validName n = false) : Refused d (.rename c n)
  | renameClash (c : Int) (n : Bytes) (row : Row Bytes) (hg : get d.pl c = some row)
      (h : titleClash d.pl c row.key n = true) : Refused d (.rename c n)
  | selfParent (c : Int) : Refused d (.setParent c (some c))
  | deadParent (c q : Int) (h : plExists d q = false) : Refused d (.setParent c (some q))
  | cycle (c q : Int) (ds : List Int) (hds : descendantIds d.pl c = .ok ds) (h : q ∈ ds) : Refused d (.setParent c (some q))
  | moveBad (c : Int) (p : Option Int) (row : Row Bytes) (hg : get d.pl c = some row)
      (h : Forest.validName row.val = false) : Refused d (.setParent c p)
  | moveClash (c : Int) (p : Option Int) (row : Row Bytes) (hg : get d.pl c = some row)
      (hp : ∀ q, p = some q → q ≠ c ∧ plExists d q = true ∧ ∃ ds, descendantIds d.pl c = .ok ds ∧ ds.contains q = false)
      (h : titleClash d.pl c (keyOf p) row.val = true) : Refused d (.setParent c p)
  | noCrate (c : Int) (h : plExists d c = false) : Refused d (.removeCrate c)
  | noTrack (t : Int) (h : t ∉ d.tracks) : Refused d (.removeTrack t)
  | addDead (c t : Int) (h : plExists d c = false ∨ t ∉ d.tracks) : Refused d (.addTrack c t)
  | dup (l t u : Int) (e : Row Ent) (h : peFind d l t u = some e) : Refused d (.peAddBack l t u true)
  | noEntry (l e : Int) (h : (rowsOf d.pe l).find? (·.id == e) = none) : Refused d (.peRemove l e)

/-- What a call does: it throws and leaves the state alone (`Refused` says which guard failed), or it returns after one
of nine table writes or without writing (`present`, `absent`), each with what the guards have established.
`diverges`: the recursive view on a cyclic table. -/
inductive Does (d : Db) : Op → Db × Res Out → Prop
  | throws {op : Op} (e : Exn) (why : Refused d op) : Does d op (d, .throw e)
  | diverges {op : Op} (u : Ub) (c : Int) (hds : descendantIds d.pl c = .ub u) (hop : forestOp op ≠ none) : Does d op (d, .ub u)
  | inserted (p : Option Int) (name : Bytes) (after : Option Int) (b : Int)
      (hlive : ∀ q, p = some q → plExists d q = true) (hfree : (findId d (keyOf p) name).isSome = false)
      (hv : Forest.validName name = true)
      (hb : match after with
        | none => b = 0
        | some a => ∃ row, get d.pl a = some row ∧ row.key = keyOf p ∧ b = row.next) :
      Does d (mkCreate p name after)
        ({ d with pl := insertBefore d.pl (d.plSeq + 1) (keyOf p) b name, plSeq := d.plSeq + 1 }, .ok (some (d.plSeq + 1)))
  | retitled (c : Int) (name : Bytes) (row : Row Bytes) (hg : get d.pl c = some row) (hv : Forest.validName name = true)
      (hc : titleClash d.pl c row.key name = false) :
      Does d (.rename c name) ({ d with pl := setVal d.pl c name }, .ok none)
  | reparented (c : Int) (p : Option Int) (row : Row Bytes) (hg : get d.pl c = some row)
      (hp : ∀ q, p = some q → q ≠ c ∧ plExists d q = true ∧ ∃ ds, descendantIds d.pl c = .ok ds ∧ ds.contains q = false)
      (hv : Forest.validName row.val = true) (hc : titleClash d.pl c (keyOf p) row.val = false) :
      Does d (.setParent c p)
        ({ d with pl := if row.key = keyOf p then setVal d.pl c row.val else move d.pl c row.key row.next (keyOf p) 0 row.val },
          .ok none)
  | removed (c : Int) (ds : List Int) (he : plExists d c = true) (hds : descendantIds d.pl c = .ok ds) :
      Does d (.removeCrate c) (plRemove d (c :: ds), .ok none)
  | trackCreated :
      Does d .createTrack ({ d with tracks := d.tracks ++ [d.trSeq + 1], trSeq := d.trSeq + 1 }, .ok (some (d.trSeq + 1)))
  | trackRemoved (t : Int) (ht : t ∈ d.tracks) :
      Does d (.removeTrack t)
        ({ d with pe := (ids d.pl).foldl (rmTrackIn t) d.pe, tracks := d.tracks.filter (· != t) }, .ok none)
  | present {op : Op} (l t u : Int) (e : Row Ent)
      (hop : (op = .addTrack l t ∧ u = 0 ∧ plExists d l = true ∧ t ∈ d.tracks) ∨ ∃ f, op = .peAddBack l t u f)
      (hf : peFind d l t u = some e) : Does d op (d, .ok (some e.id))
  | appended {op : Op} (l t u : Int)
      (hop : (op = .addTrack l t ∧ u = 0 ∧ plExists d l = true ∧ t ∈ d.tracks) ∨ ∃ f, op = .peAddBack l t u f)
      (hf : peFind d l t u = none) :
      Does d op ({ d with pe := appendBack d.pe (d.peSeq + 1) l ⟨t, u⟩, peSeq := d.peSeq + 1 }, .ok (some (d.peSeq + 1)))
  | entryRemoved {op : Op} (l e : Int) (row : Row Ent) (hrow : row ∈ d.pe ∧ row.id = e ∧ row.key = l)
      (hop : (∃ t, op = .removeTrackFrom l t ∧ peFind d l t 0 = some row) ∨ op = .peRemove l e) :
      Does d op ({ d with pe := deleteKeyed fires d.pe l e }, .ok none)
  | absent (l t : Int) (hf : peFind d l t 0 = none) : Does d (.removeTrackFrom l t) (d, .ok none)
  | cleared {op : Op} (l : Int) (hop : op = .clearTracks l ∨ op = .peClear l) :
      Does d op ({ d with pe := clearKey fires d.pe l }, .ok none)

namespace Does
variable {d : Db}

theorem plAdd (p : Option Int) (name : Bytes) (after : Option Int) (b : Int)
    (hlive : ∀ q, p = some q → plExists d q = true) (hfree : (findId d (keyOf p) name).isSome = false)
    (hb : match after with
      | none => b = 0
      | some a => ∃ row, get d.pl a = some row ∧ row.key = keyOf p ∧ b = row.next) :
    Does d (mkCreate p name after) (V2.plAdd d name (keyOf p) b) := by
  cases hv : Forest.validName name with
  | true => rw [plAdd_valid d _ b hv]; exact .inserted p name after b hlive hfree hv hb
  | false => rw [plAdd_invalid d _ b hv]; exact .throws _ (.badName p name after hv)

end Does

theorem does_create (d : Db) (p : Option Int) (name : Bytes) (after : Option Int) :
    Does d (mkCreate p name after) (createCore d p name after) := by
  unfold createCore
  cases hd : p.any (!plExists d ·) with
  | true =>
    obtain ⟨q, rfl, hq⟩ : ∃ q, p = some q ∧ plExists d q = false := by cases p <;> simp_all
    exact .throws _ (.parentGone q name after hq)
  | false =>
    have hlive : ∀ q, p = some q → plExists d q = true := by rintro q rfl; simpa using hd
    cases hf : (findId d (keyOf p) name).isSome with
    | true => exact .throws _ (.nameTaken p name after hlive hf)
    | false =>
      cases after with
      | none => exact Does.plAdd p name none 0 hlive hf rfl
      | some a =>
        dsimp only
        cases hg : get d.pl a with
        | none => exact .throws _ (.notSibling p name a hlive fun r hr => by rw [hg] at hr; cases hr)
        | some r =>
          by_cases hk : r.key = keyOf p
          · simpa [hk] using Does.plAdd p name (some a) r.next hlive hf ⟨r, hg, hk, rfl⟩
          · simpa [hk] using (Does.throws (d := d) (op := mkCreate p name (some a)) (exn "crate_invalid_parent")
              (.notSibling p name a hlive fun r' hr' => by rw [hg] at hr'; cases hr'; exact hk))

theorem does_plUpdate_reparent {d : Db} {c : Int} {p : Option Int} {row : Row Bytes} (hg : get d.pl c = some row)
    (hp : ∀ q, p = some q → q ≠ c ∧ plExists d q = true ∧ ∃ ds, descendantIds d.pl c = .ok ds ∧ ds.contains q = false) :
    Does d (.setParent c p) (plUpdate d c row.val (keyOf p) (if row.key = keyOf p then row.next else 0)) := by
  cases hv : Forest.validName row.val with
  | false => rw [plUpdate_invalid d c _ _ hv]; exact .throws _ (.moveBad c p row hg hv)
  | true =>
    rw [plUpdate_reparent (keyOf p) hv hg]
    cases hc : titleClash d.pl c (keyOf p) row.val with
    | true => exact .throws _ (.moveClash c p row hg hp hc)
    | false => exact .reparented c p row hg hp hv hc

theorem step_does (d : Db) (op : Op) : Does d op (step d op) := by
  cases op with
  | createRoot n => exact does_create d none n none
  | createRootAfter n a => exact does_create d none n (some a)
  | createSub p n => exact does_create d (some p) n none
  | createSubAfter p n a => exact does_create d (some p) n (some a)
  | rename c n =>
    cases hg : get d.pl c with
    | none => simpa [step, hg] using (Does.throws (d := d) (op := .rename c n) (exn "crate_deleted") (.noRow c hg (.inl ⟨n, rfl⟩)))
    | some row =>
      rw [show step d (.rename c n) = plUpdate d c n row.key row.next by simp [step, hg]]
      cases hv : Forest.validName n with
      | false => rw [plUpdate_invalid d c _ _ hv]; exact .throws _ (.renameBad c n hv)
      | true =>
        cases hc : titleClash d.pl c row.key n with
        | true => rw [plUpdate_clash d row.next hv hg hc]; exact .throws _ (.renameClash c n row hg hc)
        | false => rw [plUpdate_same d hv hg hc]; exact .retitled c n row hg hv hc
  | setParent c p =>
    by_cases hpc : p = some c
    · subst hpc; simpa [step] using (Does.throws (d := d) (op := .setParent c (some c)) (exn "crate_invalid_parent") (.selfParent c))
    have hpc' : (p == some c) = false := by simpa using hpc
    cases hg : get d.pl c with
    | none => simpa [step, hpc', hg] using (Does.throws (d := d) (op := .setParent c p) (exn "crate_deleted") (.noRow c hg (.inr ⟨p, rfl⟩)))
    | some row =>
      have hcore : ∀ k, (if row.key != k then plUpdate d c row.val k 0 else plUpdate d c row.val row.key row.next) =
          plUpdate d c row.val k (if row.key = k then row.next else 0) := by
        intro k; by_cases hk : row.key = k <;> simp [hk]
      cases p with
      | none =>
        have := does_plUpdate_reparent (d := d) (c := c) (p := none) hg nofun
        simp only [step, hpc', hg, Bool.false_eq_true, if_false]
        rw [hcore 0]; exact this
      | some q =>
        cases he : plExists d q with
        | false => simpa [step, hpc', hg, he] using (Does.throws (d := d) (op := .setParent c (some q)) (exn "crate_deleted") (.deadParent c q he))
        | true =>
          cases hds : descendantIds d.pl c with
          | throw e => exact absurd hds (descendantIds_ne_throw _ _ _)
          | ub u => simpa [step, hpc', hg, he, hds] using (Does.diverges (d := d) (op := .setParent c (some q)) u c hds nofun)
          | ok ds =>
            by_cases hq : q ∈ ds
            · simpa [step, hpc', hg, he, hds, hq] using
                (Does.throws (d := d) (op := .setParent c (some q)) (exn "crate_invalid_parent") (.cycle c q ds hds hq))
            · have := does_plUpdate_reparent (d := d) (c := c) (p := some q) hg (fun q' hq' => by
                cases hq'; exact ⟨fun e => hpc (by rw [e]), he, ds, hds, by simpa using hq⟩)
              have hq' : ds.contains q = false := by simpa using hq
              simp only [step, hpc', hg, he, hds, hq', Bool.false_eq_true, if_false, Bool.not_true]
              rw [hcore q]; exact this
  | removeCrate c =>
    cases he : plExists d c with
    | false => simpa [step, he] using (Does.throws (d := d) (op := .removeCrate c) .invalid_argument (.noCrate c he))
    | true =>
      cases hds : descendantIds d.pl c with
      | throw e => exact absurd hds (descendantIds_ne_throw _ _ _)
      | ub u => simpa [step, he, hds] using (Does.diverges (d := d) (op := .removeCrate c) u c hds nofun)
      | ok ds => simpa [step, he, hds] using Does.removed (d := d) c ds he hds
  | createTrack => exact .trackCreated
  | removeTrack t =>
    by_cases ht : t ∈ d.tracks
    · simpa [step, ht] using Does.trackRemoved (d := d) t ht
    · simpa [step, ht] using (Does.throws (d := d) (op := .removeTrack t) .invalid_argument (.noTrack t ht))
  | addTrack c t =>
    cases he : plExists d c with
    | false => simpa [step, he] using (Does.throws (d := d) (op := .addTrack c t) (exn "crate_deleted") (.addDead c t (.inl he)))
    | true =>
      by_cases ht : t ∈ d.tracks
      · cases hf : peFind d c t 0 with
        | some e => simpa [step, he, ht, peAddBack, hf] using Does.present (d := d) (op := .addTrack c t) c t 0 e (.inl ⟨rfl, rfl, he, ht⟩) hf
        | none =>
          simpa [step, he, ht, peAddBack, hf] using
            Does.appended (d := d) (op := .addTrack c t) c t 0 (.inl ⟨rfl, rfl, he, ht⟩) hf
      · simpa [step, he, ht] using (Does.throws (d := d) (op := .addTrack c t) (exn "track_deleted") (.addDead c t (.inr ht)))
  | removeTrackFrom c t =>
    cases hf : peFind d c t 0 with
    | some e =>
      simpa [step, hf] using Does.entryRemoved (d := d) (op := .removeTrackFrom c t) c e.id e
        ⟨(peFind_some hf).1, rfl, (peFind_some hf).2.1⟩ (.inl ⟨t, rfl, hf⟩)
    | none => simpa [step, hf] using Does.absent (d := d) c t hf
  | clearTracks c => exact .cleared c (.inl rfl)
  | peAddBack l t u f =>
    cases hf : peFind d l t u with
    | some e =>
      cases f with
      | true => simpa [step, peAddBack, hf] using (Does.throws (d := d) (op := .peAddBack l t u true) .invalid_argument (.dup l t u e hf))
      | false => simpa [step, peAddBack, hf] using Does.present (d := d) (op := .peAddBack l t u false) l t u e (.inr ⟨_, rfl⟩) hf
    | none => simpa [step, peAddBack, hf] using Does.appended (d := d) (op := .peAddBack l t u f) l t u (.inr ⟨_, rfl⟩) hf
  | peRemove l e =>
    cases hf : (rowsOf d.pe l).find? (·.id == e) with
    | none => simpa [step, hf] using (Does.throws (d := d) (op := .peRemove l e) .invalid_argument (.noEntry l e hf))
    | some row =>
      obtain ⟨hr, hk⟩ := mem_rowsOf.mp (List.mem_of_find?_eq_some hf)
      have hid : row.id = e := by simpa using List.find?_some hf
      simpa [step, hf] using Does.entryRemoved (d := d) (op := .peRemove l e) l e row ⟨hr, hid, hk⟩ (.inr rfl)
  | peClear l => exact .cleared l (.inr rfl)

theorem isCreate_mkCreate (p : Option Int) (n : Bytes) (a : Option Int) : isCreate (mkCreate p n a) = true := by
  cases p <;> cases a <;> rfl

theorem forestOp_mkCreate (p : Option Int) (n : Bytes) (a : Option Int) :
    forestOp (mkCreate p n a) = some (createOp p n) := by
  cases p <;> cases a <;> rfl

theorem afterOk_mkCreate (f : Forest.Forest) (p : Option Int) (n : Bytes) (a : Int) :
    afterOk f (mkCreate p n (some a)) = (f.childrenOpt p).contains a := by
  cases p <;> rfl

theorem membersOps_mkCreate (f : Forest.Forest) (p : Option Int) (n : Bytes) (a : Option Int) (res : Res Out) :
    membersOps f (mkCreate p n a) res = if outcome res == some true then [.newCrate (newIdOf res)] else [] := by
  cases p <;> cases a <;> rfl

/-- At the end, or immediately after the sibling `a`. -/
def placed (a : Option Int) (i : Int) (l : List Int) : List Int :=
  match a with
  | none => l ++ [i]
  | some a => Ordered.insertAfter a i l

theorem ordOk_mkCreate (S : Ord) (f : Forest.Forest) (p : Option Int) (n : Bytes) (a : Option Int) (i : Int) :
    ordOk S f (mkCreate p n a) (some i) = { S with kids := setKey S.kids (keyOf p) (placed a i (S.kids (keyOf p))) } := by
  cases p <;> cases a <;> rfl

/-- What the property prescribes for the list a creation goes to. -/
def placedC (a : Option Int) (i : Int) : Ordered.Change :=
  match a with
  | none => .appended i
  | some a => .insertedAfter a i

theorem kidsChangeOk_mkCreate (f : Forest.Forest) (p : Option Int) (n : Bytes) (a : Option Int) (i k : Int) :
    kidsChangeOk f (mkCreate p n a) (some i) k = if k = keyOf p then placedC a i else .same := by
  cases p <;> cases a <;> rfl

namespace Does
variable {d : Db} {op : Op} {r : Db × Res Out}

theorem cases (h : Does d op r) : r.1 = d ∨ ∃ v, r.2 = .ok v := by
  cases h with
  | throws | diverges => exact .inl rfl
  | _ => exact .inr ⟨_, rfl⟩

theorem tracks_kept (h : Does d op r) (h1 : op ≠ .createTrack) (h2 : ∀ t, op ≠ .removeTrack t) :
    r.1.tracks = d.tracks ∧ r.1.trSeq = d.trSeq := by
  cases h with
  | trackCreated => exact absurd rfl h1
  | trackRemoved t => exact absurd rfl (h2 t)
  | _ => exact ⟨rfl, rfl⟩

/-- A creation hands out the next AUTOINCREMENT id. -/
theorem create_id (h : Does d op r) (hc : isCreate op = true) {out : Out} (ho : r.2 = .ok out) :
    out = some (d.plSeq + 1) := by
  cases h with
  | inserted => cases ho; rfl
  | throws | diverges => cases ho
  | retitled | reparented | removed | trackCreated | trackRemoved | absent => cases hc
  | present _ _ _ _ hop => rcases hop with ⟨rfl, _⟩ | ⟨_, rfl⟩ <;> cases hc
  | appended _ _ _ hop => rcases hop with ⟨rfl, _⟩ | ⟨_, rfl⟩ <;> cases hc
  | entryRemoved _ _ _ _ hop => rcases hop with ⟨_, rfl, _⟩ | rfl <;> cases hc
  | cleared _ hop => rcases hop with rfl | rfl <;> cases hc

end Does

end EngineModel.Db.V2
