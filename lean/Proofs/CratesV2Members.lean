/-
Schema 2.x crate contents refine Spec.Members.

`absM d`: live crates = Playlist ids, live tracks, pairs = (listId, trackId) of the PlaylistEntity rows of the
library's OWN database, in row order.  Entries of other databases (uuid tag ≠ 0) may sit in any list — they are
nobody's membership here, and no operation of the crate API may confuse them with the library's tracks.
`MemInv`: every own entry refers to a live playlist and a live track; track ids are a key within the counter
(no (list, database, track) triple twice: `ChInv.pairs`).
`MStep`: the Spec.Members judge, driven by the Model's answer and the Spec forest, accepts the step and tracks
`absM`; `MemInv` is kept.  Histories: `memOp` (the crate / track API interleaved with table-level additions of
foreign entries).
-/
import Proofs.CratesV2Rep

namespace EngineModel.Db.V2

open EngineModel.Db.Chain EngineModel.Spec EngineModel.ListAux

structure MemInv (d : Db) : Prop where
  live : ∀ c ∈ cores d.pe, c.2.2.uuid = 0 → c.2.1 ∈ ids d.pl ∧ c.2.2.track ∈ d.tracks
  tracks_nodup : d.tracks.Nodup
  tracks_seq : ∀ t ∈ d.tracks, 0 < t ∧ t ≤ d.trSeq
  trSeq0 : 0 ≤ d.trSeq

theorem memInv_empty : MemInv Db.empty := by
  refine ⟨?_, ?_, ?_, ?_⟩ <;> simp [Db.empty, cores]

theorem absM_pairs (d : Db) : (absM d).pairs = ((cores d.pe).filter own).map pairOf := rfl

theorem own_iff {c : Int × Int × Ent} : own c = true ↔ c.2.2.uuid = 0 := by simp [own]

theorem ent_beq_own {v : Ent} (t : Int) (hu : v.uuid = 0) : (v == (⟨t, 0⟩ : Ent)) = (v.track == t) := by
  rw [Bool.eq_iff_iff, beq_iff_eq, beq_iff_eq, ent_eq]
  exact and_iff_left hu

theorem pairs_filter (cs : List (Int × Int × Ent)) (q : Int × Int × Ent → Bool) (q' : Int × Int → Bool)
    (hq : ∀ c ∈ cs, own c = true → q c = q' (pairOf c)) :
    ((cs.filter q).filter own).map pairOf = ((cs.filter own).map pairOf).filter q' := by
  rw [List.filter_map, List.filter_filter, List.filter_filter]
  congr 1
  apply List.filter_congr
  intro c hc
  by_cases ho : own c = true
  · simp [ho, hq c hc ho, Function.comp]
  · have : own c = false := by simpa using ho
    simp [this]

theorem mem_pairs_iff {d : Db} {c t : Int} :
    (c, t) ∈ (absM d).pairs ↔ ∃ r ∈ d.pe, r.key = c ∧ r.val.track = t ∧ r.val.uuid = 0 := by
  simp only [absM_pairs, List.mem_map, List.mem_filter, mem_cores, pairOf, Prod.mk.injEq, own_iff]
  constructor
  · rintro ⟨_, ⟨⟨r, hr, rfl⟩, hu⟩, e⟩
    exact ⟨r, hr, e.1, e.2, hu⟩
  · rintro ⟨r, hr, e1, e2, hu⟩
    exact ⟨core r, ⟨⟨r, hr, rfl⟩, hu⟩, e1, e2⟩

theorem peFind_isSome_iff {d : Db} {l t : Int} : (peFind d l t 0).isSome = true ↔ (l, t) ∈ (absM d).pairs := by
  rw [mem_pairs_iff, peFind, List.getLast?_isSome, ← List.length_pos_iff, List.length_pos_iff_exists_mem]
  simp only [List.mem_filter, Bool.and_eq_true, beq_iff_eq, and_assoc]

theorem peFind_none_iff {d : Db} {l t : Int} : peFind d l t 0 = none ↔ (l, t) ∉ (absM d).pairs := by
  rw [← peFind_isSome_iff]
  cases peFind d l t 0 <;> simp

theorem MemInv.closed {d : Db} (hM : MemInv d) : ∀ p ∈ (absM d).pairs, p.1 ∈ (absM d).crates ∧ p.2 ∈ (absM d).tracks := by
  intro p hp
  obtain ⟨c, hc, rfl⟩ := List.mem_map.mp hp
  obtain ⟨hc1, hc2⟩ := List.mem_filter.mp hc
  exact hM.live c hc1 (own_iff.mp hc2)

theorem judgeM_nil {s : Members.State} {f : Forest.Forest} {op : Op} {res : Res Out} {ok : Bool}
    (ho : outcome res = some ok) (h : membersOps f op res = []) : judgeM s f op res = some s := by
  simp [judgeM, ho, h]

theorem judgeM_single {s : Members.State} {f : Forest.Forest} {op : Op} {res : Res Out} {ok : Bool} {mop : Members.Op}
    (ho : outcome res = some ok) (h : membersOps f op res = [mop]) : judgeM s f op res = judgeM1 s mop ok := by
  simp [judgeM, ho, h]

section judge
variable (s : Members.State)

theorem judgeM1_newCrate (c : Int) : judgeM1 s (.newCrate c) true = some { s with crates := s.crates ++ [c] } := rfl

theorem judgeM1_dropCrates (cs : List Int) : judgeM1 s (.dropCrates cs) true =
    some { s with crates := s.crates.filter (fun c => !cs.contains c), pairs := s.pairs.filter (fun p => !cs.contains p.1) } := rfl

theorem judgeM1_newTrack {t : Int} (ht : t ∉ s.tracks) :
    judgeM1 s (.newTrack t) true = some { s with tracks := s.tracks ++ [t] } := by
  simp [judgeM1, ht, Members.step, Members.Verdict.next]

theorem judgeM1_dropTrack {t : Int} (ht : t ∈ s.tracks) : judgeM1 s (.dropTrack t) true =
    some { s with tracks := s.tracks.filter (· != t), pairs := s.pairs.filter (·.2 != t) } := by
  simp [judgeM1, ht, Members.step, Members.Verdict.next]

theorem judgeM1_dropTrack_throw {t : Int} (ht : t ∉ s.tracks) : judgeM1 s (.dropTrack t) false = some s := by
  simp [judgeM1, ht, Members.step, Members.Verdict.next]

theorem judgeM1_add {c t : Int} (hc : c ∈ s.crates) (ht : t ∈ s.tracks) : judgeM1 s (.add c t) true =
    some (if (c, t) ∈ s.pairs then s else { s with pairs := s.pairs ++ [(c, t)] }) := by
  by_cases hp : (c, t) ∈ s.pairs <;> simp [judgeM1, hc, ht, hp, Members.step, Members.Verdict.next]

theorem judgeM1_add_throw {c t : Int} (h : c ∉ s.crates ∨ t ∉ s.tracks) : judgeM1 s (.add c t) false = some s := by
  by_cases hc : c ∈ s.crates
  · simp [judgeM1, hc, h.resolve_left (not_not_intro hc), Members.step, Members.Verdict.next]
  · simp [judgeM1, hc, Members.step, Members.Verdict.next]

/-- `remove` and `clear` of a dead crate are accepted as no-ops; when no pair names a dead crate, that is what the
filter for a live crate does as well. -/
theorem judgeM1_remove (hcl : ∀ p ∈ s.pairs, p.1 ∈ s.crates) (c t : Int) :
    judgeM1 s (.remove c t) true = some { s with pairs := s.pairs.filter (· != (c, t)) } := by
  by_cases hc : c ∈ s.crates
  · simp [judgeM1, hc, Members.step, Members.Verdict.next]
  · have : s.pairs.filter (· != (c, t)) = s.pairs :=
      List.filter_eq_self.mpr fun p hp => bne_iff_ne.mpr fun e => hc (by have := hcl p hp; rwa [e] at this)
    simp [judgeM1, hc, Members.step, Members.Verdict.next, this]

theorem judgeM1_clear (hcl : ∀ p ∈ s.pairs, p.1 ∈ s.crates) (c : Int) :
    judgeM1 s (.clear c) true = some { s with pairs := s.pairs.filter (·.1 != c) } := by
  by_cases hc : c ∈ s.crates
  · simp [judgeM1, hc, Members.step, Members.Verdict.next]
  · have : s.pairs.filter (·.1 != c) = s.pairs :=
      List.filter_eq_self.mpr fun p hp => bne_iff_ne.mpr fun e => hc (e ▸ hcl p hp)
    simp [judgeM1, hc, Members.step, Members.Verdict.next, this]

end judge

/-- Through the crate / track API alone every entry carries the library's own uuid. -/
def AllOwn (d : Db) : Prop := ∀ c ∈ cores d.pe, c.2.2.uuid = 0

structure MStep (d : Db) (op : Op) : Prop where
  judge : judgeM (absM d) (absF d) op (step d op).2 = some (absM (step d op).1)
  inv : MemInv (step d op).1
  own_kept : apiOp op = true → AllOwn d → AllOwn (step d op).1

theorem MStep.of_eq {d d' : Db} {op : Op} {res : Res Out} (hs : step d op = (d', res))
    (hj : judgeM (absM d) (absF d) op res = some (absM d')) (hM : MemInv d')
    (ho : apiOp op = true → AllOwn d → AllOwn d') : MStep d op := by
  refine ⟨?_, ?_, ?_⟩ <;> rw [hs] <;> assumption

theorem MStep.of_same {d : Db} {op : Op} {res : Res Out} (hM : MemInv d) (hs : step d op = (d, res))
    (hj : judgeM (absM d) (absF d) op res = some (absM d)) : MStep d op :=
  .of_eq hs hj hM fun _ ho => ho

/-- Rows leave the three tables: the entity rows are filtered by a condition that, on own entries, only depends on
(list, track), and the pairs that stay still name live crates and tracks. -/
theorem MStep.of_removal {d d' : Db} {op : Op} {res : Res Out} {q : Int × Int × Ent → Bool} (q' : Int × Int → Bool)
    (hM : MemInv d) (hs : step d op = (d', res)) (hpe : cores d'.pe = (cores d.pe).filter q)
    (hq : ∀ c ∈ cores d.pe, own c = true → q c = q' (pairOf c))
    (htr : d'.tracks.Sublist d.tracks) (hseq : d'.trSeq = d.trSeq)
    (hlive : ∀ p ∈ (absM d).pairs, q' p = true → p.1 ∈ ids d'.pl ∧ p.2 ∈ d'.tracks)
    (hj : judgeM (absM d) (absF d) op res = some ⟨ids d'.pl, d'.tracks, (absM d).pairs.filter q'⟩) : MStep d op := by
  refine .of_eq hs ?_ ⟨?_, htr.nodup hM.tracks_nodup, ?_, by rw [hseq]; exact hM.trSeq0⟩
    fun _ ho c hc => ho c (List.mem_filter.mp (hpe ▸ hc)).1
  · rw [hj]; unfold absM; rw [hpe, pairs_filter _ q q' hq]
  · intro c hc hu
    obtain ⟨hc1, hc2⟩ := List.mem_filter.mp (hpe ▸ hc)
    have ho := own_iff.mpr hu
    exact hlive (pairOf c) (List.mem_map.mpr ⟨c, List.mem_filter.mpr ⟨hc1, ho⟩, rfl⟩) (hq c hc1 ho ▸ hc2)
  · rw [hseq]; exact fun t ht => hM.tracks_seq t (htr.subset ht)

/-- A write to Playlist alone that keeps the ids: nothing the membership Spec sees has changed. -/
theorem MStep.of_plKeep {d d' : Db} {op : Op} {out : Out} (hM : MemInv d) (hs : step d op = (d', .ok out))
    (hids : ids d'.pl = ids d.pl) (hpe : d'.pe = d.pe) (htr : d'.tracks = d.tracks) (hseq : d'.trSeq = d.trSeq)
    (hmo : membersOps (absF d) op (.ok out) = []) : MStep d op := by
  have habs : absM d' = absM d := by simp only [absM, hids, hpe, htr]
  refine .of_eq hs ((judgeM_nil rfl hmo).trans (by rw [habs])) ⟨?_, htr ▸ hM.tracks_nodup, ?_, hseq ▸ hM.trSeq0⟩
    fun _ ho => by rw [AllOwn, hpe]; exact ho
  · rw [hpe, hids, htr]; exact hM.live
  · rw [htr, hseq]; exact hM.tracks_seq

theorem mstep_removeCrate {S : Ord} {d : Db} (hM : MemInv d) (hW : Forest.Forest.Wf (absF d)) (hC : ChInv S d) {c : Int}
    {ds : List Int} (he : plExists d c = true) (hds : descendantIds d.pl c = .ok ds)
    (hs : step d (.removeCrate c) = (plRemove d (c :: ds), .ok none)) : MStep d (.removeCrate c) := by
  have hG : IsGone d c (c :: ds) := isGone_cons (view_ok hW hds)
  have hids : ids (plRemove d (c :: ds)).pl = (ids d.pl).filter (fun x => !(c :: descSet d c).contains x) := by
    rw [ids_eq_cores, cores_plRemove_pl hC.rk.ids_nodup hC.rk.id_pos (plExists_iff.mp he) hG, ids_eq_cores, List.filter_map]
    rfl
  have hlive : (absF d).live c = true := by rw [← plExists_eq_live]; exact he
  refine .of_removal (fun p => !(c :: descSet d c).contains p.1) hM hs
    ((cores_foldl_clearKey hC.re.ids_nodup _).trans (List.filter_congr fun k _ => by rw [hG.contains]; rfl))
    (fun _ _ _ => rfl) (.refl _) rfl ?_ ?_
  · intro p hp hq
    rw [hids]
    exact ⟨List.mem_filter.mpr ⟨(hM.closed p hp).1, hq⟩, (hM.closed p hp).2⟩
  · rw [judgeM_single (mop := .dropCrates (c :: descSet d c)) rfl (by simp [membersOps, outcome, hlive, descSet]), judgeM1_dropCrates,
      hids]
    rfl

theorem mstep_createTrack {d : Db} (hM : MemInv d) : MStep d .createTrack := by
  have hfresh : d.trSeq + 1 ∉ d.tracks := fun h => by have := (hM.tracks_seq _ h).2; omega
  have h0 := hM.trSeq0
  refine .of_eq (d' := { d with tracks := d.tracks ++ [d.trSeq + 1], trSeq := d.trSeq + 1 }) rfl
    ((judgeM_single rfl rfl).trans (judgeM1_newTrack _ hfresh)) ⟨?_, ?_, ?_, by show 0 ≤ d.trSeq + 1; omega⟩ fun _ ho => ho
  · exact fun c hc ho => ⟨(hM.live c hc ho).1, List.mem_append_left _ (hM.live c hc ho).2⟩
  · exact List.nodup_append.mpr ⟨hM.tracks_nodup, by simp,
      fun a ha b hb e => hfresh (by rw [List.mem_singleton.mp hb] at e; exact e ▸ ha)⟩
  · intro t ht
    show 0 < t ∧ t ≤ d.trSeq + 1
    rcases List.mem_append.mp ht with ht | ht
    · have := hM.tracks_seq t ht; omega
    · rw [List.mem_singleton.mp ht]; omega

theorem mstep_removeTrack {S : Ord} {d : Db} (hM : MemInv d) (hC : ChInv S d) {t : Int} (ht : t ∈ d.tracks)
    (hs : step d (.removeTrack t) =
      ({ d with pe := (ids d.pl).foldl (rmTrackIn t) d.pe, tracks := d.tracks.filter (· != t) }, .ok none)) :
    MStep d (.removeTrack t) := by
  refine .of_removal (fun p => p.2 != t) hM hs (cores_foldl_removeTrack t (ids d.pl) d.pe hC.pairs)
    ?_ List.filter_sublist rfl ?_ ((judgeM_single rfl rfl).trans (judgeM1_dropTrack _ ht))
  · intro c hcm ho
    rw [List.contains_iff_mem.mpr (hM.live c hcm (own_iff.mp ho)).1, Bool.true_and, ent_beq_own t (own_iff.mp ho)]
    rfl
  · exact fun p hp hq => ⟨(hM.closed p hp).1, List.mem_filter.mpr ⟨(hM.closed p hp).2, hq⟩⟩

theorem filter_own_append (cs : List (Int × Int × Ent)) (x : Int × Int × Ent) :
    (cs ++ [x]).filter own = if own x then cs.filter own ++ [x] else cs.filter own := by
  rw [List.filter_append]
  cases h : own x <;> simp [h]

/-- add_back of a new entry (either through crate::add_track, own uuid, or at table level): a pair more if the entry
is of the own database, the same pairs otherwise. -/
theorem MStep.of_addBack {d : Db} {op : Op} {res : Res Out} {l t u : Int} (hM : MemInv d)
    (hs : step d op = ({ d with pe := appendBack d.pe (d.peSeq + 1) l ⟨t, u⟩, peSeq := d.peSeq + 1 }, res))
    (hlive : u = 0 → l ∈ ids d.pl ∧ t ∈ d.tracks) (hu : apiOp op = true → u = 0)
    (hj : judgeM (absM d) (absF d) op res =
      some (if u = 0 then { absM d with pairs := (absM d).pairs ++ [(l, t)] } else absM d)) : MStep d op := by
  have hall {P : Int × Int × Ent → Prop} (h1 : ∀ k ∈ cores d.pe, P k) (h2 : P (d.peSeq + 1, l, ⟨t, u⟩)) :
      ∀ k ∈ cores (appendBack d.pe (d.peSeq + 1) l ⟨t, u⟩), P k := by
    rw [cores_appendBack]
    intro k hk
    rcases List.mem_append.mp hk with hk | hk
    · exact h1 k hk
    · rw [List.mem_singleton.mp hk]; exact h2
  refine .of_eq hs ?_ ⟨hall hM.live hlive, hM.tracks_nodup, hM.tracks_seq, hM.trSeq0⟩ fun ha ho => hall ho (hu ha)
  rw [hj]
  unfold absM
  rw [cores_appendBack, filter_own_append]
  by_cases hu : u = 0 <;> simp [own, hu, pairOf]

theorem judgeM_removeTrackFrom {d : Db} (hM : MemInv d) (c t : Int) :
    judgeM (absM d) (absF d) (.removeTrackFrom c t) (.ok none) =
      some { absM d with pairs := (absM d).pairs.filter (· != (c, t)) } :=
  (judgeM_single rfl rfl).trans (judgeM1_remove _ (fun p hp => (hM.closed p hp).1) c t)

/-- Every alternative of `Does` against the membership Spec: Playlist writes add a crate or nothing; entity writes are
`MStep.of_addBack` / `MStep.of_removal`; a refusal is one the Spec tolerates (`judgeM1_*_throw`). -/
theorem Does.mstep {S : Ord} {d : Db} {op : Op} {r : Db × Res Out} (h : Does d op r) (hr : step d op = r)
    (hM : MemInv d) (hP : PlInv d) (hC : ChInv S d) (hm : memOp op = true) : MStep d op := by
  cases h with
  | diverges u c hds _ => exact (view_not_ub hP.wf hds).elim
  | throws e why =>
    refine .of_same hM hr ?_
    cases why with
    | parentGone | nameTaken | notSibling | badName => exact judgeM_nil rfl (by rw [membersOps_mkCreate]; rfl)
    | noRow c hg hop => rcases hop with ⟨n, rfl⟩ | ⟨p, rfl⟩ <;> exact judgeM_nil rfl rfl
    | renameBad | renameClash | selfParent | deadParent | cycle | moveBad | moveClash | dup => exact judgeM_nil rfl rfl
    | noCrate => exact judgeM_nil rfl (by simp [membersOps, outcome])
    | noTrack t ht => exact (judgeM_single rfl rfl).trans (judgeM1_dropTrack_throw _ ht)
    | addDead c t hd =>
      exact (judgeM_single rfl rfl).trans (judgeM1_add_throw _ (hd.imp_left fun he hc => by
        rw [plExists_iff.mpr hc] at he; cases he))
    | noEntry => cases hm
  | inserted p n a b hlive hfree hv hb =>
    have hids : ids (insertBefore d.pl (d.plSeq + 1) (keyOf p) b n) = ids d.pl ++ [d.plSeq + 1] := by
      rw [ids_eq_cores, cores_insertBefore, List.map_append, ← ids_eq_cores]; rfl
    refine .of_eq hr ?_ ⟨fun c hc hu => ⟨?_, (hM.live c hc hu).2⟩, hM.tracks_nodup, hM.tracks_seq, hM.trSeq0⟩ fun _ ho => ho
    · rw [judgeM_single rfl (by rw [membersOps_mkCreate]; rfl), judgeM1_newCrate]
      simp only [absM, hids]; rfl
    · show c.2.1 ∈ ids (insertBefore d.pl (d.plSeq + 1) (keyOf p) b n)
      rw [hids]; exact List.mem_append_left _ (hM.live c hc hu).1
  | retitled c n row hg hv hc => exact .of_plKeep hM hr (ids_setVal ..) rfl rfl rfl rfl
  | reparented c p row hg hp hv hc =>
    refine .of_plKeep hM hr ?_ rfl rfl rfl rfl
    show ids (if _ then _ else _) = _
    split
    · exact ids_setVal ..
    · exact ids_move ..
  | removed c ds he hds => exact mstep_removeCrate hM hP.wf hC he hds hr
  | trackCreated => exact mstep_createTrack hM
  | trackRemoved t ht => exact mstep_removeTrack hM hC ht hr
  | present l t u e hop hf =>
    rcases hop with ⟨rfl, rfl, he, ht⟩ | ⟨f, rfl⟩
    · exact .of_same hM hr (((judgeM_single rfl rfl).trans (judgeM1_add _ (plExists_iff.mp he) ht)).trans
        (by rw [if_pos (peFind_isSome_iff.mp (by rw [hf]; rfl))]))
    · exact .of_same hM hr (judgeM_nil rfl rfl)
  | appended l t u hop hf =>
    rcases hop with ⟨rfl, rfl, he, ht⟩ | ⟨f, rfl⟩
    · exact .of_addBack hM hr (fun _ => ⟨plExists_iff.mp he, ht⟩) (fun _ => rfl)
        (((judgeM_single rfl rfl).trans (judgeM1_add _ (plExists_iff.mp he) ht)).trans
          (by rw [if_neg (peFind_none_iff.mp hf), if_pos rfl]))
    · have hu : u ≠ 0 := of_decide_eq_true (Bool.and_eq_true _ _ ▸ hm).1
      exact .of_addBack hM hr (fun e => absurd e hu) (fun ha => Bool.noConfusion ha)
        ((judgeM_nil rfl rfl).trans (by rw [if_neg hu]))
  | entryRemoved l e row hrow hop =>
    obtain ⟨_, rfl, _⟩ := hrow
    rcases hop with ⟨t, rfl, hf⟩ | rfl
    · refine .of_removal (fun p => p != (l, t)) hM hr (cores_delete_pair hC.pairs hf) ?_ (.refl _) rfl
        (fun p hp _ => hM.closed p hp) (judgeM_removeTrackFrom hM l t)
      intro k _ ho
      rw [ent_beq_own t (own_iff.mp ho)]
      rfl
    · cases hm
  | absent l t hf =>
    refine .of_same hM hr ((judgeM_removeTrackFrom hM l t).trans ?_)
    have : (absM d).pairs.filter (· != (l, t)) = (absM d).pairs :=
      List.filter_eq_self.mpr fun p hp => bne_iff_ne.mpr fun e => peFind_none_iff.mp hf (e ▸ hp)
    rw [this]
  | cleared l hop =>
    rcases hop with rfl | rfl
    · exact .of_removal (fun p => p.1 != l) hM hr (cores_clearKey fires hC.re.ids_nodup l) (fun _ _ _ => rfl) (.refl _) rfl
        (fun p hp _ => hM.closed p hp) ((judgeM_single rfl rfl).trans (judgeM1_clear _ (fun p hp => (hM.closed p hp).1) l))
    · cases hm

theorem mstep {S : Ord} {d : Db} (hM : MemInv d) (hP : PlInv d) (hC : ChInv S d) (op : Op) (hm : memOp op = true) :
    MStep d op :=
  (step_does d op).mstep rfl hM hP hC hm

structure Inv (S : Ord) (d : Db) : Prop where
  ch : ChInv S d
  pl : PlInv d
  mem : MemInv d

theorem inv_empty : Inv Ord.empty Db.empty := ⟨chInv_empty, plInv_empty, memInv_empty⟩

theorem okOp_of_memOp {op : Op} (h : memOp op = true) : okOp op = true := by
  cases op <;> simp [memOp] at h <;> simp [okOp, h]

theorem memOp_of_apiOp {op : Op} (h : apiOp op = true) : memOp op = true := by
  cases op <;> simp [apiOp] at h <;> rfl

theorem okOp_of_apiOp {op : Op} (h : apiOp op = true) : okOp op = true := okOp_of_memOp (memOp_of_apiOp h)

theorem inv_step {S : Ord} {d : Db} (hI : Inv S d) (op : Op) (hm : memOp op = true) :
    Inv (ordStep S d op) (step d op).1 :=
  ⟨chInv_step hI.ch hI.pl op (okOp_of_memOp hm), plInv_step hI.pl op, (mstep hI.mem hI.pl hI.ch op hm).inv⟩

/-- The three Spec judges (forest, memberships, ordered lists), driven by the Model's answers only, never object
along a history, and the states they track are the abstractions of the Model state. -/
theorem inv_run {S : Ord} {d : Db} (hI : Inv S d) (ops : List Op) (hm : ops.all memOp = true) :
    ∃ S', specRunO d (absF d) S ops = some (absF (run d ops), S') ∧ Inv S' (run d ops) ∧
      specRunM d (absF d) (absM d) ops = some (absF (run d ops), absM (run d ops)) := by
  induction ops generalizing S d with
  | nil => exact ⟨S, rfl, hI, rfl⟩
  | cons op ops ih =>
    simp only [List.all_cons, Bool.and_eq_true] at hm
    obtain ⟨S', h1, h2, h3⟩ := ih (inv_step hI op hm.1) hm.2
    refine ⟨S', ?_, h2, ?_⟩
    · simp only [specRunO, run]
      rw [judgeF_of_fstep hI.pl (fstep hI.pl.wf op)]
      exact h1
    · simp only [specRunM, run]
      rw [judgeF_of_fstep hI.pl (fstep hI.pl.wf op), (mstep hI.mem hI.pl hI.ch op hm.1).judge]
      exact h3

theorem allOwn_empty : AllOwn Db.empty := by simp [AllOwn, Db.empty, cores]

theorem allOwn_step {S : Ord} {d : Db} (hI : Inv S d) (ho : AllOwn d) (op : Op) (ha : apiOp op = true) :
    AllOwn (step d op).1 :=
  (mstep hI.mem hI.pl hI.ch op (memOp_of_apiOp ha)).own_kept ha ho

theorem all_memOp_of_apiOp {ops : List Op} (h : ops.all apiOp = true) : ops.all memOp = true := by
  rw [List.all_eq_true] at h ⊢
  exact fun op hop => memOp_of_apiOp (h op hop)

theorem inv_allOwn_run {S : Ord} {d : Db} (hI : Inv S d) (ho : AllOwn d) (ops : List Op) (ha : ops.all apiOp = true) :
    ∃ S', Inv S' (run d ops) ∧ AllOwn (run d ops) :=
  isRun.inv_of (Inv := fun d => ∃ S, Inv S d ∧ AllOwn d) (A := fun op => apiOp op = true)
    (fun _ op ⟨_, h, ho⟩ ha => ⟨_, inv_step h op (memOp_of_apiOp ha), allOwn_step h ho op ha⟩)
    ops d ⟨S, hI, ho⟩ (List.all_eq_true.mp ha)

end EngineModel.Db.V2
