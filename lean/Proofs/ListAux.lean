/-
Small list lemmas shared by the crate, track, codec and validator proofs (core Lean only).
-/
namespace EngineModel.ListAux

theorem length_le_of_nodup_subset {l m : List Int} (hn : l.Nodup) (hs : ∀ x ∈ l, x ∈ m) :
    l.length ≤ m.length := by
  induction l generalizing m with
  | nil => simp
  | cons a l ih =>
    have hn' := List.nodup_cons.mp hn
    have ha : a ∈ m := hs a (by simp)
    have hsub : ∀ x ∈ l, x ∈ m.erase a := by
      intro x hx
      have hne : x ≠ a := fun e => hn'.1 (e ▸ hx)
      exact (List.mem_erase_of_ne hne).mpr (hs x (List.mem_cons_of_mem _ hx))
    have := ih hn'.2 hsub
    rw [List.length_erase_of_mem ha] at this
    have hpos : 0 < m.length := List.length_pos_of_mem ha
    simp only [List.length_cons]; omega

theorem find?_unique {β : Type} {p : β → Bool} {l : List β} {r : β} (hr : r ∈ l) (hp : p r = true)
    (hu : ∀ r' ∈ l, p r' = true → r' = r) : l.find? p = some r := by
  induction l with
  | nil => simp at hr
  | cons a l ih =>
    by_cases ha : p a = true
    · rw [List.find?_cons_of_pos ha, hu a (by simp) ha]
    · rw [List.find?_cons_of_neg ha]
      rcases List.mem_cons.mp hr with h | h
      · subst h; exact absurd hp ha
      · exact ih h (fun r' hr' => hu r' (List.mem_cons_of_mem _ hr'))

theorem eq_of_map_eq {β γ : Type} {f : β → γ} {l : List β} (hn : (l.map f).Nodup) {x y : β} (hx : x ∈ l) (hy : y ∈ l)
    (h : f x = f y) : x = y := by
  induction l with
  | nil => simp at hx
  | cons a l ih =>
    simp only [List.map_cons, List.nodup_cons, List.mem_map, not_exists, not_and] at hn
    rcases List.mem_cons.mp hx with h1 | h1 <;> rcases List.mem_cons.mp hy with h2 | h2
    · rw [h1, h2]
    · subst h1; exact absurd h.symm (hn.1 y h2)
    · subst h2; exact absurd h (hn.1 x h1)
    · exact ih hn.2 h1 h2

theorem eraseDups_of_nodup {α : Type} [BEq α] [LawfulBEq α] {l : List α} (h : l.Nodup) : l.eraseDups = l := by
  induction l with
  | nil => rfl
  | cons a l ih =>
    have hn := List.nodup_cons.mp h
    have : l.filter (fun b => !b == a) = l := List.filter_eq_self.mpr fun b hb => by
      have : b ≠ a := fun e => hn.1 (e ▸ hb)
      simp [this]
    rw [List.eraseDups_cons, this, ih hn.2]

theorem nodup_map_range {g : Nat → Int} {k : Nat} (h : ∀ i j, i < j → j < k → g i ≠ g j) :
    ((List.range k).map g).Nodup := by
  induction k with
  | zero => simp
  | succ k ih =>
    rw [List.range_succ, List.map_append]
    refine List.nodup_append.mpr ⟨ih (fun i j hij hj => h i j hij (by omega)), by simp, ?_⟩
    intro a ha b hb
    simp only [List.map_cons, List.map_nil, List.mem_singleton] at hb
    subst hb
    obtain ⟨i, hi, rfl⟩ := List.mem_map.mp ha
    exact h i k (List.mem_range.mp hi) (by omega)

theorem all_set_iff {α} (p : α → Bool) (l : List α) (k : Nat) (a : α) (hk : k < l.length) (hl : l.all p = true) :
    (l.set k a).all p = p a := by
  rw [Bool.eq_iff_iff, List.all_eq_true]
  constructor
  · intro h
    exact h a (List.mem_set hk a)
  · intro hpa x hx
    rcases List.mem_or_eq_of_mem_set hx with h | h
    · exact List.all_eq_true.mp hl x h
    · rw [h]; exact hpa

theorem mem_snd_of_fst {α β} [BEq α] [LawfulBEq α] {l : List (α × β)} {c : α} {y : β} :
    y ∈ (l.filter (·.1 == c)).map (·.2) ↔ (c, y) ∈ l := by
  simp only [List.mem_map, List.mem_filter, beq_iff_eq]
  constructor
  · rintro ⟨⟨a, b⟩, ⟨hr, rfl⟩, rfl⟩; exact hr
  · intro hm; exact ⟨(c, y), ⟨hm, rfl⟩, rfl⟩

theorem mem_fst_of_snd {α β} [BEq β] [LawfulBEq β] {l : List (α × β)} {c : β} {a : α} :
    a ∈ (l.filter (·.2 == c)).map (·.1) ↔ (a, c) ∈ l := by
  simp only [List.mem_map, List.mem_filter, beq_iff_eq]
  constructor
  · rintro ⟨⟨a, b⟩, ⟨hr, rfl⟩, rfl⟩; exact hr
  · intro hm; exact ⟨(a, c), ⟨hm, rfl⟩, rfl⟩

theorem filter_key_eq_singleton {α κ : Type} [BEq κ] [LawfulBEq κ] {f : α → κ} {l : List α} (h : (l.map f).Nodup) {r : α}
    (hr : r ∈ l) : l.filter (fun x => f x == f r) = [r] := by
  induction l with
  | nil => cases hr
  | cons a l ih =>
    simp only [List.map_cons, List.nodup_cons] at h
    rcases List.mem_cons.mp hr with rfl | hr'
    · have : l.filter (fun x => f x == f r) = [] :=
        List.filter_eq_nil_iff.mpr fun x hx hk => h.1 (beq_iff_eq.mp hk ▸ List.mem_map_of_mem hx)
      rw [List.filter_cons_of_pos (p := fun x => f x == f r) (beq_self_eq_true _), this]
    · have hne : ¬ (f a == f r) = true := fun hk => h.1 (beq_iff_eq.mp hk ▸ List.mem_map_of_mem hr')
      rw [List.filter_cons_of_neg (p := fun x => f x == f r) hne, ih h.2 hr']

theorem filter_key_le_one {α} (f : α → Int) (p : α → Bool) (t : Int) (l : List α) (h : (l.map f).Nodup) :
    (l.filter (fun r => f r == t && p r)).length ≤ 1 := by
  -- the keys of the filtered rows are distinct and all equal to `t`
  have hnd := h.sublist ((List.filter_sublist (p := fun r => f r == t && p r)).map f)
  have hall : ∀ x ∈ (l.filter (fun r => f r == t && p r)).map f, x = t := fun x hx => by
    obtain ⟨r, hr, rfl⟩ := List.mem_map.mp hx
    have := (List.mem_filter.mp hr).2
    simp only [Bool.and_eq_true, beq_iff_eq] at this
    exact this.1
  rw [List.eq_replicate_of_mem hall, List.nodup_replicate] at hnd
  simpa using hnd

theorem map_eq_self_iff {α} {g : α → α} {l : List α} : l.map g = l ↔ ∀ a ∈ l, g a = a := by
  conv => lhs; rhs; rw [← List.map_id l]
  exact List.map_inj_left

theorem sum_map_add {α} (c : Nat) (f : α → Nat) (l : List α) :
    (l.map (fun q => c + f q)).sum = c * l.length + (l.map f).sum := by
  induction l with
  | nil => rfl
  | cons q r ih => simp only [List.map_cons, List.sum_cons, List.length_cons, ih, Nat.mul_add]; omega

theorem flatMap_length_const {α} {β} (g : α → List β) (w : Nat) (hg : ∀ x, (g x).length = w) :
    ∀ l : List α, (l.flatMap g).length = w * l.length
  | [] => rfl
  | x :: l => by
    rw [List.flatMap_cons, List.length_append, hg, flatMap_length_const g w hg l, List.length_cons, Nat.mul_succ,
      Nat.add_comm]

theorem foldl_prod {α σ τ} (f : σ → α → σ) (g : τ → α → τ) :
    ∀ (xs : List α) (a : σ) (b : τ),
      xs.foldl (fun (s : σ × τ) x => (f s.1 x, g s.2 x)) (a, b) = (xs.foldl f a, xs.foldl g b) := by
  intro xs
  induction xs with
  | nil => intro a b; rfl
  | cons x r ih => intro a b; simp only [List.foldl_cons, ih]

end EngineModel.ListAux
