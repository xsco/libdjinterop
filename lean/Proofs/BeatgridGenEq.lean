/-
The beat-grid normalisation REGENERATED from the C++ source (`Gen.Beatgrid.normalize`,
tools/tr_beatgrid.py, rewritten on every run) is the hand model `Pure.Beatgrid.normalize` —
for EVERY arithmetic `Num α` (so for the hardware-`Float` instance the driver runs and for the
exact rationals of the C20 theorems at once).

The regenerated function is more literal than the hand model in two places, hence the two
hypotheses of `normalizeGen_eq_partial` (both explicit and decidable on concrete grids):
  * `Idx32 g`  — `beatgrid[last].index = static_cast<int32_t>(last_index)` is a modular
    conversion in the source; it is the identity because `last_index ≤ INT32_MAX` (the guard
    before it) and `last_index >` an `int` index of the grid;
  * `g.length ≤ 2^31` — `int32_t last = static_cast<int32_t>(beatgrid.size() - 1)`.
The full statement (no hypotheses) is false only for grids no caller can build (beat indices
that are not `int` values, 2^31 + 1 markers of 16 bytes each): the regenerated function then
indexes with a wrapped `last` (`ub oob_index`) where the hand model carries on.

The proofs unfold the regenerated blocks; a change of the C++ that changes the translation
breaks them (that is their purpose).  No Mathlib.
-/
import EngineModel.Gen.BeatgridGen
import Proofs.BeatgridNum
import Proofs.Cxx

namespace EngineModel.Pure.Beatgrid
open EngineModel EngineModel.Gen.Beatgrid

variable {α : Type}

set_option linter.unusedSimpArgs false

-- the modular operations the translator can emit (tools/tr_beatgrid.py: `+ - *` on `size_t`, the conversions; today's
-- text has `U64.sub`, `u64OfInt`, `Vec.wrapI32` of them) are only ever rewritten by explicit lemmas below; keeping the
-- unifier from unfolding them (`% 2^64` on symbolic lengths) makes a proof broken by a change of the translation fail
-- in seconds
attribute [local irreducible] Cxx.U64.sub Cxx.U64.add Cxx.U64.mul Cxx.u64OfInt Cxx.i64OfU64 Vec.wrapI32

-- a proof broken by a change of the translation must fail quickly (the check reports it), not after minutes
set_option maxHeartbeats 16000

theorem Vec.get_of_getElem? {v : List (Marker α)} {i : Nat} {m : Marker α} (h : v[i]? = some m) :
    Vec.get v i = .ok m := by
  unfold Vec.get; rw [h]

theorem Vec.setOff_of_getElem? {v : List (Marker α)} {i : Nat} {m : Marker α} (x : α)
    (h : v[i]? = some m) : Vec.setOff v i x = .ok (v.set i { m with off := x }) := by
  unfold Vec.setOff; rw [h]

theorem Vec.setIndex_of_getElem? {v : List (Marker α)} {i : Nat} {m : Marker α} (x : Int)
    (h : v[i]? = some m) : Vec.setIndex v i x = .ok (v.set i { m with index := x }) := by
  unfold Vec.setIndex; rw [h]

theorem Vec.wrapI32_of_in32 {x : Int} (h : In32 x) : Vec.wrapI32 x = x := by
  unfold In32 at h; unfold Vec.wrapI32; omega

theorem in32_natCast {k : Nat} (h : k ≤ 2147483647) : In32 (k : Int) :=
  ⟨Int.le_trans (by decide) (Int.natCast_nonneg k), Int.ofNat_le.mpr h⟩

theorem Vec.chk32_of_in32 {x : Int} (h : In32 x) : Vec.chk32 x = .ok x := by
  unfold In32 at h; unfold Vec.chk32; rw [if_pos h]

theorem Vec.iterAdd_ok {v : List (Marker α)} {it : Nat} {k : Int}
    (h : 0 ≤ (it : Int) + k ∧ (it : Int) + k ≤ (v.length : Int)) :
    Vec.iterAdd v it k = .ok ((it : Int) + k).toNat := by
  unfold Vec.iterAdd; rw [if_pos h]

theorem Vec.erase_ok {v : List (Marker α)} {a b : Nat} (h : a ≤ b ∧ b ≤ v.length) :
    Vec.erase v a b = .ok (v.take a ++ v.drop b) := by
  unfold Vec.erase; rw [if_pos h]

/-- `if (it != v.end()) v.erase(it + 1, v.end());` keeps the first `it + 1` elements. -/
theorem eraseAfter_eq (g : List (Marker α)) (j : Nat) (hle : j ≤ g.length) :
    (if decide (j ≠ Vec.iend g) = true then (do
        let t ← Vec.iterAdd g j (1 : Int)
        Vec.erase g t (Vec.iend g)) else pure g) = Res.ok (if j < g.length then g.take (j + 1) else g) := by
  unfold Vec.iend
  by_cases h : j = g.length
  · rw [if_neg (by rw [decide_eq_true_eq]; exact not_not_intro h), if_neg (h ▸ Nat.lt_irrefl _)]; rfl
  · have hlt : j < g.length := Nat.lt_of_le_of_ne hle h
    rw [if_pos (decide_eq_true h), if_pos hlt, Vec.iterAdd_ok ⟨by omega, by omega⟩, Res.bind_ok,
      Vec.erase_ok ⟨by omega, Nat.le_refl _⟩, List.drop_length, List.append_nil]
    rfl

/-- `if (it != v.begin()) v.erase(v.begin(), it - 1);` drops the first `it - 1` elements. -/
theorem eraseBefore_eq (g : List (Marker α)) (j : Nat) (hle : j ≤ g.length) :
    (if decide (j ≠ Vec.ibegin g) = true then (do
        let t ← Vec.iterSub g j (1 : Int)
        Vec.erase g (Vec.ibegin g) t) else pure g) = Res.ok (if j = 0 then g else g.drop (j - 1)) := by
  unfold Vec.ibegin Vec.iterSub
  by_cases h : j = 0
  · rw [if_neg (by rw [decide_eq_true_eq]; exact not_not_intro h), if_pos h]; rfl
  · rw [if_pos (decide_eq_true h), if_neg h, Vec.iterAdd_ok ⟨by omega, by omega⟩, Res.bind_ok,
      Vec.erase_ok ⟨Nat.zero_le _, by omega⟩, List.take_zero, List.nil_append]
    congr 2; omega

theorem block1_eq (num : Num α) (g : List (Marker α)) (n : Int) :
    normalize_block1 num g n = .ok (trimEnd num g n) := by
  unfold normalize_block1
  refine (eraseAfter_eq g _ List.findIdx_le_length).trans ?_
  unfold trimEnd
  rw [List.findIdx?_eq_guard_findIdx_lt]
  by_cases h : List.findIdx (fun m : Marker α => num.le (num.ofInt n) m.off) g < g.length
  · simp [h, Option.guard]
  · simp [h, Option.guard]

theorem block2_eq (num : Num α) (g : List (Marker α)) (n : Int) :
    normalize_block2 num g n = .ok (trimStart num g) := by
  unfold normalize_block2
  exact eraseBefore_eq g _ List.findIdx_le_length

theorem block3_eq (num : Num α) (a b : Marker α) (rest : List (Marker α)) (n : Int) :
    normalize_block3 num (a :: b :: rest) n = fixFirst num (a :: b :: rest) := by
  unfold normalize_block3 fixFirst
  -- `Vec.frontPos` is not in today's text: it serves the block written with `front()` for `[0]` (seeded self-C20-r3)
  simp only [Vec.get, Vec.setOff, Vec.setIndex, Vec.frontPos, List.isEmpty_cons, Bool.false_eq_true, if_false,
    List.getElem?_cons_zero, List.getElem?_cons_succ, Res.bind_ok, List.set_cons_zero]
  exact bind_congr fun di => bind_congr fun k => (Res.pure_eq _).symm

theorem block4_eq (num : Num α) (pre : List (Marker α)) (p l : Marker α) (n : Int)
    (hp : In32 p.index) (hlen : (pre ++ [p, l]).length ≤ 2147483648) :
    normalize_block4 num (pre ++ [p, l]) n = fixLast num (pre ++ [p, l]) n := by
  have hr : (pre ++ [p, l]).reverse = l :: p :: pre.reverse := by rw [List.reverse_append]; rfl
  have hL : (pre ++ [p, l]).length = pre.length + 2 := by rw [List.length_append]; rfl
  have hk : pre.length + 2 ≤ 2147483648 := hL ▸ hlen
  have hlast : Vec.wrapI32 (Int.ofNat (Cxx.U64.sub (pre ++ [p, l]).length 1)) = (pre.length + 1 : Nat) := by
    rw [hL, Cxx.U64.sub_small _ _ (Nat.le_add_left 1 _) (Nat.lt_of_le_of_lt hk (by decide))]
    exact Vec.wrapI32_of_in32 (in32_natCast (Nat.le_of_lt_succ hk))
  have hu1 : Cxx.u64OfInt ((pre.length + 1 : Nat) : Int) = pre.length + 1 :=
    Cxx.u64OfInt_natCast _ (Nat.lt_of_lt_of_le (Nat.lt_succ_self _) (Nat.le_trans hk (by decide)))
  have hpred : ((pre.length + 1 : Nat) : Int) - 1 = (pre.length : Nat) := by
    rw [Int.natCast_succ, Int.add_sub_cancel]
  have hu0 : Cxx.u64OfInt (((pre.length + 1 : Nat) : Int) - 1) = pre.length :=
    hpred ▸ Cxx.u64OfInt_natCast _ (Nat.lt_of_lt_of_le (Nat.lt_add_of_pos_right Nat.zero_lt_two)
      (Nat.le_trans hk (by decide)))
  have hc : Vec.chk32 (((pre.length + 1 : Nat) : Int) - 1) = .ok (((pre.length + 1 : Nat) : Int) - 1) :=
    Vec.chk32_of_in32 (hpred ▸ in32_natCast (Nat.le_trans (Nat.le_add_right _ 1) (Nat.le_of_lt_succ hk)))
  have hgl : (pre ++ [p, l])[pre.length + 1]? = some l := by
    rw [List.getElem?_append_right (Nat.le_add_right _ _), Nat.add_sub_cancel_left]; rfl
  have hgp : (pre ++ [p, l])[pre.length]? = some p := by
    rw [List.getElem?_append_right (Nat.le_refl _), Nat.sub_self]; rfl
  -- `hback` is not used by today's text: it serves `back()` written for `[last]` (`Vec.backPos`; seeded self-C20-r3)
  have hback : ∀ x : Marker α, Vec.backPos (pre ++ [p, x]) = .ok (pre.length + 1) := by
    intro x; unfold Vec.backPos
    rw [show (pre ++ [p, x]).isEmpty = false by cases pre <;> rfl, List.length_append]; rfl
  unfold normalize_block4 fixLast
  rw [hr]
  simp only [hlast, hu1, hc, Res.bind_ok, hu0, hback, Vec.get_of_getElem? hgl, Vec.get_of_getElem? hgp]
  refine bind_congr fun di => ?_
  cases num.ceil32 (num.div (num.sub (num.ofInt n) l.off)
      (num.div (num.sub l.off p.off) (num.ofInt di))) with
  | none => rfl
  | some adj =>
    refine bind_congr fun il => ?_
    simp only [decide_eq_true_eq, gt_iff_lt]
    by_cases h1 : il ≤ p.index
    · rw [if_pos h1, if_pos h1]
    · rw [if_neg h1, if_neg h1]
      by_cases h2 : 2147483647 < il
      · rw [if_pos h2, if_pos h2]
      · have hw : Vec.wrapI32 il = il := Vec.wrapI32_of_in32 (by unfold In32 at hp ⊢; omega)
        rw [if_neg h2, if_neg h2]
        simp [hw, hback, Vec.setOff, Vec.setIndex]

theorem trim_length_le (num : Num α) (g : List (Marker α)) (n : Int) :
    (trim num g n).length ≤ g.length := (trim_infix num g n).length_le

theorem normalizeGen_shape (num : Num α) {g : List (Marker α)} (hne : g ≠ []) (n : Int) :
    Gen.Beatgrid.normalize num g n = match trim num g n with
      | a :: b :: rest => if b.index ≤ -4 then .throw .invalid_argument
          else normalize_block3 num (a :: b :: rest) n >>= fun f => normalize_block4 num f n
      | _ => .throw .invalid_argument := by
  unfold Gen.Beatgrid.normalize
  rw [List.isEmpty_eq_false_iff.mpr hne]
  simp only [Bool.false_eq_true, if_false, block1_eq, block2_eq, Res.bind_ok]
  show _ = match trim num g n with
      | a :: b :: rest => _
      | _ => _
  unfold trim
  generalize trimStart num (trimEnd num g n) = t
  rcases t with _ | ⟨a, _ | ⟨b, rest⟩⟩
  · rfl
  · rfl
  · simp only [Vec.orElse, Vec.get, List.length_cons, List.getElem?_cons_succ, List.getElem?_cons_zero]
    have h2 : ¬ (rest.length + 1 + 1 < 2) := by omega
    by_cases h : b.index ≤ -4
    · simp [h, h2]
    · simp [h, h2]

/-- **The regenerated function is the hand model**, for every arithmetic, on every grid whose beat
indices are `int` values and that has at most 2^31 markers, for every sample count.

Full statement (`∀ g n`, no hypotheses): false only outside what the C++ types can hold — see the
header of this file. -/
theorem normalizeGen_eq_partial (num : Num α) (g : List (Marker α)) (n : Int)
    (hi : Idx32 g) (hl : g.length ≤ 2147483648) :
    Gen.Beatgrid.normalize num g n = normalize num g n := by
  by_cases hne : g = []
  · subst hne; rfl
  rw [normalizeGen_shape num hne, normalize_eq num hne]
  have hit : Idx32 (trim num g n) := hi.trim
  have hlt := trim_length_le num g n
  generalize trim num g n = t at hit hlt
  rcases t with _ | ⟨a, _ | ⟨b, rest⟩⟩
  · rfl
  · rfl
  · dsimp only
    split
    · rfl
    · rw [block3_eq, fixFirst_eq num a b rest (hit a (List.mem_cons_self ..))
        (hit b (List.mem_cons_of_mem _ (List.mem_cons_self ..)))]
      -- (`rw`, not `simp`: a definitional unfolding of the block by the kernel is very slow)
      rw [Res.bind_ok, Res.bind_ok]
      obtain ⟨pre, p, l, hpl⟩ := exists_append_two (firstOf num a b) b rest
      have hif := hit.cons_firstOf (num := num)
      have hlen : (firstOf num a b :: b :: rest).length ≤ 2147483648 := Nat.le_trans hlt hl
      rw [hpl] at hif hlen ⊢
      exact block4_eq num pre p l n (hif p (List.mem_append_right _ (List.mem_cons_self ..))) hlen

end EngineModel.Pure.Beatgrid
