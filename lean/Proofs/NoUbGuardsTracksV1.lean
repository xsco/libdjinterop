/-
C15, schema 1.x tracks: with the guards the C++ source has (`Gen.C15Guards`, regenerated on every
run) no index, optional dereference, double→int conversion or division of the 1.x track call paths is
reached outside its domain: `siteG Guards.source … = ok ()`, hence the guarded dispatcher `stepG` is the
dispatcher `C15TracksV1.step`.  The one assumption on the float operations is `CeilInRange` (`std::ceil` of a value
below 2^63 in magnitude still converts to `int64_t`), needed at `set_bpm`.
-/
import EngineModel.Api.GuardedTracksV1
import Proofs.NoUbGuardsGen
import Proofs.C15GuardValues
import Proofs.NoUbTracksV1

namespace EngineModel.Api.GuardedTracksV1
open EngineModel EngineModel.TracksV1 EngineModel.Api.C15TracksV1 EngineModel.Gen
open Fl (FOps)

set_option linter.unusedSimpArgs false

theorem isRange_hotCueAt : C15Guards.IsRange Guards.source.hotCueAt := C15Guards.v1_track_hot_cue_at_range_isRange
theorem isRange_setHotCueAt : C15Guards.IsRange Guards.source.setHotCueAt := C15Guards.v1_track_set_hot_cue_at_range_isRange
theorem isRange_loopAt : C15Guards.IsRange Guards.source.loopAt := C15Guards.v1_track_loop_at_range_isRange
theorem isRange_setLoopAt : C15Guards.IsRange Guards.source.setLoopAt := C15Guards.v1_track_set_loop_at_range_isRange

theorem slotSiteG_ok {α : Type} {guard : Int → Nat → Bool} (hg : C15Guards.IsRange guard) (l : List α) (i : UInt32) :
    slotSiteG guard l i = .ok () := by
  unfold slotSiteG
  obtain ⟨h1, h2⟩ := Prim.s32_range i
  cases hv : guard (Prim.s32 i) l.length with
  | true => rfl
  | false =>
    have hn : ¬ (Prim.s32 i < 0 ∨ (l.length : Int) ≤ Prim.s32 i) := by
      intro hh; rw [(hg _ _ h1 h2).mpr hh] at hv; cases hv
    simp only [Bool.false_eq_true, if_false]
    unfold indexAt
    have h0 : 0 ≤ Prim.s32 i := by omega
    have hlt : (Prim.s32 i).toNat < l.length := by omega
    simp only [h0, if_true, List.getElem?_eq_getElem hlt, Res.bind]

theorem lengthCalcNone_eq (a b c e : Bool) :
    Guards.source.lengthCalcNone a b c e = ((((!a) || (!b)) || (!c)) || (!e)) := C15Guards.v1_length_calc_none_eq a b c e
theorem bpmFieldsInRange_eq (a b : Bool) : Guards.source.bpmFieldsInRange a b = (a && b) := C15Guards.v1_bpm_fields_inrange_eq a b
theorem setBpmInRange_eq (a b : Bool) : Guards.source.setBpmInRange a b = (a && b) := C15Guards.v1_set_bpm_inrange_eq a b
theorem extentsRateOut_eq (a : Bool) : Guards.source.extentsRateOut a = (!a) := C15Guards.v1_extents_rate_out_eq a
theorem overviewAbsent_eq (a b : Bool) : Guards.source.overviewAbsent a b = ((!a) || (!b)) := C15Guards.v1_overview_absent_eq a b
theorem overviewNonEmpty_eq (a : Bool) : Guards.source.overviewNonEmpty a = (!a) := C15Guards.v1_overview_nonempty_eq a
theorem hiresAbsent_eq (a b c e : Bool) : Guards.source.hiresAbsent a b c e = ((((!a) || b) || (!c)) || e) := C15Guards.v1_hires_absent_eq a b c e
theorem overviewLoop_iff (i size : Nat) : Guards.source.overviewLoop i size = true ↔ i < size := C15Guards.v1_overview_loop_iff i size

theorem lengthCalcSiteG_ok (c : Option UInt64) (r : Option Fl.Bits) : lengthCalcSiteG Guards.source c r = .ok () := by
  unfold lengthCalcSiteG
  simp only [lengthCalcNone_eq]
  cases c with
  | none => simp
  | some n =>
    cases r with
    | none => simp
    | some x =>
      simp only [Option.isSome_some, Bool.not_true, Bool.false_or]
      by_cases h : ((!F64.le F64.one x) || (!F64.lt x Fl.two63)) = true
      · rw [if_pos h]
      · rw [if_neg h]
        have hd : Fl.rateDivisible x = true := by
          unfold Fl.rateDivisible
          simp only [Bool.or_eq_true, Bool.not_eq_true', not_or, Bool.not_eq_false] at h
          simp [h.1, h.2]
        obtain ⟨dv, hdv, hpos⟩ := Fl.toI64_pos_of_rateDivisible x hd
        obtain ⟨q, hq⟩ := i64div_pos (Prim.s64 n) dv (inI64_s64 n) hpos
        simp [deref, Res.bind, hdv, hq]

/-- `to_bpm_fields` and `set_bpm` share their shape: behind `bpm && fabs(*bpm) < 2^63` the optional is engaged and
the conversion `conv` of a value below 2^63 in magnitude is in range. -/
theorem castSiteG_ok (guard : Bool → Bool → Bool) (hg : ∀ a b, guard a b = (a && b)) (conv : Fl.Bits → Option Int)
    (hconv : ∀ x, Fl.absLt63 x = true → ∃ v, conv x = some v) (b : Option Fl.Bits) :
    (if guard b.isSome (match b with | some x => Fl.absLt63 x | none => false) then
      (deref b).bind fun x => match conv x with | some _ => .ok () | none => .ub .float_cast_range
    else Res.ok ()) = .ok () := by
  rw [hg]
  cases b with
  | none => rfl
  | some x =>
    by_cases h : Fl.absLt63 x = true
    · obtain ⟨v, hv⟩ := hconv x h
      simp [deref, Res.bind, hv, h]
    · simp [h]

theorem bpmFieldsSiteG_ok (b : Option Fl.Bits) : bpmFieldsSiteG Guards.source b = .ok () :=
  castSiteG_ok _ bpmFieldsInRange_eq Fl.toI64 Fl.toI64_some_of_absLt63 b

theorem setBpmSiteG_ok (o : FOps) (hc : CeilInRange o) (b : Option Fl.Bits) : setBpmSiteG Guards.source o b = .ok () :=
  castSiteG_ok _ setBpmInRange_eq (fun x => Fl.toI64 (o.ceil x)) hc b

theorem extentsRateG_eq (r : Fl.Bits) : extentsRateG Guards.source r = extentsRate r := by
  unfold extentsRateG extentsRate
  rw [extentsRateOut_eq]
  cases Fl.absLt63 r <;> rfl

theorem overviewLoopG_ok (w : List Impl.V1.Entry) (hw : w ≠ []) (size : Nat) :
    ∀ (fuel i : Nat), size - i < fuel → overviewLoopG Guards.source w size fuel i = .ok () := by
  intro fuel
  induction fuel with
  | zero => intro i h; omega
  | succ f ih =>
    intro i h
    unfold overviewLoopG
    cases hg : Guards.source.overviewLoop i size with
    | false => rfl
    | true =>
      have hi : i < size := (overviewLoop_iff i size).mp hg
      simp only [if_true]
      unfold Cxx.U64.div
      rw [if_neg (by omega : ¬ 2 * size = 0)]
      have hidx : w.length * (2 * i + 1) / (2 * size) < w.length := by
        apply Nat.div_lt_of_lt_mul
        rw [Nat.mul_comm (2 * size)]
        exact Nat.mul_lt_mul_of_pos_left (by omega) (List.length_pos_iff.mpr hw)
      unfold indexAt
      simp only [Int.natCast_nonneg, if_true, Int.toNat_natCast, List.getElem?_eq_getElem hidx, Res.bind]
      exact ih (i + 1) (by omega)

/-- The part the two waveform sites share: the clamped rate converts to an `int64_t`, so the quantisation site of
track_utils.hpp passes whenever its guard tests the quantisation number for zero. -/
theorem extentsSiteG_rate_ok (zero : Nat → Int → Fl.Bits → Bool) (hz : ∀ n qn r, qn = 0 → zero n qn r = true)
    (n : UInt64) (x : Fl.Bits) :
    ∃ v, Fl.toI64 (extentsRate x) = some v ∧ Cxx.inI64 v = true ∧
      GuardedUtils.extentsSiteG zero Fl.toI64 n.toNat (extentsRateG Guards.source x) = .ok () := by
  rw [extentsRateG_eq]
  obtain ⟨v, hv⟩ := extentsRate_toI64 x
  have hin := toI64_inI64 _ v hv
  exact ⟨v, hv, hin, TrackUtils.extentsSiteG_ok zero hz Fl.toI64 n.toNat _ v hv hin⟩

theorem overviewSiteG_ok (o : FOps) (c : Option UInt64) (r : Option Fl.Bits) (w : List Impl.V1.Entry) :
    overviewSiteG Guards.source o c r w = .ok () := by
  unfold overviewSiteG
  rw [overviewAbsent_eq, overviewNonEmpty_eq]
  cases c with
  | none => simp
  | some n =>
    cases r with
    | none => simp
    | some x =>
      simp only [Option.isSome_some, Bool.not_true, Bool.or_self, Bool.false_eq_true, if_false, deref, Res.bind]
      obtain ⟨v, hv, hin, hu⟩ :=
        extentsSiteG_rate_ok Guards.source.utilOvwZero (fun n qn r h => (C15Guards.util_ovw_zero_iff n qn r).mpr (Or.inr h)) n x
      rw [hu, extentsRateG_eq]
      obtain ⟨size, spe, hg, _⟩ := TrackUtils.gen_ovw_some o.cxx n.toNat (extentsRate x) v hv hin
      simp only [Res.bind, hg]
      cases w with
      | nil => rfl
      | cons e t => exact overviewLoopG_ok (e :: t) (List.cons_ne_nil e t) size (size + 1) 0 (by omega)

theorem hiresSiteG_ok (o : FOps) (c : Option UInt64) (r : Option Fl.Bits) : hiresSiteG Guards.source o c r = .ok () := by
  unfold hiresSiteG
  simp only [hiresAbsent_eq]
  cases c with
  | none => simp
  | some n =>
    cases r with
    | none => simp
    | some x =>
      simp only [Option.isSome_some, Bool.not_true, Bool.false_or, Bool.or_false, deref, Res.bind]
      by_cases hz : ((n == 0) || F64.isZero x) = true
      · rw [if_pos hz]
      · rw [if_neg hz]
        obtain ⟨v, hv, hin, hu⟩ :=
          extentsSiteG_rate_ok Guards.source.utilHiresZero (fun n qn r h => (C15Guards.util_hires_zero_iff n qn r).mpr (Or.inr h)) n x
        rw [hu, extentsRateG_eq]
        obtain ⟨e, he⟩ := TrackUtils.gen_hires_some o.cxx n.toNat (extentsRate x) v hv hin
        simp only [Res.bind, he]

theorem snapSiteG_ok (o : FOps) (x : Snap) : snapSiteG Guards.source o x = .ok () := by
  unfold snapSiteG
  cases x.relativePath with
  | none => rfl
  | some p => simp only [lengthCalcSiteG_ok, bpmFieldsSiteG_ok, overviewSiteG_ok, hiresSiteG_ok, Res.bind]

theorem siteG_ok (o : FOps) (hc : CeilInRange o) (d : Db) (op : Op) : siteG Guards.source o d op = .ok () := by
  cases op with
  | create x => exact snapSiteG_ok o x
  | update id x => exact snapSiteG_ok o x
  | get id f =>
    cases f with
    | hotCueAt i => exact slotSiteG_ok isRange_hotCueAt _ i
    | loopAt i => exact slotSiteG_ok isRange_loopAt _ i
    | _ => rfl
  | set id f v =>
    cases f with
    | hotCueAt i => exact slotSiteG_ok isRange_setHotCueAt _ i
    | loopAt i => exact slotSiteG_ok isRange_setLoopAt _ i
    | bpm =>
      show (if (d.rows id).isSome then setBpmSiteG Guards.source o v else .ok ()) = .ok ()
      rw [setBpmSiteG_ok o hc v]
      exact ite_self _
    | _ => rfl
  | snapshot id => rfl
  | getDerived id g => rfl
  | remove id => rfl
  | isValid id => rfl
  | handleId id => rfl
  | handleCopy id => rfl

theorem stepG_eq (o : FOps) (hc : CeilInRange o) (d : Db) (op : Op) : stepG o d op = step o d op := by
  unfold stepG stepGW
  rw [siteG_ok o hc d op]

theorem outcomesG_eq (o : FOps) (hc : CeilInRange o) (l : List Op) : ∀ d, outcomesG o d l = outcomes o d l :=
  Machine.IsOutcomes.congr (step := stepG o) (step' := step o) ⟨fun _ => rfl, fun _ _ _ => rfl⟩
    ⟨fun _ => rfl, fun _ _ _ => rfl⟩ (stepG_eq o hc) l

theorem callG_fst (o : FOps) (hc : CeilInRange o) (d : Db) (c : Call) :
    (callG o d c).1 = match c with | .op op => (step o d op).1 | _ => d := by
  cases c with
  | op op => simp only [callG, callGW]; exact congrArg Prod.fst (stepG_eq o hc d op)
  | _ => rfl

theorem callG_defined (o : FOps) (hc : CeilInRange o) (d : Db) (hd : DbInv d) (c : Call) (u : Ub) :
    (callG o d c).2 ≠ .ub u := by
  cases c with
  | op op =>
    simp only [callG, callGW]
    rw [show stepGW Guards.source o d op = step o d op from stepG_eq o hc d op]
    cases hr : (step o d op).2 with
    | ub u' => exact absurd hr (step_defined o hc d hd op u')
    | _ => intro hh; cases hh
  | _ => intro hh; cases hh

theorem callG_inv (o : FOps) (hc : CeilInRange o) (d : Db) (hd : DbInv d) (c : Call) : DbInv (callG o d c).1 := by
  rw [callG_fst o hc]
  cases c with
  | op op => exact step_inv o d hd op
  | _ => exact hd

theorem callOutcomes_defined (o : FOps) (hc : CeilInRange o) (l : List Call) :
    ∀ d, DbInv d → ∀ r ∈ callOutcomes o d l, ∀ u, r ≠ .ub u :=
  Machine.IsOutcomes.forall (step := callG o) ⟨fun _ => rfl, fun _ _ _ => rfl⟩
    (fun d c h => ⟨callG_inv o hc d h c, callG_defined o hc d h c⟩) l

end EngineModel.Api.GuardedTracksV1
