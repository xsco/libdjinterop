/-
Step lemmas for the 1.x `writeSnap`: which conversions can fail, how, and what
they yield when they do not.
-/
import EngineModel.TracksV1.Model
import Proofs.TracksV1AList
import Proofs.TracksV1Float
import Proofs.NoUbGuardsGen

namespace EngineModel.TracksV1

open Impl.V1 (GMarker HotCue LoopV Entry Wave Beat Cues Loops)
open Fl (FOps)

@[simp] theorem Res.bind_ok' {α β} (a : α) (f : α → Res β) : (Res.ok a).bind f = f a := rfl
@[simp] theorem Res.bind_throw' {α β} (e : Exn) (f : α → Res β) : (Res.throw e : Res α).bind f = .throw e := rfl
@[simp] theorem Res.bind_ub' {α β} (u : Ub) (f : α → Res β) : (Res.ub u : Res α).bind f = .ub u := rfl

export _root_.EngineModel.Res (Defined Defined.ok Defined.throw Defined.bind defined_of_ok)

theorem mapRes_ok_map {α β} (f : α → Res β) (g : α → β) (l : List α) (h : ∀ a ∈ l, f a = .ok (g a)) :
    mapRes f l = .ok (l.map g) := by
  induction l with
  | nil => rfl
  | cons a t ih =>
    have ha := h a (List.mem_cons_self ..)
    have ht := ih (fun b hb => h b (List.mem_cons_of_mem _ hb))
    simp [mapRes, ha, ht]

theorem mapRes_ok_all {α β} (f : α → Res β) (l : List α) (r : List β) (h : mapRes f l = .ok r) :
    ∀ a ∈ l, ∃ b, f a = .ok b := by
  induction l generalizing r with
  | nil => intro a ha; cases ha
  | cons a t ih =>
    unfold mapRes at h
    cases hfa : f a with
    | ok b =>
      rw [hfa] at h
      cases hm : mapRes f t with
      | ok r' =>
        intro c hc
        cases hc with
        | head => exact ⟨b, hfa⟩
        | tail _ hc' => exact ih r' hm c hc'
      | throw e => rw [hm] at h; cases h
      | ub u => rw [hm] at h; cases h
    | throw e => rw [hfa] at h; cases h
    | ub u => rw [hfa] at h; cases h

theorem mulI64_ok (a b : Int) (h : -9223372036854775808 ≤ a * b ∧ a * b ≤ 9223372036854775807) :
    mulI64 a b = .ok (a * b) := by
  unfold mulI64 Cxx.I64.mul Cxx.chk64 Cxx.inI64 Cxx.i64Min Cxx.i64Max
  have : decide (-9223372036854775808 ≤ a * b ∧ a * b ≤ 9223372036854775807) = true := by
    simp only [decide_eq_true_eq]; exact h
  rw [if_pos this]
  rfl

theorem i64div_pos (a d : Int) (ha : Cxx.inI64 a = true) (hd : 1 ≤ d) : ∃ q, Cxx.I64.div a d = some q := by
  unfold Cxx.I64.div
  have hne : ¬ d = 0 := by omega
  rw [if_neg hne]
  unfold Cxx.inI64 Cxx.i64Min Cxx.i64Max at ha
  simp only [decide_eq_true_eq] at ha
  have hin : Cxx.inI64 (a.tdiv d) = true := by
    unfold Cxx.inI64 Cxx.i64Min Cxx.i64Max
    simp only [decide_eq_true_eq]
    by_cases h0 : 0 ≤ a
    · have h1 := Int.tdiv_le_self d h0
      have h2 : 0 ≤ a.tdiv d := Int.tdiv_nonneg h0 (by omega)
      omega
    · have hn : 0 ≤ -a := by omega
      have h1 := Int.tdiv_le_self d hn
      have h2 : 0 ≤ (-a).tdiv d := Int.tdiv_nonneg hn (by omega)
      rw [Int.neg_tdiv] at h1 h2
      omega
  unfold Cxx.chk64
  rw [if_pos hin]
  exact ⟨_, rfl⟩

theorem inI64_s64 (x : UInt64) : Cxx.inI64 (Prim.s64 x) = true := by
  have := Prim.s64_range x
  unfold Cxx.inI64 Cxx.i64Min Cxx.i64Max
  simp only [decide_eq_true_eq]
  omega

theorem lengthCalculated_ok (c : Option UInt64) (r : Option Bits) : ∃ v, lengthCalculated c r = .ok v := by
  unfold lengthCalculated
  cases c with
  | none => exact ⟨none, rfl⟩
  | some c =>
    cases r with
    | none => exact ⟨none, rfl⟩
    | some r =>
      simp only
      by_cases hr : Fl.rateDivisible r = true
      · obtain ⟨d, hd, hd1⟩ := Fl.toI64_pos_of_rateDivisible r hr
        obtain ⟨q, hq⟩ := i64div_pos (Prim.s64 c) d (inI64_s64 c) hd1
        simp [hr, hd, hq]
      · simp [hr]

theorem roundedBpm_ok (b : Option Bits) : ∃ v, roundedBpm b = .ok v := by
  unfold roundedBpm
  cases b with
  | none => exact ⟨none, rfl⟩
  | some b =>
    simp only
    by_cases h : Fl.absLt63 b = true
    · obtain ⟨v, hv⟩ := Fl.toI64_some_of_absLt63 b h
      simp [h, hv]
    · simp [h]

theorem roundedBpm_none : roundedBpm none = .ok none := rfl

theorem extentsRate_toI64 (r : Bits) : ∃ v, Fl.toI64 (extentsRate r) = some v := by
  unfold extentsRate
  by_cases h : Fl.absLt63 r = true
  · rw [if_pos h]; exact Fl.toI64_some_of_absLt63 r h
  · rw [if_neg h]; exact ⟨0, Fl.toI64_zero⟩

theorem toI64_inI64 (x : Bits) (v : Int) (h : Fl.toI64 x = some v) : Cxx.inI64 v = true := by
  unfold Fl.toI64 at h
  simp only at h
  by_cases he : F64.expOf x = 2047
  · rw [if_pos he] at h; cases h
  · rw [if_neg he] at h
    generalize (if F64.signOf x = true then
        -((if F64.expOf x = 0 then 0
          else if F64.expOf x ≥ 1075 then (F64.manOf x + 4503599627370496) * 2 ^ (F64.expOf x - 1075)
          else (F64.manOf x + 4503599627370496) / 2 ^ (1075 - F64.expOf x) : Nat) : Int)
      else ((if F64.expOf x = 0 then 0
          else if F64.expOf x ≥ 1075 then (F64.manOf x + 4503599627370496) * 2 ^ (F64.expOf x - 1075)
          else (F64.manOf x + 4503599627370496) / 2 ^ (1075 - F64.expOf x) : Nat) : Int)) = w at h
    by_cases hin : Cxx.inI64 w = true
    · rw [if_pos hin] at h
      cases h
      exact hin
    · rw [if_neg hin] at h; cases h

/-- The extents of the regenerated `track_utils` are defined on every rate that `to_extents_sample_rate` lets through. -/
theorem ovwExtents_eq (o : FOps) (n : UInt64) (r : Bits) :
    ∃ size spe, ovwExtents o n r = .ok (size, spe) ∧ (size = 0 ∨ size = 1024) := by
  obtain ⟨v, hv⟩ := extentsRate_toI64 r
  obtain ⟨size, spe, hg, hs⟩ :=
    Gen.TrackUtils.gen_ovw_some o.cxx n.toNat (extentsRate r) v hv (toI64_inI64 _ v hv)
  exact ⟨size, spe, by unfold ovwExtents; rw [hg]; rfl, hs⟩

theorem ovwExtents_ok (o : FOps) (n : UInt64) (r : Bits) : ∃ e, ovwExtents o n r = .ok e :=
  have ⟨_, _, h, _⟩ := ovwExtents_eq o n r
  ⟨_, h⟩

theorem hiresExtents_ok (o : FOps) (n : UInt64) (r : Bits) : ∃ e, hiresExtents o n r = .ok e := by
  obtain ⟨v, hv⟩ := extentsRate_toI64 r
  obtain ⟨e, hg⟩ := Gen.TrackUtils.gen_hires_some o.cxx n.toNat (extentsRate r) v hv (toI64_inI64 _ v hv)
  exact ⟨_, by unfold hiresExtents; rw [hg]; rfl⟩

theorem resample_ok (w : List Entry) (size : Nat) (hw : w ≠ []) : ∃ es, resample w size = .ok es := by
  unfold resample
  have hlen : 0 < w.length := List.length_pos_iff.mpr hw
  have hall : ∀ i ∈ List.range size,
      (fun i => liftUb (w[w.length * (2 * i + 1) / (2 * size)]?) Ub.oob_index) i =
        .ok ((fun i => w[w.length * (2 * i + 1) / (2 * size)]?.getD default) i) := by
    intro i hi
    have hi' : i < size := List.mem_range.mp hi
    have hidx : w.length * (2 * i + 1) / (2 * size) < w.length := by
      apply (Nat.div_lt_iff_lt_mul (by omega)).mpr
      have : 2 * i + 1 < 2 * size := by omega
      exact Nat.mul_lt_mul_of_pos_left this hlen
    simp only
    rw [List.getElem?_eq_getElem hidx]
    rfl
  exact ⟨_, mapRes_ok_map _ _ _ hall⟩

theorem toOverview_ok (o : FOps) (c : Option UInt64) (r : Option Bits) (w : List Entry) :
    ∃ v, toOverview o c r w = .ok v := by
  unfold toOverview
  cases c with
  | none => exact ⟨_, rfl⟩
  | some n =>
    cases r with
    | none => exact ⟨_, rfl⟩
    | some r =>
      obtain ⟨⟨size, spe⟩, he⟩ := ovwExtents_ok o n r
      simp only [he]
      by_cases hw : w.isEmpty = true
      · simp [hw]
      · have hne : w ≠ [] := by intro h; apply hw; simp [h]
        obtain ⟨es, hes⟩ := resample_ok w size hne
        simp [hw, hes]

/-- The condition under which a waveform can be stored. -/
def waveStorable (c : Option UInt64) (r : Option Bits) (w : List Entry) : Prop :=
  w = [] ∨ ∃ n rr, c = some n ∧ r = some rr ∧ n ≠ 0 ∧ F64.isZero rr = false

theorem toHires_ok (o : FOps) (c : Option UInt64) (r : Option Bits) (w : List Entry) (h : waveStorable c r w) :
    ∃ spe, toHires o c r w = .ok ⟨spe, w⟩ := by
  unfold toHires
  rcases h with hw | ⟨n, rr, hc, hr, hn, hz⟩
  · subst hw
    cases c with
    | none => exact ⟨_, rfl⟩
    | some n =>
      cases r with
      | none => exact ⟨_, rfl⟩
      | some rr =>
        simp only
        by_cases hz : (n = 0 || F64.isZero rr) = true
        · simp [hz]
        · obtain ⟨⟨sz, spe⟩, he⟩ := hiresExtents_ok o n rr
          simp [hz, he]
  · subst hc hr
    obtain ⟨⟨sz, spe⟩, he⟩ := hiresExtents_ok o n rr
    have : (n = 0 || F64.isZero rr) = false := by simp [hn, hz]
    simp [this, he]

theorem toHires_cases (o : FOps) (c : Option UInt64) (r : Option Bits) (w : List Entry) :
    (∃ v, toHires o c r w = .ok v ∧ waveStorable c r w) ∨
    (toHires o c r w = .throw (.dj "invalid_track_snapshot") ∧ ¬ waveStorable c r w) := by
  by_cases hs : waveStorable c r w
  · obtain ⟨spe, h⟩ := toHires_ok o c r w hs
    exact Or.inl ⟨_, h, hs⟩
  · right
    refine ⟨?_, hs⟩
    have hw : w ≠ [] := fun h => hs (Or.inl h)
    have hwe : w.isEmpty = false := by cases w <;> simp_all
    unfold toHires
    cases c with
    | none => simp [hwe]
    | some n =>
      cases r with
      | none => simp [hwe]
      | some rr =>
        simp only
        by_cases hz : (n = 0 || F64.isZero rr) = true
        · simp [hz, hwe]
        · exfalso
          apply hs
          right
          refine ⟨n, rr, rfl, rfl, ?_, ?_⟩
          · intro h; apply hz; simp [h]
          · cases hzz : F64.isZero rr with
            | false => rfl
            | true => exfalso; apply hz; simp [hzz]

theorem toLoops_cases (ls : List (Option LoopV)) :
    (ls.length ≤ 8 ∧ toLoops ls = .ok (padTo8 ls)) ∨ (8 < ls.length ∧ toLoops ls = .throw (.dj "loops_overflow")) := by
  unfold toLoops
  by_cases h : 8 < ls.length
  · right; simp [h]
  · left; simp [h]; omega

end EngineModel.TracksV1
