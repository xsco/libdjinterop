/-
On the AUTOINCREMENT schemas (1.17.0, 1.18.0 desktop / os) a track id is never issued twice: `sqlite_sequence` only grows
and bounds every Track id, so `create_track` never reports an id at or below it.  Hence the stale-track clause holds in
FULL there (no `reissuesTrack` hypothesis).
-/
import Proofs.Lib1Members

namespace EngineModel.Lib.V1
open EngineModel.Api
open EngineModel.Api.CratesV1 (liveTrack trackAutoinc)
open EngineModel.Api.CratesV1.C15 (SeqOk CInv)
open EngineModel.TracksV1 (Snap Field TrackRows aget aset dbCreate)
open EngineModel.TracksV1.Fl (FOps)

theorem createTrack_seq_mono (s : Pure.Detect.Schema) (db : CratesV1.Db) :
    db.trackSeq ≤ (CratesV1.createTrack s db).1.trackSeq := by
  unfold CratesV1.createTrack
  split
  · show db.trackSeq ≤ max db.trackSeq _ + 1; omega
  · exact Int.le_refl _

theorem removeTrack_seq_mono (s : Pure.Detect.Schema) (db : CratesV1.Db) (t : Id) :
    db.trackSeq ≤ (CratesV1.removeTrack s db t).1.trackSeq := by
  have h5 : db.trackSeq ≤ (CratesV1.deleteCtl s db (fun r => r.2 == t)).trackSeq :=
    Int.le_of_eq (CratesV1.deleteCtl_other s db (fun r => r.2 == t)).2.2.2.2.symm
  rw [CratesV1.removeTrack_unfold]
  split
  · -- each firing of the trigger sets the sequence to an id above it
    exact CratesV1.triggerFold_induction (fun d => db.trackSeq ≤ d.trackSeq)
      (fun _ _ h hlt _ => Int.le_trans h (Int.le_of_lt hlt)) _ _ h5
  · exact h5

theorem step_seq_mono (o : FOps) {s : VSchema} {L : Lib1} (h : LibInv s L) (c : Call) :
    L.cr.trackSeq ≤ (step o s L c).1.cr.trackSeq := by
  cases step_eff o s L c with
  | idle e _ _ =>
    rw [e]; exact Int.le_refl _
  | crate op _ hop e _ =>
    rw [e, show (viaCrates s L op).1.cr = (CratesV1.step (toDetect s) L.cr op).1 from rfl,
      (crateOp_track (toDetect s) h.crates.toFInv op hop).2]
    exact Int.le_refl _
  | create x id seq rows _ _ _ hc e =>
    rw [e]
    exact (congrArg (fun p => p.1.trackSeq) hc) ▸ createTrack_seq_mono (toDetect s) L.cr
  | remove t =>
    exact removeTrack_seq_mono _ _ t
  | write t r r' _ _ _ e =>
    rw [e]; exact Int.le_refl _

theorem step_cinv_lib (o : FOps) {s : VSchema} {L : Lib1} (hc : CInv (toDetect s) L.cr) (c : Call) :
    CInv (toDetect s) (step o s L c).1.cr := by
  rw [step_cr]
  cases crOp o L c with
  | none => exact hc
  | some op => exact CratesV1.C15.step_cinv (toDetect s) hc op

theorem createTrack_id_gt_seq {s : Pure.Detect.Schema} (ha : trackAutoinc s = true) {db db' : CratesV1.Db} {id : Id}
    (h : CratesV1.createTrack s db = (db', .ok (.id id))) : db.trackSeq < id := by
  unfold CratesV1.createTrack at h
  rw [if_pos ha] at h
  cases h
  exact Int.lt_add_one_iff.mpr (Int.le_max_left _ _)

theorem no_reissue_autoinc (o : FOps) {s : VSchema} (ha : trackAutoinc (toDetect s) = true) (t : Id) :
    ∀ (cs : List Call) {L : Lib1}, LibInv s L → CInv (toDetect s) L.cr → t ≤ L.cr.trackSeq → reissuesTrack o s L cs t = false := by
  intro cs
  induction cs with
  | nil => intro L _ _ _; rfl
  | cons c cs ih =>
    intro L h hc ht
    rw [reissuesTrack_cons, Bool.or_eq_false_iff]
    refine ⟨?_, ih (libInv_step o h c) (step_cinv_lib o hc c) (Int.le_trans ht (step_seq_mono o h c))⟩
    cases c with
    | createTrack x =>
      show ((Out.newId (step o s L (.createTrack x)).2 == some t) || false) = false
      cases step_eff o s L (.createTrack x) with
      | idle _ _ hq =>
        have e := hq.resolve_left nofun
        cases hr : (step o s L (.createTrack x)).2 with
        | ok a => rw [hr] at e; cases e
        | throw e => rfl
        | ub u => rfl
      | crate op hop only _ _ =>
        -- `create_track` performs `.createTrack` or nothing on the crate tables, never an operation of the crate calls
        have hop : (if (dbCreate o L.tr x).isOk then some CratesV1.Op.createTrack else none) = some op := hop
        split at hop <;> cases hop
        cases only
      | create _ id seq rows _ _ _ hcr e =>
        have := Int.lt_of_le_of_lt ht (createTrack_id_gt_seq ha hcr)
        rw [e]
        simpa [Out.newId] using Int.ne_of_gt this
      | write _ _ _ _ hk _ _ =>
        rcases hk with ⟨_, hk, _⟩ | ⟨_, _, hk, _⟩ <;> cases hk
    | _ => rfl

end EngineModel.Lib.V1
