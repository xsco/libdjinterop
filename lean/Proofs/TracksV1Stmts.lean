/-
C14, schema 1.x tracks: the statement program of every public mutating track call
(`TracksV1/Stmts.lean`, one `write` per call, in a scope where the C++ has one) is an atomic shape,
and its fault-free run commits what the call-level step computes.
-/
import EngineModel.TracksV1.Stmts
import Proofs.Stmts

namespace EngineModel
namespace TracksV1
open EngineModel.Spec.Txn EngineModel.Spec.Stmts EngineModel.Proofs.Stmts
open Fl (FOps)

theorem topBody_rw (o : FOps) (op : TOp) : ∀ x ∈ topBody o op, Cmd.rw x = true :=
  rw_of_all rfl

theorem topStmts_atomic (o : FOps) (op : TOp) : atomicShape (topShapeOf o op) = true :=
  atomic_form op.scoped _ (topBody_rw o op) fun _ => Nat.le_refl 1

theorem topStmts_skeleton (o : FOps) (op : TOp) : skeleton (topShapeOf o op) = op.skeleton.kinds := by
  unfold topShapeOf topStmts TOp.skeleton
  cases op.scoped <;> rfl

theorem topStmts_run (o : FOps) (d d' : Db) (op : TOp) (auto : Bool) (h : topStep o d op = .ok d') :
    (call none auto (topStmts o op) d).raised = false ∧ (call none auto (topStmts o op) d).conn = Conn.idle d' := by
  refine form_run op.scoped auto _ (topBody_rw o op) d d' ?_
  show ((topStep o d op).toOption).bind some = some d'
  rw [h]; rfl

end TracksV1
end EngineModel
