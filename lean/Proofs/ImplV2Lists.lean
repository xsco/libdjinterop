/-
Agreement of the Model's 2.x quick-cue and loop codecs with the Spec layouts
(`decodeCues_eq`, `decodeLoops_eq`, `encodeCues_ok/_reject`, `encodeLoops_ok/_reject`).
Each decoder is derived from its own program: the label test by `lp8_look_run`, the fixed fields behind it
by `look_rd`, the loop by `forN_look`, the count test by `counted_run_bind`.  `decodeCue_look` and `cuesRaw_look`
are the two steps the 1.x quick-cue decoder (Proofs/ImplV1Lists.lean) shares with the 2.x one.
-/
import Proofs.ImplV2

namespace EngineModel
open Codec Cur

namespace Codec

theorem lp8_enc_length (s : Bytes) : (lp8.enc s).length = 1 + s.length := by
  simp [lp8]; omega

theorem rd_u8_cons (n : UInt8) (r : Bytes) : Cur.rd u8 (n :: r) = .ok (n, r) := rfl

theorem lp8_dec_cons (n : UInt8) (r : Bytes) :
    lp8.dec (n :: r) = if n.toNat ≤ r.length then some (r.take n.toNat, r.drop n.toNat) else none := rfl

/-- `len = *ptr++; if (end - ptr < k + len) throw; label.assign(ptr, len);`: the length-prefixed label with
`k` bytes to spare, for the unchecked reads that follow. -/
theorem lp8_look_run {γ} (k : Nat) (K : Bytes → Cur γ) (bs : Bytes) (h : 1 ≤ bs.length) :
    (rd u8 >>= fun len => remaining >>= fun rem =>
      if rem < k + len.toNat then throwC .invalid_argument else takeN len.toNat >>= K) bs =
    (look k lp8 >>= K) bs := by
  match bs, h with
  | n :: r, _ =>
    simp only [bind_run, rd_u8_cons, remaining_run, look, lp8_dec_cons]
    by_cases hl : r.length < k + n.toNat
    · rw [if_pos hl]
      by_cases hn : n.toNat ≤ r.length
      · rw [if_pos hn]
        dsimp only
        rw [if_neg (by rw [List.length_drop]; omega)]
        rfl
      · rw [if_neg hn]; rfl
    · have hn : n.toNat ≤ r.length := by omega
      rw [if_neg hl, if_pos hn]
      dsimp only
      rw [if_pos (by rw [List.length_drop]; omega)]
      simp only [bind_run, takeN_run hn]

end Codec

namespace Impl.V2
open EngineModel.V2

def loopTail : Codec (UInt64 × UInt64 × UInt8 × UInt8 × Color) :=
  pair u64le (pair u64le (pair u8 (pair u8 color)))

theorem loopTail_fixed : loopTail.Fixed 22 :=
  pair_fixed u64le_fixed (pair_fixed u64le_fixed (pair_fixed u8_fixed (pair_fixed u8_fixed color_fixed)))

theorem loopTail_dec_some (bs : Bytes) (h : 22 ≤ bs.length) :
    ∃ t, loopTail.dec bs = some (t, bs.drop 22) := loopTail_fixed.dec_some h

theorem loop_enc_length (l : Loop) : (loop.enc l).length = 23 + l.label.length := by
  show (lp8.enc l.label ++ loopTail.enc _).length = _
  rw [List.length_append, lp8_enc_length, show (loopTail.enc _).length = 22 from rfl]; omega

theorem decodeLoop_eq (bs : Bytes) : decodeLoop bs = liftDec loop bs := by
  unfold decodeLoop
  simp only [bind_run, remaining_run]
  by_cases h23 : bs.length < 23
  · rw [if_pos h23]
    unfold liftDec
    rw [dec_none_of_short loop_exact (n := 23) (fun a _ => by rw [loop_enc_length]; omega) h23]
    rfl
  · rw [if_neg h23, lp8_look_run 22 _ bs (by omega)]
    simp only [look_rd u64le_fixed 14 rfl, look_rd u64le_fixed 6 rfl, look_rd u8_fixed 5 rfl,
      look_rd u8_fixed 4 rfl, look_rd color_fixed 0 rfl, look_zero]
    simp only [loop, liftDec_map, liftDec_pair, bind_assoc, pure_bind]

theorem decodeLoops_eq (bs : Bytes) : decodeLoops bs = liftDec loops bs := by
  unfold decodeLoops
  by_cases h8 : bs.length < 8
  · rw [if_pos h8]
    simp only [liftDec, loops, counted, u64le_fixed.dec_none h8]
  · rw [if_neg h8, counted_run_bind u64le_fixed loop_exact (w := 23) (by omega)
      (fun a _ => by rw [loop_enc_length]; omega)
      (fun k bs h _ => forN_look (m := decodeLoop) loop_exact (Nat.le_refl 0)
        (fun bs _ => by rw [look_zero, decodeLoop_eq]) k bs h)
      23 rfl _ bs (by omega), look_zero]
    exact withRest_run (liftDec loops) bs

theorem decodeLoops_exact {bs : Bytes} {v : Loops} {extra : Bytes} (h : decodeLoops bs = .ok (v, extra)) :
    LoopsValid v ∧ bs = loops.enc v ++ extra :=
  loops_exact bs v extra (liftDec_ok_iff.mp (decodeLoops_eq bs ▸ h))

def cueTail : Codec (UInt64 × Color) := pair u64be color

theorem cue_enc_length (q : Cue) : (cue.enc q).length = 13 + q.label.length := by
  show (lp8.enc q.label ++ cueTail.enc _).length = _
  rw [List.length_append, lp8_enc_length, show (cueTail.enc _).length = 12 from rfl]; omega

/-- One round of the quick-cue loop, entered with at least one byte left: the Spec's cue with 17 bytes to
spare.  The test is `end - ptr < 29 + label_length  // 12 (here) + 17 (after the loop)`
(quick_cues_blob.cpp, and the same line in the 1.x decoder): the 17 bytes are the three fields behind the
list, which are then read without a test. -/
theorem decodeCue_look (bs : Bytes) (h : 1 ≤ bs.length) : decodeCue bs = look 17 cue bs := by
  unfold decodeCue
  rw [lp8_look_run 29 _ bs h]
  simp only [look_rd u64be_fixed 21 rfl, look_rd color_fixed 17 rfl]
  simp only [cue, look_map, look_pair, bind_assoc, pure_bind]

theorem decodeCue_run (bs : Bytes) (h : 1 ≤ bs.length) :
    decodeCue bs = match cue.dec bs with
      | some (q, r) => if 17 ≤ r.length then .ok (q, r) else .throw .invalid_argument
      | none => .throw .invalid_argument := by
  rw [decodeCue_look bs h, look]
  cases cue.dec bs with
  | none => rfl
  | some p => rfl

def cuesTail : Codec (UInt64 × UInt8 × UInt64) := pair u64be (pair u8 u64be)

theorem cuesTail_enc_length (t) : (cuesTail.enc t).length = 17 := rfl

theorem encL_labelled_length {α} {c : Codec α} {k : Nat} {lab : α → Bytes}
    (hc : ∀ a, (c.enc a).length = k + (lab a).length) (l : List α) :
    (encL c l).length = k * l.length + labelsLen (l.map lab) := by
  induction l with
  | nil => simp [encL, labelsLen]
  | cons a l ih =>
    simp only [labelsLen] at ih
    simp only [encL, List.length_append, hc, ih, List.length_cons, List.map_cons, labelsLen, List.sum_cons,
      Nat.mul_succ]
    omega

theorem encL_cue_length (l : List Cue) :
    (encL cue l).length = 13 * l.length + labelsLen (l.map (·.label)) :=
  encL_labelled_length cue_enc_length l

theorem cuesRaw_enc_length (v : CuesRaw) :
    (cuesRaw.enc v).length = 25 + 13 * v.cues.length + labelsLen (v.cues.map (·.label)) := by
  show ((counted u64be cue).enc v.cues ++ cuesTail.enc _).length = _
  simp only [counted, List.length_append, u64be_enc_length, encL_cue_length, cuesTail_enc_length]
  omega

/-- The three fields behind the cue list, read unchecked behind the loop's 17 bytes to spare: with the
list they are the Spec's `cuesRaw`. -/
theorem cuesRaw_look {γ} (K : List Cue → UInt64 → UInt8 → UInt64 → Cur γ) :
    (look 17 (counted u64be cue) >>= fun cs => rd u64be >>= fun a => rd u8 >>= fun f => rd u64be >>= fun d =>
      K cs a f d) =
    liftDec cuesRaw >>= fun raw => K raw.cues raw.adjMain raw.isAdj raw.defMain := by
  simp only [look_rd u64be_fixed 9 rfl, look_rd u8_fixed 8 rfl, look_rd u64be_fixed 0 rfl, look_zero]
  simp only [cuesRaw, liftDec_map, liftDec_pair, bind_assoc, pure_bind]

/-- The count test and the loop of both quick-cue decoders, behind their 25-byte test. -/
theorem cueList_run {γ} (K : List Cue → Cur γ) (bs : Bytes) (h : 25 ≤ bs.length) :
    (rd u64be >>= fun n => remaining >>= fun rem =>
      if Prim.s64 n < 0 ∨ (rem / 13 : Int) < Prim.s64 n then throwC .invalid_argument else
      forN decodeCue n.toNat >>= K) bs =
    (look 17 (counted u64be cue) >>= K) bs :=
  counted_run_bind u64be_fixed cue_exact (w := 13) (by omega) (fun a _ => by rw [cue_enc_length]; omega)
    (fun k bs h _ => forN_look cue_exact (by omega : 1 ≤ 17) decodeCue_look k bs h) 13 rfl K bs (by omega)

theorem decodeCues_eq (bs : Bytes) : decodeCues bs = liftDec cues bs := by
  unfold decodeCues
  by_cases h25 : bs.length < 25
  · rw [if_pos h25]
    simp only [liftDec, cues, map, dec_none_of_short cuesRaw_exact (n := 25)
      (fun a _ => by rw [cuesRaw_enc_length]; omega) h25]
  · rw [if_neg h25, cueList_run _ bs (by omega), cuesRaw_look, ← withRest_run (liftDec cues)]
    simp only [cues, liftDec_map, bind_assoc, pure_bind]
    rfl

/-- `cues` is `cuesRaw` read through `toCues`, which keeps of the flag byte only whether it is zero (so `cues`
is not `Exact`): what the quick-cues decoder accepts, the raw layout accepts, with the same remainder. -/
theorem decodeCues_raw {bs : Bytes} {v : Cues} {extra : Bytes} (h : decodeCues bs = .ok (v, extra)) :
    ∃ raw, cuesRaw.dec bs = some (raw, extra) ∧ v = raw.toCues := by
  obtain ⟨raw, r, hd, h⟩ := dec_match_some (liftDec_ok_iff.mp (decodeCues_eq bs ▸ h))
  cases h
  exact ⟨raw, hd, rfl⟩

theorem encL_loop_length (l : List Loop) :
    (encL loop l).length = 23 * l.length + labelsLen (l.map (·.label)) :=
  encL_labelled_length loop_enc_length l

theorem cues_enc_length (v : Cues) :
    (cues.enc v).length = 25 + 13 * v.cues.length + labelsLen (v.cues.map (·.label)) :=
  cuesRaw_enc_length v.toRaw

theorem loops_enc_length (v : Loops) :
    (loops.enc v).length = 8 + 23 * v.length + labelsLen (v.map (·.label)) := by
  simp only [loops, counted, List.length_append, u64le_enc_length, encL_loop_length]
  omega

def CuesFit (v : Cues) : Prop := ∀ q ∈ v.cues, q.label.length ≤ 255
def LoopsFit (v : Loops) : Prop := ∀ l ∈ v, l.label.length ≤ 255

instance (v : Cues) : Decidable (CuesFit v) := by unfold CuesFit; infer_instance
instance (v : Loops) : Decidable (LoopsFit v) := by unfold LoopsFit; infer_instance

theorem any_long_iff {α} (l : List α) (len : α → Nat) :
    l.any (fun q => decide (255 < len q)) = true ↔ ¬ ∀ q ∈ l, len q ≤ 255 := by
  simp [Nat.not_le]

theorem encodeCues_ok (v : Cues) (h : CuesFit v) (extra : Bytes) :
    encodeCues v extra = .ok (cues.enc v ++ extra) := by
  unfold encodeCues
  rw [if_neg fun hc => (any_long_iff _ _).mp hc h]
  apply writeInto_exact
  simp [cues_enc_length]

theorem encodeCues_reject (v : Cues) (h : ¬ CuesFit v) (extra : Bytes) :
    encodeCues v extra = .throw .invalid_argument := by
  unfold encodeCues
  rw [if_pos ((any_long_iff _ _).mpr h)]

theorem encodeLoops_ok (v : Loops) (h : LoopsFit v) (extra : Bytes) :
    encodeLoops v extra = .ok (loops.enc v ++ extra) := by
  unfold encodeLoops
  rw [if_neg fun hc => (any_long_iff _ _).mp hc h]
  apply writeInto_exact
  simp [loops_enc_length]

theorem encodeLoops_reject (v : Loops) (h : ¬ LoopsFit v) (extra : Bytes) :
    encodeLoops v extra = .throw .invalid_argument := by
  unfold encodeLoops
  rw [if_pos ((any_long_iff _ _).mpr h)]

end Impl.V2
end EngineModel
