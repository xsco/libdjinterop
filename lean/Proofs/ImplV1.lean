/-
Agreement of the Model's schema-1.x codecs (Impl/V1.lean, the mirror of
src/djinterop/engine/v1/performance_data_format.cpp) with the Spec layouts of
Format/V1.lean: track data and the two waveforms.  Quick cues, loops and beat
data are in Proofs/ImplV1Lists.lean and Proofs/ImplV1Beat.lean.
-/
import EngineModel.Format.V1
import Proofs.ImplV2Lists
import Proofs.ListAux

namespace EngineModel

namespace V1Proofs
open Codec Cur Impl.V2

/-- The 1.x Model encoder follows the Spec encoder: the same bytes where the Spec accepts, an exception (of
whatever class: the C++ throws three) where it rejects — so never other bytes and never undefined behaviour.
`r` is the Model's outcome on a value, `o` the Spec's. -/
def Follows (r : Res Bytes) (o : Option Bytes) : Prop :=
  (∃ b, o = some b ∧ r = .ok b) ∨ (o = none ∧ ∃ e, r = .throw e)

theorem Follows.accepts {r : Res Bytes} {o : Option Bytes} {b : Bytes} (ho : o = some b) (hr : r = .ok b) :
    Follows r o := .inl ⟨b, ho, hr⟩

theorem Follows.rejects {r : Res Bytes} {o : Option Bytes} (ho : o = none) (hr : ∃ e, r = .throw e) :
    Follows r o := .inr ⟨ho, hr⟩

theorem Follows.ok_iff {r : Res Bytes} {o : Option Bytes} (h : Follows r o) (b : Bytes) :
    r = .ok b ↔ o = some b := by
  rcases h with ⟨b0, ho, hr⟩ | ⟨ho, e, hr⟩
  · rw [ho, hr, Res.ok.injEq, Option.some.injEq]
  · rw [ho, hr]; exact ⟨nofun, nofun⟩

theorem Follows.never_ub {r : Res Bytes} {o : Option Bytes} (h : Follows r o) (u : Ub) : r ≠ .ub u := by
  rcases h with ⟨b, -, hr⟩ | ⟨-, e, hr⟩ <;> rw [hr] <;> nofun

theorem encodeTrack_ok (v : Impl.V1.Track) :
    Impl.V1.encodeTrack v = .ok (V1.trackWire.enc (V1.trackToWire v)) := by
  unfold Impl.V1.encodeTrack
  have e : (u64be.enc (v.sampleRate.getD 0) ++ u64be.enc (v.sampleCount.getD 0) ++
      u64be.enc (v.loudness.getD 0) ++ u32be.enc (v.key.getD 0)) = V1.trackWire.enc (V1.trackToWire v) := by
    simp [V1.trackWire, V1.trackToWire, pair, List.append_assoc]
  rw [e]
  exact writeInto_exact rfl

theorem encodeTrack_follows (v : Impl.V1.Track) : Follows (Impl.V1.encodeTrack v) (V1.encodeTrack v) :=
  .accepts rfl (encodeTrack_ok v)

theorem trackWire_fixed : V1.trackWire.Fixed 28 :=
  pair_fixed u64be_fixed (pair_fixed u64be_fixed (pair_fixed u64be_fixed u32be_fixed))

theorem decodeTrack_eq (bs : Bytes) : Impl.V1.decodeTrack bs = ofOpt (V1.decodeTrack bs) := by
  have e : ∀ k : UInt64 → UInt64 → UInt64 → UInt32 → Cur Impl.V1.Track,
      (rd V1.trackWire >>= fun w => k w.1 w.2.1 w.2.2.1 w.2.2.2) =
        rd u64be >>= fun a => rd u64be >>= fun b => rd u64be >>= fun c => rd u32be >>= fun d => k a b c d := by
    intro k; simp only [V1.trackWire, rd_pair_seq, bind_assoc, pure_bind]
  unfold Impl.V1.decodeTrack V1.decodeTrack
  by_cases h : bs.length = 28
  · have hnil : bs.drop 28 = [] := List.drop_eq_nil_of_le (by omega)
    rw [if_neg (fun hn => hn h), trackWire_fixed.dec_run (by omega), hnil]
    refine Eq.trans (congrArg (fun m : Cur _ => (m bs).bind _) (e _).symm) ?_
    simp only [bind_run, trackWire_fixed.rd_run (Nat.le_of_eq h.symm), hnil, remaining_run]
    rfl
  · rw [if_pos h]
    by_cases hl : 28 ≤ bs.length
    · rw [trackWire_fixed.dec_run hl]
      cases hd : bs.drop 28 with
      | nil => exact absurd (List.drop_eq_nil_iff.mp hd) (by omega)
      | cons x r => rfl
    · rw [trackWire_fixed.dec_none (Nat.lt_of_not_le hl)]; rfl

theorem forN_ovwEntry : ∀ (n : Nat) (bs : Bytes), 3 * n ≤ bs.length →
    forN Impl.V1.ovwEntry n bs = .ok (V1.chunk3 (bs.take (3 * n)), bs.drop (3 * n)) :=
  forN_chunks rfl fun x hx =>
    match x, hx with
    | [a, b, c], _ => ⟨⟨a, b, c, 255, 255, 255⟩, fun _ => ⟨rfl, rfl⟩⟩

theorem forN_hiresEntry : ∀ (n : Nat) (bs : Bytes), 6 * n ≤ bs.length →
    forN Impl.V1.hiresEntry n bs = .ok (V1.chunk6 (bs.take (6 * n)), bs.drop (6 * n)) :=
  forN_chunks rfl fun x hx =>
    match x, hx with
    | [a, b, c, d, e, f], _ => ⟨⟨a, b, c, d, e, f⟩, fun _ => ⟨rfl, rfl⟩⟩

theorem wave_enc_length (w : Nat) (v : V1.WaveRaw) :
    ((V1.wave w).enc v).length = 24 + v.points.length + v.maxPt.length :=
  waveLayout_enc_length w (V1.waveCount w) _ _ v

/-- Both 1.x waveform decoders, for any entry reader that chunks `w` bytes per entry: the Spec
layout `wave w` read to the end of the input, entries chunked. -/
theorem decodeWave_eq (w : Nat) (hw : w = 3 ∨ w = 6) (entry : Cur Impl.V1.Entry)
    (chunk : Bytes → List Impl.V1.Entry)
    (hentry : ∀ n bs, w * n ≤ bs.length → forN entry n bs = .ok (chunk (bs.take (w * n)), bs.drop (w * n)))
    (bs : Bytes) (hlen : bs.length < maxCount) :
    Impl.V1.decodeWave (24 + w) w entry bs =
      ofOpt (match (V1.wave w).dec bs with
        | some (raw, []) => some ⟨raw.spe, chunk raw.points⟩
        | _ => none) := by
  have hw0 : 0 < w := by rcases hw with rfl | rfl <;> omega
  have hw6 : w ≤ 6 := by rcases hw with rfl | rfl <;> omega
  rw [ArithZ.decodeWave_eq_Z (24 + w) w (by omega) hw0 hw6 entry bs hlen]
  unfold ArithZ.decodeWaveZ
  by_cases hshort : bs.length < 24 + w
  · rw [if_pos hshort]
    have hno : ∀ raw, (V1.wave w).dec bs ≠ some (raw, []) := fun raw hd => by
      obtain ⟨hv, e⟩ := V1.wave_exact w hw0 bs raw [] hd
      rw [e, List.append_nil, wave_enc_length, hv.2.2] at hshort
      omega
    cases hd : (V1.wave w).dec bs with
    | none => rfl
    | some p =>
      obtain ⟨raw, r⟩ := p
      cases r with
      | nil => exact absurd hd (hno raw)
      | cons x r => rfl
  · rw [if_neg hshort, show (V1.wave w).dec bs = _ from waveLayout_dec_run w _ _ _ (by omega),
      rd_u64be3_run _ (by omega)]
    generalize u64be.get bs = n1
    generalize u64be.get (bs.drop 8) = n2
    have hg := wave_guard_iff w hw0 n1 (bs.length - 24)
    by_cases hn : n1 = n2
    · subst hn
      simp only [ne_eq, not_true_eq_false, if_false, bind_run, remaining_run, List.length_drop, true_and]
      by_cases hc : n1.toNat < maxCount ∧ bs.length - 24 = w * n1.toNat + w
      · have h1 : w * n1.toNat ≤ (bs.drop 24).length := by rw [List.length_drop]; omega
        have h2 : w ≤ ((bs.drop 24).drop (w * n1.toNat)).length := by
          rw [List.length_drop, List.length_drop]; omega
        have hz : (bs.drop 24).drop (w * n1.toNat + w) = [] :=
          List.drop_eq_nil_of_le (by rw [List.length_drop]; omega)
        have hz' : ((bs.drop 24).drop (w * n1.toNat)).drop w = [] := by rw [List.drop_drop]; exact hz
        rw [if_neg fun hx => hg.mp hx hc, if_pos ⟨hc.1, Nat.le_of_eq hc.2.symm⟩, hz]
        simp only [bind_run, hentry _ _ h1, takeN_run h2, remaining_run, hz', List.length_nil,
          not_true_eq_false, if_false, pure_run]
        rfl
      -- the C++ wants the rest filled exactly; the Spec reads the layout wherever it fits and rejects what is left over
      · rw [if_pos (hg.mpr hc)]
        by_cases hc2 : n1.toNat < maxCount ∧ w * n1.toNat + w ≤ bs.length - 24
        · rw [if_pos hc2]
          cases hd : (bs.drop 24).drop (w * n1.toNat + w) with
          | nil =>
            have := List.drop_eq_nil_iff.mp hd
            rw [List.length_drop] at this
            exact absurd ⟨hc2.1, by omega⟩ hc
          | cons x r => rfl
        · rw [if_neg hc2]; rfl
    · have hn' : ¬ n2 = n1 := fun e => hn e.symm
      simp only [ne_eq, hn, hn', not_false_eq_true, if_true, false_and, and_false, if_false]
      rfl

theorem decodeOvw_eq (bs : Bytes) (hlen : bs.length < maxCount) : Impl.V1.decodeOvw bs = ofOpt (V1.decodeOvw bs) :=
  decodeWave_eq 3 (Or.inl rfl) _ V1.chunk3 forN_ovwEntry bs hlen

theorem decodeHires_eq (bs : Bytes) (hlen : bs.length < maxCount) : Impl.V1.decodeHires bs = ofOpt (V1.decodeHires bs) :=
  decodeWave_eq 6 (Or.inr rfl) _ V1.chunk6 forN_hiresEntry bs hlen

theorem maxOf_eq : @Impl.V1.maxOf = @V1.maxOf := rfl

theorem flat3_length (es : List Impl.V1.Entry) : (V1.flat3 es).length = 3 * es.length :=
  ListAux.flatMap_length_const _ 3 (fun _ => rfl) es

theorem flat6_length (es : List Impl.V1.Entry) : (V1.flat6 es).length = 6 * es.length :=
  ListAux.flatMap_length_const _ 6 (fun _ => rfl) es

theorem wave_enc_eq (w : Nat) (X : V1.WaveRaw) : (V1.wave w).enc X =
    u64be.enc (V1.waveCount w X) ++ u64be.enc (V1.waveCount w X) ++ u64be.enc X.spe ++ X.points ++ X.maxPt := by
  simp only [V1.wave, dep, filter, V1.waveBody, map, pair, expect, bytesN, List.append_assoc]

theorem encodeOvw_ok (v : Impl.V1.Wave) : ∃ b, V1.encodeOvw v = some b ∧ Impl.V1.encodeOvw v = .ok b := by
  refine ⟨_, rfl, ?_⟩
  rw [wave_enc_eq, show V1.waveCount 3 _ = UInt64.ofNat v.entries.length by simp [V1.waveCount, flat3_length]]
  have hf : (v.entries.flatMap fun e => [e.lv, e.mv, e.hv]).length = 3 * v.entries.length :=
    flat3_length v.entries
  refine writeInto_exact ?_
  simp only [List.length_append, u64be_enc_length, hf, List.length_cons, List.length_nil]
  omega

theorem encodeHires_ok (v : Impl.V1.Wave) : ∃ b, V1.encodeHires v = some b ∧ Impl.V1.encodeHires v = .ok b := by
  refine ⟨_, rfl, ?_⟩
  rw [wave_enc_eq, show V1.waveCount 6 _ = UInt64.ofNat v.entries.length by simp [V1.waveCount, flat6_length]]
  have hf : (v.entries.flatMap fun e => [e.lv, e.mv, e.hv, e.lo, e.mo, e.ho]).length = 6 * v.entries.length :=
    flat6_length v.entries
  refine writeInto_exact ?_
  simp only [List.length_append, u64be_enc_length, hf, List.length_cons, List.length_nil]
  omega

theorem encodeOvw_follows (v : Impl.V1.Wave) : Follows (Impl.V1.encodeOvw v) (V1.encodeOvw v) :=
  let ⟨_, hs, hi⟩ := encodeOvw_ok v; .accepts hs hi

theorem encodeHires_follows (v : Impl.V1.Wave) : Follows (Impl.V1.encodeHires v) (V1.encodeHires v) :=
  let ⟨_, hs, hi⟩ := encodeHires_ok v; .accepts hs hi

end V1Proofs
end EngineModel
