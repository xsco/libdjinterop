/-
Soundness of the static SQL-site analyses of `EngineModel/Spec/SqlSites.lean`
against the transaction theory of `EngineModel/Spec/Txn.lean`.
-/
import EngineModel.Gen.SqlSites
import Proofs.Txn

namespace EngineModel.Proofs.SqlSites
open EngineModel.Spec.Txn hiding Ev
open EngineModel.Spec.SqlSites

theorem mem_union {a b : SS} {s : ShapeSt} : s ∈ union a b ↔ s ∈ a ∨ s ∈ b := by
  unfold union
  constructor
  · intro h
    rcases List.mem_append.mp h with h | h
    · exact Or.inl h
    · exact Or.inr (List.mem_filter.mp h).1
  · intro h
    rcases h with h | h
    · exact List.mem_append.mpr (Or.inl h)
    · by_cases ha : s ∈ a
      · exact List.mem_append.mpr (Or.inl ha)
      · exact List.mem_append.mpr (Or.inr (List.mem_filter.mpr ⟨h, by simpa using ha⟩))

theorem subset_iff {a b : SS} : subset a b = true ↔ ∀ s ∈ a, s ∈ b := by
  simp [subset]

theorem evRun_append {xs ys : List Ev} : ∀ {s s1 : ShapeSt}, evRun s xs = some s1 → evRun s (xs ++ ys) = evRun s1 ys := by
  induction xs with
  | nil => intro s s1 h; simp [evRun] at h; subst h; rfl
  | cons e r ih =>
    intro s s1 h
    simp only [evRun, List.cons_append] at h ⊢
    split at h
    · exact ih h
    · cases h

theorem evRun_single {s t : ShapeSt} {e : Ev} (h : evStep s e = some t) : evRun s [e] = some t := by
  simp [evRun, h]

theorem stepAll_mem {e : Ev} : ∀ {S T : SS}, stepAll e S = some T → ∀ s ∈ S, ∃ t, evStep s e = some t ∧ t ∈ T := by
  intro S
  induction S with
  | nil => intro T _ s hs; cases hs
  | cons x r ih =>
    intro T h s hs
    simp only [stepAll] at h
    split at h
    · rename_i s' r' h1 h2
      cases h
      rcases List.mem_cons.mp hs with hx | hs
      · subst hx
        exact ⟨s', h1, mem_union.mpr (Or.inl (List.mem_singleton.mpr rfl))⟩
      · obtain ⟨t, ht, hm⟩ := ih h2 s hs
        exact ⟨t, ht, mem_union.mpr (Or.inr hm)⟩
    · cases h

theorem starIter_spec (f : SS → Option (SS × SS)) : ∀ (fuel : Nat) (S I A : SS), starIter f fuel S = some (I, A) →
    ∃ N' A', f I = some (N', A') ∧ subset N' I = true ∧ (∀ s ∈ S, s ∈ I) ∧ A = union I A' := by
  intro fuel
  induction fuel with
  | zero => intro S I A h; simp [starIter] at h
  | succ n ih =>
    intro S I A h
    simp only [starIter] at h
    split at h
    · cases h
    · rename_i N A0 hf
      split at h
      · rename_i hsub
        cases h
        exact ⟨N, A0, hf, hsub, fun s hs => hs, rfl⟩
      · obtain ⟨N', A', h1, h2, h3, h4⟩ := ih _ _ _ h
        exact ⟨N', A', h1, h2, fun s hs => h3 s (mem_union.mpr (Or.inl hs)), h4⟩

theorem star_fix {a : Sk} {I N' A' : SS} (h1 : post a I = some (N', A')) (h2 : subset N' I = true) :
    post (.star a) I = some (I, union I A') := by
  simp [post, starIter, h1, h2]

theorem post_ev {e : Ev} {S N A : SS} (h : post (.ev e) S = some (N, A)) : stepAll e S = some N ∧ S = A := by
  rw [post] at h
  cases hs : stepAll e S <;> rw [hs] at h <;> cases h
  exact ⟨rfl, rfl⟩

theorem post_seq {a b : Sk} {S N A : SS} (h : post (.seq a b) S = some (N, A)) :
    ∃ N1 A1 A2, post a S = some (N1, A1) ∧ post b N1 = some (N, A2) ∧ union A1 A2 = A := by
  rw [post] at h
  rcases ha : post a S with _ | ⟨N1, A1⟩ <;> simp only [ha] at h
  · cases h
  rcases hb : post b N1 with _ | ⟨N2, A2⟩ <;> simp only [hb] at h <;> cases h
  exact ⟨N1, A1, A2, rfl, hb, rfl⟩

theorem post_alt {a b : Sk} {S N A : SS} (h : post (.alt a b) S = some (N, A)) :
    ∃ N1 A1 N2 A2, post a S = some (N1, A1) ∧ post b S = some (N2, A2) ∧ union N1 N2 = N ∧ union A1 A2 = A := by
  rw [post] at h
  rcases ha : post a S with _ | ⟨N1, A1⟩ <;> simp only [ha] at h
  · cases h
  rcases hb : post b S with _ | ⟨N2, A2⟩ <;> simp only [hb] at h <;> cases h
  exact ⟨N1, A1, N2, A2, rfl, rfl, rfl, rfl⟩

theorem post_star {a : Sk} {S N A : SS} (h : post (.star a) S = some (N, A)) :
    ∃ N' A', post a N = some (N', A') ∧ subset N' N = true ∧ (∀ s ∈ S, s ∈ N) ∧ A = union N A' :=
  starIter_spec _ _ _ _ _ h

theorem post_scope {a : Sk} {S N A : SS} (h : post (.scope a) S = some (N, A)) :
    ∃ S1 N0 A0 A', stepAll .scopeOpen S = some S1 ∧ post a S1 = some (N0, A0) ∧
      stepAll .scopeClose N0 = some N ∧ stepAll .scopeClose A0 = some A' ∧ union S A' = A := by
  rw [post] at h
  rcases h1 : stepAll .scopeOpen S with _ | S1 <;> simp only [h1] at h
  · cases h
  rcases h2 : post a S1 with _ | ⟨N0, A0⟩ <;> simp only [h2] at h
  · cases h
  rcases h3 : stepAll .scopeClose N0 with _ | N' <;> rcases h4 : stepAll .scopeClose A0 with _ | A' <;>
    simp only [h3, h4] at h <;> cases h
  exact ⟨S1, N0, A0, A', rfl, h2, h3, h4, rfl⟩

theorem post_ret {a : Sk} {S N A : SS} (h : post (.ret a) S = some (N, A)) :
    ∃ N1, post a S = some (N1, A) ∧ union N1 A = N := by
  rw [post] at h
  rcases ha : post a S with _ | ⟨N1, A1⟩ <;> simp only [ha] at h <;> cases h
  exact ⟨N1, rfl, rfl⟩

theorem post_start : ∀ (sk : Sk) {S N A : SS}, post sk S = some (N, A) → ∀ s ∈ S, s ∈ A := by
  intro sk
  induction sk with
  | eps => intro S N A h s hs; cases h; exact hs
  | ev e => intro S N A h s hs; exact (post_ev h).2 ▸ hs
  | seq a b iha ihb =>
    intro S N A h s hs
    obtain ⟨N1, A1, A2, h1, _, rfl⟩ := post_seq h
    exact mem_union.mpr (Or.inl (iha h1 s hs))
  | alt a b iha ihb =>
    intro S N A h s hs
    obtain ⟨N1, A1, N2, A2, h1, _, _, rfl⟩ := post_alt h
    exact mem_union.mpr (Or.inl (iha h1 s hs))
  | star a _ =>
    intro S N A h s hs
    obtain ⟨_, _, _, _, h3, rfl⟩ := post_star h
    exact mem_union.mpr (Or.inl (h3 s hs))
  | scope a _ =>
    intro S N A h s hs
    obtain ⟨_, _, _, _, _, _, _, _, rfl⟩ := post_scope h
    exact mem_union.mpr (Or.inl hs)
  | ret a iha =>
    intro S N A h s hs
    obtain ⟨N1, h1, _⟩ := post_ret h
    exact iha h1 s hs

theorem post_sound {sk : Sk} {evs : List Ev} {f : Bool} (hr : Run sk evs f) :
    ∀ (S N A : SS), post sk S = some (N, A) → ∀ s ∈ S,
      ∃ s', evRun s evs = some s' ∧ (f = false → s' ∈ N) ∧ (f = true → s' ∈ A) := by
  induction hr with
  | abort a =>
    intro S N A h s hs
    exact ⟨s, rfl, nofun, fun _ => post_start a h s hs⟩
  | eps =>
    intro S N A h s hs
    cases h
    exact ⟨s, rfl, fun _ => hs, nofun⟩
  | ev e =>
    intro S N A h s hs
    obtain ⟨t, ht, hm⟩ := stepAll_mem (post_ev h).1 s hs
    exact ⟨t, evRun_single ht, fun _ => hm, nofun⟩
  | @seqN a b xs ys f _ _ iha ihb =>
    intro S N A h s hs
    obtain ⟨N1, A1, A2, h1, h2, rfl⟩ := post_seq h
    obtain ⟨s1, hs1, hn1, _⟩ := iha S N1 A1 h1 s hs
    obtain ⟨s2, hs2, hn2, ha2⟩ := ihb N1 N A2 h2 s1 (hn1 rfl)
    exact ⟨s2, (evRun_append hs1).trans hs2, hn2, fun hf => mem_union.mpr (Or.inr (ha2 hf))⟩
  | @seqA a b xs _ iha =>
    intro S N A h s hs
    obtain ⟨N1, A1, A2, h1, _, rfl⟩ := post_seq h
    obtain ⟨s1, hs1, _, ha1⟩ := iha S N1 A1 h1 s hs
    exact ⟨s1, hs1, nofun, fun _ => mem_union.mpr (Or.inl (ha1 rfl))⟩
  | @altL a b xs f _ iha =>
    intro S N A h s hs
    obtain ⟨N1, A1, N2, A2, h1, _, rfl, rfl⟩ := post_alt h
    obtain ⟨s1, hs1, hn, ha⟩ := iha S N1 A1 h1 s hs
    exact ⟨s1, hs1, fun hf => mem_union.mpr (Or.inl (hn hf)), fun hf => mem_union.mpr (Or.inl (ha hf))⟩
  | @altR a b xs f _ ihb =>
    intro S N A h s hs
    obtain ⟨N1, A1, N2, A2, _, h2, rfl, rfl⟩ := post_alt h
    obtain ⟨s1, hs1, hn, ha⟩ := ihb S N2 A2 h2 s hs
    exact ⟨s1, hs1, fun hf => mem_union.mpr (Or.inr (hn hf)), fun hf => mem_union.mpr (Or.inr (ha hf))⟩
  | @starNil a =>
    intro S N A h s hs
    obtain ⟨_, _, _, _, h3, _⟩ := post_star h
    exact ⟨s, rfl, fun _ => h3 s hs, nofun⟩
  | @starN a xs ys f _ _ iha ihs =>
    intro S N A h s hs
    obtain ⟨N', A', h1, h2, h3, rfl⟩ := post_star h
    obtain ⟨s1, hs1, hn1, _⟩ := iha N N' A' h1 s (h3 s hs)
    -- `N` is closed under the loop body (`h2`), so from `N` the loop answers `N` again (`star_fix`) and the remaining
    -- iterations are a run of the same `.star a` from a state of `N`
    obtain ⟨s2, hs2, hn2, ha2⟩ := ihs N N (union N A') (star_fix h1 h2) s1 (subset_iff.mp h2 s1 (hn1 rfl))
    exact ⟨s2, (evRun_append hs1).trans hs2, hn2, ha2⟩
  | @starA a xs _ iha =>
    intro S N A h s hs
    obtain ⟨N', A', h1, _, h3, rfl⟩ := post_star h
    obtain ⟨s1, hs1, _, ha1⟩ := iha N N' A' h1 s (h3 s hs)
    exact ⟨s1, hs1, nofun, fun _ => mem_union.mpr (Or.inr (ha1 rfl))⟩
  | @scope a xs f _ iha =>
    intro S N A h s hs
    obtain ⟨S1, N0, A0, A', hS1, h0, hN', hA', rfl⟩ := post_scope h
    obtain ⟨t, ht, htm⟩ := stepAll_mem hS1 s hs
    obtain ⟨s1, hs1, hn1, ha1⟩ := iha S1 N0 A0 h0 t htm
    have hrun : ∀ s2, evStep s1 .scopeClose = some s2 →
        evRun s (.scopeOpen :: xs ++ [.scopeClose]) = some s2 := by
      intro s2 h2
      simp only [evRun, List.cons_append, ht]
      rw [evRun_append hs1]
      exact evRun_single h2
    cases f with
    | false =>
      obtain ⟨s2, h2, hm2⟩ := stepAll_mem hN' s1 (hn1 rfl)
      exact ⟨s2, hrun s2 h2, fun _ => hm2, nofun⟩
    | true =>
      obtain ⟨s2, h2, hm2⟩ := stepAll_mem hA' s1 (ha1 rfl)
      exact ⟨s2, hrun s2 h2, nofun, fun _ => mem_union.mpr (Or.inr hm2)⟩
  | @ret a xs f _ iha =>
    intro S N A h s hs
    obtain ⟨N1, h1, rfl⟩ := post_ret h
    obtain ⟨s1, hs1, hn, ha⟩ := iha S N1 A h1 s hs
    refine ⟨s1, hs1, fun _ => ?_, nofun⟩
    cases f with
    | false => exact mem_union.mpr (Or.inl (hn rfl))
    | true => exact mem_union.mpr (Or.inr (ha rfl))
  | @retA a xs _ iha =>
    intro S N A h s hs
    obtain ⟨N1, h1, _⟩ := post_ret h
    obtain ⟨s1, hs1, _, ha⟩ := iha S N1 A h1 s hs
    exact ⟨s1, hs1, nofun, fun _ => ha rfl⟩

def live (s : ShapeSt) : Nat := if s.inTxn then 1 else 0

theorem live_shapeStep {s t : ShapeSt} {k : CmdKind} (h : shapeStep s k = some t) :
    live t = scopesAfter k (live s) := by
  obtain ⟨_, hk⟩ := EngineModel.Proofs.Txn.shapeStep_some h
  rcases s with ⟨inTxn, pending, effected⟩
  cases k
  case begin | commit => obtain ⟨rfl, rfl⟩ := hk; rfl
  case read => cases hk; rfl
  all_goals cases hk; cases inTxn <;> rfl

theorem evRun_conc : ∀ (evs : List Ev) (s s' : ShapeSt), evRun s evs = some s' →
    shapeRun s (conc (live s) evs) = some s' := by
  intro evs
  induction evs with
  | nil => intro s s' h; exact h
  | cons e r ih =>
    intro s s' h
    cases ht : evStep s e with
    | none => simp only [evRun, ht] at h; cases h
    | some t =>
      simp only [evRun, ht] at h
      have := ih t s' h
      -- an event is the statement of its kind, except the end of a scope that has committed
      have step : ∀ k, shapeStep s k = some t →
          shapeRun s (k :: conc (scopesAfter k (live s)) r) = some s' := by
        intro k hk
        rw [shapeRun, hk, ← live_shapeStep hk]; exact this
      cases e with
      | read => exact step .read ht
      | write => exact step .write ht
      | commit => exact step .commit ht
      | scopeOpen => exact step .begin ht
      | scopeClose =>
        rcases s with ⟨inTxn, pending, effected⟩
        cases inTxn
        · cases ht; exact this
        · exact step .rollback ht

theorem closedAll_mem {S : SS} (h : closedAll S = true) {s : ShapeSt} (hs : s ∈ S) : s.inTxn = false := by
  have := List.all_eq_true.mp h s hs
  simpa using this

/-- **Soundness of the static C14 predicate**: every event trace of an accepted
skeleton — any branch, any loop count, aborted by an exception or an early
return anywhere, or complete — is, as a sequence of statement kinds, an atomic
shape of `Spec/Txn.lean`. -/
theorem staticAtomic_sound (sk : Sk) (h : staticAtomic sk = true) {evs : List Ev} {f : Bool} (hr : Run sk evs f) :
    atomicShape (conc 0 evs) = true := by
  unfold staticAtomic at h
  split at h
  · rename_i N A hp
    have hNA := Bool.and_eq_true_iff.mp h
    obtain ⟨s', hs', hN, hA⟩ := post_sound hr _ _ _ hp ShapeSt.init (List.mem_singleton.mpr rfl)
    have hc := evRun_conc _ _ _ hs'
    have hl : live ShapeSt.init = 0 := rfl
    rw [hl] at hc
    unfold atomicShape
    rw [hc]
    cases f with
    | false => simp [closedAll_mem hNA.1 (hN rfl)]
    | true => simp [closedAll_mem hNA.2 (hA rfl)]
  · cases h

/-- Events of a run: a property of skeletons that passes to the parts (and, for a scope, grants the two scope
events) gives its property of events on every trace. -/
theorem Run.forall_ev {P : Ev → Prop} {Q : Sk → Prop} (hev : ∀ e, Q (.ev e) → P e)
    (hseq : ∀ a b, Q (.seq a b) → Q a ∧ Q b) (halt : ∀ a b, Q (.alt a b) → Q a ∧ Q b)
    (hstar : ∀ a, Q (.star a) → Q a) (hscope : ∀ a, Q (.scope a) → Q a ∧ P .scopeOpen ∧ P .scopeClose)
    (hret : ∀ a, Q (.ret a) → Q a) {sk : Sk} {evs : List Ev} {f : Bool} (hr : Run sk evs f) (h : Q sk) :
    ∀ e ∈ evs, P e := by
  induction hr with
  | abort a => nofun
  | eps => nofun
  | ev e0 => exact List.forall_mem_cons.2 ⟨hev e0 h, nofun⟩
  | seqN _ _ iha ihb => exact List.forall_mem_append.2 ⟨iha (hseq _ _ h).1, ihb (hseq _ _ h).2⟩
  | seqA _ iha => exact iha (hseq _ _ h).1
  | altL _ iha => exact iha (halt _ _ h).1
  | altR _ ihb => exact ihb (halt _ _ h).2
  | starNil => nofun
  | starN _ _ iha ihs => exact List.forall_mem_append.2 ⟨iha (hstar _ h), ihs h⟩
  | starA _ iha => exact iha (hstar _ h)
  | scope _ iha =>
    obtain ⟨ha, ho, hc⟩ := hscope _ h
    exact List.forall_mem_cons.2 ⟨ho, List.forall_mem_append.2 ⟨iha ha, List.forall_mem_cons.2 ⟨hc, nofun⟩⟩⟩
  | ret _ iha => exact iha (hret _ h)
  | retA _ iha => exact iha (hret _ h)

theorem noWrite_run {sk : Sk} {evs : List Ev} {f : Bool} (hr : Run sk evs f) (h : sk.noWrite = true) :
    ∀ e ∈ evs, e ≠ .write :=
  Run.forall_ev (Q := (·.noWrite = true)) (fun _ h => by simpa [Sk.noWrite] using h)
    (fun _ _ h => by simpa [Sk.noWrite] using h) (fun _ _ h => by simpa [Sk.noWrite] using h)
    (fun _ h => h) (fun _ h => ⟨h, nofun, nofun⟩) (fun _ h => h) hr h

theorem conc_noWrite : ∀ (evs : List Ev) (n : Nat), (∀ e ∈ evs, e ≠ .write) → ∀ k ∈ conc n evs, k ≠ .write := by
  intro evs
  induction evs with
  | nil => intro n _; nofun
  | cons e r ih =>
    intro n h
    have hr := fun n => ih n fun x hx => h x (List.mem_cons_of_mem _ hx)
    cases e with
    | write => exact absurd rfl (h .write List.mem_cons_self)
    | scopeClose =>
      show ∀ k ∈ (if n = 0 then conc 0 r else .rollback :: conc (n - 1) r), _
      split
      · exact hr _
      · exact List.forall_mem_cons.2 ⟨nofun, hr _⟩
    | _ => exact List.forall_mem_cons.2 ⟨nofun, hr _⟩

theorem readOnly_run {sk : Sk} {evs : List Ev} {f : Bool} (hr : Run sk evs f) (h : sk.readOnly = true) :
    ∀ e ∈ evs, e = .read :=
  Run.forall_ev (Q := (·.readOnly = true)) (fun e h => by cases e <;> first | rfl | cases h)
    (fun _ _ h => by simpa [Sk.readOnly] using h) (fun _ _ h => by simpa [Sk.readOnly] using h)
    (fun _ h => h) (fun _ h => nomatch h) (fun _ h => h) hr h

theorem conc_readOnly : ∀ (evs : List Ev) (n : Nat), (∀ e ∈ evs, e = .read) → readOnlyShape (conc n evs) = true := by
  intro evs
  induction evs with
  | nil => intro n _; rfl
  | cons e r ih =>
    intro n h
    have he := h e (List.mem_cons_self ..)
    subst he
    have := ih n (fun x hx => h x (List.mem_cons_of_mem _ hx))
    simp only [readOnlyShape, conc, List.all_cons] at this ⊢
    simpa using this

/-- Well over a hundred mutating entry points reach a writing statement (the coverage statements of C14 and C16 both ask). -/
theorem mutators_writing :
    100 ≤ (EngineModel.Gen.SqlSites.mutators.filter (fun e => !e.2.noWrite)).length := by
  decide +kernel

end EngineModel.Proofs.SqlSites
