/-
Setter histories over several tracks: the table after any sequence of calls
shows exactly the snapshots the lens Spec computes.
-/
import Proofs.TracksV2Lens
import Proofs.TracksV2RoundTrip
import Proofs.TracksV2Db
import Proofs.TracksV2Eff

namespace EngineModel
namespace TracksV2

/-- the duration column as `snapshot()` reads it, when it is readable -/
def durOf (r : Row) : Option UInt64 :=
  match readDuration r.length with
  | .ok d => d
  | _ => none

def snapOf (ops : FOps) (r : Row) : Snap := snapWith ops r (durOf r)

/-- all rows are stored rows with readable snapshots, ids are distinct -/
def DbOk (ops : FOps) (db : Db) : Prop :=
  (∀ e ∈ db.rows, RowEnc e.2 ∧ readSnap ops e.2 = .ok (snapOf ops e.2)) ∧ (db.rows.map (·.1)).Nodup

def obs (ops : FOps) (db : Db) : Spec.Obs := db.rows.map fun e => (e.1, snapOf ops e.2)

theorem snapOf_of_readSnap (ops : FOps) (r : Row) (y : Snap) (h : readSnap ops r = .ok y) : snapOf ops r = y := by
  obtain ⟨d, hd, rfl⟩ := readSnap_ok ops r y h
  simp [snapOf, durOf, hd]

theorem get_none_forall (db : Db) (id : Nat) (h : db.get id = none) : ∀ e ∈ db.rows, (e.1 == id) = false := by
  unfold Db.get at h
  cases hf : db.rows.find? (·.1 == id) with
  | none =>
    intro e he
    have := List.find?_eq_none.mp hf e he
    simpa using this
  | some e => simp [hf] at h

theorem pathTaken_obs (ops : FOps) (db : Db) (id : Nat) (p : Bytes) :
    db.pathTaken id p = (obs ops db).any fun e => e.1 != id && e.2.relativePath == some p := by
  unfold Db.pathTaken obs
  rw [List.any_map]
  rfl

theorem clash_eq (ops : FOps) (db : Db) (id : Nat) (σ : Setter) :
    db.clash id σ = Spec.clashObs (obs ops db) id σ := by
  unfold Db.clash Spec.clashObs
  cases σ.newPath with
  | none => rfl
  | some p => exact pathTaken_obs ops db id p

/-- a stored row: blobs encodable, snapshot readable -/
def Stored (ops : FOps) (r : Row) : Prop := RowEnc r ∧ readSnap ops r = .ok (snapOf ops r)

theorem writeStore_stored {ops : FOps} {s : Schema} {x : Snap} {r : Row} (h : writeStore ops s x = .ok r) :
    Stored ops r := by
  constructor
  · exact ⟨(writeStore_eq_ok h).cuesEnc, (writeStore_eq_ok h).loopsEnc⟩
  · cases hn : Spec.normalize s x with
    | none =>
      obtain ⟨e, he⟩ := writeStore_throw_of_reject ops s x hn
      rw [he] at h; cases h
    | some y =>
      have hy : readSnap ops r = .ok y := by
        have := writeRead_of_normalize ops s x y hn
        unfold writeRead at this
        rwa [h] at this
      rw [hy, snapOf_of_readSnap ops r y hy]

theorem stored_inv (ops : FOps) : RowInv ops (Stored ops) where
  set := fun ⟨henc, hr⟩ ha => by
    obtain ⟨y', _, h2, h3⟩ := spec_of_model_ok ops _ _ _ _ hr henc ha
    exact ⟨h3, by rw [h2, snapOf_of_readSnap ops _ y' h2]⟩
  store := writeStore_stored

theorem DbOk.eff {ops : FOps} {db db' : Db} (hok : DbOk ops db) (h : Eff ops db db')
    (hI : db'.nextId = db.nextId ∨ db.Fresh) : DbOk ops db' :=
  ⟨h.rows (stored_inv ops) hok.1, h.nodup hI hok.2⟩

theorem Db.set_nextId (ops : FOps) (db : Db) (id : Nat) (σ : Setter) : (db.set ops id σ).1.nextId = db.nextId := by
  -- every exit returns `db` or `db.put …`, and `put` keeps the counter
  unfold Db.set; split <;> (try split) <;> (try split) <;> rfl

theorem Db.update_nextId (ops : FOps) (s : Schema) (db : Db) (id : Nat) (x : Snap) :
    (db.update ops s id x).1.nextId = db.nextId := by
  unfold Db.update; split <;> (try split) <;> (try split) <;> rfl

theorem set_step (ops : FOps) (db : Db) (hok : DbOk ops db) (id : Nat) (σ : Setter) :
    DbOk ops (db.set ops id σ).1 ∧ obs ops (db.set ops id σ).1 = Spec.stepObs (obs ops db) id σ := by
  refine ⟨hok.eff (set_ran ops db id σ).eff (.inl (Db.set_nextId ops db id σ)), ?_⟩
  unfold Db.set Spec.stepObs
  rw [← clash_eq ops db id σ]
  cases hget : db.get id with
  | none =>
    have hnone := get_none_forall db id hget
    simp only []
    split
    · rfl
    · unfold obs
      rw [List.map_map]
      apply List.map_congr_left
      intro e he
      have hne : ¬ e.1 = id := by simpa using hnone e he
      simp [hne]
  | some r =>
    have hmem := get_mem db id r hget
    obtain ⟨henc, hread⟩ := hok.1 _ hmem
    have href := setter_refines ops σ r _ hread henc
    have huniq : ∀ e ∈ db.rows, (e.1 == id) = true → e = (id, r) := by
      intro e he hid
      exact ListAux.eq_of_map_eq hok.2 he hmem (by simpa using hid)
    cases hspec : Spec.applySetter σ (snapOf ops r) with
    | none =>
      rw [hspec] at href
      obtain ⟨ex, hex⟩ := href
      simp only [hex]
      split
      · rfl
      · unfold obs
        rw [List.map_map]
        apply List.map_congr_left
        intro e he
        simp only [Function.comp]
        cases hid : (e.1 == id) with
        | false => simp
        | true =>
          have := huniq e he hid
          subst this
          simp [hspec]
    | some y' =>
      rw [hspec] at href
      obtain ⟨r', hr', hread', henc'⟩ := href
      simp only [hr']
      split
      · rfl
      · have hsn : snapOf ops r' = y' := snapOf_of_readSnap ops r' y' hread'
        unfold obs Db.put
        simp only [List.map_map]
        apply List.map_congr_left
        intro e he
        simp only [Function.comp]
        cases hid : (e.1 == id) with
        | false => simp
        | true =>
          have := huniq e he hid
          subst this
          simp [hspec, hsn]

end TracksV2
end EngineModel
