/-
crate::set_parent on a state satisfying `Inv`: exact outcome and preservation.
-/
import Proofs.CratesV1Path

namespace EngineModel.Api.CratesV1
open EngineModel.Pure.Detect EngineModel.Spec

variable {db : Db}

/-- `c` followed by its descendants, as set_parent / remove_crate read them. -/
def subtreeList (db : Db) (c : Id) : List Id := c :: (db.ch.filter (·.1 == c)).map (·.2)

theorem mem_subtreeList (db : Db) (c y : Id) : y ∈ subtreeList db c ↔ Sub db c y := by
  unfold subtreeList Sub
  rw [List.mem_cons, ListAux.mem_snd_of_fst]

theorem subtreeList_nodup (h : FInv db) (c : Id) : (subtreeList db c).Nodup :=
  List.nodup_cons.mpr ⟨fun hm => h.chIrrefl c (ListAux.mem_snd_of_fst.mp hm), nodup_snd_of_fst h.chNodup c⟩

theorem deleteHierarchyLinks_eq (s : Schema) (ch : List (Id × Id)) (A M : List Id) :
    deleteHierarchyLinks s ch A M = ch.filter (fun r => !(A.contains r.1 && M.contains r.2)) := by
  unfold deleteHierarchyLinks
  have inner : ∀ (a : Id) (M : List Id) (acc : List (Id × Id)),
      M.foldl (fun acc m => deletePairs s acc (fun r => r.1 == a && r.2 == m)) acc
        = acc.filter (fun r => !(r.1 == a && M.contains r.2)) := by
    intro a M
    induction M with
    | nil => intro acc; simp
    | cons m M ih =>
      intro acc
      rw [List.foldl_cons, deletePairs_eq, ih, List.filter_filter]
      apply List.filter_congr
      intro r _
      by_cases h1 : r.1 = a <;> by_cases h2 : r.2 = m <;> simp [h1, h2]
  induction A generalizing ch with
  | nil => simp
  | cons a A ih =>
    rw [List.foldl_cons, inner, ih, List.filter_filter]
    apply List.filter_congr
    intro r _
    by_cases h1 : r.1 = a <;> by_cases h2 : r.2 ∈ M <;> simp [h1, h2, Bool.and_comm]

theorem hierarchyLinks_mem (A M : List Id) (x : Id × Id) : x ∈ hierarchyLinks A M ↔ x.1 ∈ A ∧ x.2 ∈ M := by
  unfold hierarchyLinks
  simp only [List.mem_flatMap, List.mem_map]
  constructor
  · rintro ⟨a, ha, m, hm, rfl⟩; exact ⟨ha, hm⟩
  · rintro ⟨ha, hm⟩; exact ⟨x.1, ha, x.2, hm, rfl⟩

theorem hierarchyLinks_nodup {A M : List Id} (hA : A.Nodup) (hM : M.Nodup) : (hierarchyLinks A M).Nodup := by
  unfold hierarchyLinks
  induction A with
  | nil => simp
  | cons a A ih =>
    rw [List.nodup_cons] at hA
    rw [List.flatMap_cons, List.nodup_append]
    refine ⟨?_, ih hA.2, ?_⟩
    · apply List.Nodup.map_on _ hM
      intro x _ y _ hxy
      exact (Prod.mk.inj hxy).2
    · intro x hx y hy
      rw [List.mem_map] at hx
      obtain ⟨m, _, rfl⟩ := hx
      have := (hierarchyLinks_mem A M y).mp hy
      rintro rfl
      exact hA.1 this.1

def detachCh (db : Db) (c : Id) : List (Id × Id) :=
  db.ch.filter (fun r => !((anc db c).contains r.1 && (subtreeList db c).contains r.2))

def reparentCh (db : Db) (c : Id) (parent : Option Id) : List (Id × Id) :=
  match parent with
  | some q => detachCh db c ++ hierarchyLinks (q :: ((detachCh db c).filter (·.2 == q)).map (·.1)) (subtreeList db c)
  | none => detachCh db c

def dbReparent (db : Db) (c : Id) (parent : Option Id) : Db :=
  { db with cpl := db.cpl.filter (fun r => !(r.1 == c)) ++ [(c, parent.getD c)], ch := reparentCh db c parent }

theorem parentOf_dbReparent (db : Db) (c : Id) (parent : Option Id) (hq : parent ≠ some c) (y : Id) :
    parentOf (dbReparent db c parent) y = if y = c then parent else parentOf db y := by
  unfold parentOf dbReparent
  simp only
  rw [List.find?_append]
  by_cases hyc : y = c
  · subst hyc
    have : (db.cpl.filter (fun r => !(r.1 == y))).find? (·.1 == y) = none := by
      rw [List.find?_eq_none]
      intro r hr
      rw [List.mem_filter] at hr
      simpa using hr.2
    rw [this]
    cases parent with
    | none => simp
    | some q =>
      have : q ≠ y := fun e => hq (by rw [e])
      simp [this]
  · have h1 : (db.cpl.filter (fun r => !(r.1 == c))).find? (·.1 == y) = db.cpl.find? (·.1 == y) := by
      apply find?_filter_of_imp
      intro x _ hx
      simp only [beq_iff_eq] at hx
      simp [hx, hyc]
    have h2 : [(c, parent.getD c)].find? (·.1 == y) = none := by
      have : ¬ c = y := fun e => hyc e.symm
      simp [this]
    rw [h1, h2, Option.or_none]
    simp [hyc]

/-- What set_parent demands of its arguments once both crates are known to exist. -/
def ReparentOk (db : Db) (c : Id) (parent : Option Id) : Prop :=
  c ∈ ids db ∧ ∀ q, parent = some q → q ∈ ids db ∧ q ≠ c ∧ (c, q) ∉ db.ch

theorem mem_detachCh (db : Db) (c : Id) (x : Id × Id) :
    x ∈ detachCh db c ↔ x ∈ db.ch ∧ ¬ ((x.1, c) ∈ db.ch ∧ Sub db c x.2) := by
  unfold detachCh
  simp only [List.mem_filter, Bool.not_eq_eq_eq_not, Bool.not_true, Bool.and_eq_false_imp, List.contains_eq_mem,
    decide_eq_true_eq, decide_eq_false_iff_not, FInv.mem_anc, mem_subtreeList]
  constructor
  · rintro ⟨hm, hn⟩; exact ⟨hm, fun hh => hn hh.1 hh.2⟩
  · rintro ⟨hm, hn⟩; exact ⟨hm, fun h1 h2 => hn ⟨h1, h2⟩⟩

theorem mem_reparentCh {c : Id} {parent : Option Id} (hok : ReparentOk db c parent) (a y : Id) :
    (a, y) ∈ reparentCh db c parent ↔
      (((a, y) ∈ db.ch ∧ ¬ ((a, c) ∈ db.ch ∧ Sub db c y)) ∨
       (∃ q, parent = some q ∧ (a = q ∨ (a, q) ∈ db.ch) ∧ Sub db c y)) := by
  unfold reparentCh
  cases parent with
  | none =>
    simp only [mem_detachCh]
    constructor
    · intro hm; exact Or.inl hm
    · rintro (hm | ⟨q, hq, _⟩)
      · exact hm
      · cases hq
  | some q =>
    obtain ⟨_, hqc, hcq⟩ := hok.2 q rfl
    have hnsq : ¬ Sub db c q := by
      rintro (e | hm)
      · exact hqc e
      · exact hcq hm
    simp only [List.mem_append, mem_detachCh, hierarchyLinks_mem, List.mem_cons, List.mem_map, List.mem_filter,
      beq_iff_eq, mem_subtreeList]
    constructor
    · rintro (hm | ⟨ha, hs⟩)
      · exact Or.inl hm
      · right
        refine ⟨q, rfl, ?_, hs⟩
        rcases ha with e | ⟨r, ⟨hr, h2⟩, h1⟩
        · exact Or.inl e
        · right
          have : r = (a, q) := Prod.ext h1 h2
          rw [← this]; exact hr.1
    · rintro (hm | ⟨q', hq', hor, hs⟩)
      · exact Or.inl hm
      · cases hq'
        right
        refine ⟨?_, hs⟩
        rcases hor with e | hm
        · exact Or.inl e
        · exact Or.inr ⟨(a, q), ⟨⟨hm, fun hh => hnsq hh.2⟩, rfl⟩, rfl⟩

theorem reparentCh_nodup (h : FInv db) {c : Id} {parent : Option Id} (hok : ReparentOk db c parent) :
    (reparentCh db c parent).Nodup := by
  unfold reparentCh
  cases parent with
  | none => exact h.chNodup.filter _
  | some q =>
    have hch1 : (detachCh db c).Nodup := h.chNodup.filter _
    simp only
    rw [List.nodup_append]
    refine ⟨hch1, ?_, ?_⟩
    · apply hierarchyLinks_nodup _ (subtreeList_nodup h c)
      rw [List.nodup_cons]
      constructor
      · intro hm
        simp only [List.mem_map, List.mem_filter, beq_iff_eq] at hm
        obtain ⟨r, ⟨hr, h2⟩, h1⟩ := hm
        rw [mem_detachCh] at hr
        have : r = (q, q) := Prod.ext h1 h2
        exact h.chIrrefl q (this ▸ hr.1)
      · exact nodup_fst_of_snd hch1 q
    · intro x hx y hy
      rintro rfl
      rw [mem_detachCh] at hx
      rw [hierarchyLinks_mem, mem_subtreeList] at hy
      have ha : x.1 = q ∨ (x.1, q) ∈ db.ch := by
        have := hy.1
        simp only [List.mem_cons, List.mem_map, List.mem_filter, beq_iff_eq] at this
        rcases this with e | ⟨r, ⟨hr, h2⟩, h1⟩
        · exact Or.inl e
        · right
          rw [mem_detachCh] at hr
          have : r = (x.1, q) := Prod.ext h1 h2
          rw [← this]; exact hr.1
      rcases h.sub_anc c x.1 x.2 hy.2 hx.1 with hs | hm
      · exact h.new_anc_not_sub hok.2 x.1 q rfl ha hs
      · exact hx.2 ⟨hm, hy.2⟩

theorem finv_reparent (h : FInv db) {c : Id} {parent : Option Id} (hok : ReparentOk db c parent) :
    FInv (dbReparent db c parent) := by
  refine h.setParent parent hok.2 (fun y => ⟨Or.inl, fun hy => hy.elim id fun e => e ▸ hok.1⟩) h.idsNodup (fun r => ?_) ?_
    (mem_reparentCh hok) (reparentCh_nodup h hok)
  · show r ∈ db.cpl.filter (fun r => !(r.1 == c)) ++ [(c, parent.getD c)] ↔ _
    simp [List.mem_append, List.mem_filter]
  · show ((db.cpl.filter (fun r => !(r.1 == c)) ++ [(c, parent.getD c)]).map (·.1)).Nodup
    rw [List.map_append]
    refine nodup_snoc (h.cplNodup.sublist (List.Sublist.map _ List.filter_sublist)) fun hm => ?_
    obtain ⟨r, hr, e⟩ := List.mem_map.mp hm
    simpa [show r.1 = c from e] using (List.mem_filter.mp hr).2

theorem sub_reparent (h : FInv db) {c : Id} {parent : Option Id} (hok : ReparentOk db c parent) (y : Id) :
    Sub (dbReparent db c parent) c y ↔ Sub db c y := by
  unfold Sub
  show (y = c ∨ (c, y) ∈ reparentCh db c parent) ↔ _
  rw [mem_reparentCh hok]
  constructor
  · rintro (e | ⟨hm, _⟩ | ⟨q, hpq, hor, _⟩)
    · exact Or.inl e
    · exact Or.inr hm
    · exact absurd (Or.inl rfl) (h.new_anc_not_sub hok.2 c q hpq hor)
  · rintro (e | hm)
    · exact Or.inl e
    · exact Or.inr (Or.inl ⟨hm, fun hh => h.chIrrefl c hh.1⟩)

def titleOfD (db : Db) (c : Id) : Name := ((db.crate.find? (·.id == c)).map (·.title)).getD []

theorem titleOfD_of_mem (h : (ids db).Nodup) {r : CrateRow} (hr : r ∈ db.crate) : titleOfD db r.id = r.title :=
  congrArg (·.getD []) (rowTitle_of_mem h hr)

def parentPathOpt (db : Db) : Option Id → Name
  | some q => rowPath db q
  | none => []

def afterSetParent (db : Db) (c : Id) (parent : Option Id) : Db :=
  { dbReparent db c parent with
    crate := setPaths (subB (dbReparent db c parent) c)
      (tgtPath (dbReparent db c parent) c (parentPathOpt db parent ++ titleOfD db c ++ [semicolon])) db.crate }

theorem ids_afterSetParent (db : Db) (c : Id) (parent : Option Id) : ids (afterSetParent db c parent) = ids db :=
  ids_of_keys (setPaths_keys _ _ _)

theorem setParent_self (s : Schema) (db : Db) (c : Id) : setParent s db c (some c) = (db, .throw exInvalidParent) := by
  unfold setParent; simp

theorem setParent_dead (s : Schema) (db : Db) {c : Id} {parent : Option Id} (hne : parent ≠ some c) (hc : c ∉ ids db) :
    setParent s db c parent = (db, .throw exCrateDeleted) := by
  unfold setParent
  have : (parent == some c) = false := by simpa using hne
  simp [this, transaction, requireValid_dead hc]

theorem setParent_dead_parent (s : Schema) (h : (ids db).Nodup) {c q : Id} (hne : q ≠ c) (hc : c ∈ ids db)
    (hq : q ∉ ids db) : setParent s db c (some q) = (db, .throw exCrateDeleted) := by
  unfold setParent
  have : (some q == some c) = false := by simpa using hne
  simp [this, transaction, requireValid_live h hc, requireValid_dead hq]

theorem setParent_cycle (s : Schema) (h : (ids db).Nodup) {c q : Id} (hne : q ≠ c) (hc : c ∈ ids db)
    (hq : q ∈ ids db) (hcyc : (c, q) ∈ db.ch) : setParent s db c (some q) = (db, .throw exInvalidParent) := by
  unfold setParent
  have : (some q == some c) = false := by simpa using hne
  have hlen : (db.ch.filter (fun r => r.1 == c && r.2 == q)).length > 0 := by
    apply List.length_pos_of_mem (a := (c, q))
    simp [List.mem_filter, hcyc]
  simp [this, transaction, requireValid_live h hc, requireValid_live h hq, hlen]

theorem setParent_ok (s : Schema) (h : FInv db) {c : Id} {parent : Option Id} (hok : ReparentOk db c parent) :
    setParent s db c parent = (afterSetParent db c parent, .ok .unit) := by
  have hc := hok.1
  obtain ⟨rc, hrc, hrcid⟩ := exists_row hc
  have hT := finv_reparent h hok
  have hcT : c ∈ ids (dbReparent db c parent) := hc
  have htitle : titleOfD db c = rc.title := hrcid ▸ titleOfD_of_mem h.idsNodup hrc
  have hne : (parent == some c) = false := by
    cases hp : parent with
    | none => rfl
    | some q => simpa using (hok.2 q hp).2.1
  have hpre : ∀ (pp : Name),
      updatePath s ((dbReparent db c parent).cpl.length + 1) (dbReparent db c parent) c pp
        = .ok { dbReparent db c parent with
            crate := (setPaths (subB (dbReparent db c parent) c)
              (tgtPath (dbReparent db c parent) c (pp ++ titleOfD db c ++ [semicolon]))
              (dbReparent db c parent).crate) } := by
    intro pp
    apply updatePath_eq s hT c _ (tgtPath_hstep hT c _) _ _ c pp (Skel.refl _) hcT (Or.inl rfl) (by omega)
    intro rx hrx hrxid
    have : rx = rc := List.inj_on_of_nodup_map h.idsNodup hrx hrc (hrxid.trans hrcid.symm)
    rw [tgtPath_top _ hcT, htitle, this]
  unfold setParent
  rw [hne]
  simp only [Bool.false_eq_true, if_false, transaction, requireValid_live h.idsNodup hc, Res.bind_ok]
  cases hp : parent with
  | none =>
    subst hp
    simp only [Res.pure_eq, deletePairs_eq, deleteHierarchyLinks_eq, Option.getD_none]
    have := hpre []
    simp only [dbReparent, reparentCh, detachCh, subtreeList, anc, Option.getD_none] at this
    rw [this]
    simp only [Res.bind_ok]
    rfl
  | some q =>
    subst hp
    obtain ⟨hq, hqc, hcq⟩ := hok.2 q rfl
    have hlen : ¬ (db.ch.filter (fun r => r.1 == c && r.2 == q)).length > 0 := by
      intro hl
      obtain ⟨x, hx⟩ := List.exists_mem_of_length_pos hl
      simp only [List.mem_filter, Bool.and_eq_true, beq_iff_eq] at hx
      have : x = (c, q) := Prod.ext hx.2.1 hx.2.2
      exact hcq (this ▸ hx.1)
    obtain ⟨rq, hrq, hrqid⟩ := exists_row hq
    have hpath : (((db.crate.filter (·.id == q)).map (·.path)).getLast?).getD [] = rowPath db q := by
      rw [← hrqid, filter_of_mem h.idsNodup hrq, rowPath_of_mem h.idsNodup hrq]; rfl
    simp only [requireValid_live h.idsNodup hq, Res.bind_ok, hlen, if_false, Res.pure_eq, deletePairs_eq,
      deleteHierarchyLinks_eq, Option.getD_some, hpath]
    have := hpre (rowPath db q)
    simp only [dbReparent, reparentCh, detachCh, subtreeList, anc, Option.getD_some] at this
    rw [this]
    simp only [Res.bind_ok]
    rfl

theorem finv_afterSetParent (h : FInv db) {c : Id} {parent : Option Id} (hok : ReparentOk db c parent) :
    FInv (afterSetParent db c parent) :=
  (finv_reparent h hok).congr (ids_of_keys (setPaths_keys _ _ _)) rfl rfl

theorem pathsOk_setParent (h : Inv db) {c : Id} {parent : Option Id} (hok : ReparentOk db c parent) :
    PathsOk (afterSetParent db c parent) := by
  have hf := h.toFInv
  have hT := finv_reparent hf hok
  have hne : parent ≠ some c := fun e => (hok.2 c e).2.1 rfl
  have hfind : ∀ x, ¬ Sub db c x → (absForest (dbReparent db c parent)).find x = (absForest db).find x := fun x hx =>
    abs_find_eq hf.idsNodup hT.idsNodup (fun r hr hid => ⟨r, hr, hid, rfl⟩) id
      (by rw [parentOf_dbReparent db c parent hne, if_neg fun e => hx (Or.inl e)])
  have hsame : ∀ y, y ∈ ids db → ¬ Sub db c y → pathOf (absForest (dbReparent db c parent)) y = pathOf (absForest db) y :=
    fun y hy hs => pathOf_congr hf hT _ (fun x p => hf.not_sub_par) hfind hy hy hs
  refine pathsOk_repath hT hok.1 ?_ fun r hr hs => ?_
  · obtain ⟨rc, hrc, hrcid⟩ := exists_row hok.1
    have := pathOf_row hT (db := dbReparent db c parent) hrc
    rw [hrcid, parentOf_dbReparent db c parent hne, if_pos rfl] at this
    rw [this, show titleOfD db c = rc.title from hrcid ▸ titleOfD_of_mem hf.idsNodup hrc]
    congr 2
    cases parent with
    | none => rfl
    | some q =>
      obtain ⟨hq, hqc, hcq⟩ := hok.2 q rfl
      obtain ⟨rq, hrq, hrqid⟩ := exists_row hq
      show rowPath db q = pathOf _ q
      rw [hsame q hq (fun hs => hs.elim hqc hcq), ← hrqid, rowPath_of_mem hf.idsNodup hrq, (path_eq_pathOf h) rq hrq]
  · have hs' : ¬ Sub db c r.id := fun hh => hs ((sub_reparent hf hok r.id).mpr hh)
    rw [(path_eq_pathOf h) r hr, hsame r.id (mem_ids_of_mem hr) hs']

theorem inv_setParent (h : Inv db) {c : Id} {parent : Option Id} (hok : ReparentOk db c parent) :
    Inv (afterSetParent db c parent) := by
  refine Inv.of_pathsOk (finv_afterSetParent h.toFInv hok) ?_ (pathsOk_setParent h hok) h.ctlNodup ?_ h.trackNodup
  · intro r hr
    obtain ⟨r0, hr0, rfl⟩ := List.mem_map.mp hr
    have := h.namesValid r0 hr0
    split <;> exact this
  · intro r hr
    rw [ids_afterSetParent]
    exact h.ctlLive r hr

end EngineModel.Api.CratesV1
