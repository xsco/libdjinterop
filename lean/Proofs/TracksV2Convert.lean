/-
C01/C06 on schema 2.x: each conversion pair of
convert_*.hpp composed (write, store, read) is the Spec's normalisation of
that field; `Spec.normalize_eq_some` says what an accepting `Spec.normalize` has
checked and returns.
-/
import EngineModel.TracksV2.Model
import EngineModel.TracksV2.Spec
import EngineModel.TracksV2.SpecLens
import Proofs.TracksV2Basic
import Mathlib.Tactic.Linarith

namespace EngineModel
namespace TracksV2

open Prim

theorem trunc32_sext32 (x : UInt32) : trunc32 (sext32 x) = x := by
  apply UInt32.toNat_inj.mp
  have h := x.toNat_lt
  unfold trunc32 sext32 u64OfInt s32
  split <;> simp <;> omega

theorem map_trunc32_sext32 (v : Option UInt32) : (v.map sext32).map trunc32 = v := by
  cases v <;> simp [trunc32_sext32]

theorem u64OfInt_eq_zero_iff_unsigned (i : Int) (h1 : 0 ≤ i) (h2 : i < 18446744073709551616) :
    u64OfInt i = 0 ↔ i = 0 := by
  unfold u64OfInt
  constructor
  · intro h
    have := congrArg UInt64.toNat h
    simp [UInt64.toNat_ofNat] at this
    omega
  · intro h; subst h; rfl

theorem read_write_rating (r : Option UInt32) : readRating (writeRating r) = Spec.normRating r := by
  cases r with
  | none => simp [writeRating, readRating, Spec.normRating, s32, u64OfInt]
  | some v =>
    have hv := v.toNat_lt
    simp only [writeRating, readRating, Spec.normRating, Option.getD_some]
    by_cases h0 : s32 v < 0
    · simp [h0, u64OfInt]; omega
    · by_cases h1 : 100 < s32 v
      · have : ¬ s32 v ≤ 0 := by omega
        simp only [h0, h1, if_true, if_false, this]
        have e : u64OfInt 100 = 100 := rfl
        rw [e]
        simp only [show ((100 : UInt64) = 0) = False by decide, if_false]
        rfl
      · simp only [h0, h1, if_false]
        by_cases hz : s32 v ≤ 0
        · have : s32 v = 0 := by omega
          simp [this, u64OfInt]
        · have hne : ¬ u64OfInt (s32 v) = 0 := by
            rw [u64OfInt_eq_zero_iff_unsigned _ (by omega) (by omega)]; omega
          simp only [hne, hz, if_false]
          congr 1
          apply UInt32.toNat_inj.mp
          unfold trunc32 u64OfInt
          unfold s32 at *
          split at hz <;> simp <;> omega


theorem u64OfInt_eq_zero_iff_signed (i : Int) (h1 : -9223372036854775808 ≤ i) (h2 : i < 9223372036854775808) :
    u64OfInt i = 0 ↔ i = 0 := by
  constructor
  · intro h
    have := congrArg s64 h
    rw [s64_u64OfInt i h1 h2] at this
    simpa [s64] using this
  · intro h; subst h; rfl

theorem readDuration_of (q : Int) (b3 : -9223372036854775808 ≤ q) (b4 : q < 9223372036854775808)
    (b1 : -9223372036854775808 ≤ q * 1000) (b2 : q * 1000 < 9223372036854775808) :
    readDuration (u64OfInt q) = .ok (if q = 0 then none else some (u64OfInt (q * 1000))) := by
  have e1 := u64OfInt_eq_zero_iff_signed q b3 b4
  have e2 := s64_u64OfInt q b3 b4
  unfold readDuration
  by_cases hq : q = 0
  · rw [if_pos (e1.mpr hq), if_pos hq]
  · rw [if_neg (fun h => hq (e1.mp h)), if_neg hq, e2]
    rw [if_neg (by omega)]

theorem read_write_duration (d : Option UInt64) :
    readDuration (writeDuration d) = .ok (Spec.normDuration d) := by
  cases d with
  | none => simp [writeDuration, readDuration, Spec.normDuration, s64, u64OfInt]
  | some ms =>
    have hr := s64_range ms
    obtain ⟨b1, b2, b3, b4⟩ := tdiv_bounds (s64 ms) 1000 (by omega) hr.1 hr.2
    show readDuration (u64OfInt (Int.tdiv (s64 ms) 1000)) = _
    rw [readDuration_of _ b3 b4 b1 b2]
    rfl

theorem storeTime_eq (t : UInt64) : storeTime t = Spec.wholeSeconds 1000000000 t := rfl

theorem map_storeTime (t : Option UInt64) : t.map storeTime = Spec.normTime t := rfl

theorem wholeSeconds_idem (k : Int) (hk : 0 < k) (t : UInt64) :
    Spec.wholeSeconds k (Spec.wholeSeconds k t) = Spec.wholeSeconds k t := by
  have hr := s64_range t
  obtain ⟨b1, b2, _, _⟩ := tdiv_bounds (s64 t) k hk hr.1 hr.2
  unfold Spec.wholeSeconds
  rw [s64_u64OfInt _ b1 b2, Int.mul_tdiv_cancel _ (by omega)]


theorem isZero_iff (b : F) : F64.isZero b = true ↔ (b = 0 ∨ b = F64.negZero) := by
  simp [F64.isZero, F64.zero]

theorem zeroAbsent_getD (v : Option F) :
    (if F64.isZero (v.getD 0) then none else some (v.getD 0)) = Spec.normZeroAbsent v := by
  cases v with
  | none => simp [Spec.normZeroAbsent, F64.isZero, F64.zero]
  | some b =>
    simp only [Option.getD_some, Spec.normZeroAbsent]
    by_cases h : b = 0 ∨ b = F64.negZero
    · rw [if_pos ((isZero_iff b).mpr h), if_pos h]
    · rw [if_neg (fun hh => h ((isZero_iff b).mp hh)), if_neg h]

theorem read_write_count (v : Option UInt64) :
    (if v.getD 0 = 0 then none else some (v.getD 0)) = Spec.normCount v := by
  cases v with
  | none => simp [Spec.normCount]
  | some n => simp [Spec.normCount]

theorem read_write_bpm (ops : FOps) (v : Option F) :
    readBpm ops (storeReal (writeBpm v).1) (writeBpm v).2 = Spec.normBpm v := by
  cases v with
  | none => rfl
  | some b =>
    simp only [writeBpm, storeReal, Spec.normBpm, Option.bind_some]
    by_cases hn : F64.isNaN b = true
    · have : toI64 b = none := by
        unfold F64.isNaN at hn
        unfold toI64
        simp at hn
        simp [hn.1]
      simp [hn, this, readBpm]
    · simp only [hn, Bool.false_eq_true, if_false]
      by_cases hz : b = F64.negZero <;> simp [hz, readBpm]

theorem read_write_hotCue (c : Option HotCue) : readHotCue (writeHotCue c) = Spec.normCue c := by
  cases c with
  | none => decide
  | some q =>
    cases q with
    | mk l o c =>
      show (if F64.eq o F64.negOne = true then none else some (⟨l, o, c⟩ : HotCue)) =
        (if o = F64.negOne then none else some ⟨l, o, c⟩)
      by_cases h : o = F64.negOne
      · rw [if_pos ((F64.eq_negOne_iff _).mpr h), if_pos h]
      · rw [if_neg (fun hh => h ((F64.eq_negOne_iff _).mp hh)), if_neg h]

theorem read_write_loop (l : Option LoopV) : readLoop (writeLoop l) = l := by
  cases l with
  | none => decide
  | some q => simp [writeLoop, readLoop]

theorem map_padTo {α β} (f : α → β) (n : Nat) (e : α) (l : List α) :
    (padTo n e l).map f = padTo n (f e) (l.map f) := by
  simp [padTo]

theorem all_padTo {α} (p : α → Bool) (n : Nat) (e : α) (l : List α) (he : p e = true) :
    (padTo n e l).all p = l.all p := by
  simp [padTo, List.all_append, List.all_replicate, he]

theorem all_set_eq {α} (p : α → Bool) (l : List α) (k : Nat) (a : α) (hk : k < l.length) (h : l.all p = true) :
    (l.set k a).all p = p a := by
  cases hp : p a with
  | true =>
    rw [List.all_eq_true] at h ⊢
    intro y hy
    rcases List.mem_or_eq_of_mem_set hy with h1 | rfl
    · exact h y h1
    · exact hp
  | false =>
    cases hq : (l.set k a).all p with
    | false => rfl
    | true => rw [← hp]; exact (List.all_eq_true.mp hq a (List.mem_set hk a)).symm

section slots
variable {α β : Type} {wr : Option α → β} {rd : β → Option α} {nm : Option α → Option α} {label : α → Bytes}

/-- Cues and loops alike: `wr` encodes a slot, `rd` reads it back as the Spec's normal form `nm`, `enc` is the
blob's test on the slot's label. -/
theorem slots_write (enc : β → Bool) (hrd : ∀ v, rd (wr v) = nm v) (hn : nm none = none)
    (henc : ∀ v, enc (wr v) = Spec.labelOk label v) (vs : List (Option α)) :
    (padTo 8 (wr none) (vs.map wr)).all enc = Spec.labelsOk label vs ∧
    (padTo 8 (wr none) (vs.map wr)).map rd = Spec.pad8 (vs.map nm) := by
  constructor
  · unfold Spec.labelsOk
    rw [all_padTo _ _ _ _ (henc none), List.all_map]
    congr 1
    funext o
    rw [Function.comp, henc]
    cases o <;> rfl
  · rw [map_padTo, hrd, hn, List.map_map, show rd ∘ wr = nm from funext hrd]
    simp [padTo, Spec.pad8]

theorem slot_write (enc : β → Bool) (hrd : ∀ v, rd (wr v) = nm v) (henc : ∀ v, enc (wr v) = Spec.labelOk label v)
    (l : List β) (hl : l.all enc = true) {k : Nat} (hk : k < l.length) (v : Option α) :
    (l.set k (wr v)).all enc = Spec.labelOk label v ∧ (l.set k (wr v)).map rd = (l.map rd).set k (nm v) :=
  ⟨by rw [all_set_eq _ _ _ _ hk hl, henc], by rw [List.map_set, hrd]⟩
end slots

theorem cueSlot_enc (v : Option HotCue) :
    decide ((writeHotCue v).label.length ≤ 255) = Spec.labelOk HotCue.label v := by
  cases v <;> rfl

theorem loopSlot_enc (v : Option LoopV) :
    decide ((writeLoop v).label.length ≤ 255) = Spec.labelOk LoopV.label v := by
  cases v <;> rfl

theorem read_write_hotCues (cs : List (Option HotCue)) :
    (padTo 8 emptyCue (cs.map writeHotCue)).map readHotCue = Spec.pad8 (cs.map Spec.normCue) :=
  (slots_write (fun c : V2.Cue => decide (c.label.length ≤ 255)) read_write_hotCue rfl cueSlot_enc cs).2

theorem cuesEncodable_write (cs : List (Option HotCue)) (a : F) (b : Bool) (d : F) :
    cuesEncodable ⟨padTo 8 emptyCue (cs.map writeHotCue), a, b, d⟩ = Spec.labelsOk HotCue.label cs :=
  (slots_write (fun c : V2.Cue => decide (c.label.length ≤ 255)) read_write_hotCue rfl cueSlot_enc cs).1

theorem read_write_loops (ls : List (Option LoopV)) :
    (padTo 8 emptyLoop (ls.map writeLoop)).map readLoop = Spec.pad8 ls := by
  have := (slots_write (nm := id) (fun c : V2.Loop => decide (c.label.length ≤ 255)) read_write_loop rfl
    loopSlot_enc ls).2
  rwa [List.map_id] at this

theorem loopsEncodable_write (ls : List (Option LoopV)) :
    loopsEncodable (padTo 8 emptyLoop (ls.map writeLoop)) = Spec.labelsOk LoopV.label ls :=
  (slots_write (nm := id) (fun c : V2.Loop => decide (c.label.length ≤ 255)) read_write_loop rfl loopSlot_enc ls).1

theorem read_write_grid (g : List GMarker) : readGridMarkers (writeGridMarkers g) = g := by
  induction g with
  | nil => rfl
  | cons m r ih =>
    cases r with
    | nil => simp [writeGridMarkers, readGridMarkers, trunc32_sext32]
    | cons n r' =>
      simp only [writeGridMarkers, readGridMarkers, List.map_cons, trunc32_sext32] at ih ⊢
      rw [ih]

theorem writeGrid_isEmpty (g : List GMarker) : (writeGridMarkers g).isEmpty = g.isEmpty := by
  cases g with
  | nil => rfl
  | cons m r => cases r <;> rfl


theorem integerPart_eq_toI64 (x : F) : Spec.integerPart x = toI64 x := by
  unfold Spec.integerPart toI64 F64.expOf F64.manOf F64.signOf
  simp only []
  generalize x.toNat / 4503599627370496 % 2048 = e
  generalize x.toNat % 4503599627370496 + 4503599627370496 = sig
  by_cases h1 : e ≥ 1087
  · by_cases h2 : e = 2047
    · simp [h2]
    · have : ¬ e < 1023 := by omega
      have h3 : 1086 < e := by omega
      simp [h1, h2, this, h3]
  · by_cases h2 : e < 1023
    · have : ¬ e = 2047 := by omega
      simp [h1, h2, this]
    · have h3 : ¬ e = 2047 := by omega
      have h4 : ¬ 1086 < e := by omega
      simp only [h1, h2, h3, h4, if_false]
      generalize (if e ≥ 1075 then sig * 2 ^ (e - 1075) else sig / 2 ^ (1075 - e)) = mag
      by_cases hs : 9223372036854775808 ≤ x.toNat
      · simp only [hs, decide_true, if_true]
        by_cases hm : mag ≤ 9223372036854775808
        · have : ¬ (-(mag : Int) < -9223372036854775808 ∨ 9223372036854775807 < -(mag : Int)) := by omega
          rw [if_pos hm, if_neg this]
        · have : (-(mag : Int) < -9223372036854775808 ∨ 9223372036854775807 < -(mag : Int)) := by omega
          rw [if_neg hm, if_pos this]
      · simp only [hs, decide_false, Bool.false_eq_true, if_false]
        by_cases hm : mag < 9223372036854775808
        · have : ¬ ((mag : Int) < -9223372036854775808 ∨ 9223372036854775807 < (mag : Int)) := by omega
          rw [if_pos hm, if_neg this]
        · have : ((mag : Int) < -9223372036854775808 ∨ 9223372036854775807 < (mag : Int)) := by omega
          rw [if_neg hm, if_pos this]


theorem hasExtension_iff (p : Bytes) :
    Spec.hasExtension p = (getFileExtension (getFilename p)).isSome := by
  unfold getFileExtension
  rw [getFilename_idem]
  induction p with
  | nil => simp [Spec.hasExtension, getFilename, afterLast]
  | cons x r ih =>
    unfold getFilename at ih ⊢
    simp only [Spec.hasExtension, afterLast]
    cases h : afterLast 47 r with
    | some s =>
      have hc : (47 : UInt8) ∈ r := by
        refine Decidable.byContradiction fun hh => ?_
        rw [(afterLast_none_iff 47 r).mpr hh] at h; cases h
      simp [h] at ih
      simp [ih, hc]
    | none =>
      have hr := (afterLast_none_iff 47 r).mp h
      simp [h] at ih
      by_cases hx : x = 47
      · subst hx
        simp [ih]
      · simp only [hx, if_false, Option.getD_none, afterLast]
        rw [ih]
        cases h2 : afterLast 46 r with
        | some s => simp
        | none =>
          by_cases h46 : x = 46
          · simp [h46, hr]
          · simp [h46]


theorem idx_lt (len i : Nat) (hl : 0 < len) (hi : i < 1024) : len * (2 * i + 1) / 2048 < len := by
  apply Nat.div_lt_of_lt_mul
  have h1 : 2 * i + 1 < 2048 := by omega
  have h2 : len * (2 * i + 1) < len * 2048 := Nat.mul_lt_mul_of_pos_left h1 hl
  omega

def opq255 (e : WEntry) : WEntry := { e with lo := 255, mo := 255, ho := 255 }

theorem resampleAt_ok (w : List WEntry) (l : List Nat)
    (h : ∀ i ∈ l, w.length * (2 * i + 1) / 2048 < w.length) :
    resampleAt w l = .ok (l.filterMap fun i => w[w.length * (2 * i + 1) / 2048]?) := by
  induction l with
  | nil => rfl
  | cons i r ih =>
    have hi := h i (by simp)
    have hr := ih (fun j hj => h j (by simp [hj]))
    simp only [resampleAt, List.filterMap_cons]
    rw [List.getElem?_eq_getElem hi]
    simp [hr, Res.bind]

theorem entriesOfPoints_pointsOf (es : List WEntry) : entriesOfPoints (pointsOf es) = es.map opq255 := by
  induction es with
  | nil => rfl
  | cons e r ih =>
    simp only [pointsOf, List.flatMap_cons, List.cons_append, List.nil_append, entriesOfPoints,
      List.map_cons] at ih ⊢
    rw [ih]; rfl

theorem overviewOf_eq (w : List WEntry) (size : Nat) :
    Spec.overviewOf w size =
      ((List.range size).filterMap fun i => w[w.length * (2 * i + 1) / 2048]?).map opq255 := by
  unfold Spec.overviewOf
  rw [List.map_filterMap]
  rfl

theorem qn_zero_iff (t : Int) :
    quantisationNumber t = 0 ↔ Pure.Waveform.qn t.natAbs = 0 := by
  unfold quantisationNumber Pure.Waveform.qn
  have : (Int.tdiv t 210).natAbs = t.natAbs / 210 := Int.natAbs_tdiv t 210
  omega

theorem u64_eq_zero_iff (n : UInt64) : n = 0 ↔ n.toNat = 0 := by
  constructor
  · intro h; subst h; rfl
  · intro h; apply UInt64.toNat_inj.mp; simpa using h

theorem read_write_waveform (ops : FOps) (w : List WEntry) (c : Option UInt64) (r : Option F) :
    match Spec.normWaveform w c r with
    | some l => ∃ o, writeWaveform ops w c r = .ok o ∧ readWaveform o = l
    | none => writeWaveform ops w c r = .throw (.dj "invalid_track_snapshot") := by
  unfold Spec.normWaveform writeWaveform
  by_cases hw : w = []
  · subst hw; simp [readWaveform, entriesOfPoints]
  · have hne : w.isEmpty = false := by cases w <;> simp_all
    have hl : 0 < w.length := by cases w <;> simp_all
    simp only [hw, if_false, hne, Bool.false_eq_true]
    cases c with
    | none => cases r <;> simp
    | some n =>
      cases r with
      | none => simp
      | some rate =>
        simp only [integerPart_eq_toI64]
        cases ht : toI64 rate with
        | none => simp
        | some t =>
          simp only [Pure.Waveform.ovSize]
          by_cases h0 : n = 0 ∨ quantisationNumber t = 0
          · have h0' : n.toNat = 0 ∨ Pure.Waveform.qn t.natAbs = 0 := by
              rcases h0 with h | h
              · exact Or.inl ((u64_eq_zero_iff n).mp h)
              · exact Or.inr ((qn_zero_iff t).mp h)
            simp [h0, h0']
          · have h0' : ¬ (n.toNat = 0 ∨ Pure.Waveform.qn t.natAbs = 0) := by
              intro h; apply h0
              rcases h with h | h
              · exact Or.inl ((u64_eq_zero_iff n).mpr h)
              · exact Or.inr ((qn_zero_iff t).mpr h)
            have hres := resampleAt_ok w (List.range 1024) (fun i hi => idx_lt _ _ hl (by simpa using hi))
            simp only [h0, h0', if_false, resample, hres, Res.bind, (by decide : ¬ (1024 : Nat) = 0)]
            refine ⟨_, rfl, ?_⟩
            simp only [readWaveform, entriesOfPoints_pointsOf, overviewOf_eq]

namespace Spec

theorem normalize_eq_some {s : Schema} {x y : Snap} (h : normalize s x = some y) :
    ∃ p w, x.relativePath = some p ∧ normWaveform x.waveform x.sampleCount x.sampleRate = some w ∧
      y = { x with
        averageLoudness := normZeroAbsent x.averageLoudness
        bpm := normBpm x.bpm
        duration := normDuration x.duration
        hotCues := pad8 (x.hotCues.map normCue)
        lastPlayedAt := normTime x.lastPlayedAt
        loops := pad8 x.loops
        mainCue := normZeroAbsent x.mainCue
        rating := normRating x.rating
        sampleCount := normCount x.sampleCount
        sampleRate := normZeroAbsent x.sampleRate
        waveform := w } ∧
      hasExtension p = true ∧ x.hotCues.length ≤ 8 ∧ x.loops.length ≤ 8 ∧
      labelsOk HotCue.label x.hotCues = true ∧ labelsOk LoopV.label x.loops = true := by
  unfold normalize at h
  split at h
  · cases h
  · rename_i p hp
    split at h
    · cases h
    · rename_i hext
      split at h
      · cases h
      · rename_i hlen
        split at h
        · cases h
        · rename_i hlc
          split at h
          · cases h
          · rename_i hll
            split at h
            · cases h
            · rename_i w hw
              exact ⟨p, w, hp, hw, (Option.some.inj h).symm, by simpa using hext, by omega, by omega,
                by simpa using hlc, by simpa using hll⟩
end Spec

end TracksV2
end EngineModel
