/-
Schema 2.x crates: every structural query of the Model (Db/V2Crates.lean, `q…`) is the corresponding
Spec.Forest query on `absF d`; rejections the property demands; ids are never handed out twice.
-/
import Proofs.CratesV2Members
import Mathlib.Logic.Relation

namespace EngineModel.Db.V2

open EngineModel.Db.Chain EngineModel.Spec EngineModel.Spec.Forest EngineModel.ListAux

theorem qCrates_eq (d : Db) : qCrates d = (absF d).ids := (absF_ids d).symm

theorem qValid_eq (d : Db) (c : Int) : qValid d c = (absF d).live c := plExists_eq_live d c

theorem qParent_get {d : Db} {c : Int} {r : Row Bytes} (hg : get d.pl c = some r) :
    qParent d c = .ok (parentOpt r.key) := by
  unfold qParent parentOpt
  rw [hg]
  by_cases h0 : r.key = 0 <;> simp [h0]

theorem qParent_eq (d : Db) (c : Int) :
    qParent d c = if (absF d).live c then .ok ((absF d).parentOf c) else .throw (exn "crate_deleted") := by
  cases hg : get d.pl c with
  | none => simp [qParent, hg, live_false_of_get hg]
  | some r => rw [live_of_get hg, absF_parentOf_get hg, qParent_get hg]; rfl

theorem qName_eq (d : Db) (c : Int) :
    qName d c = (match (absF d).nameOf c with
      | some n => .ok n
      | none => .throw (exn "crate_deleted")) := by
  unfold qName
  rw [absF_nameOf]
  cases get d.pl c <;> rfl

/-- crate::descendants (the recursive view) terminates on a well-formed table and returns exactly the Spec's
descendants — as a set: the order within a level is SQLite's scan order. -/
theorem qDescendants_eq {d : Db} (hW : Forest.Wf (absF d)) (c : Int) :
    ∃ l, qDescendants d c = .ok l ∧ ∀ x, x ∈ l ↔ x ∈ (absF d).descendants c :=
  descendantIds_ok hW c

theorem mem_descSet_of_query {d : Db} (hW : Forest.Wf (absF d)) {c x : Int} {l : List Int}
    (h : qDescendants d c = .ok l) (hx : x ∈ l) : x ∈ descSet d c := by
  obtain ⟨l', h1, h2⟩ := qDescendants_eq hW c
  cases h.symm.trans h1
  exact (h2 x).mp hx

theorem qByName_eq (d : Db) (n : Bytes) : qByName d n = (absF d).byName n := by
  unfold qByName Forest.byName
  rw [absF_crates, List.filter_map, List.map_map]
  rfl

theorem qByParentName_eq (d : Db) (k : Int) (n : Bytes) :
    qByParentName d k n = ((absF d).byParentName (parentOpt k) n).getLast? := by
  unfold qByParentName findId Forest.byParentName
  rw [absF_crates, List.filter_map, List.map_map, List.getLast?_map]
  congr 2
  apply List.filter_congr
  intro r _
  simp [rowCrate, parentOpt_beq, Bool.and_comm]

/-- The parent relation as the API shows it. -/
def ParentQ (d : Db) (a b : Int) : Prop := qParent d a = .ok (some b)

theorem parentQ_iff (d : Db) (a b : Int) : ParentQ d a b ↔ Forest.parentRel (absF d) a b := by
  unfold ParentQ Forest.parentRel
  rw [qParent_eq]
  split
  · simp
  · next hl =>
    simp only [reduceCtorEq, false_iff]
    exact fun h => hl (Forest.live_iff.mpr (Forest.live_of_parentOf h))

theorem mem_descSet_iff (d : Db) (c x : Int) :
    x ∈ descSet d c ↔ Relation.TransGen (ParentQ d) x c := by
  rw [show ParentQ d = Forest.parentRel (absF d) from funext fun a => funext fun b => propext (parentQ_iff d a b),
    ← Forest.isAncestor_iff_transGen, mem_descSet]
  exact ⟨fun h => h.2, fun h => ⟨absF_ids d ▸ Forest.descendant_live h, h⟩⟩

/-- children(c) and root_crates(): membership in the ordered listing is "parent() is c" / "parent() is absent". -/
theorem mem_kids_iff {S : Ord} {d : Db} (hC : ChInv S d) (k x : Int) :
    x ∈ S.kids k ↔ qParent d x = .ok (parentOpt k) := by
  constructor
  · intro hx
    obtain ⟨r, hr, e1, e2⟩ := hC.rk.cover k x hx
    rw [qParent_get (e1 ▸ get_of_mem hC.rk.ids_nodup hr), e2]
  · intro h
    cases hg : get d.pl x with
    | none => simp [qParent, hg] at h
    | some r =>
      rw [qParent_get hg] at h
      rw [← (get_some hg).2, ← parentOpt_inj.mp (Res.ok.inj h)]
      exact hC.rk.mem r (get_some hg).1

theorem kids_perm_roots.mem_rowsOf_ids {t : Table Bytes} {k x : Int} :
    (∃ r ∈ t, r.id = x ∧ r.key = k) ↔ x ∈ ids (rowsOf t k) := by
  simp only [ids, List.mem_map, mem_rowsOf]
  constructor
  · rintro ⟨r, hr, e1, e2⟩; exact ⟨r, ⟨hr, e2⟩, e1⟩
  · rintro ⟨r, ⟨hr, e2⟩, e1⟩; exact ⟨r, hr, e1, e2⟩

theorem kids_perm {S : Ord} {d : Db} (hC : ChInv S d) (k : Int) : (S.kids k).Perm (ids (rowsOf d.pl k)) := by
  apply (List.perm_ext_iff_of_nodup (hC.rk.nodup k) (nodup_ids_filter _ hC.rk.ids_nodup)).mpr
  intro x
  exact Iff.trans ⟨hC.rk.cover k x, fun ⟨r, hr, e1, e2⟩ => e1 ▸ e2 ▸ hC.rk.mem r hr⟩ kids_perm_roots.mem_rowsOf_ids

theorem kids_perm_roots {S : Ord} {d : Db} (hC : ChInv S d) : (S.kids 0).Perm (absF d).roots :=
  absF_roots d ▸ kids_perm hC 0

theorem kids_perm_children {S : Ord} {d : Db} (hC : ChInv S d) {c : Int} (hc : c ≠ 0) :
    (S.kids c).Perm ((absF d).children c) :=
  absF_children d hc ▸ kids_perm hC c

/-- Re-parenting under itself or under one of its own descendants is rejected, leaving everything unchanged. -/
theorem setParent_cycle_rejected {d : Db} (hP : PlInv d) (c q : Int) (h : q = c ∨ q ∈ descSet d c) :
    step d (.setParent c (some q)) = (d, .throw (exn "crate_invalid_parent")) := by
  rcases h with rfl | h
  · simp [step]
  · obtain ⟨hq, hanc⟩ := mem_descSet.mp h
    obtain ⟨ds, hds, hmem⟩ := descendantIds_ok hP.wf c
    have hqc : q ≠ c := by
      rintro rfl; rw [hP.wf.acyclic] at hanc; exact absurd hanc (by simp)
    have hcl : c ∈ ids d.pl := by rw [← absF_ids]; exact hP.wf.ancestor_live hanc
    obtain ⟨row, hg⟩ := Option.isSome_iff_exists.mp (get_isSome_iff.mpr hcl)
    have h1 : (some q == some c) = false := by simpa using hqc
    have h2 : plExists d q = true := plExists_iff.mpr hq
    have h3 : q ∈ ds := (hmem q).mpr h
    simp [step, h1, hg, h2, hds, h3]

/-- remove_crate of a valid crate, from any state with the invariant: neither the crate nor any crate the view lists
below it is valid again, whatever happens later (the ids are gone, and AUTOINCREMENT never issues them again). -/
theorem removed_subtree_gone {d : Db} (hI : PlInv d) (c : Int) (hc : qValid d c = true) (x : Int)
    (hx : x = c ∨ ∃ l, qDescendants d c = .ok l ∧ x ∈ l) (later : List Op) :
    qValid (run (step d (.removeCrate c)).1 later) x = false := by
  have hl : (absF d).live c = true := by rw [← qValid_eq]; exact hc
  have hx' : x = c ∨ x ∈ descSet d c := hx.imp id fun ⟨_, h1, h2⟩ => mem_descSet_of_query hI.wf h1 h2
  have hxl : x ∈ ids d.pl := by
    rcases hx' with rfl | hx
    · exact plExists_iff.mp hc
    · exact (mem_descSet.mp hx).1
  have hle : x ≤ (step d (.removeCrate c)).1.plSeq := Int.le_trans (hI.seq x hxl) (ids_step hI (.removeCrate c)).1
  have := never_returns (plInv_step hI (.removeCrate c)) hle (removeCrate_gone hI hl hx') later
  cases hv : qValid (run (step d (.removeCrate c)).1 later) x with
  | false => rfl
  | true => exact absurd (plExists_iff.mp hv) this

end EngineModel.Db.V2
