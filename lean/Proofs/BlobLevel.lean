/-
Blob level: the zlib framing of the Model side (`lenPrefix`, `unz`) related to the independent Spec side
(`be32`, `frame`, `unframe`), and the LOOP model `uncompress` driven by an inflate `Oracle` built from the independent
Lean `Zlib.inflate` (`replayOracle`: it swallows the stream window by window, then hands out the inflated bytes in
pieces of at most `avail_out`).  That oracle satisfies the call `Contract`, and the loop model driven by it returns
exactly the result-level model `unz` (`uncompress_replay_eq_unz`) — so `C05_uncompress_total` is instantiated by a
real inflate, and the loops drop, duplicate or reorder nothing across chunk boundaries, trailing bytes and truncated
streams.  `uncompress_compress` (`zlib_uncompress (zlib_compress p) = p` for the loop models) needs the joint
hypothesis that the Lean inflate inverts what the deflate oracle produced.
-/
import Proofs.ZlibLoop
import Proofs.ZlibCompressLoop
import Proofs.InflateStored
import EngineModel.Impl.Blob

namespace EngineModel.Impl.Zlib
open EngineModel.Zlib

theorem byte_mod_u32 (n a b : Nat) (hab : a * b = 4294967296) (h : 256 ∣ b) :
    n % 4294967296 / a % 256 = n / a % 256 := by
  rw [← hab, Nat.mod_mul_right_div_self, Nat.mod_mod_of_dvd _ h]

theorem lenPrefix_eq_be32 (n : Nat) : lenPrefix n = be32 n := by
  unfold lenPrefix be32 Prim.encU32BE
  simp only [UInt32.toNat_ofNat']
  rw [byte_mod_u32 n 16777216 256 rfl ⟨1, rfl⟩, byte_mod_u32 n 65536 65536 rfl ⟨256, rfl⟩,
    byte_mod_u32 n 256 16777216 rfl ⟨65536, rfl⟩, Nat.mod_mod_of_dvd n (⟨16777216, rfl⟩ : 256 ∣ 2 ^ 32)]

theorem lenPrefix_length (n : Nat) : (lenPrefix n).length = 4 := rfl

theorem drop4_lenPrefix (n : Nat) (s : Bytes) : (lenPrefix n ++ s).drop 4 = s := by
  unfold lenPrefix Prim.encU32BE
  rfl

theorem apparentSize_lenPrefix (n : Nat) (hn : n < 2147483648) (s : Bytes) :
    apparentSize (lenPrefix n ++ s) = n := by
  have h := Prim.decU32BE_encU32BE (UInt32.ofNat n)
  unfold lenPrefix
  unfold Prim.encU32BE at h ⊢
  simp only [List.cons_append, List.nil_append, apparentSize] at h ⊢
  rw [h]
  unfold Prim.s32
  simp only [UInt32.toNat_ofNat']
  have : n % 4294967296 = n := Nat.mod_eq_of_lt (by omega)
  rw [this]
  simp [hn]

theorem apparentSize_be32 (n : Nat) (hn : n < 2147483648) (s : Bytes) : apparentSize (be32 n ++ s) = n := by
  rw [← lenPrefix_eq_be32]; exact apparentSize_lenPrefix n hn s

/-! (Kernel note: never let the kernel reduce `prologue` / `unz` on a buffer built from `lenPrefix n` or
from byte variables — the signed reading of the prefix is arithmetic modulo 2^32 on symbolic values.  The
lemmas below are therefore stated for a VARIABLE buffer and instantiated afterwards.) -/

theorem unz_of_prologue_none (buf : Bytes) (h : prologue buf = none) :
    unz buf = match inflate (buf.drop 4) with
      | some (out, _) => .ok out
      | none => .throw .system_error := by
  unfold unz; rw [h]; rfl

theorem unz_of_prologue_some (buf : Bytes) (r : Res Bytes) (h : prologue buf = some r) : unz buf = r := by
  unfold unz; rw [h]

theorem prologue_some_ok (buf p : Bytes) (h : prologue buf = some (.ok p)) :
    p = [] ∧ ¬ (buf.length ≠ 0 ∧ buf.length < 4) ∧ apparentSize buf = 0 := by
  unfold prologue at h
  by_cases h1 : buf.length ≠ 0 ∧ buf.length < 4
  · rw [if_pos h1] at h; simp at h
  · rw [if_neg h1] at h
    by_cases h2 : apparentSize buf = 0
    · rw [if_pos h2] at h
      simp only [Option.some.injEq, Res.ok.injEq] at h
      exact ⟨h.symm, h1, h2⟩
    · rw [if_neg h2] at h
      by_cases h3 : apparentSize buf < 0
      · rw [if_pos h3] at h; simp at h
      · rw [if_neg h3] at h; simp at h

theorem prologue_none_apparent (buf : Bytes) (h : prologue buf = none) : apparentSize buf ≠ 0 := by
  unfold prologue at h
  by_cases h1 : buf.length ≠ 0 ∧ buf.length < 4
  · rw [if_pos h1] at h; simp at h
  · rw [if_neg h1] at h
    by_cases h2 : apparentSize buf = 0
    · rw [if_pos h2] at h; simp at h
    · exact h2

theorem prologue_prefix (n : Nat) (hn : n < 2147483648) (hn0 : n ≠ 0) (s : Bytes) :
    prologue (lenPrefix n ++ s) = none := by
  have hl : ¬ ((lenPrefix n ++ s).length ≠ 0 ∧ (lenPrefix n ++ s).length < 4) := by
    rw [List.length_append, lenPrefix_length]; omega
  have ha := apparentSize_lenPrefix n hn s
  unfold prologue
  rw [if_neg hl, ha]
  have h1 : ¬ (((n : Nat) : Int) = 0) := by omega
  have h2 : ¬ (((n : Nat) : Int) < 0) := by omega
  rw [if_neg h1, if_neg h2]

theorem unz_prefix (n : Nat) (hn : n < 2147483648) (hn0 : n ≠ 0) (s : Bytes) :
    unz (lenPrefix n ++ s) = match inflate s with
      | some (out, _) => .ok out
      | none => .throw .system_error := by
  rw [unz_of_prologue_none _ (prologue_prefix n hn hn0 s), drop4_lenPrefix]

theorem unz_frame_nil : unz (frame []) = .ok [] := by
  have : prologue (frame []) = some (.ok []) := by decide
  exact unz_of_prologue_some _ _ this

/-- The Model of `zlib_uncompress` inverts the Spec framing (payloads below 2 GiB: the prefix is read as a
signed `int32_t`). -/
theorem unz_frame (x : Bytes) (h : x.length < 2147483648) : unz (frame x) = .ok x := by
  by_cases h0 : x.length = 0
  · have hx : x = [] := List.eq_nil_of_length_eq_zero h0
    rw [hx]; exact unz_frame_nil
  · show unz (be32 x.length ++ deflateStored x) = _
    rw [← lenPrefix_eq_be32, unz_prefix _ h h0, inflate_stored]

theorem apparentSize_zero_iff (a b c d : UInt8) (r : Bytes) :
    apparentSize (a :: b :: c :: d :: r) = 0 ↔
      a.toNat * 16777216 + b.toNat * 65536 + c.toNat * 256 + d.toNat = 0 := by
  have ha := a.toNat_lt; have hb := b.toNat_lt; have hc := c.toNat_lt; have hd := d.toNat_lt
  exact Prim.s32_ofNat_eq_zero _ (by omega)

theorem unz_ok_unframe (b p : Bytes) (h : unz b = .ok p) : unframe b = some p := by
  cases hp : prologue b with
  | some r =>
    rw [unz_of_prologue_some b r hp] at h
    subst h
    obtain ⟨rfl, hlen, hz⟩ := prologue_some_ok b p hp
    rcases b with _ | ⟨a, _ | ⟨b', _ | ⟨c, _ | ⟨d, r⟩⟩⟩⟩
    · rfl
    · exact absurd ⟨Nat.succ_ne_zero _, (by decide : 1 < 4)⟩ hlen
    · exact absurd ⟨Nat.succ_ne_zero _, (by decide : 2 < 4)⟩ hlen
    · exact absurd ⟨Nat.succ_ne_zero _, (by decide : 3 < 4)⟩ hlen
    · show (if a.toNat * 16777216 + b'.toNat * 65536 + c.toNat * 256 + d.toNat = 0 then some []
        else (inflate r).map (·.1)) = some []
      rw [if_pos ((apparentSize_zero_iff a b' c d r).mp hz)]
  | none =>
    rw [unz_of_prologue_none b hp] at h
    have h4 := prologue_none_length hp
    have hz := prologue_none_apparent b hp
    rcases b with _ | ⟨a, _ | ⟨b', _ | ⟨c, _ | ⟨d, r⟩⟩⟩⟩
    · exact absurd h4 (by decide : ¬ 4 ≤ 0)
    · exact absurd h4 (by decide : ¬ 4 ≤ 1)
    · exact absurd h4 (by decide : ¬ 4 ≤ 2)
    · exact absurd h4 (by decide : ¬ 4 ≤ 3)
    · show (if a.toNat * 16777216 + b'.toNat * 65536 + c.toNat * 256 + d.toNat = 0 then some []
        else (inflate r).map (·.1)) = some p
      rw [if_neg fun e => hz ((apparentSize_zero_iff a b' c d r).mpr e)]
      simp only [List.drop_succ_cons, List.drop_zero] at h
      cases hi : inflate r with
      | none => rw [hi] at h; cases h
      | some q => rw [hi] at h; cases h; rfl

/-- State of the replay stream: stream bytes swallowed so far, inflated bytes not yet handed out. -/
structure RState where
  pos : Nat
  left : Bytes

/-- `L = none`: the input is not a complete valid stream — every call swallows its window, produces
nothing and never reports the end.  `L = some n`: the stream is `n` bytes long — calls swallow input
until `n` bytes are taken, then hand out the inflated bytes, at most `avail_out` per call, and report
`Z_STREAM_END` with the last piece. -/
def replayOracle (L : Option Nat) : Oracle RState where
  step s win n :=
    match L with
    | none => (.ok, win.length, [], s)
    | some L =>
      let c := min win.length (L - s.pos)
      if s.pos + c < L then (.ok, c, [], ⟨s.pos + c, s.left⟩)
      else (if s.left.length < n then .streamEnd else .ok, c, s.left.take n, ⟨s.pos + c, s.left.drop n⟩)

def replayContract (L : Option Nat) : Contract (replayOracle L) where
  pot s _ := s.left.length
  ratio := 0
  pot_mono := by intros; omega
  pot_input := by intros; omega
  step_ok := by
    intro s win n
    unfold replayOracle
    cases L with
    | none => simp
    | some L =>
      simp only []
      split
      · simp only [List.length_nil, Nat.zero_le, Nat.add_zero, Std.le_refl, and_self, and_true]; omega
      · simp only [List.length_take, List.length_drop]; omega

/-- The stream length the oracle is given: whatever the Lean inflate did not hand back, at least one
byte, for an input `z` it accepts.  (`max 1`: the replay starts by swallowing, and `RInv` at `.outer` wants `0 < L`;
nothing here says that the Lean inflate consumes a byte of every input it accepts.) -/
def streamLen (z : Bytes) : Option Nat :=
  (inflate z).map (fun p => max 1 (z.length - p.2.length))

def replayInit (z : Bytes) : RState := ⟨0, ((inflate z).map (·.1)).getD []⟩

theorem inflate_nil : inflate [] = none := rfl

theorem loop_replay_none (buf : Bytes) :
    ∀ (fuel : Nat) (s : RState) (ptr : Nat) (ph : Phase) (acc : Bytes), ptr ≤ buf.length →
      loop (replayOracle none) buf buf.length fuel s ptr ph acc = .throw .system_error ∨
      loop (replayOracle none) buf buf.length fuel s ptr ph acc = .ub .nontermination := by
  intro fuel
  induction fuel with
  | zero => intro s ptr ph acc _; right; cases ph <;> rfl
  | succ fuel ih =>
    intro s ptr ph acc hp
    cases ph with
    | outer =>
      rcases loop_outer _ buf (Nat.le_refl _) hp fuel s acc with ⟨-, h⟩ | ⟨avail, -, hle, h⟩ <;> rw [h]
      · left; rfl
      · exact ih _ _ _ _ hle
    | inner win =>
      simp only [loop, replayOracle]
      have h1 : ¬ (([] : Bytes).length = chunk) := by decide
      simp only [reduceCtorEq, or_self, if_false, h1, List.append_nil]
      exact ih _ _ _ _ hp

/-- Where the replay of a stream of `L` bytes that inflates to `out` stands.  While it swallows (`s.pos < L`) nothing
has been handed out and the cursor is `pos` bytes (plus the current window and the 4-byte prefix) into the buffer;
afterwards what was handed out and what is left make up `out`. -/
def RInv (out : Bytes) (L : Nat) (s : RState) (ptr : Nat) (acc : Bytes) : Phase → Prop
  | .outer => s.pos + 4 = ptr ∧ s.pos < L ∧ s.left = out ∧ acc = []
  | .inner win => acc ++ s.left = out ∧ s.pos ≤ L ∧ (s.pos < L → acc = [] ∧ s.pos + win.length + 4 = ptr)

theorem swallow_whole {pos w L : Nat} (h : pos + min w (L - pos) < L) : min w (L - pos) = w ∧ pos < L := by
  omega

theorem swallow_le {pos L : Nat} (w : Nat) (h : pos ≤ L) : pos + min w (L - pos) ≤ L := by
  omega

/-- From `RInv` alone the loops return `out` or run out of fuel; `uncompress_replay_eq_unz` then excludes the second by
`uncompress_total`. -/
theorem loop_replay_some (out : Bytes) (L : Nat) (buf : Bytes) (hL2 : 4 + L ≤ buf.length) :
    ∀ (fuel : Nat) (s : RState) (ptr : Nat) (ph : Phase) (acc : Bytes), ptr ≤ buf.length →
      RInv out L s ptr acc ph →
      loop (replayOracle (some L)) buf buf.length fuel s ptr ph acc = .ok out ∨
      loop (replayOracle (some L)) buf buf.length fuel s ptr ph acc = .ub .nontermination := by
  intro fuel
  induction fuel with
  | zero => intro s ptr ph acc _ _; right; cases ph <;> rfl
  | succ fuel ih =>
    intro s ptr ph acc hp hinv
    cases ph with
    | outer =>
      obtain ⟨h1, h2, h3, h4⟩ := hinv
      rcases loop_outer _ buf (Nat.le_refl _) hp fuel s acc with ⟨he, -⟩ | ⟨avail, -, hle, h⟩
      · omega
      · rw [h]
        apply ih _ _ _ _ hle
        refine ⟨by rw [h4, h3]; rfl, Nat.le_of_lt h2, fun _ => ⟨h4, ?_⟩⟩
        rw [window_length buf (Nat.le_sub_of_add_le' hle), ← h1]
        exact Nat.add_right_comm _ _ _
    | inner win =>
      obtain ⟨h1, h2, h3⟩ := hinv
      simp only [loop, replayOracle]
      by_cases hsw : s.pos + min win.length (L - s.pos) < L
      · -- swallow the whole window, back to the outer loop
        obtain ⟨hc, hlt⟩ := swallow_whole hsw
        obtain ⟨ha, hw⟩ := h3 hlt
        have hne : ¬ (([] : Bytes).length = chunk) := by decide
        simp only [hsw, if_true, reduceCtorEq, or_self, if_false, hne, List.append_nil]
        apply ih _ _ _ _ hp
        refine ⟨by rw [hc]; exact hw, hsw, ?_, ha⟩
        rw [ha] at h1; exact h1
      · -- the stream has been taken completely: hand out the inflated bytes
        simp only [hsw, if_false]
        by_cases hlt : s.left.length < chunk
        · have hfull : ¬ (s.left.take chunk).length = chunk := by
            rw [List.length_take, Nat.min_eq_right (Nat.le_of_lt hlt)]; exact Nat.ne_of_lt hlt
          simp only [hlt, if_true, reduceCtorEq, or_self, if_false, hfull]
          left
          rw [List.take_of_length_le (Nat.le_of_lt hlt)]
          exact congrArg Res.ok h1
        · have hfull : (s.left.take chunk).length = chunk := by
            rw [List.length_take]; exact Nat.min_eq_left (Nat.le_of_not_lt hlt)
          simp only [hlt, if_false, reduceCtorEq, or_self, hfull, if_true]
          apply ih _ _ _ _ hp
          refine ⟨?_, swallow_le _ h2, fun h => absurd h hsw⟩
          show (acc ++ s.left.take chunk) ++ s.left.drop chunk = out
          rw [List.append_assoc, List.take_append_drop]; exact h1

/-- **The loop model of `zlib_uncompress`, driven by the oracle built from the Lean inflate, IS the
result-level model `unz`** — for every blob, with the explicit fuel of `C05_uncompress_total`. -/
theorem uncompress_replay_eq_unz (buf : Bytes) (fuel : Nat)
    (hf : fuelBound (replayContract (streamLen (buf.drop 4))) (replayInit (buf.drop 4)) buf.length ≤ fuel) :
    uncompress (replayOracle (streamLen (buf.drop 4))) (replayInit (buf.drop 4)) buf.length fuel buf = unz buf := by
  have htot := uncompress_total _ (replayContract (streamLen (buf.drop 4))) (replayInit (buf.drop 4)) buf fuel hf
  unfold uncompress at htot ⊢
  unfold unz
  cases hp : prologue buf with
  | some r => rfl
  | none =>
    rw [hp] at htot
    simp only [] at htot ⊢
    have h4 := prologue_none_length hp
    cases hi : inflate (buf.drop 4) with
    | none =>
      have hL : streamLen (buf.drop 4) = none := by rw [streamLen, hi]; rfl
      rw [hL] at htot ⊢
      rcases loop_replay_none buf fuel (replayInit (buf.drop 4)) 4 .outer [] h4 with h | h
      · exact h
      · rw [h] at htot
        rcases htot with ⟨_, h'⟩ | h' | h' <;> cases h'
    | some q =>
      obtain ⟨out, rest⟩ := q
      have hL : streamLen (buf.drop 4) = some (max 1 ((buf.drop 4).length - rest.length)) := by
        rw [streamLen, hi]; rfl
      have hI : replayInit (buf.drop 4) = ⟨0, out⟩ := by rw [replayInit, hi]; rfl
      rw [hL, hI] at htot ⊢
      have hz : (buf.drop 4) ≠ [] := by
        intro e; rw [e, inflate_nil] at hi; cases hi
      have hzl : 1 ≤ (buf.drop 4).length := List.length_pos_iff.mpr hz
      simp only [List.length_drop] at hzl
      have hL2 : 4 + max 1 ((buf.drop 4).length - rest.length) ≤ buf.length := by
        simp only [List.length_drop]; omega
      rcases loop_replay_some out _ buf hL2 fuel ⟨0, out⟩ 4 .outer [] h4
          ⟨rfl, by simp only [List.length_drop]; omega, rfl, rfl⟩ with h | h
      · exact h
      · rw [h] at htot
        rcases htot with ⟨_, h'⟩ | h' | h' <;> cases h'

/-- `zlib_uncompress (zlib_compress p) = p` at the level of the loop models: for every deflate oracle
honouring `DContract`, if the Lean inflate inverts the bytes that oracle produced for `p` (the joint
contract between the two zlib directions, sampled against libz on every run), then the result-level
model — hence, by `uncompress_replay_eq_unz`, the loop model with the replay oracle — returns `p`
from the blob the compress loops built.  Payloads between 1 byte and 2 GiB. -/
theorem uncompress_compress {σ} (o : DOracle σ) (c : DContract o) (s0 : σ) (hs0 : c.live s0)
    (p : Bytes) (hne : p ≠ []) (hlt : p.length < 2147483648) (fuel : Nat)
    (hf : cFuelBound c s0 p.length ≤ fuel) :
    ∃ blob log, compress o s0 fuel p = .ok (blob, log) ∧
      ((∃ rest, inflate (log.flatMap (·.out)) = some (p, rest)) → unz blob = .ok p) := by
  obtain ⟨blob, log, h1, h2, _, _⟩ := compress_complete o c s0 hs0 p hne fuel hf
  refine ⟨blob, log, h1, ?_⟩
  rintro ⟨rest, hi⟩
  subst h2
  have hp0 : p.length ≠ 0 := fun e => hne (List.eq_nil_of_length_eq_zero e)
  rw [unz_prefix _ hlt hp0, hi]

theorem unz_never_ub (buf : Bytes) (u : Ub) : unz buf ≠ .ub u := by
  unfold unz
  cases hp : prologue buf with
  | some r =>
    rcases prologue_good buf r hp with ⟨out, h⟩ | h <;> simp [h]
  | none =>
    simp only
    cases EngineModel.Zlib.inflate (buf.drop 4) with
    | none => simp
    | some p => simp

theorem fromBlob_never_ub {α} (decode : Bytes → Res α) (blob : Bytes)
    (hd : ∀ p, unz blob = .ok p → ∀ u, decode p ≠ .ub u) (u : Ub) : Blob.fromBlob decode blob ≠ .ub u := by
  unfold Blob.fromBlob
  cases h : unz blob with
  | ok p => exact hd p h u
  | throw e => simp [Res.bind]
  | ub u' => exact absurd h (unz_never_ub blob u')

end EngineModel.Impl.Zlib
