/-
C06 on the legacy layout, for one track: every 1.x setter refines its lens (`set_refines`), every getter reads the
snapshot (`get_eq_snapField`), and the Spec record obeys the lens laws (`snapField_put_same`, `snapField_put_other`).
A setter that goes through a PerformanceData blob column is read off the rows that its plan leaves (`set_ok_form`
through `set_one_col`, `set_slot_col`); of those confined to the Track / MetaData / MetaDataInteger rows, the ten that
only replace one cell are dealt with in `set_refines` itself.
-/
import Proofs.TracksV1SetForm
import Proofs.TracksV1RoundTrip

namespace EngineModel.TracksV1

open Impl.V1 (GMarker HotCue LoopV Entry Wave Beat Cues Loops)
open Fl (FOps)


section
macro "inv_perf" hinv:ident p:ident hp:ident : tactic =>
  `(tactic| (refine InvP.of_perf $hinv $p _ $hp ?_ ?_ ?_ _ ?_ ?_ <;>
      first | rfl | exact InvP.cues $hinv $p $hp | exact InvP.loops $hinv $p $hp | simp [colTrack, $hp:ident]))

theorem set_one_col {o : FOps} {r r' : TrackRows} {f : Field} {v : f.ty} {P : SetPlan} {w : ColWrite}
    (h : set o r f v = .ok r') (hP : setPlan o r f v = .ok P) (hw : P.cols = [w]) :
    w.stable = true ∧ ∃ p, r.perf = some p ∧ r' = { P.edit r with perf := some (w.put p) } := by
  obtain ⟨P', hP', hall, hr⟩ := set_ok_form h
  cases hP.symm.trans hP'
  rw [hw] at hall hr
  obtain ⟨_, p, hp, hr⟩ := hr.resolve_left fun h => List.cons_ne_nil _ _ h.1
  exact ⟨hall w (List.mem_singleton.mpr rfl), p, hp, hr⟩

/-- The same for a setter that writes nothing outside PerformanceData. -/
theorem set_col {o : FOps} {r r' : TrackRows} {f : Field} {v : f.ty} {w : ColWrite}
    (h : set o r f v = .ok r') (hP : setPlan o r f v = .ok { cols := [w] }) :
    w.stable = true ∧ ∃ p, r.perf = some p ∧ r' = { r with perf := some (w.put p) } :=
  set_one_col h hP rfl

theorem set_slot_col {α} {o : FOps} {r r' : TrackRows} {f : Field} {v : f.ty} {l : List α} {i : UInt32}
    {w : Nat → ColWrite} (h : set o r f v = .ok r')
    (hP : setPlan o r f v = (slotIndex i l).bind fun k => .ok { cols := [w k] }) :
    ∃ k, Spec.slotOf i l.length = some k ∧ (w k).stable = true ∧
      ∃ p, r.perf = some p ∧ r' = { r with perf := some ((w k).put p) } := by
  rw [slotIndex_eq] at hP
  cases hk : Spec.slotOf i l.length with
  | none =>
    rw [hk] at hP
    obtain ⟨_, hP', _⟩ := set_ok_form h
    cases hP.symm.trans hP'
  | some k =>
    rw [hk] at hP
    obtain ⟨hs, p, hp, hr⟩ := set_col h hP
    exact ⟨k, rfl, hs, p, hp, hr⟩

/-! ### what `snapshot()` reads of the PerformanceData row -/

def PerfRow.shown (p : PerfRow) : Impl.V1.Track × List GMarker × Cues × Loops × List Entry :=
  (p.trackData, p.beat.adj, p.cues, p.loops, p.hires.entries)

theorem snapOf_shown (o : FOps) (s : Schema) (r : TrackRows) (p p' : PerfRow) (h : p'.shown = p.shown) :
    snapOf o s { r with perf := some p' } = snapOf o s { r with perf := some p } := by
  simp only [PerfRow.shown, Prod.mk.injEq] at h
  obtain ⟨h1, h2, h3, h4, h5⟩ := h
  simp only [snapOf, Option.bind_some, Option.map_some, h1, h2, h3, h4, h5]

/-- The stores that re-scale a stored waveform do not show in the snapshot. -/
theorem shown_respe {x : Res (Nat × Bits)} {w : Wave} {mk : Wave → ColWrite} {t : List ColWrite} (p : PerfRow)
    (h : respe x w mk = .ok t) (hmk : mk = .ovw ∨ (mk = .hires ∧ w.entries = p.hires.entries)) :
    (t.foldl ColWrite.put p).shown = p.shown := by
  rcases respe_ok h with rfl | ⟨e, _, rfl⟩
  · rfl
  · rcases hmk with rfl | ⟨rfl, hw⟩
    · rfl
    · simp only [List.foldl, ColWrite.put, PerfRow.shown, hw]

theorem shown_rescaled {x1 x2 : Res (Nat × Bits)} {w1 w2 : Wave} {t1 t2 : List ColWrite} (q : PerfRow)
    (h1 : respe x1 w1 .hires = .ok t1) (hw : w1.entries = q.hires.entries) (h2 : respe x2 w2 .ovw = .ok t2) :
    ((t1 ++ t2).foldl ColWrite.put q).shown = q.shown := by
  rw [List.foldl_append, shown_respe _ h2 (.inl rfl)]
  exact shown_respe _ h1 (.inr ⟨rfl, hw⟩)

theorem InvP.of_shown {r : TrackRows} {p p' : PerfRow} (h : InvP { r with perf := some p }) (hs : p'.shown = p.shown) :
    InvP { r with perf := some p' } := by
  simp only [PerfRow.shown, Prod.mk.injEq] at hs
  obtain ⟨h1, _, h3, h4, _⟩ := hs
  obtain ⟨a, b, c, d, e, f⟩ := h
  refine ⟨a, b, c, ?_, ?_, ?_⟩
  · intro q hq; cases hq; rw [h3]; exact d p rfl
  · intro q hq; cases hq; rw [h4]; exact e p rfl
  · intro q hq; cases hq; rw [h1]; exact f p rfl

variable (o : FOps) (s : Schema) (r r' : TrackRows)

theorem refine_averageLoudness (v : Option Bits) (hinv : InvP r) (h : set o r .averageLoudness v = .ok r') :
    Refines o s r r' .averageLoudness v := by
  obtain ⟨_, p, hp, rfl⟩ := set_col h rfl
  refine ⟨_, rfl, ?_, ?_⟩
  · simp [snapOf, Spec.putField, fileBytesCol, colTrack, hp, loud_eq, ColWrite.put]
  · exact hinv.of_perf_cols p _ hp _ (congrArg (·.key) (colTrack_eq hp))

theorem refine_beatgrid (g : List GMarker) (hinv : InvP r) (h : set o r .beatgrid g = .ok r') :
    Refines o s r r' .beatgrid g := by
  obtain ⟨hs, p, hp, rfl⟩ := set_col h rfl
  have hg : Spec.gridOk g = true := stableBeat_gridOk hs
  refine ⟨g, by simp [Spec.normField, hg], ?_, hinv.of_perf_cols p _ hp _⟩
  simp [snapOf, Spec.putField, fileBytesCol, colBeat, hp, ColWrite.put]

theorem refine_sampleCount (n0 : Option UInt64) (hinv : InvP r) (h : set o r .sampleCount n0 = .ok r') :
    Refines o s r r' .sampleCount n0 := by
  obtain ⟨P, hP, _, hr⟩ := set_ok_form h
  obtain ⟨secs, tail, _, ht, rfl⟩ := (setPlan_sampleCount o r n0 P).mp hP
  obtain ⟨_, p, hp, rfl⟩ := hr.resolve_left fun h => List.cons_ne_nil _ _ h.1
  -- the two unconditional stores give the new snapshot; the overview re-scale does not show
  show Refines o s r
    { SetPlan.edit _ r with perf := some (tail.foldl ColWrite.put (ColWrite.put (ColWrite.put p _) _)) } _ _
  refine ⟨_, rfl, (snapOf_shown o s _ _ _ (shown_respe _ ht (.inl rfl))).trans ?_,
    InvP.of_shown ?_ (shown_respe _ ht (.inl rfl))⟩
  · simp [snapOf, Spec.putField, fileBytesCol, colTrack, colBeat, hp, SetPlan.edit, ColWrite.put]
  · exact hinv.of_perf_cols p _ hp _ (congrArg (·.key) (colTrack_eq hp))

theorem refine_sampleRate (v0 : Option Bits) (hinv : InvP r) (h : set o r .sampleRate v0 = .ok r') :
    Refines o s r r' .sampleRate v0 := by
  obtain ⟨P, hP, _, hr⟩ := set_ok_form h
  obtain ⟨secs, t1, t2, _, h1, h2, rfl⟩ := (setPlan_sampleRate o r v0 P).mp hP
  obtain ⟨_, p, hp, rfl⟩ := hr.resolve_left fun h => List.cons_ne_nil _ _ h.1
  have hnf : Spec.normField .sampleRate v0 = some (zeroNoneF (zeroNoneF v0)) := by
    rw [zeroNoneF_eq_dropZero, zeroNoneF_eq_dropZero, Spec.dropZero_idem]; rfl
  -- the two unconditional stores give the new snapshot; the two re-scales do not show
  show Refines o s r
    { SetPlan.edit _ r with perf := some ((t1 ++ t2).foldl ColWrite.put (ColWrite.put (ColWrite.put p _) _)) } _ _
  refine ⟨_, hnf, (snapOf_shown o s _ _ _ (shown_rescaled _ h1 (by simp [colHires, hp, ColWrite.put]) h2)).trans ?_,
    InvP.of_shown ?_ (shown_rescaled _ h1 (by simp [colHires, hp, ColWrite.put]) h2)⟩
  · simp [snapOf, Spec.putField, fileBytesCol, colTrack, colBeat, hp, zeroNoneF_eq_dropZero, Spec.dropZero_idem,
      SetPlan.edit, ColWrite.put]
  · exact hinv.of_perf_cols p _ hp _ (congrArg (·.key) (colTrack_eq hp))

theorem refine_waveform (w : List Entry) (hinv : InvP r) (h : set o r .waveform w = .ok r') :
    Refines o s r r' .waveform w := by
  obtain ⟨P, hP, _, hr⟩ := set_ok_form h
  obtain ⟨ov, hi, rfl, hw⟩ := (setPlan_waveform o r w P).mp hP
  obtain ⟨_, p, hp, rfl⟩ := hr.resolve_left fun h => List.cons_ne_nil _ _ h.1
  have hhi : hi.entries = w := by
    rcases hw with ⟨rfl, _, rfl⟩ | ⟨_, _, _, _, _, _, _, _, rfl⟩ <;> rfl
  refine ⟨w, rfl, ?_, hinv.of_perf_cols p _ hp _⟩
  simp [snapOf, Spec.putField, fileBytesCol, hp, hhi, SetPlan.edit, ColWrite.put]

/-- `set_key`: the track-data blob (which holds C major as "no key") and `MetaDataInteger` type 4. -/
theorem refine_key (k : Option UInt32) (hinv : InvP r) (h : set o r .key k = .ok r') :
    Refines o s r r' .key k := by
  obtain ⟨_, p, hp, rfl⟩ := set_one_col h rfl rfl
  refine ⟨k, rfl, ?_, ?_⟩
  · have hk := key_read_comp k
    simp [snapOf, Spec.putField, fileBytesCol, colTrack, hp, cell_aset_same, cell_aset_other, SetPlan.edit, ColWrite.put]
    exact hk
  · obtain ⟨a, b, c, d, e, f⟩ := hinv
    refine ⟨a, b, ?_, ?_, ?_, ?_⟩
    · intro t ht
      exact c t ((cell_aset_other _ _ _ _ (by decide)).symm.trans ht)
    · intro q hq; cases hq; exact d p hp
    · intro q hq; cases hq; exact e p hp
    · intro q hq k0 hk0
      cases hq
      show cell 4 (aset 4 _ _) = _
      rw [cell_aset_same]
      cases k with
      | none => cases hk0
      | some kv =>
        change (if kv = 0 then none else some kv) = some k0 at hk0
        split at hk0
        · cases hk0
        · cases hk0; rfl

theorem refine_mainCue (v : Option Bits) (hinv : InvP r) (h : set o r .mainCue v = .ok r') :
    Refines o s r r' .mainCue v := by
  obtain ⟨hs, p, hp, rfl⟩ := set_col h rfl
  have h8 := (stableCues_spec hs).1
  refine ⟨_, rfl, ?_, ?_⟩
  · simp [snapOf, Spec.putField, fileBytesCol, colCues, hp, mainCue_read, ColWrite.put]
  -- the cue count is that of the stored column (`h8`), the loop count is kept, key, path and length by `rfl`
  · refine InvP.of_perf hinv p _ hp ?_ ?_ ?_ _ ?_ ?_ <;>
      first | rfl | exact hinv.loops p hp | exact h8

theorem refine_hotCues (cs : List (Option HotCue)) (hinv : InvP r) (h : set o r .hotCues cs = .ok r') :
    Refines o s r r' .hotCues cs := by
  obtain ⟨hs, p, hp, rfl⟩ := set_col h rfl
  obtain ⟨h8, hall, hfix⟩ := stableCues_spec hs
  have hw : Spec.pad8 (cs.map Spec.normCue) = padTo8 cs := by
    rw [← Spec.map_pad8 _ rfl, ← padTo8_eq_pad8]; exact hfix
  refine ⟨Spec.pad8 (cs.map Spec.normCue), by simp [Spec.normField, (padTo8_len_iff cs).mp h8, (padTo8_all _ rfl cs).symm.trans hall], ?_, ?_⟩
  · simp [snapOf, Spec.putField, fileBytesCol, colCues, hp, hw, ColWrite.put]
  · refine InvP.of_perf hinv p _ hp ?_ ?_ ?_ _ ?_ ?_ <;>
      first | rfl | exact hinv.loops p hp | exact h8

theorem refine_hotCueAt (i : UInt32) (q : Option HotCue) (hinv : InvP r) (h : set o r (.hotCueAt i) q = .ok r') :
    Refines o s r r' (.hotCueAt i) q := by
  obtain ⟨k, hs, hst, p, hp, rfl⟩ := set_slot_col h rfl
  obtain ⟨h8, hall, hfix⟩ := stableCues_spec hst
  have hc : (colCues r).cues = p.cues.cues := by simp [colCues, hp]
  have hl8 : p.cues.cues.length = 8 := hinv.cues p hp
  rw [hc, hl8] at hs
  have hklt : k < p.cues.cues.length := by rw [hl8]; exact slotOf_lt i 8 k hs
  have h8' := h8
  simp only [setAt, hc] at hall hfix
  have hmem : q ∈ p.cues.cues.set k q := List.mem_set hklt q
  have hq : Spec.cueOk q = true := List.all_eq_true.mp hall q hmem
  have hnq : Spec.normCue q = q := ListAux.map_eq_self_iff.mp hfix q hmem
  refine ⟨Spec.normCue q, by simp [Spec.normField, slotOf_8 i k hs, hq], ?_, ?_⟩
  · simp [snapOf, Spec.putField, fileBytesCol, colCues, hp, setAt, Spec.slotPut, hl8, hs, hnq, ColWrite.put]
  · refine InvP.of_perf hinv p _ hp ?_ ?_ ?_ _ ?_ ?_ <;>
      first | rfl | exact hinv.loops p hp | exact h8'

theorem refine_loops (ls : List (Option LoopV)) (hinv : InvP r) (h : set o r .loops ls = .ok r') :
    Refines o s r r' .loops ls := by
  by_cases hlen : 8 < ls.length
  · obtain ⟨_, hP', _⟩ := set_ok_form h
    cases ((setPlan_loops o r ls).trans (if_pos hlen)).symm.trans hP'
  · obtain ⟨hs, p, hp, rfl⟩ :=
      set_col h ((setPlan_loops o r ls).trans (if_neg hlen))
    obtain ⟨hall, hfix⟩ := stableLoops_spec hs
    have hlen' : ls.length ≤ 8 := by omega
    have hw : Spec.pad8 (ls.map Spec.normLoop) = padTo8 ls := by
      rw [← Spec.map_pad8 _ rfl, ← padTo8_eq_pad8]; exact hfix
    refine ⟨Spec.pad8 (ls.map Spec.normLoop), by simp [Spec.normField, hlen', (padTo8_all _ rfl ls).symm.trans hall], ?_, ?_⟩
    · simp [snapOf, Spec.putField, fileBytesCol, hp, hw, ColWrite.put]
    -- here the loop count is that of the stored column and the cue count is kept
    · refine InvP.of_perf hinv p _ hp ?_ ?_ ?_ _ ?_ ?_ <;>
        first | rfl | exact hinv.cues p hp | exact padTo8_length ls hlen'

theorem refine_loopAt (i : UInt32) (q : Option LoopV) (hinv : InvP r) (h : set o r (.loopAt i) q = .ok r') :
    Refines o s r r' (.loopAt i) q := by
  obtain ⟨k, hs, hst, p, hp, rfl⟩ := set_slot_col h rfl
  obtain ⟨hall, hfix⟩ := stableLoops_spec hst
  have hc : colLoops r = p.loops := by simp [colLoops, hp]
  have hl8 : p.loops.length = 8 := hinv.loops p hp
  rw [hc, hl8] at hs
  have hklt : k < p.loops.length := by rw [hl8]; exact slotOf_lt i 8 k hs
  simp only [setAt, hc] at hall hfix
  have hmem : q ∈ p.loops.set k q := List.mem_set hklt q
  have hq : Spec.loopOk q = true := List.all_eq_true.mp hall q hmem
  have hnq : Spec.normLoop q = q := ListAux.map_eq_self_iff.mp hfix q hmem
  refine ⟨Spec.normLoop q, by simp [Spec.normField, slotOf_8 i k hs, hq], ?_, ?_⟩
  · simp [snapOf, Spec.putField, fileBytesCol, colLoops, hp, setAt, Spec.slotPut, hl8, hs, hnq, ColWrite.put]
  · refine InvP.of_perf hinv p _ hp ?_ ?_ ?_ _ ?_ ?_ <;>
      first | rfl | exact hinv.cues p hp | (simpa [setAt, hc, ColWrite.put] using hl8)
end

section
variable (o : FOps) (s : Schema) (r r' : TrackRows)

theorem refine_relativePath (p : Bytes) (hinv : InvP r) (h : set o r .relativePath p = .ok r') :
    Refines o s r r' .relativePath p := by
  cases h
  refine ⟨p, rfl, ?_, ⟨p, rfl⟩, hinv.len, hinv.ts, hinv.cues, hinv.loops, hinv.key⟩
  simp only [snapOf, cell_aset, Int.reduceEq, reduceIte]
  rfl

/-- `set_bpm`: the REAL column holds the value (−0.0 as +0.0), so the integer column never shows. -/
theorem refine_bpm (v : Option Bits) (hinv : InvP r) (hfin : Spec.optFinite v = true)
    (h : set o r .bpm v = .ok r') : Refines o s r r' .bpm v := by
  obtain ⟨c, hc, h⟩ := Res.bind_eq_ok.mp h
  cases h
  have hb : v = none → c = none := by
    intro hv; subst hv; cases hc; rfl
  exact ⟨_, rfl, congrArg (fun b => { snapOf o s r with bpm := b }) (bpm_read o v c hb hfin),
    hinv.of_same rfl rfl rfl rfl rfl⟩

/-- `set_duration`: whole seconds in `Track.length` (and the "MM:SS" text, which no getter reads). -/
theorem refine_duration (v : Option UInt64) (hinv : InvP r) (h : set o r .duration v = .ok r') :
    Refines o s r r' .duration v := by
  cases h
  refine ⟨_, rfl, ?_, hinv.path, ?_, hinv.ts, hinv.cues, hinv.loops, hinv.key⟩
  · simp only [snapOf, cell_aset, Int.reduceEq, reduceIte, Option.map_map, Function.comp_def, whole1000]
    rfl
  · intro l hl
    cases v with
    | none => cases hl
    | some d => cases hl; exact mul_tdivPos_fits d 1000

/-- `set_last_played_at`: whole seconds in `MetaDataInteger` type 1 (and the "ever played" flag). -/
theorem refine_lastPlayedAt (v : Option UInt64) (hinv : InvP r) (h : set o r .lastPlayedAt v = .ok r') :
    Refines o s r r' .lastPlayedAt v := by
  cases h
  refine ⟨_, rfl, ?_, hinv.path, hinv.len, ?_, hinv.cues, hinv.loops, ?_⟩
  · simp only [snapOf, cell_aset, Int.reduceEq, reduceIte, Option.map_map, Function.comp_def, wholeBillion]
    rfl
  · intro t ht
    rw [cell_aset_same] at ht
    cases v with
    | none => cases ht
    | some d => cases ht; exact mul_tdivPos_fits d 1000000000
  · intro p hp k hk
    rw [cell_aset_other _ _ _ _ (by decide)]
    exact hinv.key p hp k hk

theorem refine_rating (v : Option UInt32) (hinv : InvP r) (h : set o r .rating v = .ok r') :
    Refines o s r r' .rating v := by
  cases h
  refine ⟨_, rfl, ?_, hinv.of_same rfl rfl (cell_aset_other _ _ _ _ (by decide)) (cell_aset_other _ _ _ _ (by decide)) rfl⟩
  simp only [snapOf, cell_aset, Int.reduceEq, reduceIte, Option.map_map, Function.comp_def, clamp_eq]
  rfl
end

theorem set_refines (o : FOps) (s : Schema) (r r' : TrackRows) (f : Field) (v : f.ty) (hinv : InvP r)
    (hfin : Spec.finiteArg f v = true) (h : set o r f v = .ok r') : Refines o s r r' f v := by
  cases f with
  -- a string field is one MetaData cell, read back as written
  | album | artist | comment | composer | genre | publisher | title =>
    change Option Bytes at v
    cases h
    refine ⟨v, rfl, ?_, hinv.of_same rfl rfl rfl rfl rfl⟩
    simp only [snapOf, cell_aset, Int.reduceEq, reduceIte]
    rfl
  -- a plain `Track` column holds the `int` as written
  | bitrate | trackNumber | year =>
    change Option UInt32 at v
    cases h
    refine ⟨v, rfl, ?_, hinv.of_same rfl rfl rfl rfl rfl⟩
    simp only [snapOf, Option.map_map, map_u32_s32]
    rfl
  | averageLoudness => exact refine_averageLoudness o s r r' v hinv h
  | beatgrid => exact refine_beatgrid o s r r' v hinv h
  | bpm => exact refine_bpm o s r r' v hinv hfin h
  | duration => exact refine_duration o s r r' v hinv h
  | hotCues => exact refine_hotCues o s r r' v hinv h
  | hotCueAt i => exact refine_hotCueAt o s r r' i v hinv h
  | key => exact refine_key o s r r' v hinv h
  | lastPlayedAt => exact refine_lastPlayedAt o s r r' v hinv h
  | loops => exact refine_loops o s r r' v hinv h
  | loopAt i => exact refine_loopAt o s r r' i v hinv h
  | mainCue => exact refine_mainCue o s r r' v hinv h
  | rating => exact refine_rating o s r r' v hinv h
  | relativePath => exact refine_relativePath o s r r' v hinv h
  | sampleCount => exact refine_sampleCount o s r r' v hinv h
  | sampleRate => exact refine_sampleRate o s r r' v hinv h
  | waveform => exact refine_waveform o s r r' v hinv h

theorem liftUb_eq {α} (x : Option α) (u : Ub) :
    liftUb x u = match x with
      | some a => .ok a
      | none => .ub u := by
  cases x <;> rfl

theorem get_eq_snapField (o : FOps) (s : Schema) (r : TrackRows) (hinv : InvP r) (f : Field) :
    get o r f = Spec.snapField (snapOf o s r) f := by
  cases f with
  | album | artist | comment | composer | genre | publisher | title | bitrate | bpm | rating | relativePath
  | trackNumber | year => rfl
  | averageLoudness | sampleCount | sampleRate | beatgrid | hotCues | loops | waveform | mainCue =>
    obtain ⟨_, _, _, _ | _⟩ := r <;> rfl
  | duration =>
    simp only [get, Spec.snapField, snapOf, optMulU, optMul_of_fits 1000 _ hinv.len]; rfl
  | lastPlayedAt =>
    simp only [get, Spec.snapField, snapOf, optMulU, optMul_of_fits 1000000000 _ hinv.ts]; rfl
  | key =>
    simp only [get, Spec.snapField, snapOf]
    cases hp : r.perf with
    | none => rfl
    | some p =>
      cases hk : p.trackData.key with
      | none => simp [hk]
      | some k => simp [hk, hinv.key p hp k hk, Prim.u32OfInt_s32]
  | hotCueAt i =>
    have hc : (colCues r).cues = (snapOf o s r).hotCues := by
      simp only [snapOf, colCues]; cases r.perf <;> rfl
    simp only [get, Spec.snapField, Spec.slotGet, slotIndex_eq, hc]
    cases Spec.slotOf i (snapOf o s r).hotCues.length with
    | none => rfl
    | some k => simp only [Res.bind_ok', liftUb_eq]; cases (snapOf o s r).hotCues[k]? <;> rfl
  | loopAt i =>
    have hc : colLoops r = (snapOf o s r).loops := by
      simp only [snapOf, colLoops]
    simp only [get, Spec.snapField, Spec.slotGet, slotIndex_eq, hc]
    cases Spec.slotOf i (snapOf o s r).loops.length with
    | none => rfl
    | some k => simp only [Res.bind_ok', liftUb_eq]; cases (snapOf o s r).loops[k]? <;> rfl

/-- The slot named by a per-slot field exists in the snapshot. -/
def slotValid (y : Snap) : Field → Prop
  | .hotCueAt i => ∃ k, Spec.slotOf i y.hotCues.length = some k
  | .loopAt i => ∃ k, Spec.slotOf i y.loops.length = some k
  | _ => True

theorem slotGet_put_same {α} (l : List (Option α)) (i : UInt32) (w : Option α) (k : Nat)
    (h : Spec.slotOf i l.length = some k) : Spec.slotGet (Spec.slotPut l i w) i = .ok w := by
  have hk := slotOf_lt i _ k h
  unfold Spec.slotGet Spec.slotPut
  simp [h, hk]

theorem s32_inj (i j : UInt32) (h : Prim.s32 i = Prim.s32 j) : i = j := by
  rw [← Prim.u32OfInt_s32 i, ← Prim.u32OfInt_s32 j, h]

theorem slotGet_put_other {α} (l : List (Option α)) (i j : UInt32) (w : Option α) (hij : i ≠ j) :
    Spec.slotGet (Spec.slotPut l i w) j = Spec.slotGet l j := by
  unfold Spec.slotGet Spec.slotPut
  cases hi : Spec.slotOf i l.length with
  | none => rfl
  | some k =>
    simp only [List.length_set]
    cases hj : Spec.slotOf j l.length with
    | none => rfl
    | some k' =>
      have hne : k ≠ k' := by
        intro hkk
        apply hij
        apply s32_inj
        unfold Spec.slotOf at hi hj
        simp only at hi hj
        split at hi
        · split at hj
          · cases hi; cases hj; omega
          · cases hj
        · cases hi
      simp only [List.getElem?_set_ne hne]

theorem snapField_put_same (y : Snap) (f : Field) (w : f.ty) (hv : slotValid y f) :
    Spec.snapField (Spec.putField y f w) f = .ok w := by
  cases f with
  | hotCueAt i => obtain ⟨k, hk⟩ := hv; exact slotGet_put_same _ _ _ k hk
  | loopAt i => obtain ⟨k, hk⟩ := hv; exact slotGet_put_same _ _ _ k hk
  | _ => rfl

theorem snapField_put_other (y : Snap) (f g : Field) (w : f.ty) (hi : Spec.independent f g = true) :
    Spec.snapField (Spec.putField y f w) g = Spec.snapField y g := by
  -- all ordered pairs (setter `f`, getter `g`); `putField` is reduced once per setter, before the getters are split
  cases f <;> simp only [Spec.putField] <;> cases g <;>
    first
    -- setter and getter touch different fields of the record (a slot setter and a getter of another list included)
    | rfl
    -- `f = g` for a field without a slot index: `hi` is false
    | (exfalso; revert hi; decide)
    -- a list and a slot of that same list (`hotCues` / `hotCueAt i`, `loops` / `loopAt i`, either order): `hi` is false
    | (exfalso; revert hi; simp [Spec.independent]; done)
    -- two slots of the same list: `hi` says the indices differ, and a slot write leaves the other slots alone
    | (rename_i i j
       have hij : i ≠ j := by
         intro h; subst h; simp [Spec.independent] at hi
       exact slotGet_put_other _ i j _ hij)

theorem putField_path (y : Snap) (f : Field) (w : f.ty) (hf : f ≠ .relativePath) :
    (Spec.putField y f w).relativePath = y.relativePath := by
  cases f <;> first | rfl | exact absurd rfl hf

theorem set_slotValid (o : FOps) (s : Schema) (r r' : TrackRows) (f : Field) (v : f.ty) (h : set o r f v = .ok r') :
    slotValid (snapOf o s r) f := by
  cases f with
  | hotCueAt i =>
    obtain ⟨k, hk, _⟩ := set_slot_col h rfl
    have hc : (colCues r).cues = (snapOf o s r).hotCues := by
      simp only [snapOf, colCues]; cases r.perf <;> rfl
    exact ⟨k, hc ▸ hk⟩
  | loopAt i =>
    obtain ⟨k, hk, _⟩ := set_slot_col h rfl
    exact ⟨k, hk⟩
  | _ => trivial

end EngineModel.TracksV1
