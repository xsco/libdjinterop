/-
`Spec.Forest.step` in normal form.  Every operation has the same shape: guards whose failure refuses the call
(`pre`), one more test (`clash`: a sibling has the name; for a removal, the crate is gone already) whose failure
refuses a creation and leaves a rename, a re-parenting or a removal to the implementation, and the forest asked for
(`target`).  `step_eq` says so; from it, when the Spec accepts (`step_accept_iff`) and what a caller who saw the call
return or throw may conclude (`next_eq_some`).  Core Lean only.
-/
import EngineModel.Spec.Forest

namespace EngineModel.Spec.Forest

def Op.isCreate : Op → Bool
  | .createRoot _ | .createSub _ _ => true
  | _ => false

/-- The guards of `step` whose failure refuses the call. -/
def pre (f : Forest) : Op → Bool
  | .createRoot n => validName n
  | .createSub p n => f.live p && validName n
  | .rename c n => f.live c && validName n
  | .setParent c p => f.live c && (match p with | none => true | some q => !(q == c) && f.live q && !f.isAncestor c q)
  | .remove _ => true

/-- The last test of `step`: a sibling has the name; for a removal, the crate is not live. -/
def clash (f : Forest) : Op → Bool
  | .createRoot n => f.nameTaken none n
  | .createSub p n => f.nameTaken (some p) n
  | .rename c n => f.nameTaken (f.parentOf c) n (some c)
  | .setParent c p => f.nameTaken p ((f.nameOf c).getD []) (some c)
  | .remove c => !f.live c

/-- The forest `step` asks for when the call returns (`i`: the id reported for a creation). -/
def target (f : Forest) (op : Op) (i : Id) : Forest :=
  match op with
  | .createRoot n => ⟨f.crates ++ [⟨i, n, none⟩]⟩
  | .createSub p n => ⟨f.crates ++ [⟨i, n, some p⟩]⟩
  | .rename c n => setNameOf f c n
  | .setParent c p => setParentOf f c p
  | .remove c => bif f.live c then removeSubtree f c else f

/-- The call must return. -/
def accepts (f : Forest) (op : Op) : Bool := pre f op && !clash f op

/-- The call may return: accepted, or left to the implementation. -/
def allows (f : Forest) (op : Op) : Bool := pre f op && !(op.isCreate && clash f op)

theorem accepts_iff {f : Forest} {op : Op} : accepts f op = true ↔ pre f op = true ∧ clash f op = false := by
  simp [accepts]

theorem allows_of_accepts {f : Forest} {op : Op} (h : accepts f op = true) : allows f op = true := by
  obtain ⟨h1, h2⟩ := accepts_iff.mp h
  simp [allows, h1, h2]

theorem nameOf_of_live {f : Forest} {c : Id} (h : f.live c = true) : ∃ nm, f.nameOf c = some nm := by
  obtain ⟨r, hr, hid⟩ := List.mem_map.mp (List.contains_iff_mem.mp h)
  cases hf : f.crates.find? (·.id == c) with
  | none => exact absurd (by simp [hid]) (List.find?_eq_none.mp hf r hr)
  | some r' => exact ⟨r'.name, by simp [Forest.nameOf, Forest.find, hf]⟩

theorem step_eq (f : Forest) (op : Op) (i : Id) :
    step f op i =
      bif accepts f op then .accept (target f op i) else bif allows f op then .either (target f op i) else .reject := by
  -- each cascade of `if`s is turned into `cond`s, after which the Bool tests can be split and both sides compute
  cases op with
  | createRoot n =>
    simp only [step, accepts, allows, pre, clash, target, Op.isCreate, ← Bool.cond_eq_ite, Bool.cond_not]
    cases validName n <;> cases f.nameTaken none n <;> rfl
  | createSub p n =>
    simp only [step, accepts, allows, pre, clash, target, Op.isCreate, ← Bool.cond_eq_ite, Bool.cond_not]
    cases f.live p <;> cases validName n <;> cases f.nameTaken (some p) n <;> rfl
  | rename c n =>
    simp only [step, accepts, allows, pre, clash, target, Op.isCreate, ← Bool.cond_eq_ite, Bool.cond_not]
    cases f.live c <;> cases validName n <;> cases f.nameTaken (f.parentOf c) n (some c) <;> rfl
  | setParent c p =>
    cases hl : f.live c with
    | false => cases p <;> simp only [step, accepts, allows, pre, hl] <;> rfl
    | true =>
      -- a live crate has a name record: the `none => .reject` branches of `match f.nameOf c` in `step` are dead
      obtain ⟨nm, hn⟩ := nameOf_of_live hl
      cases p with
      | none =>
        simp only [step, accepts, allows, pre, clash, target, Op.isCreate, hl, hn, Option.getD_some, ← Bool.cond_eq_ite,
          Bool.cond_not]
        cases f.nameTaken none nm (some c) <;> rfl
      | some q =>
        simp only [step, accepts, allows, pre, clash, target, Op.isCreate, hl, hn, Option.getD_some, ← Bool.cond_eq_ite,
          Bool.cond_not]
        cases (q == c) <;> cases f.live q <;> cases f.isAncestor c q <;> cases f.nameTaken (some q) nm (some c) <;> rfl
  | remove c =>
    simp only [step, accepts, allows, pre, clash, target, Op.isCreate, ← Bool.cond_eq_ite, Bool.cond_not]
    cases f.live c <;> rfl

theorem step_accept_iff {f f' : Forest} {op : Op} {i : Id} :
    step f op i = .accept f' ↔ accepts f op = true ∧ f' = target f op i := by
  rw [step_eq]
  cases accepts f op <;> cases allows f op <;> simp [eq_comm]

theorem not_accept_of {f : Forest} {op : Op} (h : accepts f op = false) (i : Id) (f' : Forest) :
    step f op i ≠ .accept f' :=
  fun hs => by rw [(step_accept_iff.mp hs).1] at h; cases h

theorem next_eq_some {f f' : Forest} {op : Op} {i : Id} {ok : Bool} :
    (step f op i).next f ok = some f' ↔
      if ok then allows f op = true ∧ f' = target f op i else accepts f op = false ∧ f' = f := by
  rw [step_eq]
  cases ok <;> cases ha : accepts f op <;> cases hl : allows f op <;> simp [Verdict.next, eq_comm]
  exact absurd (allows_of_accepts ha) (by simp [hl])

/-- `setNameOf` and `setParentOf` both map `fun y => if y.id == c then g y else y` over the crates (`g` sets the name,
or the parent); the `update` lemmas are about that form. -/
theorem update_keeps {α : Type} (π : Crate → α) (c : Id) {g : Crate → Crate} (hg : ∀ y, π (g y) = π y) :
    ∀ y, π (if y.id == c then g y else y) = π y := by
  intro y
  split
  · exact hg y
  · rfl

theorem ids_update (f : Forest) (c : Id) {g : Crate → Crate} (hg : ∀ y, (g y).id = y.id) :
    (Forest.mk (f.crates.map fun y => if y.id == c then g y else y)).ids = f.ids := by
  simp only [Forest.ids, List.map_map]
  exact List.map_congr_left fun y _ => update_keeps Crate.id c hg y

theorem ids_setNameOf (f : Forest) (c : Id) (n : Name) : (setNameOf f c n).ids = f.ids :=
  ids_update f c fun _ => rfl

theorem ids_setParentOf (f : Forest) (c : Id) (p : Option Id) : (setParentOf f c p).ids = f.ids :=
  ids_update f c fun _ => rfl

theorem ids_target (f : Forest) (op : Op) (i : Id) :
    (target f op i).ids = match op with
      | .createRoot _ | .createSub _ _ => f.ids ++ [i]
      | .rename _ _ | .setParent _ _ => f.ids
      | .remove c => if f.live c then f.ids.filter (fun x => !(x == c || f.isAncestor c x)) else f.ids := by
  cases op with
  | createRoot n => simp [target, Forest.ids]
  | createSub p n => simp [target, Forest.ids]
  | rename c n => exact ids_setNameOf f c n
  | setParent c p => exact ids_setParentOf f c p
  | remove c =>
    cases hl : f.live c
    · simp only [target, hl, cond_false, Bool.false_eq_true, if_false]
    · simp only [target, hl, cond_true, if_true, Forest.ids, removeSubtree, List.filter_map]; rfl

end EngineModel.Spec.Forest
