/-
Run-lemmas for the combinators of Impl/CursorCxxV1.lean, which relate the generated 1.x
codecs (Gen/ImplV1Gen.lean) to the hand model Impl/V1.lean: `v[i]` at a known position, checked arithmetic that
stays in range, `pre`, `rep`, `foldS`; then writers that end with the `if (ptr != end) throw` of the 1.x encoders
(`WritesEnd`), and how `Writes` / `Returns` compose with it.
-/
import EngineModel.Impl.CursorCxxV1
import Proofs.WrLemmas
import Proofs.CursorCxxLemmas

namespace EngineModel

namespace Cxx

theorem vecGet_append_cons {α} (pre : List α) (a : α) (rest : List α) :
    vecGet (pre ++ a :: rest) pre.length = .ok a := by
  simp [vecGet]

theorem vecGet_append_cons_succ {α} (pre : List α) (a b : α) (rest : List α) :
    vecGet (pre ++ a :: b :: rest) (pre.length + 1) = .ok b := by
  have : pre ++ a :: b :: rest = (pre ++ [a]) ++ b :: rest := by simp
  rw [this]
  have hl : pre.length + 1 = (pre ++ [a]).length := by simp
  rw [hl]
  exact vecGet_append_cons _ _ _

theorem vecSet_append_cons {α} (pre : List α) (a : α) (rest : List α) (f : α → α) :
    vecSet (pre ++ a :: rest) pre.length f = .ok (pre ++ f a :: rest) := by
  simp [vecSet]

end Cxx

namespace Wr

@[simp] theorem lift_ok_run {α} (a : α) (size : Nat) (out : Bytes) : (lift (.ok a) : Wr α) size out = .ok (a, out) := rfl

theorem chkI64_run {x : Int} (h1 : -9223372036854775808 ≤ x) (h2 : x ≤ 9223372036854775807) (size : Nat)
    (out : Bytes) : chkI64 x size out = .ok (x, out) := by
  have : Cxx.inI64 x = true := by simp [Cxx.inI64, Cxx.i64Min, Cxx.i64Max, h1, h2]
  simp [chkI64, this]

theorem lift_ok_bind {α β} (a : α) (f : α → Wr β) : (lift (.ok a) >>= f) = f a := rfl

theorem chkI32_eq_pure {x : Int} (h1 : -2147483648 ≤ x) (h2 : x ≤ 2147483647) : chkI32 x = pure x := by
  have : Cxx.inI32 x = true := by simp [Cxx.inI32, Cxx.i32Min, Cxx.i32Max, h1, h2]
  simp [chkI32, this]

theorem chkI32_run {x : Int} (h1 : -2147483648 ≤ x) (h2 : x ≤ 2147483647) (size : Nat)
    (out : Bytes) : chkI32 x size out = .ok (x, out) := by
  rw [chkI32_eq_pure h1 h2]; rfl

theorem forIdxFrom_succ (body : Nat → Wr Unit) (lo n : Nat) :
    forIdxFrom body lo (n + 1) = (body lo >>= fun _ => forIdxFrom body (lo + 1) n) := rfl

/-- a validation (`m`) that succeeds without writing, then the rest -/
theorem pre_ok {α} {m : Wr α} {a : α} (k : α → Res Bytes) (h : m 0 [] = .ok (a, [])) : pre m k = k a := by
  simp [pre, h]

theorem pre_throw {α} {m : Wr α} {e : Exn} (k : α → Res Bytes) (h : m 0 [] = .throw e) : pre m k = .throw e := by
  simp [pre, h]

theorem rep4 (m : Wr Unit) : rep 4 m = (m >>= fun _ => m >>= fun _ => m >>= fun _ => m >>= fun _ => pure ()) := rfl
theorem rep6 (m : Wr Unit) : rep 6 m =
    (m >>= fun _ => m >>= fun _ => m >>= fun _ => m >>= fun _ => m >>= fun _ => m >>= fun _ => pure ()) := rfl

/-- A range-`for` with carried locals whose body appends `g x` and steps the locals by `step`. -/
theorem foldS_returns {α σ} {body : α → σ → Wr σ} {g : α → Bytes} {step : σ → α → σ}
    (h : ∀ x s, Returns (body x s) (step s x) (g x)) :
    ∀ (xs : List α) (s : σ), Returns (foldS xs s body) (xs.foldl step s) (xs.flatMap g)
  | [], s => Returns.pure s
  | x :: r, s => by
    intro size out hroom
    simp only [List.flatMap_cons, List.length_append] at hroom
    simp only [foldS, bind_run, h x s size out (by omega), List.foldl_cons, List.flatMap_cons]
    rw [foldS_returns h r (step s x) size (out ++ g x) (by rw [List.length_append]; omega), List.append_assoc]

/-- `m` appends exactly `w` (which fits) and then tests `ptr != end`: `e` when the buffer is not full. -/
def WritesEnd (m : Wr Unit) (w : Bytes) (e : Exn) : Prop :=
  ∀ size out, out.length + w.length ≤ size →
    m size out = if out.length + w.length = size then .ok ((), out ++ w) else .throw e

/-- `if (ptr != end) throw …;` closing an encoder -/
theorem WritesEnd.endCheck (e : Exn) :
    WritesEnd (notAtEnd >>= fun t => if t = true then throwW e else pure ()) [] e := by
  intro size out _
  simp only [List.length_nil, Nat.add_zero, List.append_nil]
  by_cases h : out.length = size <;> simp [notAtEnd, h]

theorem Returns.bindEnd {α} {m : Wr α} {k : α → Wr Unit} {v : α} {a b : Bytes} {e : Exn} (hm : Returns m v a)
    (hk : WritesEnd (k v) b e) : WritesEnd (m >>= k) (a ++ b) e := by
  intro size out h
  simp only [List.length_append] at h
  simp only [bind_run, hm size out (by omega)]
  rw [hk size (out ++ a) (by simp; omega)]
  simp [Nat.add_assoc]

theorem Writes.bindEnd {m n : Wr Unit} {a b : Bytes} {e : Exn} (hm : Writes m a) (hn : WritesEnd n b e) :
    WritesEnd (m >>= fun _ => n) (a ++ b) e :=
  Returns.bindEnd hm hn

theorem WritesEnd.congr {m : Wr Unit} {a b : Bytes} {e : Exn} (hm : WritesEnd m a e) (h : a = b) : WritesEnd m b e :=
  h ▸ hm

theorem run_of_writesEnd {m : Wr Unit} {w : Bytes} {e : Exn} {size : Nat} (h : WritesEnd m w e)
    (hs : w.length ≤ size) (hm : size ≤ 9223372036854775807) :
    run size m = if w.length = size then .ok w else .throw e := by
  have := h size [] (by simp; omega)
  have hnot : ¬ (9223372036854775807 < size) := by omega
  simp only [run, hnot, if_false, this, List.length_nil, Nat.zero_add, List.nil_append]
  by_cases hq : w.length = size <;> simp [hq]

theorem run_of_writesEnd_full {m : Wr Unit} {w : Bytes} {e : Exn} {size : Nat} (h : WritesEnd m w e)
    (hs : w.length = size) (hm : size ≤ 9223372036854775807) : run size m = .ok w := by
  rw [run_of_writesEnd h (by omega) hm, if_pos hs]

end Wr
end EngineModel
