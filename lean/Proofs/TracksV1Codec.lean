/-
The value-level codec effects of the bulk write against the Spec's
normalisation: beat grids, cue and loop slots.
-/
import EngineModel.TracksV1.Spec
import Proofs.TracksV1Steps
import Proofs.TracksV1Spec

namespace EngineModel.TracksV1

open Impl.V1 (GMarker HotCue LoopV Entry Wave Beat Cues Loops)

theorem go_eq_all (g : List GMarker) (hn : ∀ m ∈ g, F64.isNaN m.off = false) :
    Impl.V1.validGrid.go g = (g.zip g.tail).all (fun p => Spec.stepOk p.1 p.2) := by
  induction g with
  | nil => rfl
  | cons a t ih =>
    cases t with
    | nil => rfl
    | cons b rest =>
      have ha := hn a (List.mem_cons_self ..)
      have hb := hn b (List.mem_cons_of_mem _ (List.mem_cons_self ..))
      have ih' := ih (fun m hm => hn m (List.mem_cons_of_mem _ hm))
      unfold Impl.V1.validGrid.go
      simp only [List.tail_cons, List.zip_cons_cons, List.all_cons]
      rw [ih']
      simp only [List.tail_cons]
      congr 1
      unfold Spec.stepOk
      rw [F64.not_le_eq_lt a.off b.off ha hb]
      congr 2
      by_cases h : Prim.s32 a.index < Prim.s32 b.index
      · simp [h]
      · simp [h]

theorem validGrid_eq_gridOk (g : List GMarker) (hn : ∀ m ∈ g, F64.isNaN m.off = false) :
    Impl.V1.validGrid g = Spec.gridOk g := by
  cases g with
  | nil => rfl
  | cons a t =>
    cases t with
    | nil => rfl
    | cons b rest =>
      unfold Impl.V1.validGrid Spec.gridOk
      simp only
      rw [go_eq_all _ hn]
      simp only [List.isEmpty_cons, Bool.false_or, List.length_cons]
      congr 1
      by_cases h : rest.length + 1 + 1 ≤ 32768
      · have : 2 ≤ rest.length + 1 + 1 ∧ rest.length + 1 + 1 ≤ 32768 := ⟨by omega, h⟩
        simp [h, this]
      · simp [h]

theorem normBeat_same (sr sc : Option Bits) (g : List GMarker) :
    normBeat ⟨sr, sc, g, g⟩ =
      if Impl.V1.validGrid g then .ok ⟨zeroNoneF sr, zeroNoneF sc, g, g⟩ else .throw .invalid_argument := by
  unfold normBeat
  cases Impl.V1.validGrid g <;> simp

theorem normCueSlot_of_ok (q : Option HotCue) (h : Spec.cueOk q = true) : normCueSlot q = .ok (Spec.normCue q) := by
  cases q with
  | none => rfl
  | some c =>
    unfold Spec.cueOk Spec.labelOk at h
    simp only [decide_eq_true_eq] at h
    unfold normCueSlot Spec.normCue
    have h0 : ¬ c.label.length = 0 := by omega
    have h1 : ¬ 255 < c.label.length := by omega
    simp only [h0, h1, if_false]
    by_cases hne : c.off = F64.negOne
    · have : F64.ne c.off F64.negOne = false := by
        cases hh : F64.ne c.off F64.negOne with
        | false => rfl
        | true => exact absurd hne ((F64.ne_negOne_iff _).mp hh)
      rw [this]; simp [hne]
    · have : F64.ne c.off F64.negOne = true := (F64.ne_negOne_iff _).mpr hne
      rw [this]; simp [hne]

theorem normCueSlot_cases (q : Option HotCue) :
    (Spec.cueOk q = true ∧ normCueSlot q = .ok (Spec.normCue q)) ∨
    (Spec.cueOk q = false ∧ ∃ e, normCueSlot q = .throw e) := by
  cases h : Spec.cueOk q with
  | true => exact Or.inl ⟨rfl, normCueSlot_of_ok q h⟩
  | false =>
    right
    refine ⟨rfl, ?_⟩
    cases q with
    | none => simp [Spec.cueOk] at h
    | some c =>
      unfold Spec.cueOk Spec.labelOk at h
      simp only [decide_eq_false_iff_not] at h
      unfold normCueSlot
      by_cases h0 : c.label.length = 0
      · exact ⟨.invalid_argument, by simp [h0]⟩
      · have h1 : 255 < c.label.length := by omega
        exact ⟨.invalid_argument, by simp [h0, h1]⟩

theorem normLoopSlot_of_ok (q : Option LoopV) (h : Spec.loopOk q = true) : normLoopSlot q = .ok (Spec.normLoop q) := by
  cases q with
  | none => rfl
  | some c =>
    unfold Spec.loopOk Spec.labelOk at h
    simp only [decide_eq_true_eq] at h
    unfold normLoopSlot Spec.normLoop
    have h0 : ¬ c.label.length = 0 := by omega
    have h1 : ¬ 255 < c.label.length := by omega
    simp only [h0, h1, if_false]
    by_cases hne : c.start = F64.negOne
    · have : F64.ne c.start F64.negOne = false := by
        cases hh : F64.ne c.start F64.negOne with
        | false => rfl
        | true => exact absurd hne ((F64.ne_negOne_iff _).mp hh)
      rw [this]; simp [hne]
    · have : F64.ne c.start F64.negOne = true := (F64.ne_negOne_iff _).mpr hne
      rw [this]; simp [hne]

theorem normLoopSlot_cases (q : Option LoopV) :
    (Spec.loopOk q = true ∧ normLoopSlot q = .ok (Spec.normLoop q)) ∨
    (Spec.loopOk q = false ∧ ∃ e, normLoopSlot q = .throw e) := by
  cases h : Spec.loopOk q with
  | true => exact Or.inl ⟨rfl, normLoopSlot_of_ok q h⟩
  | false =>
    right
    refine ⟨rfl, ?_⟩
    cases q with
    | none => simp [Spec.loopOk] at h
    | some c =>
      unfold Spec.loopOk Spec.labelOk at h
      simp only [decide_eq_false_iff_not] at h
      unfold normLoopSlot
      by_cases h0 : c.label.length = 0
      · exact ⟨.logic_error, by simp [h0]⟩
      · have h1 : 255 < c.label.length := by omega
        exact ⟨.invalid_argument, by simp [h0, h1]⟩

theorem padTo8_eq_pad8 {α} (l : List (Option α)) : padTo8 l = Spec.pad8 l := rfl

theorem padTo8_len_iff {α} (l : List (Option α)) : (padTo8 l).length = 8 ↔ l.length ≤ 8 := by
  unfold padTo8
  simp only [List.length_append, List.length_replicate]
  omega

theorem padTo8_length {α} (l : List (Option α)) (h : l.length ≤ 8) : (padTo8 l).length = 8 :=
  (padTo8_len_iff l).mpr h

theorem padTo8_length_gt {α} (l : List (Option α)) (h : 8 < l.length) : (padTo8 l).length = l.length := by
  unfold padTo8; simp; omega

theorem mem_pad8 {α} (l : List (Option α)) (a : Option α) (h : a ∈ Spec.pad8 l) : a ∈ l ∨ a = none := by
  unfold Spec.pad8 at h
  rcases List.mem_append.mp h with h | h
  · exact Or.inl h
  · exact Or.inr (List.eq_of_mem_replicate h)

theorem zeroNoneF_eq_dropZero (x : Option Bits) : zeroNoneF x = Spec.dropZero x := by
  cases x with
  | none => rfl
  | some v =>
    unfold zeroNoneF Spec.dropZero
    simp only [Option.bind_some]
    by_cases h : F64.isZero v = true
    · have := (F64.isZero_iff v).mp h
      simp [h, this]
    · have : ¬ (v = F64.zero ∨ v = F64.negZero) := fun hh => h ((F64.isZero_iff v).mpr hh)
      simp [h, this]

theorem present_iff (r : Option Bits) : Spec.present r = true ↔ ∃ rr, r = some rr ∧ F64.isZero rr = false := by
  unfold Spec.present
  rw [← zeroNoneF_eq_dropZero]
  cases r with
  | none => simp [zeroNoneF]
  | some v =>
    unfold zeroNoneF
    cases h : F64.isZero v <;> simp [h]

theorem mapRes_cases {α} (f : α → Res α) (g : α → α) (p : α → Bool)
    (hc : ∀ a, (p a = true ∧ f a = .ok (g a)) ∨ (p a = false ∧ ∃ e, f a = .throw e)) (l : List α) :
    (l.all p = true ∧ mapRes f l = .ok (l.map g)) ∨ (l.all p = false ∧ ∃ e, mapRes f l = .throw e) := by
  induction l with
  | nil => exact Or.inl ⟨rfl, rfl⟩
  | cons a t ih =>
    unfold mapRes
    rcases hc a with ⟨hp, hf⟩ | ⟨hp, e, hf⟩
    · rcases ih with ⟨h1, h2⟩ | ⟨h1, e, h2⟩
      · exact Or.inl ⟨by simp [hp, h1], by simp [hf, h2]⟩
      · exact Or.inr ⟨by simp [hp, h1], e, by simp [hf, h2]⟩
    · exact Or.inr ⟨by simp [hp], e, by simp [hf]⟩

theorem mapRes_ok_iff {α} (f : α → Res α) (g : α → α) (p : α → Bool)
    (hc : ∀ a, (p a = true ∧ f a = .ok (g a)) ∨ (p a = false ∧ ∃ e, f a = .throw e)) (l r : List α) :
    mapRes f l = .ok r ↔ l.all p = true ∧ r = l.map g := by
  rcases mapRes_cases f g p hc l with ⟨ha, h⟩ | ⟨ha, e, h⟩ <;> rw [h, ha]
  · exact ⟨fun hr => ⟨rfl, (Res.ok.inj hr).symm⟩, fun ⟨_, hr⟩ => by rw [hr]⟩
  · exact ⟨nofun, fun ⟨hf, _⟩ => nomatch hf⟩

theorem normLoops_cases (v : Loops) :
    (List.all v Spec.loopOk = true ∧ normLoops v = .ok (List.map Spec.normLoop v)) ∨
    (List.all v Spec.loopOk = false ∧ ∃ e, normLoops v = .throw e) :=
  mapRes_cases normLoopSlot Spec.normLoop Spec.loopOk normLoopSlot_cases v

theorem normLoops_ok_iff (v w : Loops) :
    normLoops v = .ok w ↔ (List.all v Spec.loopOk = true ∧ w = List.map Spec.normLoop v) :=
  mapRes_ok_iff normLoopSlot Spec.normLoop Spec.loopOk normLoopSlot_cases v w

/-- `quick_cues_data`: exactly eight slots, each acceptable, are stored slot by slot in normal form; anything
else throws. -/
theorem normCues_cases (v : Cues) :
    (v.cues.length = 8 ∧ v.cues.all Spec.cueOk = true ∧
        normCues v = .ok ⟨v.cues.map Spec.normCue, v.adjMain, v.defMain⟩) ∨
    (¬ (v.cues.length = 8 ∧ v.cues.all Spec.cueOk = true) ∧ ∃ e, normCues v = .throw e) := by
  unfold normCues
  by_cases h8 : 8 < v.cues.length
  · exact Or.inr ⟨fun h => by omega, _, if_pos h8⟩
  · rw [if_neg h8]
    rcases mapRes_cases normCueSlot Spec.normCue Spec.cueOk normCueSlot_cases v.cues with ⟨ha, hm⟩ | ⟨ha, e, hm⟩
    · rw [hm]
      by_cases h7 : v.cues.length < 8
      · exact Or.inr ⟨fun h => by omega, _, if_pos h7⟩
      · exact Or.inl ⟨by omega, ha, if_neg h7⟩
    · rw [hm]
      exact Or.inr ⟨fun h => (by rw [h.2] at ha; cases ha), e, rfl⟩

theorem normCues_ok_iff (v w : Cues) :
    normCues v = .ok w ↔ (v.cues.length = 8 ∧ v.cues.all Spec.cueOk = true ∧
      w = ⟨v.cues.map Spec.normCue, v.adjMain, v.defMain⟩) := by
  rcases normCues_cases v with ⟨h8, ha, h⟩ | ⟨hn, e, h⟩ <;> rw [h]
  · exact ⟨fun hw => ⟨h8, ha, (Res.ok.inj hw).symm⟩, fun ⟨_, _, hw⟩ => by rw [hw]⟩
  · exact ⟨nofun, fun ⟨a, b, _⟩ => absurd ⟨a, b⟩ hn⟩

theorem normCues_defined (v : Cues) : Defined (normCues v) := by
  rcases normCues_cases v with ⟨_, _, h⟩ | ⟨_, _, h⟩ <;> rw [h]
  · exact Defined.ok _
  · exact Defined.throw _

theorem normLoops_defined (v : Loops) : Defined (normLoops v) := by
  rcases normLoops_cases v with ⟨_, h⟩ | ⟨_, _, h⟩ <;> rw [h]
  · exact Defined.ok _
  · exact Defined.throw _

theorem normBeat_defined (v : Beat) : Defined (normBeat v) := by
  unfold normBeat
  split
  · exact Defined.throw _
  · exact Defined.ok _

theorem padTo8_all {α} (p : Option α → Bool) (hp : p none = true) (l : List (Option α)) :
    (padTo8 l).all p = l.all p :=
  Spec.all_pad8 p hp l

end EngineModel.TracksV1
