/-
Per-operation simulation for the schema-1.x crate model: from a state satisfying
`Inv`, every operation (any arguments: removed handles, invalid names, cycles)
  * either throws and changes nothing, or returns the state described by
    `Returns`; `Accepted` says which (`step_cases` — what the other modules
    derive their facts about one step from),
  * preserves `Inv`,
  * never has undefined behaviour,
  * has exactly the outcome class `Spec.Forest.step` allows on the abstract
    forest, and the abstract forest afterwards is the one the Spec prescribes
    (`sim_forest`: the calls that return are those the Spec allows, `accepted_iff`,
    and they return the Spec's target, `returns_target`).
-/
import Proofs.CratesV1Query
import Proofs.Machine
import Proofs.SpecForestStep
import EngineModel.Api.CratesV1Sim

namespace EngineModel.Api.CratesV1
open EngineModel.Pure.Detect EngineModel.Spec

variable {db : Db}

-- Generates the equation lemmas of the trace functions and of the membership Spec here, once; without the section nothing
-- fails, but every later declaration that unfolds one of them by `simp [f]` generates them again (as in Proofs/SpecForest).
section
attribute [local simp] forestOp forestNext membersNext Members.step Members.Verdict.next
end

/-- A call that throws leaves all tables as they were: the transaction rolls back. -/
theorem step_cases (s : Schema) (h : Inv db) (op : Op) :
    (¬ Accepted db op ∧ ∃ e, step s db op = (db, .throw e)) ∨
    (Accepted db op ∧ ∃ d o, step s db op = (d, .ok o) ∧ Returns s db op d o) := by
  have hf := h.toFInv
  cases op with
  | createRoot n | createSub c n | rename c n | setParent c p => exact step_cases_finv s hf rfl
  | removeCrate c => exact Or.inr ⟨trivial, _, _, removeCrate_eq s h c, rfl, rfl⟩
  | addTrack c t =>
    by_cases ha : c ∈ ids db ∧ liveTrack db t
    · exact Or.inr ⟨ha, _, _, addTrack_ok s h ha.1 ha.2, rfl, rfl⟩
    · refine Or.inl ⟨ha, ?_⟩
      by_cases hc : c ∈ ids db
      · exact ⟨_, addTrack_dead_track s hf.idsNodup hc fun ht => ha ⟨hc, ht⟩⟩
      · exact ⟨_, addTrack_dead s db t hc⟩
  | removeTrackFrom c t => exact Or.inr ⟨trivial, _, _, removeTrackFrom_eq s h c t, rfl, rfl⟩
  | clearTracks c => exact Or.inr ⟨trivial, _, _, clearTracks_eq s h c, rfl, rfl⟩
  | createTrack =>
    obtain ⟨id, seq, e, hid⟩ := createTrack_spec s db
    exact Or.inr ⟨trivial, _, _, e, id, seq, rfl, rfl, hid⟩
  | removeTrack t => exact Or.inr ⟨trivial, _, _, Prod.ext rfl (removeTrack_spec s h t).1, rfl, rfl⟩

theorem Returns.inv {s : Schema} (h : Inv db) {op : Op} {d : Db} {o : Out} (ha : Accepted db op)
    (hr : Returns s db op d o) : Inv d := by
  cases op with
  | createRoot n => rw [hr.1]; exact inv_create s h (q := none) ha.1 (by simp)
  | createSub c n => rw [hr.1]; exact inv_create s h (q := some c) ha.1 (by simpa using ha.2.2)
  | rename c n => rw [hr.1]; exact inv_setName h ha.1 ha.2
  | setParent c p => rw [hr.1]; exact inv_setParent h ha
  | removeCrate c => rw [hr.1]; exact inv_remove h c
  | addTrack c t => rw [hr.1]; exact inv_addTrack h ha.1 ha.2
  | removeTrackFrom c t => rw [hr.1]; exact inv_filterCtl h _
  | clearTracks c => rw [hr.1]; exact inv_filterCtl h _
  | createTrack => obtain ⟨id, seq, rfl, _, hid⟩ := hr; exact inv_createTrack h hid
  | removeTrack t => rw [hr.1]; exact inv_removeTrack s h t

theorem inv_step (s : Schema) (h : Inv db) (op : Op) : Inv (step s db op).1 := by
  rcases step_cases s h op with ⟨_, e, he⟩ | ⟨ha, d, o, he, hr⟩ <;> rw [he]
  · exact h
  · exact hr.inv h ha

def StepOk (s : Schema) (db : Db) (op : Op) : Prop :=
  Inv (step s db op).1 ∧ (step s db op).2.isUb = false ∧
  forestNext (absForest db) op (step s db op).2 = some (absForest (step s db op).1)

theorem accepted_iff (h : FInv db) {op : Op} {sop : Forest.Op} (hop : forestOp op = some sop) :
    Accepted db op ↔ Forest.allows (absForest db) sop = true := by
  cases op with
  | createRoot n =>
    cases hop
    simp only [Accepted, Forest.allows, Forest.pre, Forest.clash, Forest.Op.isCreate, Bool.true_and, Bool.and_eq_true,
      Bool.not_eq_eq_eq_not, Bool.not_true, ← Bool.not_eq_true, nameTaken_root_iff h]
  | createSub c n =>
    cases hop
    simp only [Accepted, Forest.allows, Forest.pre, Forest.clash, Forest.Op.isCreate, Bool.true_and, Bool.and_eq_true,
      Bool.not_eq_eq_eq_not, Bool.not_true, ← Bool.not_eq_true, nameTaken_sub_iff h, abs_live]
    exact ⟨fun ⟨a, b, c⟩ => ⟨⟨c, a⟩, b⟩, fun ⟨⟨c, a⟩, b⟩ => ⟨a, b, c⟩⟩
  | rename c n =>
    cases hop
    simp only [Accepted, Forest.allows, Forest.pre, Forest.Op.isCreate, Bool.false_and, Bool.not_false, Bool.and_true,
      Bool.and_eq_true, abs_live, and_comm]
  | setParent c p =>
    cases hop
    cases p with
    | none => simp [Accepted, ReparentOk, Forest.allows, Forest.pre, Forest.Op.isCreate, abs_live]
    | some q =>
      simp only [Accepted, ReparentOk, Forest.allows, Forest.pre, Forest.Op.isCreate, Bool.false_and, Bool.not_false,
        Bool.and_true, Bool.and_eq_true, abs_live, Option.some.injEq, forall_eq', Bool.not_eq_eq_eq_not, Bool.not_true,
        ← Bool.not_eq_true, isAncestor_iff h]
      exact ⟨fun ⟨a, b, c, d⟩ => ⟨a, ⟨by simpa using c, b⟩, d⟩, fun ⟨a, ⟨c, b⟩, d⟩ => ⟨a, b, by simpa using c, d⟩⟩
  | removeCrate c => cases hop; simp [Accepted, Forest.allows, Forest.pre, Forest.Op.isCreate]
  | _ => cases hop

theorem returns_target (s : Schema) (h : Inv db) {op : Op} {sop : Forest.Op} (hop : forestOp op = some sop)
    (ha : Accepted db op) {d : Db} {o : Out} (hr : Returns s db op d o) :
    absForest d = Forest.target (absForest db) sop (outId (.ok o)) := by
  have hf := h.toFInv
  cases op with
  | createRoot n => cases hop; obtain ⟨rfl, rfl⟩ := hr; exact abs_afterCreate s hf (q := none) (by simp) n
  | createSub c n => cases hop; obtain ⟨rfl, rfl⟩ := hr; exact abs_afterCreate s hf (q := some c) (by simpa using ha.2.2) n
  | rename c n => cases hop; obtain ⟨rfl, rfl⟩ := hr; exact abs_afterSetName db c n
  | setParent c p =>
    cases hop; obtain ⟨rfl, rfl⟩ := hr
    exact abs_afterSetParent db c p fun e => (ha.2 c e).2.1 rfl
  | removeCrate c =>
    cases hop; obtain ⟨rfl, rfl⟩ := hr
    by_cases hc : c ∈ ids db
    · simp only [Forest.target, abs_live_true db hc, cond_true]; exact abs_afterRemove hf c
    · simp only [Forest.target, abs_live_false db hc, cond_false]; rw [afterRemove_dead h hc]
  | _ => cases hop

theorem sim_forest (s : Schema) (h : Inv db) {op : Op} {sop : Forest.Op} (hop : forestOp op = some sop) :
    forestNext (absForest db) op (step s db op).2 = some (absForest (step s db op).1) := by
  have hacc := accepted_iff h.toFInv hop
  unfold forestNext
  rw [hop]
  refine Forest.next_eq_some.mpr ?_
  rcases step_cases s h op with ⟨hna, e, he⟩ | ⟨ha, d, o, he, hr⟩ <;> rw [he]
  · refine ⟨?_, rfl⟩
    cases hx : Forest.accepts (absForest db) sop
    · rfl
    · exact absurd (hacc.mpr (Forest.allows_of_accepts hx)) hna
  · exact ⟨hacc.mp ha, returns_target s h hop ha hr⟩

theorem sim_members (s : Schema) (h : Inv db) {op : Op} (hop : forestOp op = none) :
    forestNext (absForest db) op (step s db op).2 = some (absForest (step s db op).1) := by
  rcases step_cases s h op with ⟨_, e, he⟩ | ⟨_, d, o, he, hr⟩ <;> rw [he]
  · simp [forestNext, hop]
  · suffices hd : d.crate = db.crate ∧ d.cpl = db.cpl by simp [forestNext, hop, abs_of_crates_eq hd.1 hd.2]
    cases op with
    | createTrack => obtain ⟨id, seq, rfl, _⟩ := hr; exact ⟨rfl, rfl⟩
    | removeTrack t => rw [hr.1]; exact ⟨(removeTrack_spec s h t).2.1, (removeTrack_spec s h t).2.2.1⟩
    | addTrack c t | removeTrackFrom c t | clearTracks c => rw [hr.1]; exact ⟨rfl, rfl⟩
    | _ => cases hop

theorem step_ok (s : Schema) (h : Inv db) (op : Op) : StepOk s db op := by
  refine ⟨inv_step s h op, ?_, ?_⟩
  · rcases step_cases s h op with ⟨_, e, he⟩ | ⟨_, d, o, he, _⟩ <;> rw [he] <;> rfl
  · cases op with
    | createRoot n | createSub c n | rename c n | setParent c p | removeCrate c => exact sim_forest s h rfl
    | _ => exact sim_members s h rfl

theorem run_cons (s : Schema) (db : Db) (op : Op) (ops : List Op) :
    run s db (op :: ops) = run s (step s db op).1 ops := rfl

theorem run_append (s : Schema) (db : Db) (ops ops' : List Op) : run s db (ops ++ ops') = run s (run s db ops) ops' :=
  (isRun s).append ops ops' db

theorem inv_run (s : Schema) (ops : List Op) {db : Db} (h : Inv db) : Inv (run s db ops) :=
  (isRun s).inv (Inv := fun d => Inv d)
    (fun _ op h => inv_step s h op) ops db h

theorem forestTrace_run (s : Schema) : ∀ (ops : List Op) {db : Db}, Inv db →
    forestTrace s db (absForest db) ops = some (absForest (run s db ops)) := by
  intro ops
  induction ops with
  | nil => intro db _; rfl
  | cons op ops ih =>
    intro db h
    obtain ⟨h1, _, h3⟩ := step_ok s h op
    unfold forestTrace
    rw [h3]
    simp only
    rw [run_cons]
    exact ih h1

end EngineModel.Api.CratesV1
