/-
Agreement of the Model's schema-2.x codecs (Impl/V2.lean, the hand-written mirror of the `*_blob.cpp` files)
with the Spec layouts of Format/V2.lean: track data, beat grid, beat data, overview waveform (`decode*_eq`:
hand model = `liftDec` of the Spec; `encode*_ok`), the base of C02 / C05.  Quick cues and loops are in
Proofs/ImplV2Lists.lean; "regenerated = hand" lemmas of the same short names are in Proofs/ImplV2Gen.lean.
-/
import EngineModel.Impl.V2
import Proofs.CursorLemmas
import Proofs.CheckedArith
namespace EngineModel.Impl.V2
open Codec Cur EngineModel.V2

theorem writeInto_exact {size : Nat} {out : Bytes} (h : out.length = size) :
    writeInto size out = .ok out := by
  simp [writeInto, h]

theorem liftDec_never_ub {α} (c : Codec α) (bs : Bytes) (u : Ub) : liftDec c bs ≠ .ub u :=
  liftDec_eq_ofOpt c bs ▸ ofOpt_never_ub _ u

theorem encodeTrack_ok (v : Track) (extra : Bytes) :
    encodeTrack v extra = .ok (track.enc v ++ extra) := by
  apply writeInto_exact
  simp [track_enc_length]

theorem decodeTrack_eq (bs : Bytes) : decodeTrack bs = liftDec track bs := by
  rw [← track_fixed.guard_rd, ← withRest_run (rd track)]
  simp only [track, rd_map_seq, rd_pair_seq, bind_assoc, pure_bind]
  rfl

theorem decodeTrack_safe (bs : Bytes) (u : Ub) : decodeTrack bs ≠ .ub u :=
  decodeTrack_eq bs ▸ liftDec_never_ub track bs u

/-- `Codec.Exact` of the layout, read for the Model decoder; `extra` is what the C++ returns as `extra_data`. -/
theorem decodeTrack_exact {bs : Bytes} {v : Track} {extra : Bytes} (h : decodeTrack bs = .ok (v, extra)) :
    bs = track.enc v ++ extra :=
  (track_exact bs v extra (liftDec_ok_iff.mp (decodeTrack_eq bs ▸ h))).2

/-- The count test in front of every list loop, `count < 0 || count > (end - ptr) / w` with `w` the
least size of an element, rejects exactly the counts whose elements cannot all be there. -/
theorem count_guard_iff (w : Nat) (hw : 0 < w) (k : UInt64) (a : Nat) :
    (Prim.s64 k < 0 ∨ (a : Int) / (w : Int) < Prim.s64 k) ↔ ¬ (k.toNat < maxCount ∧ w * k.toNat ≤ a) := by
  by_cases hk : k.toNat < maxCount
  · have hd : (a : Int) / (w : Int) < (k.toNat : Int) ↔ a < w * k.toNat := by
      rw [← Int.natCast_ediv, Int.ofNat_lt, Nat.div_lt_iff_lt_mul hw, Nat.mul_comm]
    rw [Prim.s64_of_lt k hk, hd]
    omega
  · have : Prim.s64 k < 0 := (Prim.s64_neg_iff k).mpr (Nat.le_of_not_lt hk)
    simp only [this, true_or, hk, false_and, not_false_eq_true]

/-- The same for the 1.x waveforms, whose test also wants the rest filled exactly (`!=` on the product). -/
theorem wave_guard_iff (w : Nat) (hw : 0 < w) (n : UInt64) (rem : Nat) :
    (Prim.s64 n < 0 ∨ (rem : Int) / (w : Int) < Prim.s64 n ∨ (rem : Int) ≠ (w : Int) * (Prim.s64 n + 1)) ↔
      ¬ (n.toNat < maxCount ∧ rem = w * n.toNat + w) := by
  have hc := count_guard_iff w hw n rem
  by_cases hk : n.toNat < maxCount
  · rw [Prim.s64_of_lt n hk] at hc ⊢
    have e : ((w : Int) * ((n.toNat : Int) + 1)) = ((w * n.toNat + w : Nat) : Int) := by
      rw [Int.mul_add, Int.mul_one, Int.natCast_add, Int.natCast_mul]
    rw [e, ← or_assoc, hc]
    omega
  · have : Prim.s64 n < 0 := (Prim.s64_neg_iff n).mpr (Nat.le_of_not_lt hk)
    simp only [this, true_or, hk, false_and, not_false_eq_true]
/-- Such counts the Spec's repetition rejects by running out of input, so the test changes nothing. -/
theorem counted_guard {α} {c : Codec α} {P} (hx : c.Exact P) {w : Nat}
    (hmin : ∀ a, P a → w ≤ (c.enc a).length) (k : UInt64) (r : Bytes) {G : Prop} [Decidable G]
    (hG : G ↔ ¬ (k.toNat < maxCount ∧ w * k.toNat ≤ r.length)) :
    (if k.toNat < maxCount then decN c k.toNat r else none) = if G then none else decN c k.toNat r := by
  by_cases hg : G
  · rw [if_pos hg]
    by_cases hk : k.toNat < maxCount
    · rw [if_pos hk]
      cases hd : decN c k.toNat r with
      | none => rfl
      | some p =>
        have := decN_min_length hx hmin _ _ _ _ hd
        exact absurd ⟨hk, by omega⟩ (hG.mp hg)
    · rw [if_neg hk]
  · rw [if_neg hg, if_pos (Classical.not_not.mp (mt hG.mpr hg)).1]

/-- `count = read(); if (count < 0 || count > (end - ptr) / w) throw; for (…) body;` with `w` the least
size of an element, entered with the count and `j` more bytes on hand: the count-prefixed list, read with
the loop's `j` bytes to spare.  (`wz` is the divisor as the program spells it, an `Int` literal.) -/
theorem counted_run {α} {cnt : Codec UInt64} (hcnt : cnt.Fixed 8) {c : Codec α} {P} (hx : c.Exact P)
    {w : Nat} (hw : 0 < w) (hmin : ∀ a, P a → w ≤ (c.enc a).length) {m : Cur α} {j : Nat}
    (hm : ∀ (k : Nat) (bs : Bytes), j ≤ bs.length → w * k ≤ bs.length → forN m k bs = look j (rep k c) bs)
    (wz : Int) (hwz : wz = (w : Int)) (bs : Bytes) (h : 8 + j ≤ bs.length) :
    (rd cnt >>= fun n => remaining >>= fun rem =>
      if Prim.s64 n < 0 ∨ (rem : Int) / wz < Prim.s64 n then throwC .invalid_argument else
      forN m n.toNat) bs =
    look j (counted cnt c) bs := by
  subst hwz
  have hj : j ≤ (bs.drop 8).length := by rw [List.length_drop]; omega
  obtain ⟨k, hk⟩ := hcnt.dec_some (bs := bs) (by omega)
  simp only [bind_run, rd_of_dec hk, remaining_run, look, counted, hk]
  have hG := count_guard_iff w hw k (bs.drop 8).length
  rw [counted_guard hx hmin k _ hG]
  split
  · rfl
  · rename_i hg
    simp only [hm _ _ hj (Classical.not_not.mp (mt hG.mpr hg)).2, look, rep]

/-- The same with the statements that follow the loop. -/
theorem counted_run_bind {α γ} {cnt : Codec UInt64} (hcnt : cnt.Fixed 8) {c : Codec α} {P} (hx : c.Exact P)
    {w : Nat} (hw : 0 < w) (hmin : ∀ a, P a → w ≤ (c.enc a).length) {m : Cur α} {j : Nat}
    (hm : ∀ (k : Nat) (bs : Bytes), j ≤ bs.length → w * k ≤ bs.length → forN m k bs = look j (rep k c) bs)
    (wz : Int) (hwz : wz = (w : Int)) (K : List α → Cur γ) (bs : Bytes) (h : 8 + j ≤ bs.length) :
    (rd cnt >>= fun n => remaining >>= fun rem =>
      if Prim.s64 n < 0 ∨ (rem : Int) / wz < Prim.s64 n then throwC .invalid_argument else
      forN m n.toNat >>= K) bs =
    (look j (counted cnt c) >>= K) bs := by
  rw [bind_run (look j _), ← counted_run hcnt hx hw hmin hm wz hwz bs h, ← bind_run]
  simp only [bind_assoc, ite_bind, throwC_bind]

theorem decodeGrid_eq (bs : Bytes) : decodeGrid bs = liftDec grid bs := by
  unfold decodeGrid
  simp only [bind_run, remaining_run]
  by_cases h8 : bs.length < 8
  · simp only [if_pos h8, liftDec, grid, counted, u64be_fixed.dec_none h8]; rfl
  · rw [if_neg h8, ← look_zero]
    exact counted_run u64be_fixed marker_exact (w := 24) (by omega) (fun a _ => by rw [marker_enc_length]; omega)
      (fun k bs _ h => marker_fixed.forN_rd k bs h) 24 rfl bs (by omega)

theorem u64be_enc_length (x : UInt64) : (u64be.enc x).length = 8 := rfl
theorem u64le_enc_length (x : UInt64) : (u64le.enc x).length = 8 := rfl

theorem grid_enc_length (g : List Marker) : (grid.enc g).length = 8 + 24 * g.length := by
  simp [grid, counted, u64be_enc_length, encL_length_const (w := 24) marker_enc_length]

theorem beat_enc_length (v : Beat) :
    (beat.enc v).length = 33 + 24 * (v.dflt.length + v.adj.length) := by
  simp [beat, map, pair, u64be_enc_length, grid_enc_length, u8]
  omega

theorem encodeBeat_ok (v : Beat) (extra : Bytes) :
    encodeBeat v extra = .ok (beat.enc v ++ extra) := by
  apply writeInto_exact
  simp [beat_enc_length]

/-- The reads of the beat-data header are unchecked in the C++ and checked in the Spec; behind the
33-byte test they cannot fail, and the two grids are read by the same decoder. -/
theorem decodeBeat_eq (bs : Bytes) : decodeBeat bs = liftDec beat bs := by
  unfold decodeBeat
  by_cases h : bs.length < 33
  · unfold liftDec
    rw [if_pos h, dec_none_of_short beat_exact (n := 33) (fun a _ => by rw [beat_enc_length]; omega) h]
  · rw [if_neg h, ← withRest_run (liftDec beat), show decodeGrid = liftDec grid from funext decodeGrid_eq]
    simp only [beat, liftDec_map, liftDec_pair, bind_assoc, pure_bind]
    refine congrArg (fun x => Res.bind x _) ?_
    exact u64be_fixed.rd_bind_agree (fun _ => u64be_fixed.rd_bind_agree (fun _ =>
      u8_fixed.rd_bind_agree (n := 16) fun _ _ _ => rfl)) bs (by omega)

theorem decodeBeat_exact {bs : Bytes} {v : Beat} {extra : Bytes} (h : decodeBeat bs = .ok (v, extra)) :
    v.Valid ∧ bs = beat.enc v ++ extra :=
  beat_exact bs v extra (liftDec_ok_iff.mp (decodeBeat_eq bs ▸ h))

theorem ovw_enc_length (v : Ovw) : (ovw.enc v).length = 24 + v.points.length + v.maxPt.length :=
  waveLayout_enc_length 3 Ovw.count _ _ v

theorem encodeOvw_ok (v : Ovw) (hv : v.Valid) (extra : Bytes) :
    encodeOvw v extra = .ok (ovw.enc v ++ extra) := by
  apply writeInto_exact
  obtain ⟨h1, _, h3⟩ := hv
  simp [ovw_enc_length, h3]
  omega

/-- The C++ length test accepts exactly the counts whose points and maximum entry are all there. -/
theorem ovw_guard_iff (n : UInt64) (rem : Nat) :
    (Prim.s64 n < 0 ∨ (rem / 3 : Int) < Prim.s64 n ∨ (rem : Int) < 3 * (Prim.s64 n + 1)) ↔
      ¬ (n.toNat < maxCount ∧ 3 * n.toNat + 3 ≤ rem) := by
  have := n.toNat_lt
  unfold Prim.s64 maxCount
  split <;> omega

theorem decodeOvw_eq (bs : Bytes) (hlen : bs.length < maxCount) : decodeOvw bs = liftDec ovw bs := by
  rw [ArithZ.decodeOvw_eq_Z bs hlen]
  unfold ArithZ.decodeOvwZ liftDec
  by_cases h : bs.length < 27
  · rw [if_pos h, dec_none_of_short ovw_exact (n := 27)
      (fun a ha => by rw [ovw_enc_length, ha.2.2]; omega) h]
  · rw [if_neg h, show ovw.dec bs = _ from waveLayout_dec_run 3 Ovw.count _ _ (by omega), rd_u64be3_run _ (by omega)]
    generalize u64be.get bs = n1
    generalize u64be.get (bs.drop 8) = n2
    have hg := ovw_guard_iff n1 (bs.length - 24)
    by_cases hn : n1 = n2
    · subst hn
      simp only [ne_eq, not_true_eq_false, if_false, bind_run, remaining_run, List.length_drop, true_and]
      by_cases hc : n1.toNat < maxCount ∧ 3 * n1.toNat + 3 ≤ bs.length - 24
      · have h1 : 3 * n1.toNat ≤ (bs.drop 24).length := by rw [List.length_drop]; omega
        have h2 : 3 ≤ (bs.drop (24 + 3 * n1.toNat)).length := by rw [List.length_drop]; omega
        rw [if_neg fun hx => hg.mp hx hc, if_pos hc]
        simp only [bind_run, takeN_run h1, takeN_run h2, rest_run, pure_run, List.drop_drop]
        rfl
      · rw [if_pos (hg.mpr hc), if_neg hc]
        rfl
    · have hn' : ¬ n2 = n1 := fun e => hn e.symm
      simp only [ne_eq, hn, hn', not_false_eq_true, if_true, false_and, and_false, if_false]
      rfl

theorem decodeOvw_exact {bs : Bytes} (hlen : bs.length < maxCount) {v : Ovw} {extra : Bytes}
    (h : decodeOvw bs = .ok (v, extra)) : v.Valid ∧ bs = ovw.enc v ++ extra :=
  ovw_exact bs v extra (liftDec_ok_iff.mp (decodeOvw_eq bs hlen ▸ h))

end EngineModel.Impl.V2
