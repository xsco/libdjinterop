/-
Schema-2.x table API (property C18): a SQL table as the list of its rows in
rowid order, a row as the function column → stored value.  `findRow` /
`updRow` / `delRow` are `SELECT … WHERE id = ?`, `UPDATE … WHERE id = ?`,
`DELETE … WHERE id = ?` on the INTEGER PRIMARY KEY; `updWhere` / `delWhere` are
the general single-table forms.
-/
import EngineModel.Table.Core

namespace EngineModel
namespace Table

variable {C : Type} [DecidableEq C]

abbrev Rows (C : Type) := List (Raw C)

/-- A freshly inserted row before the bound values are stored: every column NULL. -/
def nullRaw : Raw C := fun _ => .null

/-- The INTEGER PRIMARY KEY of a row. -/
def rowId (idc : C) (r : Raw C) : Int := readInt (r idc)

def findRow (idc : C) (t : Rows C) (i : Int) : Option (Raw C) :=
  t.find? (fun r => rowId idc r == i)

def updRow (idc : C) (t : Rows C) (i : Int) (f : Raw C → Raw C) : Rows C :=
  t.map (fun r => if rowId idc r == i then f r else r)

def delRow (idc : C) (t : Rows C) (i : Int) : Rows C :=
  t.filter (fun r => !(rowId idc r == i))

def updWhere (t : Rows C) (p : Raw C → Bool) (f : Raw C → Raw C) : Rows C :=
  t.map (fun r => if p r then f r else r)

def delWhere (t : Rows C) (p : Raw C → Bool) : Rows C := t.filter (fun r => !p r)

def rowIds (idc : C) (t : Rows C) : List Int := t.map (rowId idc)

/-- `a = b` as a UNIQUE index sees it: NULLs are distinct from everything. -/
def sameNN (a b : Val) : Bool := !(a == .null) && a == b

/-- `IFNULL(x, 0) = 0` -/
def isZeroOrNull : Val → Bool
  | .null => true
  | .int i => i == 0
  | _ => false

/-- `IFNULL(x, '') = ''` -/
def isEmptyOrNull : Val → Bool
  | .null => true
  | .text s => s.isEmpty
  | _ => false

/-- Every row id is at most the AUTOINCREMENT counter: the invariant that makes
`seq + 1` a fresh id. -/
def idsBelow (idc : C) (t : Rows C) (seq : Int) : Prop := ∀ r ∈ t, rowId idc r ≤ seq

end Table
end EngineModel
