/-
The whole schema-2.x library as ONE state and ONE call alphabet (work-package
composite-v2).

Until now every 2.x property was proved over a model of one table family: the
Track table (`TracksV2/Table.lean`: statement level, UNIQUE constraints,
triggers, transaction scopes) or the crate tables (`Db/V2Crates.lean`: Playlist
+ PlaylistEntity with their chains and triggers, and a bare list of track ids
standing in for the Track table).  Here both live in one state `Lib2`, together
with the Information row, the ChangeLog rows the schema's trigger writes, and
the two other tables that declare a foreign key (AlbumArt, PreparelistEntity).

`step` DELEGATES every single-table call to the package models — it imports
them and calls `TDb.step`, `Db.V2.step`, `callRemove`, `rmTrackIn`, `selectRow`,
`readSnap`, `Api.C15TracksV2.getRow`, the queries `q…` of `V2Crates.lean` — and
adds only what crosses tables, as the C++ performs it:

* `database::remove_track` (database_impl.cpp): ONE transaction around
  (a) per playlist, the entry of this track *of this database's uuid* is looked
  up and removed (fixes 37b35a5, 9a475eb), (b) before 2.20.3
  `UPDATE ChangeLog SET trackId = NULL WHERE trackId = ?` (fix 5043b29), (c)
  `DELETE FROM PreparelistEntity WHERE trackId = ?`, (d) `track_table::remove`
  (`invalid_argument` when no row was deleted: everything is rolled back — fix
  516c689);
* `crate::add_track` requires `track_table::exists` on the REAL Track table
  (fix d308111) and writes the library's own `Information.uuid` into the entry
  (uuid tag 0; fix 9a475eb);
* `trigger_after_update_Track` (schemas before 2.20.3): every UPDATE of a Track
  row — the nested UPDATE of the fix_origin triggers included — appends a
  ChangeLog row for that track, inside the statement / transaction of the call;
* the fix_origin triggers read `Information.uuid` (inside `TDb`: `tdb.uuid` IS
  the Information row's uuid; `Lib2.uuid`).

The crate package sees the Track table through the *view* `Lib2.crates`
(ids of the real Track rows, the real AUTOINCREMENT counter), so that its
theorems can be transported (Proofs/Lib2*.lean) without copying a definition.
-/
import EngineModel.TracksV2.Table
import EngineModel.TracksV2.Stmts
import EngineModel.Db.V2Crates
import EngineModel.Db.V2Wf
import EngineModel.Api.C15TracksV2
import EngineModel.Table.Names
import EngineModel.Spec.Stmts

namespace EngineModel.Lib.V2

open EngineModel EngineModel.Db.Chain EngineModel.TracksV2
open EngineModel.Table (Schema2)

abbrev CDb := EngineModel.Db.V2.Db
abbrev COp := EngineModel.Db.V2.Op
abbrev Ent := EngineModel.Db.V2.Ent
abbrev Getter := EngineModel.Api.C15TracksV2.Getter
abbrev Val := EngineModel.Api.C15TracksV2.Val

/-- the track package's own enumeration of the seven versions -/
def toT : Schema2 → TracksV2.Schema
  | .s2_18_0 => .s2_18_0 | .s2_20_1 => .s2_20_1 | .s2_20_2 => .s2_20_2 | .s2_20_3 => .s2_20_3
  | .s2_21_0 => .s2_21_0 | .s2_21_1 => .s2_21_1 | .s2_21_2 => .s2_21_2

/-- `ChangeLog` is a table (with `trigger_after_update_Track`) before 2.20.3 and a view from then on
(`library_->schema() < engine_schema::schema_2_20_3` in database_impl.cpp). -/
def hasChangeLog (s : Schema2) : Bool := !(s.ge .s2_20_3)

/-- one row of table `ChangeLog (id INTEGER PRIMARY KEY AUTOINCREMENT, trackId INTEGER REFERENCES Track (id))` -/
structure LogRow where
  id : Nat
  track : Option Nat
  deriving Repr, DecidableEq, Inhabited

/-- one row of table `PreparelistEntity (id, trackId REFERENCES Track (id), trackNumber)`; the library never
inserts into it (Engine does) — it is here because it declares a foreign key, which `remove_track` must honour -/
structure PrepRow where
  id : Nat
  track : Option Nat
  deriving Repr, DecidableEq, Inhabited

structure Lib2 where
  /-- table Track, `Information.uuid`, `sqlite_sequence['Track']` (the track package's state) -/
  tdb : TDb
  /-- table Playlist (id, key = parentListId, next = nextListId, val = title) and its AUTOINCREMENT counter -/
  pl : Table Bytes
  plSeq : Int
  /-- table PlaylistEntity (id, key = listId, next = nextEntityId, val = (trackId, databaseUuid tag)) -/
  pe : Table Ent
  peSeq : Int
  /-- table ChangeLog (schemas before 2.20.3) and its AUTOINCREMENT counter -/
  log : List LogRow
  logSeq : Nat
  /-- ids of table AlbumArt (the creator inserts the default row 1; referenced by `Track.albumArtId`) -/
  art : List Nat
  /-- table PreparelistEntity and its AUTOINCREMENT counter -/
  prep : List PrepRow
  prepSeq : Nat
  /-- `Information.schemaVersion{Major,Minor,Patch}` -/
  ver : Int × Int × Int
  deriving Repr, DecidableEq, Inhabited

/-- `SELECT uuid FROM Information` -/
def Lib2.uuid (L : Lib2) : Bytes := L.tdb.uuid

/-- what the schema creator of version `s` leaves (`schema_2_*::create`): empty tables, the Information
row (random uuid = input), the default album art row -/
def Lib2.empty (s : Schema2) (uuid : Bytes) : Lib2 :=
  { tdb := TDb.empty uuid, pl := [], plSeq := 0, pe := [], peSeq := 0, log := [], logSeq := 0,
    art := [1], prep := [], prepSeq := 0, ver := s.version }

/-- The crate package's state, with its stand-in for the Track table read off the real one. -/
def Lib2.crates (L : Lib2) : CDb :=
  ⟨L.pl, L.plSeq, L.pe, L.peSeq, L.tdb.rows.map (fun t => (t.id : Int)), (L.tdb.seq : Int)⟩

/-- write the crate tables back (the view of the Track table is read-only for the crate package) -/
def Lib2.withCrates (L : Lib2) (d : CDb) : Lib2 :=
  { L with pl := d.pl, plSeq := d.plSeq, pe := d.pe, peSeq := d.peSeq }

/-! ### the statement monad of a call on the whole library -/

def M2 (α : Type) := Lib2 → Lib2 × Res α

namespace M2

@[inline] def pure {α} (a : α) : M2 α := fun L => (L, .ok a)

@[inline] def bind {α β} (m : M2 α) (f : α → M2 β) : M2 β := fun L =>
  match m L with
  | (L', .ok a) => f a L'
  | (L', .throw e) => (L', .throw e)
  | (L', .ub u) => (L', .ub u)

instance : Monad M2 where
  pure := M2.pure
  bind := M2.bind

def throw {α} (e : Exn) : M2 α := fun L => (L, .throw e)

/-- a statement (or statement sequence) of the track package on the Track table -/
def track {α} (m : TracksV2.M α) : M2 α := fun L =>
  let r := m L.tdb
  ({ L with tdb := r.1 }, r.2)

/-- a statement that cannot fail by itself -/
def modify (f : Lib2 → Lib2) : M2 Unit := fun L => (f L, .ok ())

/-- `sqlite_transaction trans{db}; …; trans.commit();` — on unwind ROLLBACK: ALL tables as at BEGIN -/
def transaction {α} (body : M2 α) : M2 α := fun L =>
  match body L with
  | (L', .ok a) => (L', .ok a)
  | (_, .throw e) => (L, .throw e)
  | (_, .ub u) => (L, .ub u)

end M2

/-! ### cross-table pieces -/

/-- `trigger_after_update_Track`: `INSERT INTO ChangeLog (trackId) VALUES (NEW.id)`, `n` firings -/
def Lib2.logAppend (L : Lib2) (t : Nat) : Nat → Lib2
  | 0 => L
  | n + 1 => Lib2.logAppend { L with log := L.log ++ [⟨L.logSeq + 1, some t⟩], logSeq := L.logSeq + 1 } t n

/-- `UPDATE ChangeLog SET trackId = NULL WHERE trackId = ?` -/
def Lib2.logNullify (L : Lib2) (t : Nat) : Lib2 :=
  { L with log := L.log.map fun r => if r.track == some t then { r with track := none } else r }

/-- How often `trigger_after_update_Track` fires in a track call that returns normally: once per UPDATE
statement that changes the row — the writing statements of the call's statement program
(`TracksV2/Stmts.lean`, tied to the real statement trace by C14) — plus the nested UPDATE of
`trigger_after_insert_Track_fix_origin` / `trigger_after_update_Track_fix_origin`, which fires in
`create_track` and `update` because both write `originTrackId = 0` (an INSERT itself fires no UPDATE
trigger; `recursive_triggers` is off, so the nested UPDATE does not re-fire fix_origin, but it does fire
`trigger_after_update_Track`, a different trigger). -/
def logFires (ops : FOps) (tdb : TDb) : TOp → Nat
  | .create _ => 1
  | .update _ _ => 2
  | .set id σ => ((setBody ops tdb id σ).filter fun c => c.kind == .write).length
  | .remove _ => 0

/-- the track a call is about (for `create`: the id it returned) -/
def TOp.subject (v : Nat) : TOp → Nat
  | .create _ => v
  | .update id _ => id
  | .set id _ => id
  | .remove id => id

/-- A call of the track package on the whole library: its statements run on the Track table; when the call
returns normally the ChangeLog rows its UPDATEs caused are there too.  When it does not, every statement of
the call that had taken effect has been rolled back with its trigger effects (statement atomicity / the
`sqlite_transaction` scope: for the Track table that is the package's `C11V2T_failed_call_unchanged`), so no
ChangeLog row is left either. -/
def trackCall (ops : FOps) (s : Schema2) (op : TOp) : M2 Nat := fun L =>
  let r := L.tdb.step ops (toT s) op
  let L' := { L with tdb := r.1 }
  match r.2 with
  | .ok v => ((if hasChangeLog s then L'.logAppend (TOp.subject v op) (logFires ops L.tdb op) else L'), .ok v)
  | .throw e => (L', .throw e)
  | .ub u => (L', .ub u)

/-- a call of the crate package: it runs on the crate tables and reads the Track table through the view -/
def crateCall (op : COp) : M2 EngineModel.Db.V2.Out := fun L =>
  let r := EngineModel.Db.V2.step L.crates op
  (L.withCrates r.1, r.2)

/-- `database_impl::remove_track(tr)`, statement by statement. -/
def removeTrack (s : Schema2) (t : Nat) : M2 Unit :=
  M2.transaction do
    -- for (auto list_id : playlist().all_ids()) { row = playlist_entity.get(list_id, tr.id(), uuid); if (row) remove }
    M2.modify fun L => { L with pe := (ids L.pl).foldl (EngineModel.Db.V2.rmTrackIn (t : Int)) L.pe }
    -- if (schema < 2.20.3) UPDATE ChangeLog SET trackId = NULL WHERE trackId = ?
    if hasChangeLog s then M2.modify fun L => L.logNullify t else pure ()
    -- DELETE FROM PreparelistEntity WHERE trackId = ?   (this package's fix: the declared ON DELETE CASCADE is not active)
    M2.modify fun L => { L with prep := L.prep.filter fun r => r.track != some t }
    -- library_->track().remove(tr.id())   (DELETE; rows_modified() == 0 → invalid_argument)
    M2.track (callRemove t)

/-- `database_impl::remove_track` as a statement program on the connection of `Spec/Txn.lean` (the fault model of
C14: the k-th faultable statement — BEGIN, every DELETE / UPDATE, COMMIT — fails): BEGIN; per playlist the lookup
(a read) and the DELETE of the entry; before 2.20.3 the UPDATE of ChangeLog; the DELETE on PreparelistEntity; the DELETE of the track, which
(through `rows_modified() == 0 → invalid_argument`) fails the call when there is no such row; COMMIT. -/
def removeTrackBody (s : Schema2) (L : Lib2) (t : Nat) : List (Spec.Txn.Cmd Lib2) :=
  ((ids L.pl).flatMap fun l =>
    [Spec.Txn.Cmd.read, Spec.Stmts.tot fun (M : Lib2) => { M with pe := EngineModel.Db.V2.rmTrackIn (t : Int) M.pe l }]) ++
  (if hasChangeLog s then [Spec.Stmts.tot fun (M : Lib2) => M.logNullify t] else []) ++
  [Spec.Stmts.tot fun (M : Lib2) => { M with prep := M.prep.filter fun r => r.track != some t }] ++
  [.write fun (M : Lib2) =>
    if (M.tdb.rows.filter fun e => e.id == t).length = 0 then none
    else some { M with tdb := { M.tdb with rows := M.tdb.rows.filter fun e => !(e.id == t) } }]

def removeTrackStmts (s : Schema2) (L : Lib2) (t : Nat) : List (Spec.Txn.Cmd Lib2) :=
  Spec.Stmts.txn (removeTrackBody s L t)

/-! ### the call alphabet: every public operation of `database`, `crate` and `track` on a 2.x library -/

inductive Call where
  -- database: mutators
  | createTrack (x : Snap)
  | removeTrack (t : Nat)
  | createRootCrate (name : Bytes)
  | createRootCrateAfter (name : Bytes) (after : Int)
  | removeCrate (c : Int)
  -- database: observers
  | crates
  | crateById (c : Int)
  | cratesByName (name : Bytes)
  | rootCrates
  | rootCrateByName (name : Bytes)
  | tracks
  | trackById (t : Int)
  | tracksByRelativePath (p : Bytes)
  | uuid
  | versionName
  -- crate: mutators
  | crateAddTrack (c t : Int)
  | crateRemoveTrack (c t : Int)
  | crateClearTracks (c : Int)
  | crateCreateSub (c : Int) (name : Bytes)
  | crateCreateSubAfter (c : Int) (name : Bytes) (after : Int)
  | crateSetName (c : Int) (name : Bytes)
  | crateSetParent (c : Int) (p : Option Int)
  -- crate: observers
  | crateName (c : Int)
  | crateParent (c : Int)
  | crateChildren (c : Int)
  | crateDescendants (c : Int)
  | crateIsValid (c : Int)
  | crateSubByName (c : Int) (name : Bytes)
  | crateTracks (c : Int)
  -- track: mutators
  | trackUpdate (t : Nat) (x : Snap)
  | trackSet (t : Nat) (σ : Setter)
  -- track: observers
  | trackGet (t : Nat) (g : Getter)
  | trackSnapshot (t : Nat)
  | trackIsValid (t : Nat)
  -- NOT a call of the library: other software sharing the database (Engine itself) stores, in playlist `c`, an
  -- entry for track `t` of ANOTHER database `u` (uuid tag ≠ 0) — such entries may carry the numeric ids of the
  -- library's own tracks and must never be confused with them (fix 9a475eb)
  | foreignEntry (c t u : Int)
  -- NOT a call of the library either: Engine puts track `t` on its prepare list (a row of PreparelistEntity)
  | plantPrepare (t : Nat)
  deriving Repr

/-- the public alphabet of the library -/
def Call.isApi : Call → Bool
  | .foreignEntry _ _ _ | .plantPrepare _ => false
  | _ => true

/-- histories the composite theorems range over: the public alphabet, interleaved with foreign entries that are
foreign (another database's uuid, a positive track id) -/
def Call.admissible : Call → Bool
  | .foreignEntry _ t u => decide (u ≠ 0) && decide (0 < t)
  | _ => true

def Call.isObserver : Call → Bool
  | .crates | .crateById _ | .cratesByName _ | .rootCrates | .rootCrateByName _ | .tracks | .trackById _
  | .tracksByRelativePath _ | .uuid | .versionName | .crateName _ | .crateParent _ | .crateChildren _
  | .crateDescendants _ | .crateIsValid _ | .crateSubByName _ _ | .crateTracks _ | .trackGet _ _
  | .trackSnapshot _ | .trackIsValid _ => true
  | _ => false

inductive Out where
  | unit
  | id (i : Int)
  | oid (i : Option Int)
  | ids (l : List Int)
  | bool (b : Bool)
  | bytes (b : Bytes)
  | text (s : String)
  | snap (x : Snap)
  | val (v : Val)
  deriving Repr, DecidableEq

def outId : EngineModel.Db.V2.Out → Out
  | some i => .id i
  | none => .unit

/-- a SELECT-only piece of a call: the answer of a query of the crate package on what the connection sees -/
def crateQuery {α} (q : CDb → Res α) (f : α → Out) : M2 Out := fun L => (L, (q L.crates).bind fun a => .ok (f a))

/-- a SELECT-only piece of a call on the Track table (`selectRow` = `get_column`, no row → `track_row_id_error`) -/
def trackQuery {α} (t : Nat) (q : Row → Res α) (f : α → Out) : M2 Out := do
  let r ← M2.track (selectRow t)
  match q r with
  | .ok a => pure (f a)
  | .throw e => M2.throw e
  | .ub u => fun L => (L, .ub u)

def nat? (i : Int) : Option Nat := if 0 ≤ i then some i.toNat else none

/-- `track_table::exists(id)` for an `int64_t` id -/
def trackExists (L : Lib2) (i : Int) : Bool :=
  match nat? i with
  | some n => (L.tdb.find n).isSome
  | none => false

def versionName (v : Int × Int × Int) : String := s!"{v.1}.{v.2.1}.{v.2.2}"

/-- One public call on the whole library. -/
def step (ops : FOps) (s : Schema2) (L : Lib2) : Call → Lib2 × Res Out
  -- database
  | .createTrack x => (trackCall ops s (.create x) >>= fun i => (pure (Out.id i) : M2 Out)) L
  | .removeTrack t => (removeTrack s t >>= fun _ => (pure Out.unit : M2 Out)) L
  | .createRootCrate n => (crateCall (.createRoot n) >>= fun o => (pure (outId o) : M2 Out)) L
  | .createRootCrateAfter n a => (crateCall (.createRootAfter n a) >>= fun o => (pure (outId o) : M2 Out)) L
  | .removeCrate c => (crateCall (.removeCrate c) >>= fun _ => (pure Out.unit : M2 Out)) L
  | .crates => crateQuery (fun d => .ok (EngineModel.Db.V2.qCrates d)) Out.ids L
  | .crateById c => crateQuery (fun d => .ok (EngineModel.Db.V2.qValid d c)) (fun b => Out.oid (if b then some c else none)) L
  | .cratesByName n => crateQuery (fun d => .ok (EngineModel.Db.V2.qByName d n)) Out.ids L
  | .rootCrates => crateQuery EngineModel.Db.V2.qRoots Out.ids L
  | .rootCrateByName n => crateQuery (fun d => .ok (EngineModel.Db.V2.qByParentName d 0 n)) Out.oid L
  | .tracks => (L, .ok (.ids (L.tdb.rows.map fun t => (t.id : Int))))        -- track_table::all_ids
  | .trackById t => (L, .ok (.oid (if trackExists L t then some t else none)))
  | .tracksByRelativePath p =>                                               -- track_table::find_id_by_path
    (L, .ok (.ids ((L.tdb.rows.filter fun t => t.row.path == p).map fun t => (t.id : Int))))
  | .uuid => (L, .ok (.bytes L.uuid))
  | .versionName => (L, .ok (.text (versionName L.ver)))
  -- crate
  | .crateAddTrack c t => (crateCall (.addTrack c t) >>= fun _ => (pure Out.unit : M2 Out)) L
  | .crateRemoveTrack c t => (crateCall (.removeTrackFrom c t) >>= fun _ => (pure Out.unit : M2 Out)) L
  | .crateClearTracks c => (crateCall (.clearTracks c) >>= fun _ => (pure Out.unit : M2 Out)) L
  | .crateCreateSub c n => (crateCall (.createSub c n) >>= fun o => (pure (outId o) : M2 Out)) L
  | .crateCreateSubAfter c n a => (crateCall (.createSubAfter c n a) >>= fun o => (pure (outId o) : M2 Out)) L
  | .crateSetName c n => (crateCall (.rename c n) >>= fun _ => (pure Out.unit : M2 Out)) L
  | .crateSetParent c p => (crateCall (.setParent c p) >>= fun _ => (pure Out.unit : M2 Out)) L
  | .crateName c => crateQuery (fun d => EngineModel.Db.V2.qName d c) Out.bytes L
  | .crateParent c => crateQuery (fun d => EngineModel.Db.V2.qParent d c) Out.oid L
  | .crateChildren c => crateQuery (fun d => EngineModel.Db.V2.qChildren d c) Out.ids L
  | .crateDescendants c => crateQuery (fun d => EngineModel.Db.V2.qDescendants d c) Out.ids L
  | .crateIsValid c => crateQuery (fun d => .ok (EngineModel.Db.V2.qValid d c)) Out.bool L
  | .crateSubByName c n => crateQuery (fun d => .ok (EngineModel.Db.V2.qByParentName d c n)) Out.oid L
  | .crateTracks c => crateQuery (fun d => EngineModel.Db.V2.qTracks d c) Out.ids L
  -- track
  | .trackUpdate t x => (trackCall ops s (.update t x) >>= fun _ => (pure Out.unit : M2 Out)) L
  | .trackSet t σ => (trackCall ops s (.set t σ) >>= fun _ => (pure Out.unit : M2 Out)) L
  | .trackGet t g => trackQuery t (fun r => EngineModel.Api.C15TracksV2.getRow ops r g) Out.val L
  | .trackSnapshot t =>                                                      -- track_table::get → track_deleted
    (match L.tdb.find t with
     | some row => (L, (readSnap ops row.row).bind fun x => .ok (.snap x))
     | none => (L, .throw (.dj "track_deleted")))
  | .trackIsValid t => (L, .ok (.bool (L.tdb.find t).isSome))
  -- playlist_entity_table::add_back by another writer, into an existing playlist
  | .foreignEntry c t u =>
    if EngineModel.Db.V2.qValid L.crates c then (crateCall (.peAddBack c t u false) >>= fun _ => (pure Out.unit : M2 Out)) L
    else (L, .ok .unit)
  -- INSERT INTO PreparelistEntity (trackId, …) by Engine, for a track that exists
  | .plantPrepare t =>
    if (L.tdb.find t).isSome then
      ({ L with prep := L.prep ++ [⟨L.prepSeq + 1, some t⟩], prepSeq := L.prepSeq + 1 }, .ok .unit)
    else (L, .ok .unit)

/-- any history, whatever the outcomes of its calls (failed calls included) -/
def run (ops : FOps) (s : Schema2) (L : Lib2) (h : List Call) : Lib2 := h.foldl (fun L c => (step ops s L c).1) L

/-! ### everything observable, and reloading (C10)

Handles hold no state of their own: `v2::track_impl` = (`library_`, the `track_table` accessor, the id inherited
from `djinterop::track_impl`), `v2::crate_impl` = (`library_`, the `playlist_table` / `playlist_entity_table`
accessors, the id) — no cached row, no cached column; every accessor queries the connection.  So a handle IS its
id (the `Call`s take ids), and what a client can observe is a function of the stored tables. -/

def allGetters : List Getter :=
  [.album, .artist, .averageLoudness, .beatgrid, .bitrate, .bpm, .comment, .composer, .duration, .fileExtension,
   .filename, .genre, .hotCues, .key, .lastPlayedAt, .loops, .mainCue, .publisher, .rating, .relativePath, .sampleCount,
   .sampleRate, .title, .trackNumber, .waveform, .year] ++
  (List.range 9).flatMap fun i => [EngineModel.Api.C15TracksV2.Getter.hotCueAt (UInt32.ofNat i), EngineModel.Api.C15TracksV2.Getter.loopAt (UInt32.ofNat i)]

/-- every observer call on every crate and track the database lists (and on the given extra handles — ids the
client still holds, e.g. of removed objects) + the database-level observers -/
def observers (L : Lib2) (crateHandles : List Int) (trackHandles : List Nat) : List Call :=
  let cs := (ids L.pl) ++ crateHandles
  let ts := (L.tdb.rows.map (·.id)) ++ trackHandles
  let names := (L.pl.map (·.val)).eraseDups
  [Call.crates, .rootCrates, .tracks, .uuid, .versionName] ++
  names.flatMap (fun n => [Call.cratesByName n, .rootCrateByName n]) ++
  (L.tdb.rows.map fun t => Call.tracksByRelativePath t.row.path) ++
  cs.flatMap (fun c => [Call.crateById c, .crateName c, .crateParent c, .crateChildren c, .crateDescendants c,
    .crateIsValid c, .crateTracks c] ++ names.map fun n => Call.crateSubByName c n) ++
  ts.flatMap (fun (t : Nat) => [Call.trackById (t : Int), .trackIsValid t, .trackSnapshot t] ++ allGetters.map fun g => Call.trackGet t g)

def observeAll (ops : FOps) (s : Schema2) (L : Lib2) (crateHandles : List Int) (trackHandles : List Nat) :
    List (Call × Res Out) :=
  (observers L crateHandles trackHandles).map fun c => (c, (step ops s L c).2)

/-- A client session: the connection (committed library + the working copy of an open transaction, `Spec/Txn.lean`)
and the handles the client holds (ids). -/
structure Session where
  conn : Spec.Txn.Conn Lib2
  crateHandles : List Int
  trackHandles : List Nat

/-- release every handle, close, load again: a new connection on what was committed; no handle is held (a client
re-obtains them by id: `crate_by_id`, `track_by_id`) -/
def Session.reload (S : Session) : Session := ⟨S.conn.reopen, [], []⟩

/-- what the session's client observes: through the database and through the handles it holds -/
def Session.observe (ops : FOps) (s : Schema2) (S : Session) : List (Call × Res Out) :=
  observeAll ops s S.conn.view S.crateHandles S.trackHandles

/-! ### how a call of the composite shows to each package (for transporting the packages' history theorems)

`crateHist` / `trackHist`: the history of the composite, as the crate package and the track package see it.
Proofs/Lib2Sim.lean: the crate tables (with the real Track ids) after a composite history ARE the crate
package's tables after `crateHist`, the Track table IS the track package's table after `trackHist`. -/

def isOk {α} : Res α → Bool
  | .ok _ => true
  | _ => false

/-- the call as an operation of the crate package (`none`: the crate package sees nothing) -/
def crateOpOf (ops : FOps) (s : Schema2) (L : Lib2) : Call → Option COp
  | .createTrack x => if isOk (step ops s L (.createTrack x)).2 then some .createTrack else none
  | .removeTrack t => some (.removeTrack (t : Int))
  | .createRootCrate n => some (.createRoot n)
  | .createRootCrateAfter n a => some (.createRootAfter n a)
  | .removeCrate c => some (.removeCrate c)
  | .crateAddTrack c t => some (.addTrack c t)
  | .crateRemoveTrack c t => some (.removeTrackFrom c t)
  | .crateClearTracks c => some (.clearTracks c)
  | .crateCreateSub c n => some (.createSub c n)
  | .crateCreateSubAfter c n a => some (.createSubAfter c n a)
  | .crateSetName c n => some (.rename c n)
  | .crateSetParent c p => some (.setParent c p)
  | .foreignEntry c t u => if EngineModel.Db.V2.qValid L.crates c then some (.peAddBack c t u false) else none
  | _ => none

def crateHist (ops : FOps) (s : Schema2) (L : Lib2) : List Call → List COp
  | [] => []
  | c :: cs => (crateOpOf ops s L c).toList ++ crateHist ops s (step ops s L c).1 cs

/-- the call as an operation of the track package -/
def trackOpOf : Call → Option TOp
  | .createTrack x => some (.create x)
  | .trackUpdate t x => some (.update t x)
  | .trackSet t σ => some (.set t σ)
  | .removeTrack t => some (.remove t)
  | _ => none

def trackHist (hist : List Call) : List TOp := hist.filterMap trackOpOf

/-! ### the executable whole-library invariant (`LibInv`), evaluated by the tie on the REAL dump

= the package invariants (`Spec.tracksWf` on the Track table, `wfRaw` on the crate tables seen with the real
Track ids) + what crosses tables. -/

def Lib2.trackLive (L : Lib2) (t : Nat) : Bool := (L.tdb.find t).isSome

/-- every entry is of this database (uuid tag 0: `databaseUuid = Information.uuid`) -/
def allOwn (L : Lib2) : Bool := L.pe.all fun e => e.val.uuid == 0

/-- every entry of this database references a live Track row (a row of table Track, not an id stand-in) and
a live Playlist row -/
def entityRefsOk (L : Lib2) : Bool :=
  L.pe.all fun e => e.val.uuid != 0 ||
    (trackExists L e.val.track && (L.pl.any fun p => p.id == e.key))

/-- ChangeLog: only before 2.20.3; ids a key within the counter; `trackId` NULL or a live track -/
def logOk (s : Schema2) (L : Lib2) : Bool :=
  (hasChangeLog s || L.log.isEmpty) &&
  Spec.distinctBy (·.id) L.log && (L.log.all fun r => decide (1 ≤ r.id ∧ r.id ≤ L.logSeq)) &&
  L.log.all fun r => match r.track with
    | none => true
    | some t => L.trackLive t

/-- the default AlbumArt row exists and every `Track.albumArtId` references an AlbumArt row; every
PreparelistEntity row references a live track (or none) -/
def artOk (L : Lib2) : Bool :=
  L.art.contains 1 && (L.tdb.rows.all fun t => L.art.contains t.row.albumArtId.toNat) &&
  L.prep.all fun r => match r.track with
    | none => true
    | some t => L.trackLive t

def infoOk (s : Schema2) (L : Lib2) : Bool := L.ver == s.version

def libChecks (s : Schema2) (L : Lib2) : List (String × Bool) :=
  [("Track rows: derived columns (filename, fileType), origin columns vs Information.uuid / id, ids or paths not a key",
      Spec.tracksWf L.tdb),
   ("crate tables: " ++ ((EngineModel.Db.V2.wfRawWhy L.crates).getD ""), EngineModel.Db.V2.wfRaw L.crates),
   ("a PlaylistEntity row carries a databaseUuid other than Information.uuid", allOwn L),
   ("a PlaylistEntity row of this database references a Track row or a Playlist row that does not exist", entityRefsOk L),
   ("ChangeLog: a row references a track that does not exist, ids not a key / beyond the counter, or rows on a schema without the table",
      logOk s L),
   ("the default AlbumArt row is missing, a Track.albumArtId references no AlbumArt row, or a PreparelistEntity row references a track that does not exist", artOk L),
   ("Information row: the version triple differs from the schema's", infoOk s L)]

def libInv (s : Schema2) (L : Lib2) : Bool := (libChecks s L).all (·.2)

def libInvWhy (s : Schema2) (L : Lib2) : Option String := ((libChecks s L).find? fun c => !c.2).map (·.1)

/-! ### `PRAGMA foreign_key_check` over every table of the 2.x schemas that declares a foreign key

(read off `schema_2_*.cpp`; the same four in 2.18.0 – 2.20.2, without ChangeLog from 2.20.3 where it is a view):

  Track.albumArtId            → AlbumArt (id)   ON DELETE RESTRICT
  ChangeLog.trackId           → Track (id)      ON DELETE SET NULL      (before 2.20.3)
  PlaylistEntity.listId       → Playlist (id)   ON DELETE CASCADE
  PreparelistEntity.trackId   → Track (id)      ON DELETE CASCADE

(`PlaylistEntity.trackId` declares none — an entry may name a track of another database.)  A violation is a
child row whose key is not NULL and matches no parent row: (table, rowid, parent). -/
structure FkViolation where
  table : String
  rowid : Int
  parent : String
  deriving Repr, DecidableEq

def fkCheck (L : Lib2) : List FkViolation :=
  (L.tdb.rows.filterMap fun t =>
     if L.art.contains t.row.albumArtId.toNat then none else some ⟨"Track", t.id, "AlbumArt"⟩) ++
  (L.log.filterMap fun r => match r.track with
     | some t => if L.trackLive t then none else some ⟨"ChangeLog", r.id, "Track"⟩
     | none => none) ++
  (L.pe.filterMap fun e =>
     if L.pl.any (fun p => p.id == e.key) then none else some ⟨"PlaylistEntity", e.id, "Playlist"⟩) ++
  (L.prep.filterMap fun r => match r.track with
     | some t => if L.trackLive t then none else some ⟨"PreparelistEntity", r.id, "Track"⟩
     | none => none)

end EngineModel.Lib.V2
