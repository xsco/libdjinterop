/-
Schema identification: the Spec table (from the public header
include/djinterop/engine/engine_schema.hpp: enumerator ↔ version string, the
two 1.18.0 variants told apart by the `isExternalTrack NUMERIC` marker) and
the directory-layout dispatch of `load_database`.
-/
namespace EngineModel.Pure.Detect

inductive Schema where
  | schema_1_6_0 | schema_1_7_1 | schema_1_9_1 | schema_1_11_1 | schema_1_13_0
  | schema_1_13_1 | schema_1_13_2 | schema_1_15_0 | schema_1_17_0
  | schema_1_18_0_desktop | schema_1_18_0_os
  | schema_2_18_0 | schema_2_20_1 | schema_2_20_2 | schema_2_20_3
  | schema_2_21_0 | schema_2_21_1 | schema_2_21_2 | schema_3_0_0
  deriving DecidableEq, Repr, Inhabited

open Schema

def Schema.all : List Schema :=
  [schema_1_6_0, schema_1_7_1, schema_1_9_1, schema_1_11_1, schema_1_13_0, schema_1_13_1,
   schema_1_13_2, schema_1_15_0, schema_1_17_0, schema_1_18_0_desktop, schema_1_18_0_os,
   schema_2_18_0, schema_2_20_1, schema_2_20_2, schema_2_20_3, schema_2_21_0, schema_2_21_1,
   schema_2_21_2, schema_3_0_0]

/-- Enumerator order (`operator>=` on `engine_schema`). -/
def Schema.ord : Schema → Nat
  | schema_1_6_0 => 0 | schema_1_7_1 => 1 | schema_1_9_1 => 2 | schema_1_11_1 => 3
  | schema_1_13_0 => 4 | schema_1_13_1 => 5 | schema_1_13_2 => 6 | schema_1_15_0 => 7
  | schema_1_17_0 => 8 | schema_1_18_0_desktop => 9 | schema_1_18_0_os => 10
  | schema_2_18_0 => 11 | schema_2_20_1 => 12 | schema_2_20_2 => 13 | schema_2_20_3 => 14
  | schema_2_21_0 => 15 | schema_2_21_1 => 16 | schema_2_21_2 => 17 | schema_3_0_0 => 18

def Schema.name : Schema → String
  | schema_1_6_0 => "schema_1_6_0" | schema_1_7_1 => "schema_1_7_1" | schema_1_9_1 => "schema_1_9_1"
  | schema_1_11_1 => "schema_1_11_1" | schema_1_13_0 => "schema_1_13_0" | schema_1_13_1 => "schema_1_13_1"
  | schema_1_13_2 => "schema_1_13_2" | schema_1_15_0 => "schema_1_15_0" | schema_1_17_0 => "schema_1_17_0"
  | schema_1_18_0_desktop => "schema_1_18_0_desktop" | schema_1_18_0_os => "schema_1_18_0_os"
  | schema_2_18_0 => "schema_2_18_0" | schema_2_20_1 => "schema_2_20_1" | schema_2_20_2 => "schema_2_20_2"
  | schema_2_20_3 => "schema_2_20_3" | schema_2_21_0 => "schema_2_21_0" | schema_2_21_1 => "schema_2_21_1"
  | schema_2_21_2 => "schema_2_21_2" | schema_3_0_0 => "schema_3_0_0"

def Schema.ofName (s : String) : Option Schema := Schema.all.find? (fun x => x.name == s)

/-- Version triple per the public `to_string` table. -/
def Schema.version : Schema → Int × Int × Int
  | schema_1_6_0 => (1, 6, 0) | schema_1_7_1 => (1, 7, 1) | schema_1_9_1 => (1, 9, 1)
  | schema_1_11_1 => (1, 11, 1) | schema_1_13_0 => (1, 13, 0) | schema_1_13_1 => (1, 13, 1)
  | schema_1_13_2 => (1, 13, 2) | schema_1_15_0 => (1, 15, 0) | schema_1_17_0 => (1, 17, 0)
  | schema_1_18_0_desktop => (1, 18, 0) | schema_1_18_0_os => (1, 18, 0)
  | schema_2_18_0 => (2, 18, 0) | schema_2_20_1 => (2, 20, 1) | schema_2_20_2 => (2, 20, 2)
  | schema_2_20_3 => (2, 20, 3) | schema_2_21_0 => (2, 21, 0) | schema_2_21_1 => (2, 21, 1)
  | schema_2_21_2 => (2, 21, 2) | schema_3_0_0 => (3, 0, 0)

/-- The documented variant marker: `some true` = booleans declared NUMERIC (Desktop). -/
def Schema.marker : Schema → Option Bool
  | schema_1_18_0_desktop => some true
  | schema_1_18_0_os => some false
  | _ => none

inductive Detected where
  | schema (s : Schema)
  | unsupported
  deriving DecidableEq, Repr, Inhabited

/-- Spec: the schema whose version triple (and marker, where one is defined) matches. -/
def specDetect (a b c : Int) (numeric : Bool) : Detected :=
  match Schema.all.find? (fun s => decide (s.version = (a, b, c)) &&
      (s.marker == none || s.marker == some numeric)) with
  | some s => .schema s
  | none => .unsupported

inductive LoadOutcome where
  | loaded (s : Schema)
  | unsupported_database
  | database_not_found
  | database_inconsistency
  deriving DecidableEq, Repr, Inhabited

def LoadOutcome.render : LoadOutcome → String
  | .loaded s => "ok " ++ s.name
  | .unsupported_database => "throw unsupported_database"
  | .database_not_found => "throw database_not_found"
  | .database_inconsistency => "throw database_inconsistency"

/-- `load_database`: layout dispatch (engine.cpp, engine_library_dir_utils.cpp)
around a detection function. -/
def loadModel (detect : Int → Int → Int → Bool → Detected)
    (legacy db2 : Bool) (a b c : Int) (numeric : Bool) : LoadOutcome :=
  if !legacy && !db2 then .database_not_found
  else if legacy && db2 then .database_not_found
  else match detect a b c numeric with
    | .unsupported => .unsupported_database
    | .schema s =>
      if db2 then (if schema_2_18_0.ord ≤ s.ord then .loaded s else .database_inconsistency)
      else .loaded s

/-! ### whole-function view: stored 64-bit numbers, Information lookup, directory layout -/

/-- What `load_database` can throw (C13's alphabet). -/
inductive LoadErr where
  | database_not_found | unsupported_database | database_inconsistency
  deriving DecidableEq, Repr, Inhabited

def Detected.toExcept : Detected → Except LoadErr Schema
  | .schema s => .ok s
  | .unsupported => .error .unsupported_database

/-- `static_cast<int>(int64_t)`: value modulo 2^32 into [-2^31, 2^31). -/
def narrowI32 (v : Int) : Int := (v + 2147483648) % 4294967296 - 2147483648

/-- Everything `load_database(directory)` looks at: which paths exist, and — of the `m.db` that
gets opened — how many `Information` tables `sqlite_master` lists, the three stored version
numbers (64-bit integers) and the 1.18.0 variant marker. -/
structure World where
  dirExists : Bool
  legacy : Bool      -- <dir>/m.db
  pdb : Bool         -- <dir>/p.db
  db2 : Bool         -- <dir>/Database2/m.db
  tableCount : Int
  vMajor : Int
  vMinor : Int
  vPatch : Int
  numeric : Bool
  deriving Repr, DecidableEq

def LoadOutcome.ofExcept : Except LoadErr Schema → LoadOutcome
  | .ok s => .loaded s
  | .error .database_not_found => .database_not_found
  | .error .unsupported_database => .unsupported_database
  | .error .database_inconsistency => .database_inconsistency

/-- `to_string(engine_schema)` as the public header prints it. -/
def Schema.versionString (s : Schema) : String :=
  let v := s.version
  s!"{v.1}.{v.2.1}.{v.2.2}" ++
    (match s.marker with | some true => " (Desktop)" | some false => " (OS)" | none => "")

/-- Spec of loading a directory, written from the property text:
no directory / no database / both layouts → `database_not_found`; otherwise the schema is
selected solely from the stored triple and the marker (`specDetect`), every other triple is
`unsupported_database`.  Three refusals that the text does not spell out are part of the Spec
and documented in design/C13.md: a legacy library without its `p.db`, an `m.db` without exactly
one `Information` table, and a Database2 directory stamped with a 1.x version are all reported
as `database_inconsistency` (no schema is *mis*identified: none is returned). -/
def specLoad (w : World) : LoadOutcome :=
  if !w.dirExists then .database_not_found
  else if !w.legacy && !w.db2 then .database_not_found
  else if w.legacy && w.db2 then .database_not_found
  else if w.legacy && !w.pdb then .database_inconsistency
  else if w.tableCount ≠ 1 then .database_inconsistency
  else match specDetect w.vMajor w.vMinor w.vPatch w.numeric with
    | .unsupported => .unsupported_database
    | .schema s =>
      if w.db2 && s.version.1 < 2 then .database_inconsistency else .loaded s

/-- `create_or_load_database` as it was before 1fcc407: creates exactly when loading reports "not found" (since then
it throws again when `m.db` or `Database2/m.db` is there: `Spec.Dir.createOrLoadAtWith`). -/
def createOrLoad (load : LoadOutcome) (requested : Schema) : Bool × LoadOutcome :=
  match load with
  | .database_not_found => (true, .loaded requested)
  | o => (false, o)

end EngineModel.Pure.Detect
