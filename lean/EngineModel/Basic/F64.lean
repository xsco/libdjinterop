/-
IEEE-754 binary64 values as bit patterns, with the comparisons the C++ code
performs on doubles defined *exactly* on the bits (no floating-point
arithmetic is needed for them).
-/
namespace EngineModel
namespace F64

abbrev Bits := UInt64

def expOf (x : Bits) : Nat := x.toNat / 4503599627370496 % 2048
def manOf (x : Bits) : Nat := x.toNat % 4503599627370496
def signOf (x : Bits) : Bool := decide (9223372036854775808 ≤ x.toNat)

def isNaN (x : Bits) : Bool := expOf x == 2047 && manOf x != 0

/-- Order-preserving integer key of a non-NaN double (both zeros map to 0). -/
def key (x : Bits) : Int :=
  if x.toNat < 9223372036854775808 then (x.toNat : Int) else -((x.toNat : Int) - 9223372036854775808)

/-- C++ `a < b` on doubles. -/
def lt (a b : Bits) : Bool := !isNaN a && !isNaN b && decide (key a < key b)
/-- C++ `a <= b`. -/
def le (a b : Bits) : Bool := !isNaN a && !isNaN b && decide (key a ≤ key b)
/-- C++ `a == b`. -/
def eq (a b : Bits) : Bool := !isNaN a && !isNaN b && decide (key a = key b)
/-- C++ `a != b`. -/
def ne (a b : Bits) : Bool := !eq a b

def zero : Bits := 0
def negZero : Bits := 0x8000000000000000
def negOne : Bits := 0xbff0000000000000
def one : Bits := 0x3ff0000000000000

/-- C++ `x == 0` / `x != 0` (true of both zeros). -/
def isZero (x : Bits) : Bool := x == zero || x == negZero

theorem key_zero : key zero = 0 := by decide
theorem isNaN_zero : isNaN zero = false := by decide

theorem eq_self (x : Bits) : eq x x = !isNaN x := by
  unfold eq
  cases isNaN x <;> simp

theorem not_le_eq_lt (a b : Bits) (ha : isNaN a = false) (hb : isNaN b = false) : (!le b a) = lt a b := by
  unfold le lt
  simp only [ha, hb, Bool.not_false, Bool.true_and]
  by_cases h : key b ≤ key a
  · have : ¬ key a < key b := by omega
    simp [h, this]
  · have : key a < key b := by omega
    simp [h, this]

theorem isZero_iff (v : Bits) : isZero v = true ↔ (v = zero ∨ v = negZero) := by
  unfold isZero
  simp [Bool.or_eq_true, beq_iff_eq]

theorem key_eq_zero_iff (x : Bits) : key x = 0 ↔ (x = zero ∨ x = negZero) := by
  have h := x.toNat_lt
  constructor
  · intro hk
    unfold key at hk
    split at hk
    · left; apply UInt64.toNat_inj.mp; simp [zero]; omega
    · right; apply UInt64.toNat_inj.mp; simp [negZero]; omega
  · rintro (rfl | rfl) <;> decide

theorem isZero_iff_eq_zero (x : Bits) : isZero x = eq x zero := by
  unfold isZero eq
  rw [isNaN_zero, key_zero]
  by_cases h0 : x = zero
  · subst h0; decide
  · by_cases h1 : x = negZero
    · subst h1; decide
    · have hk : ¬ key x = 0 := fun h => by
        rcases (key_eq_zero_iff x).mp h with h | h
        · exact h0 h
        · exact h1 h
      simp [h0, h1, hk]

theorem ne_zero_eq (x : Bits) : ne x zero = !isZero x := by
  unfold ne; rw [isZero_iff_eq_zero]

theorem eq_negOne_iff (x : Bits) : eq x negOne = true ↔ x = negOne := by
  constructor
  · intro h
    unfold eq isNaN key expOf manOf negOne at h
    have hx := x.toNat_lt
    simp at h
    obtain ⟨_, h⟩ := h
    apply UInt64.toNat_inj.mp
    unfold negOne
    simp
    split at h <;> omega
  · intro h; subst h; decide

theorem ne_negOne_iff (x : Bits) : ne x negOne = true ↔ x ≠ negOne := by
  unfold ne
  rw [Bool.not_eq_true', ← Bool.not_eq_true]
  exact not_congr (eq_negOne_iff x)

end F64
end EngineModel
