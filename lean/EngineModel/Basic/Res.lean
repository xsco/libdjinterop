/-
Outcome alphabet shared by every modelled operation and by the C++ harness.
`ok` = normal return, `throw` = an exception derived from std::exception
(coarse class), `ub` = undefined behaviour the sanitizer build would abort on.
-/
namespace EngineModel

inductive Exn where
  | invalid_argument | length_or_alloc | out_of_range | logic_error
  | runtime_error | system_error | sqlite_error | bad_optional_access
  | dj (name : String)
  deriving Repr, DecidableEq, Inhabited

def Exn.toString : Exn → String
  | .invalid_argument => "invalid_argument"
  | .length_or_alloc => "length_or_alloc"
  | .out_of_range => "out_of_range"
  | .logic_error => "logic_error"
  | .runtime_error => "runtime_error"
  | .system_error => "system_error"
  | .sqlite_error => "sqlite_error"
  | .bad_optional_access => "bad_optional_access"
  | .dj n => n

inductive Ub where
  | oob_read | oob_write | oob_index | empty_optional | signed_overflow
  | float_cast_range | div_zero | bad_zlib_region | nontermination
  deriving Repr, DecidableEq, Inhabited

def Ub.toString : Ub → String
  | .oob_read => "oob_read" | .oob_write => "oob_write" | .oob_index => "oob_index"
  | .empty_optional => "empty_optional" | .signed_overflow => "signed_overflow"
  | .float_cast_range => "float_cast_range" | .div_zero => "div_zero"
  | .bad_zlib_region => "bad_zlib_region" | .nontermination => "nontermination"

inductive Res (α : Type) where
  | ok (a : α)
  | throw (e : Exn)
  | ub (u : Ub)
  deriving Repr, DecidableEq, Inhabited

namespace Res

@[inline] def bind {α β} (x : Res α) (f : α → Res β) : Res β :=
  match x with
  | ok a => f a
  | throw e => throw e
  | ub u => ub u

instance : Monad Res where
  pure := ok
  bind := bind

@[simp] theorem bind_ok {α β} (a : α) (f : α → Res β) : (ok a >>= f) = f a := rfl
@[simp] theorem bind_throw {α β} (e : Exn) (f : α → Res β) : (throw e >>= f) = throw e := rfl
@[simp] theorem bind_ub {α β} (u : Ub) (f : α → Res β) : (ub u >>= f) = ub u := rfl
@[simp] theorem pure_eq {α} (a : α) : (pure a : Res α) = ok a := rfl

def isUb {α} : Res α → Bool
  | ub _ => true
  | _ => false

def isOk {α} : Res α → Bool
  | ok _ => true
  | _ => false

def toOption {α} : Res α → Option α
  | ok a => some a
  | _ => none

/-- Forget which exception class was thrown (the properties only ask for
"an exception derived from std::exception"). -/
def coarse {α} : Res α → Res α
  | ok a => ok a
  | throw _ => throw .invalid_argument
  | ub u => ub u

def render {α} (f : α → String) : Res α → String
  | ok a => let s := f a; if s.isEmpty then "ok" else "ok " ++ s
  | throw e => "throw " ++ e.toString
  | ub u => "ub " ++ u.toString

theorem bind_eq_ok {α β} {x : Res α} {f : α → Res β} {b : β} :
    x.bind f = ok b ↔ ∃ a, x = ok a ∧ f a = ok b := by
  cases x with
  | ok a => exact ⟨fun h => ⟨a, rfl, h⟩, fun ⟨_, h1, h2⟩ => by cases h1; exact h2⟩
  | throw e => exact ⟨fun h => (nomatch h), fun ⟨_, h1, _⟩ => (nomatch h1)⟩
  | ub u => exact ⟨fun h => (nomatch h), fun ⟨_, h1, _⟩ => (nomatch h1)⟩

theorem bind_bind {α β γ} (m : Res α) (f : α → Res β) (g : β → Res γ) :
    (m.bind f).bind g = m.bind fun a => (f a).bind g := by
  cases m <;> rfl

theorem bind_ok_right {α} (x : Res α) : x.bind ok = x := by cases x <;> rfl

/-- No undefined behaviour: a value or an exception. -/
def Defined {α} (r : Res α) : Prop := ∀ u, r ≠ ub u

theorem Defined.ok {α} (a : α) : Defined (ok a) := fun _ h => nomatch h
theorem Defined.throw {α} (e : Exn) : Defined (throw e : Res α) := fun _ h => nomatch h

theorem Defined.bind {α β} {r : Res α} {f : α → Res β} (h : Defined r) (hf : ∀ a, r = .ok a → Defined (f a)) :
    Defined (r.bind f) := by
  cases r with
  | ok a => exact hf a rfl
  | throw e => exact Defined.throw e
  | ub u => exact absurd rfl (h u)

theorem Defined.of_total {α} {r : Res α} (h : (∃ a, r = .ok a) ∨ (∃ e, r = .throw e)) : Defined r := by
  rcases h with ⟨a, rfl⟩ | ⟨e, rfl⟩
  · exact Defined.ok _
  · exact Defined.throw _

/-- The converse, where no value is returned: what is left is an exception. -/
theorem defined_of_ok {α} {r : Res α} (h : ∃ v, r = ok v) : Defined r := Defined.of_total (.inl h)

theorem Defined.throws {α} {r : Res α} (h : Defined r) (hn : ∀ a, r ≠ .ok a) : ∃ e, r = .throw e := by
  cases r with
  | ok a => exact absurd rfl (hn a)
  | throw e => exact ⟨e, rfl⟩
  | ub u => exact absurd rfl (h u)

end Res
end EngineModel
