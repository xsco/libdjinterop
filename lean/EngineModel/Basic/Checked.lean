/-
Checked signed arithmetic: the C++ computes in `int64_t` / `int`; a result outside the
type's range is undefined behaviour (`ub signed_overflow`, what UBSan reports).  The Model
uses these at every place where the C++ adds, subtracts or multiplies signed values whose
range is not bounded by their types alone, so that "the guards prevent the overflow" is a
theorem about the Model and not a property of unbounded `Int`.
-/
import EngineModel.Basic.Res

namespace EngineModel
namespace Chk

def in64 (x : Int) : Prop := -9223372036854775808 ≤ x ∧ x ≤ 9223372036854775807
def in32 (x : Int) : Prop := -2147483648 ≤ x ∧ x ≤ 2147483647

instance (x : Int) : Decidable (in64 x) := by unfold in64; infer_instance
instance (x : Int) : Decidable (in32 x) := by unfold in32; infer_instance

/-- the value as an `int64_t` result -/
def i64 (x : Int) : Res Int := if in64 x then .ok x else .ub .signed_overflow
/-- the value as an `int` result -/
def i32 (x : Int) : Res Int := if in32 x then .ok x else .ub .signed_overflow

def add64 (a b : Int) : Res Int := i64 (a + b)
def sub64 (a b : Int) : Res Int := i64 (a - b)
def mul64 (a b : Int) : Res Int := i64 (a * b)
def add32 (a b : Int) : Res Int := i32 (a + b)
def sub32 (a b : Int) : Res Int := i32 (a - b)

theorem i64_ok {x : Int} (h : in64 x) : i64 x = .ok x := by simp [i64, h]
theorem i32_ok {x : Int} (h : in32 x) : i32 x = .ok x := by simp [i32, h]
theorem i64_ub {x : Int} (h : ¬ in64 x) : i64 x = .ub .signed_overflow := by simp [i64, h]
theorem i32_ub {x : Int} (h : ¬ in32 x) : i32 x = .ub .signed_overflow := by simp [i32, h]

theorem add64_ok {a b : Int} (h : in64 (a + b)) : add64 a b = .ok (a + b) := i64_ok h
theorem sub64_ok {a b : Int} (h : in64 (a - b)) : sub64 a b = .ok (a - b) := i64_ok h
theorem mul64_ok {a b : Int} (h : in64 (a * b)) : mul64 a b = .ok (a * b) := i64_ok h
theorem add32_ok {a b : Int} (h : in32 (a + b)) : add32 a b = .ok (a + b) := i32_ok h
theorem sub32_ok {a b : Int} (h : in32 (a - b)) : sub32 a b = .ok (a - b) := i32_ok h

theorem i64_cases (x : Int) : (in64 x ∧ i64 x = .ok x) ∨ (¬ in64 x ∧ i64 x = .ub .signed_overflow) := by
  by_cases h : in64 x
  · exact Or.inl ⟨h, i64_ok h⟩
  · exact Or.inr ⟨h, i64_ub h⟩

theorem i32_cases (x : Int) : (in32 x ∧ i32 x = .ok x) ∨ (¬ in32 x ∧ i32 x = .ub .signed_overflow) := by
  by_cases h : in32 x
  · exact Or.inl ⟨h, i32_ok h⟩
  · exact Or.inr ⟨h, i32_ub h⟩

theorem sub32_eq_ok {x y d : Int} (h : sub32 x y = .ok d) : d = x - y ∧ -2147483648 ≤ d ∧ d ≤ 2147483647 := by
  unfold sub32 at h
  rcases i32_cases (x - y) with ⟨hin, h1⟩ | ⟨_, h1⟩ <;> rw [h1] at h <;> cases h
  exact ⟨rfl, hin.1, hin.2⟩

theorem mul64_eq_ok {a b c : Int} (h : mul64 a b = .ok c) : c = a * b := by
  unfold mul64 at h
  rcases i64_cases (a * b) with ⟨_, h1⟩ | ⟨_, h1⟩ <;> rw [h1] at h <;> cases h
  rfl

example : mul64 24 576460752303423488 = .ub .signed_overflow := by decide
example : add64 9223372036854775807 1 = .ub .signed_overflow := by decide
example : sub32 2147483647 (-2147483648) = .ub .signed_overflow := by decide
example : mul64 24 32768 = .ok 786432 := by decide

end Chk
end EngineModel
