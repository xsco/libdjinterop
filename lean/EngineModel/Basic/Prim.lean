/-
Fixed-width primitive codecs over bytes, as arithmetic on `Nat` (div / mod by
literals) so that `omega` decides the bit-level lemmas; no `bv_decide`.
C++ counterpart: src/djinterop/engine/encode_decode_utils.hpp.
Integers are carried as their *bit patterns* (`UInt32`, `UInt64`); a double is
the `UInt64` of its IEEE-754 bits (the C++ memcpy's between int64 and double).
-/

namespace EngineModel

abbrev Bytes := List UInt8

namespace Prim

def encU32BE (x : UInt32) : Bytes :=
  let n := x.toNat
  [(n / 16777216 % 256).toUInt8, (n / 65536 % 256).toUInt8, (n / 256 % 256).toUInt8, (n % 256).toUInt8]

def decU32BE (a b c d : UInt8) : UInt32 :=
  UInt32.ofNat (a.toNat * 16777216 + b.toNat * 65536 + c.toNat * 256 + d.toNat)

def encU32LE (x : UInt32) : Bytes :=
  let n := x.toNat
  [(n % 256).toUInt8, (n / 256 % 256).toUInt8, (n / 65536 % 256).toUInt8, (n / 16777216 % 256).toUInt8]

def decU32LE (a b c d : UInt8) : UInt32 := decU32BE d c b a

/-- 64-bit values are two 32-bit halves, exactly as the C++ composes them. -/
def hi32 (x : UInt64) : UInt32 := UInt32.ofNat (x.toNat / 4294967296)
def lo32 (x : UInt64) : UInt32 := UInt32.ofNat (x.toNat % 4294967296)
def join64 (hi lo : UInt32) : UInt64 := UInt64.ofNat (hi.toNat * 4294967296 + lo.toNat)

def encU64BE (x : UInt64) : Bytes := encU32BE (hi32 x) ++ encU32BE (lo32 x)
def encU64LE (x : UInt64) : Bytes := encU32LE (lo32 x) ++ encU32LE (hi32 x)

def decU64BE (a b c d e f g h : UInt8) : UInt64 := join64 (decU32BE a b c d) (decU32BE e f g h)
def decU64LE (a b c d e f g h : UInt8) : UInt64 := join64 (decU32LE e f g h) (decU32LE a b c d)

theorem shift256 (hi lo : Nat) (h : lo < 256) : (hi * 256 + lo) / 256 = hi ∧ (hi * 256 + lo) % 256 = lo := by
  omega

theorem div_65536 (n : Nat) : n / 65536 = n / 256 / 256 := (Nat.div_div_eq_div_mul n 256 256).symm
theorem div_16777216 (n : Nat) : n / 16777216 = n / 256 / 256 / 256 := by
  rw [Nat.div_div_eq_div_mul, Nat.div_div_eq_div_mul]

/- Both round trips go byte by byte (`/ 256`, `% 256`): `omega` on the four digits at once, with
divisors up to 2^24, is slow to check. -/
theorem decU32BE_encU32BE (x : UInt32) :
    (match encU32BE x with | [a, b, c, d] => decU32BE a b c d | _ => 0) = x := by
  have h := x.toNat_lt
  apply UInt32.toNat_inj.mp
  simp only [encU32BE, decU32BE, UInt32.toNat_ofNat', Nat.toUInt8, UInt8.toNat_ofNat', div_65536, div_16777216,
    Nat.mod_mod]
  have h1 := Nat.div_add_mod x.toNat 256
  have h2 := Nat.div_add_mod (x.toNat / 256) 256
  have h3 := Nat.div_add_mod (x.toNat / 256 / 256) 256
  generalize x.toNat / 256 / 256 / 256 = q3 at *
  generalize x.toNat / 256 / 256 = q2 at *
  generalize x.toNat / 256 = q1 at *
  generalize q2 % 256 = r2 at *
  generalize q1 % 256 = r1 at *
  generalize x.toNat % 256 = r0 at *
  omega

theorem encU32BE_decU32BE (a b c d : UInt8) : encU32BE (decU32BE a b c d) = [a, b, c, d] := by
  have ha := a.toNat_lt; have hb := b.toNat_lt; have hc := c.toNat_lt; have hd := d.toNat_lt
  have e : (decU32BE a b c d).toNat = ((a.toNat * 256 + b.toNat) * 256 + c.toNat) * 256 + d.toNat := by
    rw [decU32BE, UInt32.toNat_ofNat']; omega
  simp only [encU32BE, e, div_65536, div_16777216, (shift256 _ _ hd).1, (shift256 _ _ hd).2,
    (shift256 _ _ hc).1, (shift256 _ _ hc).2, (shift256 _ _ hb).1, (shift256 _ _ hb).2, Nat.mod_eq_of_lt ha,
    Nat.toUInt8, UInt8.ofNat_toNat]

theorem encU32BE_length (x : UInt32) : (encU32BE x).length = 4 := rfl
theorem encU32LE_length (x : UInt32) : (encU32LE x).length = 4 := rfl
theorem encU64BE_length (x : UInt64) : (encU64BE x).length = 8 := rfl
theorem encU64LE_length (x : UInt64) : (encU64LE x).length = 8 := rfl

theorem encU32LE_eq_reverse (x : UInt32) : encU32LE x = (encU32BE x).reverse := rfl

theorem encU32LE_decU32LE (a b c d : UInt8) : encU32LE (decU32LE a b c d) = [a, b, c, d] := by
  rw [encU32LE_eq_reverse, decU32LE, encU32BE_decU32BE]; rfl

theorem join64_hi_lo (x : UInt64) : join64 (hi32 x) (lo32 x) = x := by
  simp only [join64, hi32, lo32]
  apply UInt64.toNat_inj.mp
  have h := x.toNat_lt
  simp [UInt64.toNat_ofNat]
  omega

theorem hi32_join64 (h l : UInt32) : hi32 (join64 h l) = h := by
  simp only [join64, hi32]
  apply UInt32.toNat_inj.mp
  have h1 := h.toNat_lt; have h2 := l.toNat_lt
  simp [UInt64.toNat_ofNat]
  omega

theorem lo32_join64 (h l : UInt32) : lo32 (join64 h l) = l := by
  simp only [join64, lo32]
  apply UInt32.toNat_inj.mp
  simp [UInt64.toNat_ofNat]

theorem encU32BE_cases (x : UInt32) :
    ∃ a b c d, encU32BE x = [a, b, c, d] ∧ decU32BE a b c d = x := by
  refine ⟨_, _, _, _, rfl, ?_⟩
  exact decU32BE_encU32BE x

theorem encU32LE_cases (x : UInt32) :
    ∃ a b c d, encU32LE x = [a, b, c, d] ∧ decU32LE a b c d = x := by
  obtain ⟨a, b, c, d, h, hd⟩ := encU32BE_cases x
  refine ⟨d, c, b, a, ?_, ?_⟩
  · rw [encU32LE_eq_reverse, h]; rfl
  · simpa [decU32LE] using hd

/-- Signed reading of a 64-bit pattern (C++ `int64_t`). -/
def s64 (x : UInt64) : Int := if x.toNat < 9223372036854775808 then x.toNat else (x.toNat : Int) - 18446744073709551616
/-- Signed reading of a 32-bit pattern (C++ `int32_t`). -/
def s32 (x : UInt32) : Int := if x.toNat < 2147483648 then x.toNat else (x.toNat : Int) - 4294967296
/-- The 64-bit pattern of an integer (wraps; callers prove or check range). -/
def u64OfInt (i : Int) : UInt64 := UInt64.ofNat (i % 18446744073709551616).toNat
def u32OfInt (i : Int) : UInt32 := UInt32.ofNat (i % 4294967296).toNat

theorem s64_range (x : UInt64) : -9223372036854775808 ≤ s64 x ∧ s64 x < 9223372036854775808 := by
  have := x.toNat_lt
  unfold s64; split <;> omega

theorem s32_range (x : UInt32) : -2147483648 ≤ s32 x ∧ s32 x < 2147483648 := by
  have := x.toNat_lt
  unfold s32; split <;> omega

theorem s64_of_nonneg (k : UInt64) (h : ¬ s64 k < 0) : s64 k = (k.toNat : Int) := by
  have := k.toNat_lt
  unfold s64 at h ⊢
  split at h <;> omega

theorem s64_toNat_of_nonneg {k : UInt64} (h : ¬ s64 k < 0) : (s64 k).toNat = k.toNat := by
  rw [s64_of_nonneg k h]; rfl

theorem s64_neg_iff (k : UInt64) : s64 k < 0 ↔ 9223372036854775808 ≤ k.toNat := by
  have := k.toNat_lt
  unfold s64
  split <;> omega

theorem s64_of_lt (k : UInt64) (h : k.toNat < 9223372036854775808) : s64 k = k.toNat := by
  unfold s64
  rw [if_pos h]

theorem u64OfInt_s64 (x : UInt64) : u64OfInt (s64 x) = x := by
  apply UInt64.toNat_inj.mp
  have := x.toNat_lt
  unfold u64OfInt s64
  split <;> simp <;> omega

theorem s64_inj {a b : UInt64} : s64 a = s64 b ↔ a = b :=
  ⟨fun h => by rw [← u64OfInt_s64 a, h, u64OfInt_s64], fun h => h ▸ rfl⟩

theorem s64_eq_zero (x : UInt64) : s64 x = 0 ↔ x = 0 := s64_inj (b := 0)

theorem s64_u64OfInt (i : Int) (h1 : -9223372036854775808 ≤ i) (h2 : i < 9223372036854775808) :
    s64 (u64OfInt i) = i := by
  unfold u64OfInt s64
  simp
  split <;> omega

theorem u32OfInt_s32 (x : UInt32) : u32OfInt (s32 x) = x := by
  apply UInt32.toNat_inj.mp
  have := x.toNat_lt
  unfold u32OfInt s32
  split <;> simp <;> omega

theorem s32_u32OfInt (i : Int) (h1 : -2147483648 ≤ i) (h2 : i < 2147483648) :
    s32 (u32OfInt i) = i := by
  unfold u32OfInt s32
  simp
  split <;> omega

theorem s32_eq_zero (x : UInt32) : s32 x = 0 ↔ x = 0 := by
  have h := x.toNat_lt
  constructor
  · intro hx
    apply UInt32.toNat_inj.mp
    unfold s32 at hx
    split at hx <;> simp <;> omega
  · intro hx; subst hx; decide

theorem s32_ofNat_eq_zero (x : Nat) (hx : x < 4294967296) : s32 (UInt32.ofNat x) = 0 ↔ x = 0 := by
  unfold s32
  rw [UInt32.toNat_ofNat', Nat.mod_eq_of_lt hx]
  split <;> omega

end Prim
end EngineModel
