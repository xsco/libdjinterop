/-
Schema 1.x tracks: the values that cross the public API (`track_snapshot`),
the rows the library keeps for one track in the four legacy tables
(Track, MetaData, MetaDataInteger, PerformanceData), and small helpers.

C++ fixed-width integers are carried as bit patterns (`UInt32` = `int`,
`UInt64` = `int64_t` / `unsigned long long` / a double's bits), SQL INTEGER
cells as `Int`, strings as byte lists.  PerformanceData blob columns hold the
*decoded logical value* of the codec (the byte layer is C02–C05's business).
-/
import EngineModel.Basic.F64
import EngineModel.Basic.Prim
import EngineModel.Basic.Res
import EngineModel.Impl.V1

namespace EngineModel
namespace TracksV1

open Impl.V1 (GMarker HotCue LoopV Entry Wave Beat Cues Loops)

abbrev Bits := F64.Bits

inductive Schema where
  | s1_6_0 | s1_7_1 | s1_9_1 | s1_11_1 | s1_13_0 | s1_13_1 | s1_13_2 | s1_15_0 | s1_17_0
  | s1_18_0_desktop | s1_18_0_os
  deriving DecidableEq, Repr, Inhabited

namespace Schema

def all : List Schema :=
  [s1_6_0, s1_7_1, s1_9_1, s1_11_1, s1_13_0, s1_13_1, s1_13_2, s1_15_0, s1_17_0, s1_18_0_desktop,
   s1_18_0_os]

/-- Enumerator order (`operator>=` on `engine_schema`). -/
def ord : Schema → Nat
  | s1_6_0 => 0 | s1_7_1 => 1 | s1_9_1 => 2 | s1_11_1 => 3 | s1_13_0 => 4 | s1_13_1 => 5
  | s1_13_2 => 6 | s1_15_0 => 7 | s1_17_0 => 8 | s1_18_0_desktop => 9 | s1_18_0_os => 10

def name : Schema → String
  | s1_6_0 => "schema_1_6_0" | s1_7_1 => "schema_1_7_1" | s1_9_1 => "schema_1_9_1"
  | s1_11_1 => "schema_1_11_1" | s1_13_0 => "schema_1_13_0" | s1_13_1 => "schema_1_13_1"
  | s1_13_2 => "schema_1_13_2" | s1_15_0 => "schema_1_15_0" | s1_17_0 => "schema_1_17_0"
  | s1_18_0_desktop => "schema_1_18_0_desktop" | s1_18_0_os => "schema_1_18_0_os"

def ofName (n : String) : Option Schema := all.find? (fun x => x.name == n)

/-- `schema >= t`. -/
def ge (s t : Schema) : Bool := decide (t.ord ≤ s.ord)

theorem all_complete (s : Schema) : s ∈ all := by cases s <;> decide

end Schema

/-! ### the public snapshot (25 fields, in the order of `track_snapshot`) -/

structure Snap where
  album : Option Bytes
  artist : Option Bytes
  averageLoudness : Option Bits
  beatgrid : List GMarker
  bitrate : Option UInt32          -- int
  bpm : Option Bits
  comment : Option Bytes
  composer : Option Bytes
  duration : Option UInt64         -- milliseconds::rep (int64)
  fileBytes : Option UInt64        -- unsigned long long
  genre : Option Bytes
  hotCues : List (Option HotCue)
  key : Option UInt32              -- musical_key (int)
  lastPlayedAt : Option UInt64     -- system_clock ticks (ns, int64)
  loops : List (Option LoopV)
  mainCue : Option Bits
  publisher : Option Bytes
  rating : Option UInt32           -- int
  relativePath : Option Bytes
  sampleCount : Option UInt64      -- unsigned long long
  sampleRate : Option Bits
  title : Option Bytes
  trackNumber : Option UInt32      -- int
  waveform : List Entry
  year : Option UInt32             -- int
  deriving Repr, DecidableEq, Inhabited

def Snap.empty : Snap :=
  ⟨none, none, none, [], none, none, none, none, none, none, none, [], none, none, [], none, none, none,
   none, none, none, none, none, [], none⟩

/-- The `Track` row of one track (columns of every 1.x version; a column that a
version does not have stays `none` and is never read or printed for it). -/
structure TrackRow where
  playOrder : Option Int
  length : Option Int
  lengthCalculated : Option Int
  bpm : Option Int
  year : Option Int
  path : Option Bytes
  filename : Option Bytes
  bitrate : Option Int
  bpmAnalyzed : Option Bits
  trackType : Option Int
  isExternalTrack : Option Int
  uuidOfExternalDatabase : Option Bytes
  idTrackInExternalDatabase : Option Int
  idAlbumArt : Option Int
  fileBytes : Option Int           -- ≥ 1.15.0
  pdbImportKey : Option Int        -- ≥ 1.7.1
  uri : Option Bytes               -- ≥ 1.15.0
  isBeatGridLocked : Option Int    -- ≥ 1.18.0
  deriving Repr, DecidableEq, Inhabited

def TrackRow.blank : TrackRow :=
  ⟨none, none, none, none, none, none, none, none, none, none, none, none, none, none, none, none, none, none⟩

/-- The `PerformanceData` row of one track. -/
structure PerfRow where
  isAnalyzed : Int
  isRendered : Int
  trackData : Impl.V1.Track
  hires : Wave
  overview : Wave
  beat : Beat
  cues : Cues
  loops : Loops
  hasSerato : Option Int
  hasRekordbox : Option Int        -- ≥ 1.7.1
  hasTraktor : Option Int          -- ≥ 1.11.1
  deriving Repr, DecidableEq, Inhabited

/-- Everything the four tables hold about one track.  `mstr` / `mint` are the
rows `(type, text)` / `(type, value)` of this id (primary key `(id, type)`, so
at most one row per type; a row may exist with a NULL cell). -/
structure TrackRows where
  track : TrackRow
  mstr : List (Int × Option Bytes)
  mint : List (Int × Option Int)
  perf : Option PerfRow
  deriving Repr, DecidableEq, Inhabited

/-! ### association lists with primary-key semantics -/

section AList
variable {β : Type}

/-- `INSERT OR REPLACE` of one row keyed by `k`. -/
def aset (k : Int) (v : β) : List (Int × β) → List (Int × β)
  | [] => [(k, v)]
  | (k', v') :: r => if k' = k then (k, v) :: r else (k', v') :: aset k v r

/-- `SELECT … WHERE type = k`. -/
def aget (k : Int) : List (Int × β) → Option β
  | [] => none
  | (k', v') :: r => if k' = k then some v' else aget k r

@[simp] theorem aget_nil (k : Int) : aget k ([] : List (Int × β)) = none := rfl

theorem aget_aset_same (k : Int) (v : β) (l : List (Int × β)) : aget k (aset k v l) = some v := by
  induction l with
  | nil => simp [aset, aget]
  | cons h t ih =>
    obtain ⟨k', v'⟩ := h
    by_cases hk : k' = k
    · simp [aset, aget, hk]
    · simp [aset, aget, hk, ih]

theorem aget_aset_other (k k2 : Int) (v : β) (l : List (Int × β)) (h : k2 ≠ k) :
    aget k2 (aset k v l) = aget k2 l := by
  induction l with
  | nil =>
    have : ¬ k = k2 := fun e => h e.symm
    simp [aset, aget, this]
  | cons hd t ih =>
    obtain ⟨k', v'⟩ := hd
    by_cases hk : k' = k
    · have : ¬ k = k2 := fun e => h e.symm
      have h2 : ¬ k' = k2 := by rw [hk]; exact this
      simp [aset, aget, hk, this]
    · by_cases hk2 : k' = k2
      · subst hk2
        simp [aset, hk, aget]
      · simp [aset, hk, aget, hk2, ih]

/-- Several rows written by one multi-row `INSERT OR REPLACE`, left to right. -/
def asetMany (kvs : List (Int × β)) (l : List (Int × β)) : List (Int × β) :=
  kvs.foldl (fun acc kv => aset kv.1 kv.2 acc) l

end AList

def strBytes (s : String) : Bytes := s.toUTF8.toList

/-- `oss << std::setw(2) << std::setfill('0') << i` (right-adjusted). -/
def pad2 (i : Int) : Bytes :=
  let s := strBytes (toString i)
  if s.length < 2 then List.replicate (2 - s.length) 48 ++ s else s

/-- `std::string::rfind(c)`: index of the last occurrence. -/
def rfind (c : UInt8) (s : Bytes) : Option Nat :=
  let rec go : Bytes → Nat → Option Nat → Option Nat
    | [], _, acc => acc
    | x :: r, i, acc => go r (i + 1) (if x = c then some i else acc)
  go s 0 none

/-- `util::get_filename`. -/
def getFilename (p : Bytes) : Bytes :=
  match rfind 47 p with
  | some i => p.drop (i + 1)
  | none => p

/-- `util::get_file_extension` (of the file name part). -/
def getExtension (p : Bytes) : Option Bytes :=
  let f := getFilename p
  match rfind 46 f with
  | some i => some (f.drop (i + 1))
  | none => none

end TracksV1
end EngineModel
