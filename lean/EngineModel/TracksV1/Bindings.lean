/-
The storage bindings the schema-1.x hand model (`Model.lean`, `Accessors.lean`) uses, as EXPLICIT
DATA in the vocabulary of the C++ source (enumerator names, SQL column names, snapshot members,
helper functions), together with theorems — for all rows / snapshots / values — that the model's
definitions ARE these tables read through an explicit naming table (`eval*`, `put*`, `locEq`).

`Proofs/BindingsV1.lean` then decides that the tables regenerated from the working tree of /repo
(`Gen/BindingsV1.lean`, tools/tr_v1bindings.py) are aligned and equal to the tables here.  Nothing
in `Model.lean` / `Accessors.lean` is changed.
-/
import EngineModel.TracksV1.Accessors
import EngineModel.TracksV1.BindTypes

namespace EngineModel.TracksV1.Bind
open EngineModel.TracksV1
open Impl.V1 (Wave Beat Cues Loops)


/-- Where a stored value comes from, end to end: statement operand → parameter of the storage
function → argument of the caller in engine_track_impl.cpp → snapshot. -/
inductive RVal where
  /-- the track id -/
  | id
  /-- `snapshot.<member>` itself (through `optional_static_cast` at most) -/
  | snap (member : String)
  /-- a local of the caller: the helper its initialiser calls, the member of the result that is
  passed on (if any), the snapshot members the initialiser reads -/
  | derived (fn : String) (member : Option String) (deps : List String)
  /-- an integer constant; `none` = NULL / a value-less optional -/
  | const (v : Option Int)
  /-- a text literal -/
  | text (s : String)
  deriving DecidableEq, Repr, Inhabited

/-! ### MetaData (text): the seven string fields -/

inductive StrField where
  | title | artist | album | genre | comment | publisher | composer
  deriving DecidableEq, Repr

namespace StrField

def all : List StrField := [title, artist, album, genre, comment, publisher, composer]

/-- the C++ name: getter, `set_` + setter, snapshot member AND `metadata_str_type` enumerator -/
def name : StrField → String
  | title => "title" | artist => "artist" | album => "album" | genre => "genre" | comment => "comment"
  | publisher => "publisher" | composer => "composer"

/-- the `MetaData.type` number the hand model uses -/
def code : StrField → Int
  | title => 1 | artist => 2 | album => 3 | genre => 4 | comment => 5 | publisher => 6 | composer => 7

def field : StrField → Field
  | title => .title | artist => .artist | album => .album | genre => .genre | comment => .comment
  | publisher => .publisher | composer => .composer

def ofSnap (x : Snap) : StrField → Option Bytes
  | title => x.title | artist => x.artist | album => x.album | genre => x.genre | comment => x.comment
  | publisher => x.publisher | composer => x.composer

theorem mem_all (f : StrField) : f ∈ all := by cases f <;> decide

end StrField

/-- the model's getter of a string field -/
def getStr (o : Fl.FOps) (r : TrackRows) : StrField → Res (Option Bytes)
  | .title => get o r .title | .artist => get o r .artist | .album => get o r .album | .genre => get o r .genre
  | .comment => get o r .comment | .publisher => get o r .publisher | .composer => get o r .composer

/-- the model's setter of a string field -/
def setStr (o : Fl.FOps) (r : TrackRows) : StrField → Option Bytes → Res TrackRows
  | .title, v => set o r .title v | .artist, v => set o r .artist v | .album, v => set o r .album v
  | .genre, v => set o r .genre v | .comment, v => set o r .comment v | .publisher, v => set o r .publisher v
  | .composer, v => set o r .composer v

theorem getStr_eq (o : Fl.FOps) (r : TrackRows) (f : StrField) : getStr o r f = .ok (cell f.code r.mstr) := by
  cases f <;> rfl

theorem setStr_eq (o : Fl.FOps) (r : TrackRows) (f : StrField) (v : Option Bytes) :
    setStr o r f v = .ok { r with mstr := aset f.code v r.mstr } := by
  cases f <;> rfl

theorem strCode_eq (f : StrField) : strCode f.field = some f.code := by cases f <;> rfl

/-! ### MetaDataInteger: the three integer fields -/

inductive IntField where
  | lastPlayedAt | key | rating
  deriving DecidableEq, Repr

namespace IntField

def all : List IntField := [lastPlayedAt, key, rating]

/-- getter / snapshot member -/
def name : IntField → String
  | lastPlayedAt => "last_played_at" | key => "key" | rating => "rating"

/-- `metadata_int_type` enumerator -/
def enumerator : IntField → String
  | lastPlayedAt => "last_played_ts" | key => "musical_key" | rating => "rating"

def code : IntField → Int
  | lastPlayedAt => 1 | key => 4 | rating => 5

theorem mem_all (f : IntField) : f ∈ all := by cases f <;> decide

end IntField

theorem getInt_eq (o : Fl.FOps) (r : TrackRows) :
    get o r .lastPlayedAt = optMulU 1000000000 (cell IntField.lastPlayedAt.code r.mint) ∧
    get o r .key = .ok ((cell IntField.key.code r.mint).map Prim.u32OfInt) ∧
    get o r .rating = .ok ((cell IntField.rating.code r.mint).map Prim.u32OfInt) :=
  ⟨rfl, rfl, rfl⟩

theorem setInt_eq (o : Fl.FOps) (r : TrackRows) (t : Option UInt64) (k v : Option UInt32) :
    set o r .lastPlayedAt t =
      .ok { r with mstr := aset 12 (some (if t.isSome then [49] else [48])) r.mstr,
                   mint := aset IntField.lastPlayedAt.code (t.map toTimestamp) r.mint } ∧
    set o r .key k =
      ((setTrackCol r { colTrack r with key := k.bind fun x => if x = 0 then none else some x }).bind fun r' =>
        .ok { r' with mint := aset IntField.key.code (k.map Prim.s32) r'.mint }) ∧
    set o r .rating v = .ok { r with mint := aset IntField.rating.code (v.map clampRating) r.mint } :=
  ⟨rfl, rfl, rfl⟩

/-! ### the bulk statements of create_track / update

On the model side sources and columns are small enumerations (so that the theorems below are closed by
`rfl`); `.rval` / `.name` are the naming table into the vocabulary of the C++ source. -/

def lenDeps : List String := ["duration", "sample_count", "sample_rate"]

/-- sources of the bulk `MetaData` statement -/
inductive SSrc where
  | field (f : StrField) | mmss | everPlayed | ext | one | null
  deriving DecidableEq, Repr

def SSrc.rval : SSrc → RVal
  | .field f => .snap f.name
  | .mmss => .derived "to_length_fields" (some "length_mm_ss") lenDeps
  | .everPlayed => .derived "to_timestamp_fields" (some "ever_played") ["last_played_at"]
  | .ext => .derived "get_file_extension" none ["relative_path"]
  | .one => .text "1"
  | .null => .const none

/-- `set_meta_data` (bulk): `(type, value)` per VALUES tuple, in statement order -/
def bulkStrH (s : Schema) : List (Int × SSrc) :=
  [(1, .field .title), (2, .field .artist), (3, .field .album), (4, .field .genre), (5, .field .comment),
   (6, .field .publisher), (7, .field .composer), (8, .null), (9, .null), (10, .mmss), (12, .everPlayed), (13, .ext),
   (15, .one), (16, .one)] ++ (if s.ge .s1_15_0 then [(17, .null)] else [])

def bulkStr (s : Schema) : List (Int × RVal) := (bulkStrH s).map fun p => (p.1, p.2.rval)

/-- sources of the bulk `MetaDataInteger` statement (`last_modified_at_ts`, `last_accessed_at_ts` are always
value-less: `to_timestamp_fields` returns `nullopt` for them; `last_play_hash` is default-constructed) -/
inductive ISrc where
  | key | rating | lastPlayed | lastModified | lastAccessed | lastPlayHash | const (n : Int) | null
  deriving DecidableEq, Repr

def ISrc.rval : ISrc → RVal
  | .key => .derived "to_key_num" none ["key"]
  | .rating => .derived "" none ["rating"]
  | .lastPlayed => .derived "to_timestamp_fields" (some "last_played_at_ts") ["last_played_at"]
  | .lastModified => .derived "to_timestamp_fields" (some "last_modified_at_ts") ["last_played_at"]
  | .lastAccessed => .derived "to_timestamp_fields" (some "last_accessed_at_ts") ["last_played_at"]
  | .lastPlayHash => .derived "" none []
  | .const n => .const (some n)
  | .null => .const none

/-- `set_meta_data_integer` (bulk) -/
def bulkIntH (s : Schema) : List (Int × ISrc) :=
  [(4, .key), (5, .rating), (1, .lastPlayed), (2, .lastModified), (3, .lastAccessed), (6, .null), (8, .null),
   (7, .null), (9, .null), (10, .lastPlayHash), (11, .const 1)] ++ (if s.ge .s1_11_1 then [(12, .const 1)] else [])

def bulkInt (s : Schema) : List (Int × RVal) := (bulkIntH s).map fun p => (p.1, p.2.rval)

/-- naming table, text values: what each source denotes in `assemble` -/
def evalText (x : Snap) (mmssV everPlayed ext : Option Bytes) : SSrc → Option Bytes
  | .field f => f.ofSnap x
  | .mmss => mmssV
  | .everPlayed => everPlayed
  | .ext => ext
  | .one => oneText
  | .null => none

/-- naming table, integer values -/
def evalInt (key rating lastPlayed : Option Int) : ISrc → Option Int
  | .key => key
  | .rating => rating
  | .lastPlayed => lastPlayed
  | .const n => some n
  | _ => none

theorem metaBulk_eq (s : Schema) (x : Snap) (m e ext : Option Bytes) :
    metaBulk s x m e ext = (bulkStrH s).map fun p => (p.1, evalText x m e ext p.2) := by
  unfold metaBulk bulkStrH
  cases s.ge .s1_15_0 <;> rfl

theorem metaIntBulk_eq (s : Schema) (key rating lastPlayed : Option Int) :
    metaIntBulk s key rating lastPlayed = (bulkIntH s).map fun p => (p.1, evalInt key rating lastPlayed p.2) := by
  unfold metaIntBulk bulkIntH
  cases s.ge .s1_11_1 <;> rfl

inductive TCol where
  | playOrder | length | lengthCalculated | bpm | year | path | filename | bitrate | bpmAnalyzed | trackType
  | isExternalTrack | uuidOfExternalDatabase | idTrackInExternalDatabase | idAlbumArt | fileBytes | pdbImportKey | uri
  | isBeatGridLocked
  deriving DecidableEq, Repr

/-- the SQL column name -/
def TCol.name : TCol → String
  | .playOrder => "playOrder" | .length => "length" | .lengthCalculated => "lengthCalculated" | .bpm => "bpm"
  | .year => "year" | .path => "path" | .filename => "filename" | .bitrate => "bitrate" | .bpmAnalyzed => "bpmAnalyzed"
  | .trackType => "trackType" | .isExternalTrack => "isExternalTrack"
  | .uuidOfExternalDatabase => "uuidOfExternalDatabase" | .idTrackInExternalDatabase => "idTrackInExternalDatabase"
  | .idAlbumArt => "idAlbumArt" | .fileBytes => "fileBytes" | .pdbImportKey => "pdbImportKey" | .uri => "uri"
  | .isBeatGridLocked => "isBeatGridLocked"

/-- the member of `track_row` (= parameter of `create_track`, by position) a column is read into -/
def TCol.member : TCol → String
  | .playOrder => "play_order" | .length => "length" | .lengthCalculated => "length_calculated" | .bpm => "bpm"
  | .year => "year" | .path => "relative_path" | .filename => "filename" | .bitrate => "bitrate"
  | .bpmAnalyzed => "bpm_analyzed" | .trackType => "track_type" | .isExternalTrack => "is_external_track"
  | .uuidOfExternalDatabase => "uuid_of_external_database"
  | .idTrackInExternalDatabase => "id_track_in_external_database" | .idAlbumArt => "album_art_id"
  | .fileBytes => "file_bytes" | .pdbImportKey => "pdb_import_key" | .uri => "uri"
  | .isBeatGridLocked => "is_beatgrid_locked"

def TCol.all : List TCol :=
  [.playOrder, .length, .lengthCalculated, .bpm, .year, .path, .filename, .bitrate, .bpmAnalyzed, .trackType,
   .isExternalTrack, .uuidOfExternalDatabase, .idTrackInExternalDatabase, .idAlbumArt, .fileBytes, .pdbImportKey, .uri,
   .isBeatGridLocked]

/-- SQL column ↔ member of `track_row` -/
def trackColMember : List (String × String) := TCol.all.map fun c => (c.name, c.member)

inductive TSrc where
  | trackNumber | length | lengthCalc | bpmInt | bpmAnalyzed | year | path | filename | bitrate | fileBytes
  | const (n : Int) | null
  deriving DecidableEq, Repr

def TSrc.rval : TSrc → RVal
  | .trackNumber => .derived "" none ["track_number"]
  | .length => .derived "to_length_fields" (some "length") lenDeps
  | .lengthCalc => .derived "to_length_fields" (some "length_calculated") lenDeps
  | .bpmInt => .derived "to_bpm_fields" (some "bpm") ["bpm"]
  | .bpmAnalyzed => .derived "to_bpm_fields" (some "bpm_analyzed") ["bpm"]
  | .year => .derived "" none ["year"]
  | .path => .snap "relative_path"
  | .filename => .derived "get_filename" none ["relative_path"]
  | .bitrate => .snap "bitrate"
  | .fileBytes => .snap "file_bytes"
  | .const n => .const (some n)
  | .null => .const none

/-- `create_track` / `update_track`: column ← source, for the columns the statement of schema `s` names -/
def trackColsH (s : Schema) : List (TCol × TSrc) :=
  [(.playOrder, .trackNumber), (.length, .length), (.lengthCalculated, .lengthCalc), (.bpm, .bpmInt), (.year, .year),
   (.path, .path), (.filename, .filename), (.bitrate, .bitrate), (.bpmAnalyzed, .bpmAnalyzed), (.trackType, .const 1),
   (.isExternalTrack, .const 0), (.uuidOfExternalDatabase, .null), (.idTrackInExternalDatabase, .null),
   (.idAlbumArt, .const 1)] ++
  (if s.ge .s1_15_0 then [(.fileBytes, .fileBytes)] else []) ++
  (if s.ge .s1_7_1 then [(.pdbImportKey, .const 0)] else []) ++
  (if s.ge .s1_15_0 then [(.uri, .null)] else []) ++
  (if s.ge .s1_18_0_desktop then [(.isBeatGridLocked, .const 0)] else [])

def trackCols (s : Schema) : List (String × RVal) := (trackColsH s).map fun p => (p.1.name, p.2.rval)

inductive Cell where
  | null
  | int (v : Option Int)
  | text (v : Option Bytes)
  | real (v : Option Bits)

/-- naming table, `Track` values: what each source denotes in `writeTrackRow` -/
def evalTrack (x : Snap) (path : Bytes) (len lenCalc bpmI : Option Int) : TSrc → Cell
  | .trackNumber => .int (x.trackNumber.map Prim.s32)
  | .length => .int len
  | .lengthCalc => .int lenCalc
  | .bpmInt => .int bpmI
  | .bpmAnalyzed => .real (x.bpm.bind Fl.realCell)
  | .year => .int (x.year.map Prim.s32)
  | .path => .text (some path)
  | .filename => .text (some (getFilename path))
  | .bitrate => .int (x.bitrate.map Prim.s32)
  | .fileBytes => .int (x.fileBytes.map Prim.s64)
  | .const n => .int (some n)
  | .null => .null

/-- naming table, `Track` columns: column → field of the model's `TrackRow` -/
def putTrack (t : TrackRow) : TCol → Cell → TrackRow
  | .playOrder, .int v => { t with playOrder := v }
  | .length, .int v => { t with length := v }
  | .lengthCalculated, .int v => { t with lengthCalculated := v }
  | .bpm, .int v => { t with bpm := v }
  | .year, .int v => { t with year := v }
  | .path, .text v => { t with path := v }
  | .filename, .text v => { t with filename := v }
  | .bitrate, .int v => { t with bitrate := v }
  | .bpmAnalyzed, .real v => { t with bpmAnalyzed := v }
  | .trackType, .int v => { t with trackType := v }
  | .isExternalTrack, .int v => { t with isExternalTrack := v }
  | .uuidOfExternalDatabase, .null => { t with uuidOfExternalDatabase := none }
  | .idTrackInExternalDatabase, .null => { t with idTrackInExternalDatabase := none }
  | .idAlbumArt, .int v => { t with idAlbumArt := v }
  | .fileBytes, .int v => { t with fileBytes := v }
  | .pdbImportKey, .int v => { t with pdbImportKey := v }
  | .uri, .null => { t with uri := none }
  | .isBeatGridLocked, .int v => { t with isBeatGridLocked := v }
  | _, _ => t

theorem writeTrackRow_eq (s : Schema) (prior : TrackRow) (x : Snap) (path : Bytes) (len lenCalc bpmI : Option Int) :
    writeTrackRow s prior x path len lenCalc bpmI =
      (trackColsH s).foldl (fun t cv => putTrack t cv.1 (evalTrack x path len lenCalc bpmI cv.2)) prior := by
  unfold writeTrackRow trackColsH
  simp only [List.foldl_append, List.foldl_cons, List.foldl_nil, putTrack, evalTrack]
  cases s.ge .s1_15_0 <;> cases s.ge .s1_7_1 <;> cases s.ge .s1_18_0_desktop <;> rfl

/-- `get_track` + `snapshot()`: the snapshot members that come from `Track` columns (column, snapshot member) -/
def trackReadsH (s : Schema) : List (TCol × String) :=
  [(.bitrate, "bitrate"), (.bpmAnalyzed, "bpm"), (.bpm, "bpm"), (.length, "duration"), (.path, "relative_path"),
   (.playOrder, "track_number"), (.year, "year")] ++ (if s.ge .s1_15_0 then [(.fileBytes, "file_bytes")] else [])

def tdDeps : List String := ["sample_count", "sample_rate", "average_loudness", "key"]
def wfDeps : List String := ["sample_count", "sample_rate", "waveform"]

inductive PCol where
  | id | isAnalyzed | isRendered | trackData | hires | overview | beatData | quickCues | loops | hasSerato
  | hasRekordbox | hasTraktor
  deriving DecidableEq, Repr

def PCol.name : PCol → String
  | .id => "id" | .isAnalyzed => "isAnalyzed" | .isRendered => "isRendered" | .trackData => "trackData"
  | .hires => "highResolutionWaveFormData" | .overview => "overviewWaveFormData" | .beatData => "beatData"
  | .quickCues => "quickCues" | .loops => "loops" | .hasSerato => "hasSeratoValues"
  | .hasRekordbox => "hasRekordboxValues" | .hasTraktor => "hasTraktorValues"

/-- the member of `performance_data_row` (= parameter of `set_performance_data`, by position) -/
def PCol.member : PCol → String
  | .id => "id" | .isAnalyzed => "is_analyzed" | .isRendered => "is_rendered" | .trackData => "track_performance_data"
  | .hires => "high_res_waveform" | .overview => "overview_waveform" | .beatData => "beats" | .quickCues => "quick_cues"
  | .loops => "loops" | .hasSerato => "has_serato_values" | .hasRekordbox => "has_rekordbox_values"
  | .hasTraktor => "has_traktor_values"

def PCol.all : List PCol :=
  [.id, .isAnalyzed, .isRendered, .trackData, .hires, .overview, .beatData, .quickCues, .loops, .hasSerato,
   .hasRekordbox, .hasTraktor]

def perfColMember : List (String × String) := PCol.all.map fun c => (c.name, c.member)

inductive PSrc where
  | id | const (n : Int) | trackData | hires | overview | beat | cues | loops
  deriving DecidableEq, Repr

def PSrc.rval : PSrc → RVal
  | .id => .id
  | .const n => .const (some n)
  | .trackData => .derived "to_track_data" none tdDeps
  | .hires => .derived "to_high_res_waveform_data" none wfDeps
  | .overview => .derived "to_overview_waveform_data" none wfDeps
  | .beat => .derived "to_beat_data" none ["sample_count", "sample_rate", "beatgrid"]
  | .cues => .derived "to_cues_data" none ["hot_cues", "main_cue"]
  | .loops => .derived "to_loops_data" none ["loops"]

/-- `set_performance_data`: column ← source -/
def perfColsH (s : Schema) : List (PCol × PSrc) :=
  [(.id, .id), (.isAnalyzed, .const 1), (.isRendered, .const 0), (.trackData, .trackData), (.hires, .hires),
   (.overview, .overview), (.beatData, .beat), (.quickCues, .cues), (.loops, .loops), (.hasSerato, .const 0)] ++
  (if s.ge .s1_7_1 then [(.hasRekordbox, .const 0)] else []) ++
  (if s.ge .s1_11_1 then [(.hasTraktor, .const 0)] else [])

def perfCols (s : Schema) : List (String × RVal) := (perfColsH s).map fun p => (p.1.name, p.2.rval)

inductive PCell where
  | none
  | int (v : Int)
  | track (v : Impl.V1.Track)
  | wave (v : Wave)
  | beat (v : Beat)
  | cues (v : Cues)
  | loops (v : Loops)

/-- naming table, PerformanceData values: what each source denotes in `assemble` (the value-level codec
effect `norm*` of the blob the helper built) -/
def evalPerf (x : Snap) (ovw hires : Wave) (beat' : Beat) (cues' : Cues) (loops' : Loops) : PSrc → PCell
  | .trackData => .track (normTrack ⟨x.sampleRate, x.sampleCount, x.averageLoudness, x.key⟩)
  | .hires => .wave (normHires hires)
  | .overview => .wave (normOvw ovw)
  | .beat => .beat beat'
  | .cues => .cues cues'
  | .loops => .loops loops'
  | .const n => .int n
  | .id => .none

/-- naming table, PerformanceData columns -/
def putPerf (p : PerfRow) : PCol → PCell → PerfRow
  | .isAnalyzed, .int v => { p with isAnalyzed := v }
  | .isRendered, .int v => { p with isRendered := v }
  | .trackData, .track v => { p with trackData := v }
  | .hires, .wave v => { p with hires := v }
  | .overview, .wave v => { p with overview := v }
  | .beatData, .beat v => { p with beat := v }
  | .quickCues, .cues v => { p with cues := v }
  | .loops, .loops v => { p with loops := v }
  | .hasSerato, .int v => { p with hasSerato := some v }
  | .hasRekordbox, .int v => { p with hasRekordbox := some v }
  | .hasTraktor, .int v => { p with hasTraktor := some v }
  | _, _ => p

def blankPerf : PerfRow :=
  ⟨0, 0, ⟨none, none, none, none⟩, ⟨F64.zero, []⟩, ⟨F64.zero, []⟩, ⟨none, none, [], []⟩, ⟨[], F64.zero, F64.zero⟩, [],
   none, none, none⟩

theorem assemble_perf_eq (s : Schema) (x : Snap) (prior : Option TrackRows) (path : Bytes) (lenCalc bpmI : Option Int)
    (ovw hires : Wave) (beat' : Beat) (cues' : Cues) (loops' : Loops) :
    (assemble s x prior path lenCalc bpmI ovw hires beat' cues' loops').perf =
      some ((perfColsH s).foldl (fun p cv => putPerf p cv.1 (evalPerf x ovw hires beat' cues' loops' cv.2)) blankPerf) := by
  unfold assemble perfColsH
  cases s.ge .s1_7_1 <;> cases s.ge .s1_11_1 <;> rfl

/-- whole seconds of `to_length_fields` -/
def lenOf (x : Snap) : Option Int := x.duration.map fun d => tdivPos (Prim.s64 d) 1000

theorem assemble_track_eq (s : Schema) (x : Snap) (prior : Option TrackRows) (path : Bytes) (lenCalc bpmI : Option Int)
    (ovw hires : Wave) (beat' : Beat) (cues' : Cues) (loops' : Loops) :
    (assemble s x prior path lenCalc bpmI ovw hires beat' cues' loops').track =
      (trackColsH s).foldl (fun t cv => putTrack t cv.1 (evalTrack x path (lenOf x) lenCalc bpmI cv.2))
        (prior.getD blankRows).track :=
  writeTrackRow_eq s (prior.getD blankRows).track x path (lenOf x) lenCalc bpmI

theorem assemble_mstr_eq (s : Schema) (x : Snap) (prior : Option TrackRows) (path : Bytes) (lenCalc bpmI : Option Int)
    (ovw hires : Wave) (beat' : Beat) (cues' : Cues) (loops' : Loops) :
    (assemble s x prior path lenCalc bpmI ovw hires beat' cues' loops').mstr =
      asetMany ((bulkStrH s).map fun q => (q.1, evalText x ((lenOf x).map mmss)
        (if x.lastPlayedAt.isSome then oneText else none) (getExtension (getFilename path)) q.2))
        (prior.getD blankRows).mstr := by
  simp only [assemble, metaBulk_eq, lenOf]

theorem assemble_mint_eq (s : Schema) (x : Snap) (prior : Option TrackRows) (path : Bytes) (lenCalc bpmI : Option Int)
    (ovw hires : Wave) (beat' : Beat) (cues' : Cues) (loops' : Loops) :
    (assemble s x prior path lenCalc bpmI ovw hires beat' cues' loops').mint =
      asetMany ((bulkIntH s).map fun q => (q.1, evalInt (x.key.map Prim.s32) (x.rating.map clampRating)
        (x.lastPlayedAt.map toTimestamp) q.2)) (prior.getD blankRows).mint := by
  simp only [assemble, metaIntBulk_eq]

/-! ### getters / setters: which storage locations each one touches -/

/-- the C++ member function of a field's getter (the setter is `"set_" ++` this) -/
def cxxName : Field → String
  | .album => "album" | .artist => "artist" | .averageLoudness => "average_loudness" | .beatgrid => "beatgrid"
  | .bitrate => "bitrate" | .bpm => "bpm" | .comment => "comment" | .composer => "composer" | .duration => "duration"
  | .genre => "genre" | .hotCues => "hot_cues" | .hotCueAt _ => "hot_cue_at" | .key => "key"
  | .lastPlayedAt => "last_played_at" | .loops => "loops" | .loopAt _ => "loop_at" | .mainCue => "main_cue"
  | .publisher => "publisher" | .rating => "rating" | .relativePath => "relative_path" | .sampleCount => "sample_count"
  | .sampleRate => "sample_rate" | .title => "title" | .trackNumber => "track_number" | .waveform => "waveform"
  | .year => "year"

/-- one representative per getter / setter of the public API (slot accessors at index 0) -/
def Field.reps : List Field :=
  [.album, .artist, .averageLoudness, .beatgrid, .bitrate, .bpm, .comment, .composer, .duration, .genre, .hotCues,
   .hotCueAt 0, .key, .lastPlayedAt, .loops, .loopAt 0, .mainCue, .publisher, .rating, .relativePath, .sampleCount,
   .sampleRate, .title, .trackNumber, .waveform, .year]

/-- a storage location of the model rows -/
inductive Loc where
  | str (code : Int) | int (code : Int) | col (c : TCol) | perf (c : PCol)
  deriving DecidableEq, Repr

/-- the enumerator tables of the hand model (name, number), to be compared with the header -/
def strEnumHand : List (String × Int) :=
  [("title", 1), ("artist", 2), ("album", 3), ("genre", 4), ("comment", 5), ("publisher", 6), ("composer", 7),
   ("unknown_8", 8), ("unknown_9", 9), ("duration_mm_ss", 10), ("ever_played", 12), ("file_extension", 13),
   ("unknown_15", 15), ("unknown_16", 16), ("unknown_17", 17)]

def intEnumHand : List (String × Int) :=
  [("last_played_ts", 1), ("last_modified_ts", 2), ("last_accessed_ts", 3), ("musical_key", 4), ("rating", 5),
   ("unknown_6", 6), ("unknown_7", 7), ("unknown_8", 8), ("unknown_9", 9), ("last_play_hash", 10), ("unknown_11", 11),
   ("unknown_12", 12)]

def nameOf (tbl : List (String × Int)) (n : Int) : String := ((tbl.find? fun p => p.2 == n).map (·.1)).getD "?"

/-- naming table: a location as a read / write access in the vocabulary of the source -/
def Loc.read : Loc → Acc
  | .str n => .getStr (nameOf strEnumHand n) | .int n => .getInt (nameOf intEnumHand n)
  | .col c => .getCol c.name | .perf c => .getPerf c.name

def Loc.write : Loc → Acc
  | .str n => .setStr (nameOf strEnumHand n) | .int n => .setInt (nameOf intEnumHand n)
  | .col c => .setCol c.name | .perf c => .setPerf c.name

/-- the storage locations the model's getter reads -/
def fieldReadsH : Field → List Loc
  | .album => [.str 3] | .artist => [.str 2] | .comment => [.str 5] | .composer => [.str 7] | .genre => [.str 4]
  | .publisher => [.str 6] | .title => [.str 1]
  | .key => [.int 4] | .lastPlayedAt => [.int 1] | .rating => [.int 5]
  | .bitrate => [.col .bitrate] | .bpm => [.col .bpmAnalyzed, .col .bpm] | .duration => [.col .length]
  | .relativePath => [.col .path] | .trackNumber => [.col .playOrder] | .year => [.col .year]
  | .averageLoudness | .sampleCount | .sampleRate => [.perf .trackData]
  | .beatgrid => [.perf .beatData]
  | .hotCues | .hotCueAt _ | .mainCue => [.perf .quickCues]
  | .loops | .loopAt _ => [.perf .loops]
  | .waveform => [.perf .hires]

/-- the storage locations the model's setter writes -/
def fieldWritesH : Field → List Loc
  | .album => [.str 3] | .artist => [.str 2] | .comment => [.str 5] | .composer => [.str 7] | .genre => [.str 4]
  | .publisher => [.str 6] | .title => [.str 1]
  | .key => [.perf .trackData, .int 4]
  | .lastPlayedAt => [.str 12, .int 1]
  | .rating => [.int 5]
  | .bitrate => [.col .bitrate] | .bpm => [.col .bpmAnalyzed, .col .bpm]
  | .duration => [.col .length, .str 10]
  | .relativePath => [.col .path, .col .filename, .str 13]
  | .trackNumber => [.col .playOrder] | .year => [.col .year]
  | .averageLoudness => [.perf .trackData]
  | .sampleCount => [.col .lengthCalculated, .perf .beatData, .perf .trackData, .perf .overview]
  | .sampleRate => [.col .lengthCalculated, .perf .beatData, .perf .trackData, .perf .hires, .perf .overview]
  | .beatgrid => [.perf .beatData]
  | .hotCues | .hotCueAt _ | .mainCue => [.perf .quickCues]
  | .loops | .loopAt _ => [.perf .loops]
  | .waveform => [.perf .overview, .perf .hires]

def fieldReads (f : Field) : List Acc := (fieldReadsH f).map Loc.read
def fieldWrites (f : Field) : List Acc := (fieldWritesH f).map Loc.write

/-- naming table, locations: two row sets agree at a storage location -/
def trackColEq (t t' : TrackRow) : TCol → Prop
  | .playOrder => t.playOrder = t'.playOrder | .length => t.length = t'.length
  | .lengthCalculated => t.lengthCalculated = t'.lengthCalculated | .bpm => t.bpm = t'.bpm | .year => t.year = t'.year
  | .path => t.path = t'.path | .filename => t.filename = t'.filename | .bitrate => t.bitrate = t'.bitrate
  | .bpmAnalyzed => t.bpmAnalyzed = t'.bpmAnalyzed | .trackType => t.trackType = t'.trackType
  | .isExternalTrack => t.isExternalTrack = t'.isExternalTrack
  | .uuidOfExternalDatabase => t.uuidOfExternalDatabase = t'.uuidOfExternalDatabase
  | .idTrackInExternalDatabase => t.idTrackInExternalDatabase = t'.idTrackInExternalDatabase
  | .idAlbumArt => t.idAlbumArt = t'.idAlbumArt | .fileBytes => t.fileBytes = t'.fileBytes
  | .pdbImportKey => t.pdbImportKey = t'.pdbImportKey | .uri => t.uri = t'.uri
  | .isBeatGridLocked => t.isBeatGridLocked = t'.isBeatGridLocked

def perfColEq (r r' : TrackRows) : PCol → Prop
  | .trackData => colTrack r = colTrack r'
  | .beatData => colBeat r = colBeat r'
  | .quickCues => colCues r = colCues r'
  | .loops => colLoops r = colLoops r'
  | .hires => colHires r = colHires r'
  | .overview => colOvw r = colOvw r'
  | .id => True
  | .isAnalyzed => r.perf.map (·.isAnalyzed) = r'.perf.map (·.isAnalyzed)
  | .isRendered => r.perf.map (·.isRendered) = r'.perf.map (·.isRendered)
  | .hasSerato => r.perf.map (·.hasSerato) = r'.perf.map (·.hasSerato)
  | .hasRekordbox => r.perf.map (·.hasRekordbox) = r'.perf.map (·.hasRekordbox)
  | .hasTraktor => r.perf.map (·.hasTraktor) = r'.perf.map (·.hasTraktor)

def locEq (r r' : TrackRows) : Loc → Prop
  | .str n => aget n r.mstr = aget n r'.mstr
  | .int n => aget n r.mint = aget n r'.mint
  | .col c => trackColEq r.track r'.track c
  | .perf c => perfColEq r r' c

def locEqAll (r r' : TrackRows) : List Loc → Prop
  | [] => True
  | l :: t => locEq r r' l ∧ locEqAll r r' t

theorem get_reads_only (o : Fl.FOps) (r r' : TrackRows) (f : Field) (h : locEqAll r r' (fieldReadsH f)) :
    get o r f = get o r' f := by
  -- a getter reads one location, `bpm` two
  cases f <;> simp only [fieldReadsH, locEqAll, locEq, trackColEq, perfColEq, and_true] at h <;>
    simp only [get, cell] <;> first
    | rw [h]
    | (obtain ⟨h1, h2⟩ := h; rw [h1, h2])

end EngineModel.TracksV1.Bind
