/-
Model of `zlib_compress` (src/djinterop/engine/encode_decode_utils.cpp:122-184):
the 4-byte big-endian length prefix and the two nested `do … while` loops around
`deflate()`, statement by statement, over an *abstract* deflate oracle (zlib
itself is not modelled — only what the caller hands to it and what it does with
the answers).  The C++ ignores `deflate`'s return code; so does the model (the
code is carried along only so that theorems can talk about `Z_STREAM_END`).

    do {                                              -- outer
        strm.next_in = ptr;
        if (ptr + chunk_size < end) { avail_in = chunk_size; flush = Z_NO_FLUSH; }
        else                        { avail_in = end - ptr;  flush = Z_FINISH;   }
        ptr += strm.avail_in;
        do {                                          -- inner
            next_out = out; avail_out = chunk_size;
            deflate(&strm, flush);
            have = chunk_size - strm.avail_out;
            compressed.insert(compressed.end(), out, out + have);
        } while (strm.avail_out == 0);
    } while (flush != Z_FINISH);
-/
import EngineModel.Impl.Zlib

namespace EngineModel
namespace Impl
namespace Zlib

inductive Flush where
  | noFlush | finish
  deriving Repr, DecidableEq, Inhabited

/-- What one call `deflate(&strm, flush)` answers, given the stream state, the
input window `[next_in, next_in + avail_in)`, `avail_out` and the flush mode:
return code, bytes consumed, bytes produced, new state. -/
structure DOracle (σ : Type) where
  step : σ → Bytes → Nat → Flush → Ret × Nat × Bytes × σ

/-- One recorded call: what the loops asked for and what they got. -/
structure DCall where
  flush : Flush
  availIn : Nat
  consumed : Nat
  out : Bytes
  ret : Ret
  deriving Repr, Inhabited

inductive CPhase where
  | outer
  | inner (win : Bytes) (flush : Flush)
  deriving Repr, Inhabited

/-- The loops.  One unit of fuel per outer-loop head and per `deflate` call.
`ptr` indexes the input vector; `acc` is `compressed` after the 4-byte prefix;
`log` (reversed) records every call. -/
def cloop {σ} (o : DOracle σ) (buf : Bytes) :
    Nat → σ → Nat → CPhase → Bytes → List DCall → Res (Bytes × List DCall)
  | 0, _, _, _, _, _ => .ub .nontermination
  | fuel + 1, s, ptr, .outer, acc, log =>
    -- if (ptr + chunk_size < end) { avail_in = chunk_size; flush = Z_NO_FLUSH } else { end - ptr; Z_FINISH }
    let more := decide (ptr + chunk < buf.length)
    let avail := if more then chunk else buf.length - ptr
    let flush := if more then Flush.noFlush else Flush.finish
    cloop o buf fuel s (ptr + avail) (.inner ((buf.drop ptr).take avail) flush) acc log
  | fuel + 1, s, ptr, .inner win flush, acc, log =>
    match o.step s win chunk flush with
    | (ret, consumed, out, s') =>
      let acc' := acc ++ out
      let log' := (⟨flush, win.length, consumed, out, ret⟩ : DCall) :: log
      if out.length = chunk then cloop o buf fuel s' ptr (.inner (win.drop consumed) flush) acc' log'   -- avail_out == 0
      else if flush = .finish then .ok (acc', log'.reverse)
      else cloop o buf fuel s' ptr .outer acc' log'

/-- 4-byte big-endian prefix: `encode_int32_be(static_cast<int32_t>(size))`. -/
def lenPrefix (n : Nat) : Bytes := Prim.encU32BE (UInt32.ofNat n)

/-- `zlib_compress(uncompressed)`: prefix, then everything the loops collect.
Returns the blob and the call log.

`auto* ptr = &uncompressed[0];` — `operator[]` on an EMPTY vector violates its precondition
(`__n < this->size()`; an abort under `_GLIBCXX_ASSERTIONS`, which is how the harness is built), so the
empty payload is `ub oob_index`.  No codec reaches it: every payload handed to `zlib_compress` has at
least 25 bytes (`Proofs/PayloadNonempty.lean`, `encode*_len`). -/
def compress {σ} (o : DOracle σ) (s0 : σ) (fuel : Nat) (buf : Bytes) : Res (Bytes × List DCall) :=
  if buf.length = 0 then .ub .oob_index else
  match cloop o buf fuel s0 0 .outer [] [] with
  | .ok (acc, log) => .ok (lenPrefix buf.length ++ acc, log)
  | .throw e => .throw e
  | .ub u => .ub u

end Zlib
end Impl
end EngineModel
