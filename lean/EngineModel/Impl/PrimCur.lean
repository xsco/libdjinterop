/-
The primitive readers / writers REGENERATED from encode_decode_utils.hpp (Gen/PrimGen.lean, tools/tr_prim.py),
given the cursor-monad types the blob-codec models use: a reader is a `Cur` action (fewer bytes than the
primitive needs = `ub oob_read`, as for `Cur.rd`), a writer returns the bytes stored through `ptr`.
Same names and types as the hand-written stand-in `CxxPrims` (Impl/CxxPrims.lean), so that generated blob
codecs can be pointed at either; the agreement lemmas (`PrimCur.*_eq`, Proofs/PrimGen.lean) have the same
names and statements as `CxxPrims.*_eq`.
-/
import EngineModel.Impl.Cursor
import EngineModel.Gen.PrimGen

namespace EngineModel
namespace PrimCur

/-- a generated decoder (`none` = access outside the buffer) as a cursor action -/
def ofGen {α} (d : List UInt8 → Option (α × List UInt8)) : Cur α := fun bs =>
  match d bs with
  | some p => .ok p
  | none => .ub .oob_read

def decode_uint8 : Cur UInt8 := ofGen Gen.Prim.decode_uint8
def decode_int32_le : Cur UInt32 := ofGen Gen.Prim.decode_int32_le
def decode_int32_be : Cur UInt32 := ofGen Gen.Prim.decode_int32_be
def decode_int64_le : Cur UInt64 := ofGen Gen.Prim.decode_int64_le
def decode_int64_be : Cur UInt64 := ofGen Gen.Prim.decode_int64_be
def decode_double_le : Cur UInt64 := ofGen Gen.Prim.decode_double_le
def decode_double_be : Cur UInt64 := ofGen Gen.Prim.decode_double_be

def encode_uint8 (v : UInt8) : Bytes := Gen.Prim.encode_uint8 v
def encode_int32_le (v : UInt32) : Bytes := Gen.Prim.encode_int32_le v
def encode_int32_be (v : UInt32) : Bytes := Gen.Prim.encode_int32_be v
def encode_int64_le (v : UInt64) : Bytes := Gen.Prim.encode_int64_le v
def encode_int64_be (v : UInt64) : Bytes := Gen.Prim.encode_int64_be v
def encode_double_le (v : UInt64) : Bytes := Gen.Prim.encode_double_le v
def encode_double_be (v : UInt64) : Bytes := Gen.Prim.encode_double_be v

end PrimCur
end EngineModel
