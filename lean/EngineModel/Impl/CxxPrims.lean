/-
The primitive byte readers / writers of src/djinterop/engine/encode_decode_utils.hpp,
written from the C++ operator by operator (shifts, masks, ors on the bit
patterns; the `>>` of a signed value as a logical shift, which the `& 0xFF` or the
truncation behind it makes the same byte) — *not* through the Spec's primitive codecs (Format/Codec.lean,
Basic/Prim.lean).  The generated blob codecs (Gen/ImplV2Gen.lean) read and write
through these; that they agree with the Spec's primitives is a theorem
(Proofs/CxxPrimsLemmas.lean), not a definition.

Integers are carried as bit patterns (`int32_t` ↦ `UInt32`, `int64_t` ↦ `UInt64`,
`double` ↦ the `UInt64` of its bits: the C++ `memcpy`s between `int64_t` and `double`).

Hand-written stand-in for the translation of encode_decode_utils.hpp itself
(lean/EngineModel/Gen/PrimGen.lean, tied to the same Spec primitives in Proofs/PrimGen.lean); the names are those
of the C++ functions so that the generated code can be pointed at either.
-/
import EngineModel.Impl.Cursor

namespace EngineModel
namespace CxxPrims

/-! ### values -/

/-- `int32_t(u8 p0) | int32_t(u8 p1 << 8) | int32_t(u8 p2 << 16) | int32_t(u8 p3 << 24)` -/
def i32_of_le (p0 p1 p2 p3 : UInt8) : UInt32 :=
  p0.toUInt32 ||| (p1.toUInt32 <<< 8) ||| (p2.toUInt32 <<< 16) ||| (p3.toUInt32 <<< 24)

/-- `int32_t(u8 p0 << 24) | int32_t(u8 p1 << 16) | int32_t(u8 p2 << 8) | int32_t(u8 p3)` -/
def i32_of_be (p0 p1 p2 p3 : UInt8) : UInt32 :=
  (p0.toUInt32 <<< 24) ||| (p1.toUInt32 <<< 16) ||| (p2.toUInt32 <<< 8) ||| p3.toUInt32

/-- `ptr[0] = value & 0xFF; ptr[1] = (value >> 8) & 0xFF; ptr[2] = (value >> 16) & 0xFF; ptr[3] = (value >> 24) & 0xFF` -/
def bytes_i32_le (v : UInt32) : List UInt8 :=
  [(v &&& 0xFF).toUInt8, ((v >>> 8) &&& 0xFF).toUInt8, ((v >>> 16) &&& 0xFF).toUInt8, ((v >>> 24) &&& 0xFF).toUInt8]

/-- `ptr[0] = (value >> 24) & 0xFF; ptr[1] = (value >> 16) & 0xFF; ptr[2] = (value >> 8) & 0xFF; ptr[3] = value & 0xFF` -/
def bytes_i32_be (v : UInt32) : List UInt8 :=
  [((v >>> 24) &&& 0xFF).toUInt8, ((v >>> 16) &&& 0xFF).toUInt8, ((v >>> 8) &&& 0xFF).toUInt8, (v &&& 0xFF).toUInt8]

/-- `int64_t(uint32_t(e1)) | int64_t(uint32_t(e2)) << 32` -/
def i64_of_le (e1 e2 : UInt32) : UInt64 := e1.toUInt64 ||| (e2.toUInt64 <<< 32)

/-- `int64_t(uint32_t(e1)) << 32 | int64_t(uint32_t(e2))` -/
def i64_of_be (e1 e2 : UInt32) : UInt64 := (e1.toUInt64 <<< 32) ||| e2.toUInt64

/-! ### writers: the bytes stored through `ptr` (which the function returns advanced past them) -/

def encode_uint8 (v : UInt8) : List UInt8 := [v]
def encode_int32_le (v : UInt32) : List UInt8 := bytes_i32_le v
def encode_int32_be (v : UInt32) : List UInt8 := bytes_i32_be v
/-- `ptr = encode_int32_le(int32_t(value), ptr); ptr = encode_int32_le(int32_t(value >> 32), ptr);` -/
def encode_int64_le (v : UInt64) : List UInt8 := encode_int32_le v.toUInt32 ++ encode_int32_le (v >>> 32).toUInt32
/-- `ptr = encode_int32_be(int32_t(value >> 32), ptr); ptr = encode_int32_be(int32_t(value), ptr);` -/
def encode_int64_be (v : UInt64) : List UInt8 := encode_int32_be (v >>> 32).toUInt32 ++ encode_int32_be v.toUInt32
def encode_double_le (v : UInt64) : List UInt8 := encode_int64_le v
def encode_double_be (v : UInt64) : List UInt8 := encode_int64_be v

/-! ### readers: dereference `ptr[0..w)` unconditionally — out of bounds when fewer bytes remain -/

def decode_uint8 : Cur UInt8 := fun bs =>
  match bs with
  | p0 :: r => .ok (p0, r)
  | _ => .ub .oob_read

def decode_int32_le : Cur UInt32 := fun bs =>
  match bs with
  | p0 :: p1 :: p2 :: p3 :: r => .ok (i32_of_le p0 p1 p2 p3, r)
  | _ => .ub .oob_read

def decode_int32_be : Cur UInt32 := fun bs =>
  match bs with
  | p0 :: p1 :: p2 :: p3 :: r => .ok (i32_of_be p0 p1 p2 p3, r)
  | _ => .ub .oob_read

def decode_int64_le : Cur UInt64 := do
  let e1 ← decode_int32_le
  let e2 ← decode_int32_le
  pure (i64_of_le e1 e2)

def decode_int64_be : Cur UInt64 := do
  let e1 ← decode_int32_be
  let e2 ← decode_int32_be
  pure (i64_of_be e1 e2)

def decode_double_le : Cur UInt64 := decode_int64_le
def decode_double_be : Cur UInt64 := decode_int64_be

end CxxPrims
end EngineModel
