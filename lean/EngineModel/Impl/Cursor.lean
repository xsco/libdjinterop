/-
The cursor monad in which the C++ decoders are mirrored statement by
statement.  The state is the unread remainder of the buffer (`end - ptr` is its
length).  A primitive read (`decode_uint8`, `decode_int32_le`, …,
encode_decode_utils.hpp) dereferences `ptr[0..w)` unconditionally: when fewer
than `w` bytes remain that is an out-of-bounds read, i.e. `ub oob_read`.
Reads are defined through the Spec's primitive codecs, so a successful read
returns, by definition, what the Spec reads.
-/
import EngineModel.Basic.Res
import EngineModel.Basic.Checked
import EngineModel.Format.Codec

namespace EngineModel

def Cur (α : Type) := Bytes → Res (α × Bytes)

namespace Cur

@[inline] def pure' {α} (a : α) : Cur α := fun bs => .ok (a, bs)
@[inline] def bind' {α β} (m : Cur α) (f : α → Cur β) : Cur β := fun bs =>
  match m bs with
  | .ok (a, r) => f a r
  | .throw e => .throw e
  | .ub u => .ub u

instance : Monad Cur where
  pure := pure'
  bind := bind'

/-- Unchecked primitive read. -/
def rd {α} (c : Codec α) : Cur α := fun bs =>
  match c.dec bs with
  | some (a, r) => .ok (a, r)
  | none => .ub .oob_read

/-- `end - ptr`. -/
def remaining : Cur Nat := fun bs => .ok (bs.length, bs)

def throwC {α} (e : Exn) : Cur α := fun _ => .throw e

/-- `ptr += n` followed by use of the skipped bytes (`string::assign(ptr, n)`,
`memcpy`): out of bounds when fewer than `n` remain. -/
def takeN (n : Nat) : Cur Bytes := fun bs =>
  if n ≤ bs.length then .ok (bs.take n, bs.drop n) else .ub .oob_read

/-- A computation that does not touch the cursor (checked arithmetic, `Chk.*`). -/
def lift {α} (x : Res α) : Cur α := fun bs =>
  match x with
  | .ok a => .ok (a, bs)
  | .throw e => .throw e
  | .ub u => .ub u

/-- `decode_extra(ptr, end)`: everything that is left. -/
def rest : Cur Bytes := fun bs => .ok (bs, [])

/-- `for (i = 0; i < n; ++i) { body; push_back }`. -/
def forN {α} (body : Cur α) : Nat → Cur (List α)
  | 0 => pure []
  | n + 1 => do
    let a ← body
    let l ← forN body n
    pure (a :: l)

@[simp] theorem pure_run {α} (a : α) (bs : Bytes) : (pure a : Cur α) bs = .ok (a, bs) := rfl
@[simp] theorem bind_run {α β} (m : Cur α) (f : α → Cur β) (bs : Bytes) :
    (m >>= f) bs = match m bs with
      | .ok (a, r) => f a r
      | .throw e => .throw e
      | .ub u => .ub u := rfl
@[simp] theorem throwC_run {α} (e : Exn) (bs : Bytes) : (throwC e : Cur α) bs = .throw e := rfl
theorem throwC_bind {α β} (e : Exn) (f : α → Cur β) : (throwC e >>= f) = throwC e := rfl
@[simp] theorem remaining_run (bs : Bytes) : remaining bs = .ok (bs.length, bs) := rfl
@[simp] theorem rest_run (bs : Bytes) : rest bs = .ok (bs, []) := rfl
@[simp] theorem lift_ok_run {α} (a : α) (bs : Bytes) : lift (.ok a) bs = .ok (a, bs) := rfl

theorem rd_of_dec {α} {c : Codec α} {bs a r} (h : c.dec bs = some (a, r)) :
    rd c bs = .ok (a, r) := by simp [rd, h]

theorem rd_none {α} {c : Codec α} {bs} (h : c.dec bs = none) : rd c bs = .ub .oob_read := by
  simp [rd, h]

/-! `rd` turns the layout combinators into sequencing: a run of primitive reads is one read
of the tuple layout. -/

theorem rd_pair_seq {α β} (c : Codec α) (d : Codec β) :
    rd (Codec.pair c d) = rd c >>= fun a => rd d >>= fun b => pure (a, b) := by
  funext bs
  simp only [bind_run, rd, Codec.pair]
  cases c.dec bs with
  | none => rfl
  | some p =>
    obtain ⟨a, r⟩ := p
    dsimp only
    cases d.dec r <;> rfl

theorem rd_map_seq {α β} (f : α → β) (g : β → α) (c : Codec α) :
    rd (Codec.map f g c) = rd c >>= fun a => pure (f a) := by
  funext bs
  simp only [bind_run, rd, Codec.map]
  cases c.dec bs <;> rfl

end Cur

namespace Codec

theorem u8_dec_none {bs : Bytes} (h : bs.length < 1) : u8.dec bs = none := u8_fixed.dec_none h

/-- The value a successful read returns (junk when the read would fail). -/
def get {α} [Inhabited α] (c : Codec α) (bs : Bytes) : α :=
  match c.dec bs with
  | some (a, _) => a
  | none => default

theorem get_of_dec {α} [Inhabited α] {c : Codec α} {bs a r} (h : c.dec bs = some (a, r)) :
    c.get bs = a := by simp [get, h]

theorem Fixed.dec_run {α} [Inhabited α] {c : Codec α} {w : Nat} (hc : c.Fixed w) {bs : Bytes}
    (h : w ≤ bs.length) : c.dec bs = some (c.get bs, bs.drop w) := by
  obtain ⟨a, ha⟩ := hc.dec_some h
  rw [get_of_dec ha, ha]

theorem Fixed.rd_run {α} [Inhabited α] {c : Codec α} {w : Nat} (hc : c.Fixed w) {bs : Bytes}
    (h : w ≤ bs.length) : Cur.rd c bs = .ok (c.get bs, bs.drop w) :=
  Cur.rd_of_dec (hc.dec_run h)

end Codec

namespace Cur
open Codec

theorem rd_u8_run {bs : Bytes} (h : 1 ≤ bs.length) : rd u8 bs = .ok (u8.get bs, bs.drop 1) :=
  u8_fixed.rd_run h

theorem rd_u32be_run {bs : Bytes} (h : 4 ≤ bs.length) :
    rd u32be bs = .ok (u32be.get bs, bs.drop 4) := u32be_fixed.rd_run h

theorem rd_u32le_run {bs : Bytes} (h : 4 ≤ bs.length) :
    rd u32le bs = .ok (u32le.get bs, bs.drop 4) := u32le_fixed.rd_run h

theorem rd_u64be_run {bs : Bytes} (h : 8 ≤ bs.length) :
    rd u64be bs = .ok (u64be.get bs, bs.drop 8) := u64be_fixed.rd_run h

theorem rd_u64le_run {bs : Bytes} (h : 8 ≤ bs.length) :
    rd u64le bs = .ok (u64le.get bs, bs.drop 8) := u64le_fixed.rd_run h

/-- The waveform decoders open with three 64-bit reads. -/
theorem rd_u64be3_run {α} (f : UInt64 → UInt64 → UInt64 → Cur α) {bs : Bytes} (h : 24 ≤ bs.length) :
    (rd u64be >>= fun a => rd u64be >>= fun b => rd u64be >>= fun c => f a b c) bs =
      f (u64be.get bs) (u64be.get (bs.drop 8)) (u64be.get (bs.drop 16)) (bs.drop 24) := by
  have h2 : 8 ≤ (bs.drop 8).length := by rw [List.length_drop]; omega
  have h3 : 8 ≤ (bs.drop (8 + 8)).length := by rw [List.length_drop]; omega
  simp only [bind_run, rd_u64be_run (Nat.le_trans (by omega) h), rd_u64be_run h2, rd_u64be_run h3,
    List.drop_drop]

theorem takeN_run {n : Nat} {bs : Bytes} (h : n ≤ bs.length) :
    takeN n bs = .ok (bs.take n, bs.drop n) := by
  simp [Cur.takeN, h]

end Cur
end EngineModel
