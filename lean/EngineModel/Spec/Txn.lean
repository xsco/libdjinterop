/-
Transactions, RAII scopes and failure of a statement (C14, also used by C16/C10).

A public call of the library is, for this theory, the sequence of SQL
statements it steps on its one SQLite connection when nothing fails
(`List (Cmd α)`; the harness observes the kinds of that sequence, `List CmdKind`).

* `Conn`      — SQLite's connection: the committed database and, while a
                transaction is open, the working copy the connection sees.
                Statement-level atomicity: a statement either applies
                completely or fails with no effect (`stepStmt … = none`).
* `exec`      — a call under fault injection.  `fault = some k` makes the k-th
                *faultable* statement (BEGIN, COMMIT, any writing statement —
                exactly what `harness/djv_wrap.cpp` counts: every non-read-only
                step except ROLLBACK) fail with no effect.  A write may also
                fail on its own (`f db = none`, e.g. a constraint).  Every
                failure raises (sqlite_modern_cpp throws), the rest of the call
                is skipped and the stack unwinds: every live
                `util::sqlite_transaction` whose `commit()` has not completed
                issues ROLLBACK from its destructor, errors swallowed
                (src/djinterop/util/sqlite_transaction.hpp:31-65).
                `auto = true` models SQLite rolling the whole transaction back
                by itself on the failure (it does for some error classes);
                the explicit ROLLBACK then fails harmlessly.
                A failed BEGIN leaves no scope object (constructor threw): no
                ROLLBACK is issued for it.  A failed COMMIT leaves
                `committed_ = false`: the destructor rolls back.
* `atomicShape` — the monitor: decides from the kinds alone whether every
                failure leaves the committed database untouched.

`rollback` inside a command list is the ROLLBACK of a scope destroyed on a
normal path (returning without `commit()`); it never raises.
-/
namespace EngineModel.Spec.Txn

inductive CmdKind where
  | begin | commit | rollback | write | read
  deriving DecidableEq, Repr, Inhabited

def CmdKind.name : CmdKind → String
  | .begin => "begin" | .commit => "commit" | .rollback => "rollback"
  | .write => "write" | .read => "read"

def CmdKind.ofName : String → Option CmdKind
  | "begin" => some .begin | "commit" => some .commit | "rollback" => some .rollback
  | "write" => some .write | "read" => some .read
  | _ => none

/-- Statements that the fault injector counts (and may fail): everything that
is not read-only, except ROLLBACK. -/
def faultable : CmdKind → Bool
  | .begin | .commit | .write => true
  | .rollback | .read => false

/-- A statement of a call over databases of type `α`.  A write is an arbitrary
partial function: `none` = the statement fails by itself, with no effect. -/
inductive Cmd (α : Type) where
  | begin | commit | rollback
  | write (f : α → Option α)
  | read

def Cmd.kind {α : Type} : Cmd α → CmdKind
  | .begin => .begin | .commit => .commit | .rollback => .rollback
  | .write _ => .write | .read => .read

structure Conn (α : Type) where
  committed : α
  working : Option α

/-- Autocommit state on database `db` (no transaction open). -/
def Conn.idle {α : Type} (db : α) : Conn α := ⟨db, none⟩

/-- What the connection itself reads. -/
def Conn.view {α : Type} (c : Conn α) : α :=
  match c.working with
  | some w => w
  | none => c.committed

/-- What a *new* connection sees after this one is closed: SQLite discards an
open transaction when the connection is closed. -/
def Conn.reopen {α : Type} (c : Conn α) : Conn α := Conn.idle c.committed

/-- One statement on the connection (SQLite semantics).  `none` = the statement
fails and changes nothing. -/
def stepStmt {α : Type} (c : Conn α) : Cmd α → Option (Conn α)
  | .begin =>
    match c.working with
    | none => some ⟨c.committed, some c.committed⟩
    | some _ => none                       -- "cannot start a transaction within a transaction"
  | .commit =>
    match c.working with
    | some w => some ⟨w, none⟩
    | none => none                         -- "cannot commit - no transaction is active"
  | .rollback => some ⟨c.committed, none⟩  -- error without a transaction is swallowed by the destructor
  | .write f =>
    match c.working with
    | some w => (f w).map fun w' => ⟨c.committed, some w'⟩
    | none => (f c.committed).map fun d => ⟨d, none⟩       -- autocommit
  | .read => some c

/-- An entry of the statement trace of a run: kind and "the fault was injected here". -/
structure Ev where
  kind : CmdKind
  injected : Bool
  deriving DecidableEq, Repr

structure Outcome (α : Type) where
  conn : Conn α
  raised : Bool
  trace : List Ev

def Outcome.cons {α : Type} (e : Ev) (r : Outcome α) : Outcome α := { r with trace := e :: r.trace }

@[simp] theorem Outcome.cons_conn {α : Type} (e : Ev) (r : Outcome α) : (r.cons e).conn = r.conn := rfl
@[simp] theorem Outcome.cons_raised {α : Type} (e : Ev) (r : Outcome α) : (r.cons e).raised = r.raised := rfl

/-- Number of live, not yet committed `sqlite_transaction` objects after a
statement of the given kind succeeded. -/
def scopesAfter : CmdKind → Nat → Nat
  | .begin, n => n + 1
  | .commit, n => n - 1
  | .rollback, n => n - 1
  | _, n => n

/-- Stack unwinding: each live scope's destructor issues ROLLBACK. -/
def unwind {α : Type} (c : Conn α) (scopes : Nat) : Conn α :=
  if scopes = 0 then c else ⟨c.committed, none⟩

/-- A call under fault injection.  `seen` = faultable statements stepped so far,
`scopes` = live uncommitted RAII scopes. -/
def exec {α : Type} (fault : Option Nat) (auto : Bool) :
    List (Cmd α) → Nat → Nat → Conn α → Outcome α
  | [], _, _, c => ⟨c, false, []⟩
  | cmd :: rest, seen, scopes, c =>
    let inj := faultable cmd.kind && (fault == some seen)
    let seen' := if faultable cmd.kind then seen + 1 else seen
    match (if inj then none else stepStmt c cmd) with
    | some c' => (exec fault auto rest seen' (scopesAfter cmd.kind scopes) c').cons ⟨cmd.kind, false⟩
    | none =>
      ⟨unwind (if auto then ⟨c.committed, none⟩ else c) scopes, true,
        ⟨cmd.kind, inj⟩ :: List.replicate scopes ⟨.rollback, false⟩⟩

/-- A public call on a library at rest. -/
def call {α : Type} (fault : Option Nat) (auto : Bool) (cs : List (Cmd α)) (db : α) : Outcome α :=
  exec fault auto cs 0 0 (Conn.idle db)

structure ShapeSt where
  inTxn : Bool      -- a scope is open
  pending : Bool    -- the open scope has written
  effected : Bool   -- something has been made durable already
  deriving DecidableEq, Repr

def ShapeSt.init : ShapeSt := ⟨false, false, false⟩

def shapeStep (s : ShapeSt) (k : CmdKind) : Option ShapeSt :=
  if s.effected && faultable k then none     -- a statement that can fail after a durable effect
  else match k with
    | .begin => if s.inTxn then none else some ⟨true, false, s.effected⟩
    | .commit => if s.inTxn then some ⟨false, false, s.effected || s.pending⟩ else none
    | .rollback => some ⟨false, false, s.effected⟩
    | .write => if s.inTxn then some ⟨true, true, s.effected⟩ else some ⟨false, false, true⟩
    | .read => some s

def shapeRun (s : ShapeSt) : List CmdKind → Option ShapeSt
  | [] => some s
  | k :: ks =>
    match shapeStep s k with
    | some s' => shapeRun s' ks
    | none => none

/-- The statement kinds of a call form an *atomic shape*: scopes are properly
bracketed and closed at the end, and once anything has been made durable (a
write outside any scope, or the COMMIT of a scope that wrote) no statement that
can fail follows.  Typical members: `[write]`, `[read, begin, write, write,
commit]`, `[begin, commit, write]`; typical non-members: `[write, write]`,
`[begin, write, commit, write]`, `[begin, write]`. -/
def atomicShape (ks : List CmdKind) : Bool :=
  match shapeRun ShapeSt.init ks with
  | some s => !s.inTxn
  | none => false

/-- Scopes properly bracketed and none left open (weaker than `atomicShape`;
what C10 needs of every completed call). -/
def closedStep (t : Bool) : CmdKind → Option Bool
  | .begin => if t then none else some true
  | .commit => if t then some false else none
  | .rollback => some false
  | _ => some t

def closedRun (t : Bool) : List CmdKind → Option Bool
  | [] => some t
  | k :: ks =>
    match closedStep t k with
    | some t' => closedRun t' ks
    | none => none

def closedShape (ks : List CmdKind) : Bool := closedRun false ks == some false

/-- The call only reads (C16: the monitor's criterion for an observer). -/
def readOnlyShape (ks : List CmdKind) : Bool := ks.all (· == .read)

def applyAll {α : Type} : List (α → Option α) → α → Option α
  | [], a => some a
  | f :: fs, a => (f a).bind (applyAll fs)

/-- The writes that survive: those outside any scope and those of committed
scopes, in order (`p` = writes of the currently open scope, `t` = a scope is open). -/
def effWrites {α : Type} : List (Cmd α) → List (α → Option α) → Bool → List (α → Option α)
  | [], _, _ => []
  | .write f :: r, p, true => effWrites r (p ++ [f]) true
  | .write f :: r, p, false => f :: effWrites r p false
  | .commit :: r, p, _ => p ++ effWrites r [] false
  | .rollback :: r, _, _ => effWrites r [] false
  | .begin :: r, _, _ => effWrites r [] true
  | .read :: r, p, t => effWrites r p t

def writesOf {α : Type} : List (Cmd α) → List (α → Option α)
  | [] => []
  | .write f :: r => f :: writesOf r
  | _ :: r => writesOf r

def Cmd.total {α : Type} : Cmd α → Prop
  | .write f => ∀ a, (f a).isSome = true
  | _ => True

/-! ### concrete instance used by the driver and by the completeness proof -/

/-- Every write appends its position to a log: all writes visible and distinct. -/
def logCmds : List CmdKind → Nat → List (Cmd (List Nat))
  | [], _ => []
  | .write :: ks, i => .write (fun l => some (l ++ [i])) :: logCmds ks (i + 1)
  | .begin :: ks, i => .begin :: logCmds ks (i + 1)
  | .commit :: ks, i => .commit :: logCmds ks (i + 1)
  | .rollback :: ks, i => .rollback :: logCmds ks (i + 1)
  | .read :: ks, i => .read :: logCmds ks (i + 1)

/-- Every write increments a counter. -/
def incCmds : List CmdKind → List (Cmd Nat)
  | [] => []
  | .write :: ks => .write (fun n => some (n + 1)) :: incCmds ks
  | .begin :: ks => .begin :: incCmds ks
  | .commit :: ks => .commit :: incCmds ks
  | .rollback :: ks => .rollback :: incCmds ks
  | .read :: ks => .read :: incCmds ks

def countFaultable (ks : List CmdKind) : Nat := (ks.filter faultable).length

end EngineModel.Spec.Txn
