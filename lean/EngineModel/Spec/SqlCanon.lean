/-
Spec for C12: comparison of stored DDL "modulo whitespace and identifier quoting".

`lex : List Char → List Lexeme` is a *lossless* SQL lexer (`unlex (lex s) = s`:
`unlex_lexF` in Proofs/SqlCanon.lean for any fuel, `lex_lossless` in Properties/C12.lean): whitespace runs, `--` and `/* */` comments,
bare words, the three identifier quoting styles `[x]`, `"x"`, `` `x` ``, string
literals `'x'`, one- and two-character operators, and an explicit `junk` lexeme
for an unterminated quoted token.  `canon` forgets exactly the whitespace and
comment lexemes and the quoting style of an identifier — nothing else (case,
string literals, operators, numbers are kept as written).

Everything is structural recursion over `List Char` (fuel = length of the
input), so the kernel can evaluate it (`decide +kernel`) and the compiled driver
runs the very same definitions.
-/
namespace EngineModel.Spec.SqlCanon

/-! ### character classes (as SQLite's tokenizer: `sqlite3CtypeMap`) -/

def isWs (c : Char) : Bool :=
  c == ' ' || c == '\t' || c == '\n' || c == '\r' || c == '\x0b' || c == '\x0c'

def isWordChar (c : Char) : Bool :=
  c.isAlphanum || c == '_' || c == '$' || c.toNat ≥ 128

def isQuoteStart (c : Char) : Bool :=
  c == '[' || c == '"' || c == '`' || c == '\''

/-- Neither whitespace, nor word character, nor an opening quote: punctuation. -/
def isSymChar (c : Char) : Bool := !isWs c && !isWordChar c && !isQuoteStart c

/-- Two-character operators of SQLite. -/
def twoOp (c d : Char) : Bool :=
  (c == '|' && d == '|') || (c == '<' && (d == '=' || d == '>' || d == '<')) ||
  (c == '>' && (d == '=' || d == '>')) || (c == '=' && d == '=') || (c == '!' && d == '=')

/-- `c` followed by `d` does not lex as the one-character symbol `c`. -/
def pairs (c d : Char) : Bool :=
  twoOp c d || (c == '-' && d == '-') || (c == '/' && d == '*')

/-! ### lexemes and tokens -/

inductive QStyle where
  | bracket | dquote | backtick
  deriving DecidableEq, Repr, Inhabited

def QStyle.quoteChar : QStyle → Char
  | .bracket => '[' | .dquote => '"' | .backtick => '`'

inductive Lexeme where
  | ws (cs : List Char)                               -- maximal run of whitespace
  | lineComment (body : List Char) (nl : Bool)        -- `--` body [`\n`]
  | blockComment (body : List Char) (closed : Bool)   -- `/*` body [`*/`]
  | bare (cs : List Char)                             -- unquoted word / number
  | quoted (st : QStyle) (content : List Char)        -- quoted identifier, content unescaped
  | str (content : List Char)                         -- 'string literal', content unescaped
  | sym (cs : List Char)                              -- operator / punctuation
  | junk (cs : List Char)                             -- unterminated quoted token: raw rest of the input
  deriving DecidableEq, Repr, Inhabited

inductive Token where
  | word (cs : List Char)     -- bare word or identifier with its quoting stripped
  | str (cs : List Char)
  | sym (cs : List Char)
  | junk (cs : List Char)
  deriving DecidableEq, Repr, Inhabited

/-- What `canon` keeps of a lexeme: nothing of whitespace and comments, the
content (not the style) of a quoted identifier, everything else as is. -/
def strip : Lexeme → Option Token
  | .ws _ => none
  | .lineComment _ _ => none
  | .blockComment _ _ => none
  | .bare cs => some (.word cs)
  | .quoted _ c => some (.word c)
  | .str c => some (.str c)
  | .sym cs => some (.sym cs)
  | .junk cs => some (.junk cs)

/-! ### scanners -/

/-- Escape a quote character by doubling it. -/
def escQ (q : Char) (content : List Char) : List Char :=
  content.flatMap fun c => if c = q then [q, q] else [c]

/-- After an opening quote `q`: the unescaped content up to the closing quote
and the rest after it; `none` when the closing quote is missing. -/
def scanQ (q : Char) : List Char → Option (List Char × List Char)
  | [] => none
  | [c] => if c = q then some ([], []) else none
  | c :: d :: r =>
    if c = q then
      if d = q then (scanQ q r).map fun p => (q :: p.1, p.2)
      else some ([], d :: r)
    else (scanQ q (d :: r)).map fun p => (c :: p.1, p.2)

/-- After `/*`: body, whether `*/` was found, rest after it. -/
def scanBC : List Char → List Char × Bool × List Char
  | [] => ([], false, [])
  | [c] => ([c], false, [])
  | c :: d :: r =>
    if c = '*' ∧ d = '/' then ([], true, r)
    else let p := scanBC (d :: r); (c :: p.1, p.2.1, p.2.2)

/-- No `*/` inside. -/
def noSS : List Char → Bool
  | [] => true
  | [_] => true
  | c :: d :: r => if c = '*' ∧ d = '/' then false else noSS (d :: r)

/-! ### the lexer -/

def rawQuoted : QStyle → List Char → List Char
  | .bracket, c => '[' :: c ++ [']']
  | .dquote, c => '"' :: escQ '"' c ++ ['"']
  | .backtick, c => '`' :: escQ '`' c ++ ['`']

/-- The source text of a lexeme. -/
def raw : Lexeme → List Char
  | .ws cs => cs
  | .lineComment b nl => '-' :: '-' :: b ++ (if nl then ['\n'] else [])
  | .blockComment b closed => '/' :: '*' :: b ++ (if closed then ['*', '/'] else [])
  | .bare cs => cs
  | .quoted st c => rawQuoted st c
  | .str c => '\'' :: escQ '\'' c ++ ['\'']
  | .sym cs => cs
  | .junk cs => cs

def unlex (ls : List Lexeme) : List Char := ls.flatMap raw

/-- First lexeme of a non-empty input and the rest. -/
def lexOne : List Char → Option (Lexeme × List Char)
  | [] => none
  | c :: cs =>
    if isWs c then some (.ws (c :: cs.takeWhile isWs), cs.dropWhile isWs)
    else if isWordChar c then some (.bare (c :: cs.takeWhile isWordChar), cs.dropWhile isWordChar)
    else if c = '[' then
      match cs.dropWhile (· != ']') with
      | [] => some (.junk (c :: cs), [])
      | _ :: r => some (.quoted .bracket (cs.takeWhile (· != ']')), r)
    else if c = '"' then
      match scanQ '"' cs with
      | some (content, r) => some (.quoted .dquote content, r)
      | none => some (.junk (c :: cs), [])
    else if c = '`' then
      match scanQ '`' cs with
      | some (content, r) => some (.quoted .backtick content, r)
      | none => some (.junk (c :: cs), [])
    else if c = '\'' then
      match scanQ '\'' cs with
      | some (content, r) => some (.str content, r)
      | none => some (.junk (c :: cs), [])
    else
      match cs with
      | [] => some (.sym [c], [])
      | d :: r =>
        if c = '-' ∧ d = '-' then
          match r.dropWhile (· != '\n') with
          | [] => some (.lineComment (r.takeWhile (· != '\n')) false, [])
          | _ :: r' => some (.lineComment (r.takeWhile (· != '\n')) true, r')
        else if c = '/' ∧ d = '*' then
          let p := scanBC r
          some (.blockComment p.1 p.2.1, p.2.2)
        else if twoOp c d then some (.sym [c, d], r)
        else some (.sym [c], d :: r)

def lexF : Nat → List Char → List Lexeme
  | 0, _ => []
  | n + 1, s =>
    match lexOne s with
    | none => []
    | some (l, r) => l :: lexF n r

def lex (s : List Char) : List Lexeme := lexF s.length s

/-- The canonical token list of a piece of SQL text. -/
def canonChars (s : List Char) : List Token := (lex s).filterMap strip

def canon (s : String) : List Token := canonChars s.toList

/-! ### well-formed lexeme lists (= exactly the image of `lex`) -/

/-- The lexeme is one `lexOne` can produce. -/
def wfL : Lexeme → Bool
  | .ws cs => !cs.isEmpty && cs.all isWs
  | .lineComment b _ => b.all (· != '\n')
  | .blockComment b _ => noSS b
  | .bare cs => !cs.isEmpty && cs.all isWordChar
  | .quoted .bracket c => c.all (· != ']')
  | .quoted _ _ => true
  | .str _ => true
  | .sym [c] => isSymChar c
  | .sym [c, d] => isSymChar c && twoOp c d
  | .sym _ => false
  | .junk (q :: rest) =>
    (q == '[' && rest.all (· != ']')) ||
    ((q == '"' || q == '`' || q == '\'') && (scanQ q rest).isNone)
  | .junk [] => false

def headIs (p : Char → Bool) : List Char → Bool
  | [] => false
  | c :: _ => p c

/-- The lexeme, followed by the text `r`, is lexed as itself (the next
character does not extend or alter it). -/
def compat : Lexeme → List Char → Bool
  | .ws _, r => !headIs isWs r
  | .lineComment _ nl, r => nl || r.isEmpty
  | .blockComment _ closed, r => closed || r.isEmpty
  | .bare _, r => !headIs isWordChar r
  | .quoted .bracket _, _ => true
  | .quoted .dquote _, r => !headIs (· == '"') r
  | .quoted .backtick _, r => !headIs (· == '`') r
  | .str _, r => !headIs (· == '\'') r
  | .sym [c], r => !headIs (pairs c) r
  | .sym _, _ => true
  | .junk _, r => r.isEmpty

def LexWf : List Lexeme → Bool
  | [] => true
  | l :: ls => wfL l && compat l (unlex ls) && LexWf ls

/-! ### a canonical rendering of a token list -/

def isBareable (cs : List Char) : Bool := !cs.isEmpty && cs.all isWordChar

def tokLexeme : Token → Lexeme
  | .word cs => if isBareable cs then .bare cs else .quoted .dquote cs
  | .str cs => .str cs
  | .sym cs => .sym cs
  | .junk cs => .junk cs

def toLex : List Token → List Lexeme
  | [] => []
  | [t] => [tokLexeme t]
  | t :: ts => tokLexeme t :: .ws [' '] :: toLex ts

/-- Tokens separated by single blanks, identifiers bare where possible and
double-quoted otherwise. -/
def render (ts : List Token) : List Char := unlex (toLex ts)

def wfTok : Token → Bool
  | .junk _ => false
  | t => wfL (tokLexeme t)

/-- Token lists `canon` can produce: well-formed tokens, `junk` only last. -/
def TokWf : List Token → Bool
  | [] => true
  | [t] => wfL (tokLexeme t)
  | t :: ts => wfTok t && TokWf ts

end EngineModel.Spec.SqlCanon
