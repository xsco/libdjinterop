/-
Model of the schema-1.x (legacy layout, 1.6.0 … 1.18.0) crate code:
  src/djinterop/engine/v1/engine_crate_impl.cpp
  src/djinterop/engine/v1/engine_database_impl.cpp  (crate part, remove_crate, remove_track, tracks)
  src/djinterop/engine/v1/engine_track_impl.cpp     (containing_crates, is_valid)
and of the DDL in src/djinterop/engine/schema/schema_1_*.cpp that these statements hit.

Tables are `List` of rows in insertion (= rowid) order.  Every SQL statement the
library issues is one function below, named after the statement; a schema
version enters in three places only:
  * `hasListViews s` (>= 1.9.1): `Crate`, `CrateParentList`, `CrateHierarchy`,
    `CrateTrackList` are VIEWs over `List`, `ListParentList`, `ListHierarchy`,
    `ListTrackList` (rows of list type 4) with INSTEAD OF triggers; the model
    keeps the type-4 rows of the underlying tables and applies the triggers as
    written (`forEachOld` in `updateCrateTitlePath`, `updateCratePath`,
    `deleteCrate`, `deletePairs`, `deleteCtl`).  The one view that is not a plain
    projection is `CrateTrackList`, which INNER JOINs `List`: membership rows of
    a crate that no longer exists are invisible through the view (and cannot be
    deleted through it) but are still stored.
  * the id of a new crate: rowid allocation of an `INTEGER PRIMARY KEY` column
    (< 1.9.1, `idRowid`) versus `SELECT IFNULL(MAX(id), 0) + 1` (>= 1.9.1, `idMaxPlusOne`);
  * `trackAutoinc s` (>= 1.17.0): `Track.id` is AUTOINCREMENT and the
    `trigger_after_delete_Track` trigger leaves a NULL-path placeholder row.
No connection enables `PRAGMA foreign_keys` or `recursive_triggers`, so no
`ON DELETE CASCADE` clause ever fires: none is modelled.
Names are byte strings without NUL bytes (the title is bound as a C string).
-/
import EngineModel.Basic.Prim
import EngineModel.Basic.Res
import EngineModel.Pure.Detect

namespace EngineModel.Api.CratesV1
open EngineModel.Pure.Detect

abbrev Id := Int
abbrev Name := Bytes

def semicolon : UInt8 := 59

structure CrateRow where
  id : Id
  title : Name
  path : Name
  deriving Repr, DecidableEq, Inhabited

structure TrackRow where
  id : Id
  hasPath : Bool        -- `path IS NOT NULL`
  deriving Repr, DecidableEq, Inhabited

structure Db where
  crate : List CrateRow     -- Crate (id, title, path)            | type-4 rows of List
  cpl : List (Id × Id)      -- CrateParentList (origin, parent)   | type-4 rows of ListParentList
  ch : List (Id × Id)       -- CrateHierarchy (crateId, child)    | type-4 rows of ListHierarchy
  ctl : List (Id × Id)      -- CrateTrackList (crateId, trackId)  | type-4 rows of ListTrackList
  track : List TrackRow     -- Track (id, path IS NOT NULL)
  trackSeq : Int            -- sqlite_sequence.seq of Track (AUTOINCREMENT schemas)
  deriving Repr, DecidableEq, Inhabited

def Db.empty : Db := ⟨[], [], [], [], [], 0⟩

def hasListViews (s : Schema) : Bool := decide (s.ord ≥ Schema.schema_1_9_1.ord)
def trackAutoinc (s : Schema) : Bool := decide (s.ord ≥ Schema.schema_1_17_0.ord)
/-- The eleven schema versions this model is about. -/
def isV1 (s : Schema) : Bool := decide (s.ord ≤ Schema.schema_1_18_0_os.ord)

/-! ### exceptions -/
def exInvalidName : Exn := .dj "crate_invalid_name"
def exInvalidParent : Exn := .dj "crate_invalid_parent"
def exCrateDeleted : Exn := .dj "crate_deleted"
def exCrateInconsistent : Exn := .dj "crate_database_inconsistency"
def exTrackInconsistent : Exn := .dj "track_database_inconsistency"
def exAlreadyExists : Exn := .dj "crate_already_exists"
def exTrackDeleted : Exn := .dj "track_deleted"

/-! ### id allocation -/
def maxId (ids : List Id) : Id := ids.foldl max 0

/-- rowid of a row inserted into a table with an `INTEGER PRIMARY KEY` column and no explicit id:
1 for an empty table, otherwise largest rowid + 1. -/
def idRowid (ids : List Id) : Id := if ids.isEmpty then 1 else maxId ids + 1

/-- `SELECT IFNULL(MAX(id), 0) + 1 FROM Crate`. -/
def idMaxPlusOne (ids : List Id) : Id := maxId ids + 1

def newCrateId (s : Schema) (db : Db) : Id :=
  if hasListViews s then idMaxPlusOne (db.crate.map (·.id)) else idRowid (db.crate.map (·.id))

/-! ### statements on Crate -/

/-- `INSERT INTO Crate …`.  >= 1.9.1: trigger_insert_Crate inserts into List, whose
PRIMARY KEY (id, type) rejects a second type-4 row with the same id. -/
def insertCrate (_s : Schema) (db : Db) (r : CrateRow) : Res Db :=
  if db.crate.any (·.id == r.id) then .throw .sqlite_error     -- PRIMARY KEY (id) / PRIMARY KEY (id, type)
  else .ok { db with crate := db.crate ++ [r] }

/-- Rows of a view on which an INSTEAD OF trigger fires: the view is materialised
first, then the trigger body runs once per materialised row. -/
def forEachOld {α τ} (olds : List α) (body : α → τ → τ) (t : τ) : τ := olds.foldl (fun acc o => body o acc) t

/-- `UPDATE Crate SET title = ?, path = ? WHERE id = ?`.
trigger_update_Crate: `UPDATE List SET id = NEW.id, title = NEW.title, path = NEW.path
WHERE id = OLD.id AND title = OLD.title AND path = OLD.path`. -/
def updateCrateTitlePath (s : Schema) (crate : List CrateRow) (c : Id) (title path : Name) : List CrateRow :=
  if hasListViews s then
    forEachOld (crate.filter (·.id == c))
      (fun old t => t.map (fun r => if r == old then { r with title := title, path := path } else r)) crate
  else crate.map (fun r => if r.id == c then { r with title := title, path := path } else r)

/-- `UPDATE Crate SET path = ? WHERE id = ?` (same trigger; NEW.title = OLD.title). -/
def updateCratePath (s : Schema) (crate : List CrateRow) (c : Id) (path : Name) : List CrateRow :=
  if hasListViews s then
    forEachOld (crate.filter (·.id == c))
      (fun old t => t.map (fun r => if r == old then { r with path := path } else r)) crate
  else crate.map (fun r => if r.id == c then { r with path := path } else r)

/-- `DELETE FROM Crate WHERE id = ?`.  trigger_delete_Crate deletes the List rows equal to OLD. -/
def deleteCrate (s : Schema) (crate : List CrateRow) (c : Id) : List CrateRow :=
  if hasListViews s then
    forEachOld (crate.filter (·.id == c)) (fun old t => t.filter (fun r => !(r == old))) crate
  else crate.filter (fun r => !(r.id == c))

/-! ### statements on the pair tables -/

/-- `DELETE FROM <pair table> WHERE <p>`; through a view: the delete trigger removes the rows equal to OLD. -/
def deletePairs (s : Schema) (t : List (Id × Id)) (p : Id × Id → Bool) : List (Id × Id) :=
  if hasListViews s then forEachOld (t.filter p) (fun old acc => acc.filter (fun r => !(r == old))) t
  else t.filter (fun r => !p r)

/-- `INSERT INTO CrateHierarchy (crateId, crateIdChild) SELECT crateId, :child FROM CrateHierarchy
WHERE crateIdChild = :parent UNION SELECT :parent, :child` — UNION removes duplicate rows. -/
def hierarchyRowsFor (ch : List (Id × Id)) (child parent : Id) : List (Id × Id) :=
  (((ch.filter (·.2 == parent)).map (fun r => (r.1, child))) ++ [(parent, child)]).eraseDups

/-! ### the CrateTrackList view -/
def crateExists (db : Db) (c : Id) : Bool := db.crate.any (·.id == c)

/-- Rows visible through `CrateTrackList`. -/
def ctlView (s : Schema) (db : Db) : List (Id × Id) :=
  if hasListViews s then db.ctl.filter (fun r => crateExists db r.1) else db.ctl

/-- `DELETE FROM CrateTrackList WHERE <p>`: only rows visible through the view can be matched. -/
def deleteCtl (s : Schema) (db : Db) (p : Id × Id → Bool) : Db :=
  if hasListViews s then
    { db with ctl := forEachOld ((ctlView s db).filter p) (fun old acc => acc.filter (fun r => !(r == old))) db.ctl }
  else { db with ctl := db.ctl.filter (fun r => !p r) }

/-! ### queries (engine_crate_impl / engine_database_impl / engine_track_impl) -/

def sortIds (l : List Id) : List Id := l.mergeSort (· ≤ ·)

/-- `SELECT COUNT(*) FROM Crate WHERE id = ?` with the two-way test of is_valid / crate_by_id. -/
def crateIsValid (db : Db) (c : Id) : Res Bool :=
  let n := (db.crate.filter (·.id == c)).length
  if n == 1 then .ok true else if n > 1 then .throw exCrateInconsistent else .ok false

/-- Callback folds of the shape "first row wins, a second row throws unless the first value was empty". -/
def firstNonEmptyOrThrow (rows : List Name) : Res Name :=
  rows.foldlM (fun (acc : Name) (v : Name) => if acc.isEmpty then Res.ok v else Res.throw exCrateInconsistent) []

def crateName (db : Db) (c : Id) : Res Name :=
  match (db.crate.filter (·.id == c)).map (·.title) with
  | [] => .throw exCrateDeleted
  | [t] => .ok t
  | _ => .throw exCrateInconsistent

/-- `SELECT crateParentId FROM CrateParentList WHERE crateOriginId = ? AND crateParentId <> crateOriginId`. -/
def crateParent (db : Db) (c : Id) : Res (Option Id) :=
  match (db.cpl.filter (fun r => r.1 == c && r.2 != r.1)).map (·.2) with
  | [] => .ok none
  | [p] => .ok (some p)
  | _ => .throw exCrateInconsistent

/-- children(): `SELECT crateOriginId FROM CrateParentList WHERE crateParentId = ? AND crateOriginId <> crateParentId`. -/
def crateChildren (db : Db) (c : Id) : List Id := (db.cpl.filter (fun r => r.2 == c && r.1 != r.2)).map (·.1)

/-- descendants(): `SELECT crateIdChild FROM CrateHierarchy WHERE crateId = ?`. -/
def crateDescendants (db : Db) (c : Id) : List Id := (db.ch.filter (·.1 == c)).map (·.2)

def crateTracks (s : Schema) (db : Db) (c : Id) : List Id := ((ctlView s db).filter (·.1 == c)).map (·.2)

def trackContainingCrates (s : Schema) (db : Db) (t : Id) : List Id := ((ctlView s db).filter (·.2 == t)).map (·.1)

/-- Last row of an `ORDER BY cr.id` result wins (the callback overwrites). -/
def lastById (ids : List Id) : Option Id := (sortIds ids).getLast?

/-- sub_crate_by_name: `Crate cr JOIN CrateParentList cpl ON cpl.crateOriginId = cr.id WHERE cr.title = ?
AND cpl.crateParentId = ? AND cpl.crateOriginId <> cpl.crateParentId`. -/
def subCrateByName (db : Db) (c : Id) (n : Name) : Option Id :=
  lastById ((db.crate.filter (·.title == n)).flatMap fun cr =>
    (db.cpl.filter (fun r => r.1 == cr.id && r.2 == c && r.1 != r.2)).map (fun _ => cr.id))

def rootCrateByName (db : Db) (n : Name) : Option Id :=
  lastById ((db.crate.filter (·.title == n)).flatMap fun cr =>
    (db.cpl.filter (fun r => r.1 == cr.id && r.1 == r.2)).map (fun _ => cr.id))

def dbCrates (db : Db) : List Id := sortIds (db.crate.map (·.id))
def dbRootCrates (db : Db) : List Id := sortIds ((db.cpl.filter (fun r => r.2 == r.1)).map (·.1))
def dbCrateById (db : Db) (c : Id) : Res (Option Id) := do
  let v ← crateIsValid db c
  pure (if v then some c else none)
def dbCratesByName (db : Db) (n : Name) : List Id := sortIds ((db.crate.filter (·.title == n)).map (·.id))
/-- `SELECT id FROM Track WHERE path IS NOT NULL ORDER BY id`. -/
def dbTracks (db : Db) : List Id := sortIds ((db.track.filter (·.hasPath)).map (·.id))
/-- track::is_valid / database::track_by_id: `SELECT COUNT(*) FROM Track WHERE id = ? AND path IS NOT NULL`
(after the `fix:` a5d64c8 — the NULL-path placeholder row of the AUTOINCREMENT schemas is not a track). -/
def trackIsValid (db : Db) (t : Id) : Res Bool :=
  let n := (db.track.filter (fun r => r.id == t && r.hasPath)).length
  if n == 1 then .ok true else if n > 1 then .throw exTrackInconsistent else .ok false

/-! ### operations -/

inductive Op where
  | createRoot (name : Name)
  | createSub (c : Id) (name : Name)
  | rename (c : Id) (name : Name)
  | setParent (c : Id) (parent : Option Id)
  | removeCrate (c : Id)
  | addTrack (c : Id) (t : Id)
  | removeTrackFrom (c : Id) (t : Id)
  | clearTracks (c : Id)
  | createTrack
  | removeTrack (t : Id)
  deriving Repr, DecidableEq, Inhabited

inductive Out where
  | unit
  | id (i : Id)
  deriving Repr, DecidableEq, Inhabited

/-- ensure_valid_name / ensure_valid_crate_name. -/
def ensureValidName (n : Name) : Res Unit :=
  if n.isEmpty then .throw exInvalidName
  else if n.contains semicolon then .throw exInvalidName
  else .ok ()

/-- A `sqlite_transaction` scope: the body's writes are kept on normal return and
rolled back when it leaves by exception (or aborts). -/
def transaction {α} (db : Db) (body : Res (Db × α)) : Db × Res α :=
  match body with
  | .ok (db', a) => (db', .ok a)
  | .throw e => (db, .throw e)
  | .ub u => (db, .ub u)

/-- database::create_root_crate. -/
def createRootCrate (s : Schema) (db : Db) (name : Name) : Db × Res Out :=
  match ensureValidName name with
  | .throw e => (db, .throw e)
  | .ub u => (db, .ub u)
  | .ok () =>
    transaction db do
      if (rootCrateByName db name).isSome then Res.throw exAlreadyExists else
      let id := newCrateId s db
      let db1 ← insertCrate s db ⟨id, name, name ++ [semicolon]⟩
      let db2 := { db1 with cpl := db1.cpl ++ [(id, id)] }
      pure (db2, Out.id id)

/-- The `SELECT path FROM Crate WHERE id = ?` callback of create_sub_crate: no row → crate_deleted,
a second row → crate_database_inconsistency. -/
def selectOwnPath (db : Db) (c : Id) : Res Name :=
  match (db.crate.filter (·.id == c)).map (·.path) with
  | [] => .throw exCrateDeleted
  | [p] => .ok p
  | _ => .throw exCrateInconsistent

/-- crate::create_sub_crate. -/
def createSubCrate (s : Schema) (db : Db) (c : Id) (name : Name) : Db × Res Out :=
  match ensureValidName name with
  | .throw e => (db, .throw e)
  | .ub u => (db, .ub u)
  | .ok () =>
    transaction db do
      if (subCrateByName db c name).isSome then Res.throw exAlreadyExists else
      let path ← selectOwnPath db c
      let sub := newCrateId s db
      let db1 ← insertCrate s db ⟨sub, name, path ++ name ++ [semicolon]⟩
      let db2 := { db1 with cpl := db1.cpl ++ [(sub, c)] }
      let db3 := { db2 with ch := db2.ch ++ hierarchyRowsFor db2.ch sub c }
      pure (db3, Out.id sub)

/-- update_path (anonymous namespace): rewrite the path of `c` and, recursively, of its
children().  The C++ recursion has no bound; `fuel` = number of parent-list rows + 1 is
exceeded only when the data is cyclic, where the C++ overflows its stack. -/
def updatePath (s : Schema) (fuel : Nat) (db : Db) (c : Id) (parentPath : Name) : Res Db :=
  match fuel with
  | 0 => .ub .nontermination
  | fuel + 1 => do
    let name ← crateName db c
    let path := parentPath ++ name ++ [semicolon]
    let db1 := { db with crate := updateCratePath s db.crate c path }
    (crateChildren db1 c).foldlM (fun acc k => updatePath s fuel acc k path) db1

/-- `if (!is_valid()) throw crate_deleted{id()}`. -/
def requireValid (db : Db) (c : Id) : Res Unit := do
  let v ← crateIsValid db c
  if v then pure () else Res.throw exCrateDeleted

/-- crate::set_name. -/
def setName (s : Schema) (db : Db) (c : Id) (name : Name) : Db × Res Out :=
  match ensureValidName name with
  | .throw e => (db, .throw e)
  | .ub u => (db, .ub u)
  | .ok () =>
    transaction db do
      requireValid db c
      -- SELECT path FROM Crate c JOIN CrateParentList cpl ON c.id = cpl.crateParentId
      --   WHERE cpl.crateOriginId = ? AND cpl.crateOriginId <> cpl.crateParentId
      let parentPath ← firstNonEmptyOrThrow
        ((db.cpl.filter (fun r => r.1 == c && r.1 != r.2)).flatMap fun r =>
          (db.crate.filter (·.id == r.2)).map (·.path))
      let path := parentPath ++ name ++ [semicolon]
      let db1 := { db with crate := updateCrateTitlePath s db.crate c name path }
      let db2 ← (crateChildren db1 c).foldlM (fun acc k => updatePath s (db1.cpl.length + 1) acc k path) db1
      pure (db2, Out.unit)

/-- The nested loops of set_parent: one `DELETE FROM CrateHierarchy WHERE crateId = ? AND crateIdChild = ?`
per (old ancestor, member of the moved sub-tree). -/
def deleteHierarchyLinks (s : Schema) (ch : List (Id × Id)) (ancestors members : List Id) : List (Id × Id) :=
  ancestors.foldl (fun acc a => members.foldl (fun acc m => deletePairs s acc (fun r => r.1 == a && r.2 == m)) acc) ch

/-- One `INSERT INTO CrateHierarchy (crateId, crateIdChild) VALUES (?, ?)` per (new ancestor, member). -/
def hierarchyLinks (ancestors members : List Id) : List (Id × Id) :=
  ancestors.flatMap fun a => members.map fun m => (a, m)

/-- crate::set_parent. -/
def setParent (s : Schema) (db : Db) (c : Id) (parent : Option Id) : Db × Res Out :=
  if parent == some c then (db, .throw exInvalidParent)
  else
    transaction db do
      requireValid db c
      match parent with
      | some q => requireValid db q
      | none => pure ()
      match parent with
      | some q =>
        if (db.ch.filter (fun r => r.1 == c && r.2 == q)).length > 0 then Res.throw exInvalidParent else pure ()
      | none => pure ()
      let cpl1 := deletePairs s db.cpl (fun r => r.1 == c)
      let cpl2 := cpl1 ++ [(c, parent.getD c)]
      let subtree := c :: (db.ch.filter (·.1 == c)).map (·.2)
      let oldAncestors := (db.ch.filter (·.2 == c)).map (·.1)
      let ch1 := deleteHierarchyLinks s db.ch oldAncestors subtree
      let (ch2, parentPath) := match parent with
        | some q =>
          let newAncestors := q :: (ch1.filter (·.2 == q)).map (·.1)
          (ch1 ++ hierarchyLinks newAncestors subtree,
           (((db.crate.filter (·.id == q)).map (·.path)).getLast?).getD [])
        | none => (ch1, [])
      let db1 := { db with cpl := cpl2, ch := ch2 }
      let db2 ← updatePath s (db1.cpl.length + 1) db1 c parentPath
      pure (db2, Out.unit)

/-- database::remove_crate: the crate and every descendant, with their dependent rows. -/
def removeCrate (s : Schema) (db : Db) (c : Id) : Db × Res Out :=
  transaction db do
    let ids := c :: (db.ch.filter (·.1 == c)).map (·.2)
    let db' := ids.foldl (fun (acc : Db) id =>
      let a1 := deleteCtl s acc (fun r => r.1 == id)
      let a2 := { a1 with ch := deletePairs s a1.ch (fun r => r.1 == id || r.2 == id) }
      let a3 := { a2 with cpl := deletePairs s a2.cpl (fun r => r.1 == id) }
      { a3 with crate := deleteCrate s a3.crate id }) db
    pure (db', Out.unit)

/-- crate::add_track. -/
def addTrack (s : Schema) (db : Db) (c t : Id) : Db × Res Out :=
  transaction db do
    requireValid db c
    -- SELECT COUNT(*) FROM Track WHERE id = ? AND path IS NOT NULL
    if (db.track.filter (fun r => r.id == t && r.hasPath)).length > 0 then pure () else Res.throw exTrackDeleted
    let db1 := deleteCtl s db (fun r => r.1 == c && r.2 == t)
    pure ({ db1 with ctl := db1.ctl ++ [(c, t)] }, Out.unit)

/-- crate::remove_track. -/
def removeTrackFrom (s : Schema) (db : Db) (c t : Id) : Db × Res Out :=
  (deleteCtl s db (fun r => r.1 == c && r.2 == t), .ok .unit)

/-- crate::clear_tracks. -/
def clearTracks (s : Schema) (db : Db) (c : Id) : Db × Res Out :=
  (deleteCtl s db (fun r => r.1 == c), .ok .unit)

/-- database::create_track, as far as the Track table's id column goes (the rest of a
track is outside this model): INTEGER PRIMARY KEY rowid rule before 1.17.0, AUTOINCREMENT after. -/
def createTrack (s : Schema) (db : Db) : Db × Res Out :=
  if trackAutoinc s then
    let id := max db.trackSeq (maxId (db.track.map (·.id))) + 1
    ({ db with track := db.track ++ [⟨id, true⟩], trackSeq := id }, .ok (.id id))
  else
    let id := idRowid (db.track.map (·.id))
    ({ db with track := db.track ++ [⟨id, true⟩] }, .ok (.id id))

/-- database::remove_track: `DELETE FROM Track WHERE id = ?`; from 1.17.0 on
trigger_after_delete_Track (`WHEN OLD.id > COALESCE((SELECT MAX(id) FROM Track), 0)`)
replaces the NULL-path placeholder rows by a fresh one. -/
def removeTrack (s : Schema) (db0 : Db) (t : Id) : Db × Res Out :=
  -- DELETE FROM CrateTrackList WHERE trackId = ?   (then DELETE FROM Track WHERE id = ?)
  let db := deleteCtl s db0 (fun r => r.2 == t)
  let olds := db.track.filter (·.id == t)
  let tr1 := db.track.filter (fun r => !(r.id == t))
  if trackAutoinc s then
    let db' := olds.foldl (fun (acc : Db) old =>
      if old.id > maxId (acc.track.map (·.id)) then
        let tr2 := acc.track.filter (·.hasPath)
        let id := max acc.trackSeq (maxId (tr2.map (·.id))) + 1
        { acc with track := tr2 ++ [⟨id, false⟩], trackSeq := id }
      else acc) { db with track := tr1 }
    (db', .ok .unit)
  else ({ db with track := tr1 }, .ok .unit)

def step (s : Schema) (db : Db) : Op → Db × Res Out
  | .createRoot n => createRootCrate s db n
  | .createSub c n => createSubCrate s db c n
  | .rename c n => setName s db c n
  | .setParent c p => setParent s db c p
  | .removeCrate c => removeCrate s db c
  | .addTrack c t => addTrack s db c t
  | .removeTrackFrom c t => removeTrackFrom s db c t
  | .clearTracks c => clearTracks s db c
  | .createTrack => createTrack s db
  | .removeTrack t => removeTrack s db t

def run (s : Schema) (db : Db) (ops : List Op) : Db := ops.foldl (fun d op => (step s d op).1) db

/-! ### the observation (every public query, per crate / track / probe name) -/

structure CrateObs where
  id : Id
  valid : Res Bool
  name : Res Name
  parent : Res (Option Id)
  children : List Id
  descendants : List Id
  tracks : List Id
  byId : Res (Option Id)
  subByName : List (Option Id)      -- one per probe name
  deriving Repr, DecidableEq, Inhabited

structure TrackObs where
  id : Id
  valid : Res Bool
  containing : List Id
  deriving Repr, DecidableEq, Inhabited

structure NameObs where
  name : Name
  byName : List Id
  rootByName : Option Id
  deriving Repr, DecidableEq, Inhabited

structure Obs where
  crates : List Id
  roots : List Id
  tracks : List Id
  perCrate : List CrateObs
  perTrack : List TrackObs
  perName : List NameObs
  deriving Repr, DecidableEq, Inhabited

def dedupSorted (l : List Id) : List Id := (sortIds l).eraseDups

def observeCrate (s : Schema) (db : Db) (names : List Name) (c : Id) : CrateObs :=
  { id := c, valid := crateIsValid db c, name := crateName db c, parent := crateParent db c,
    children := sortIds (crateChildren db c), descendants := sortIds (crateDescendants db c),
    tracks := sortIds (crateTracks s db c), byId := dbCrateById db c,
    subByName := names.map (subCrateByName db c) }

/-- `handles` / `thandles`: ids of the crate / track handles the caller still holds. -/
def observe (s : Schema) (db : Db) (handles thandles : List Id) (names : List Name) : Obs :=
  { crates := dbCrates db, roots := dbRootCrates db, tracks := dbTracks db,
    perCrate := (dedupSorted (db.crate.map (·.id) ++ handles)).map (observeCrate s db names),
    perTrack := (dedupSorted ((db.track.filter (·.hasPath)).map (·.id) ++ thandles)).map fun t =>
      { id := t, valid := trackIsValid db t, containing := sortIds (trackContainingCrates s db t) },
    perName := names.map fun n => { name := n, byName := dbCratesByName db n, rootByName := rootCrateByName db n } }

end EngineModel.Api.CratesV1
