/-
C15, schema 1.x tracks: the public track operations as ONE step function over
the track model of `EngineModel/TracksV1/{Model,Accessors}.lean`.

This file adds nothing to what those operations compute: `step` dispatches to
`dbCreate` / `dbUpdate` / `dbSnap` / `dbGet` / `dbSet` / `getDerived` /
`dbRemove` / `dbIsValid` (written by the tracks-1.x work-package, tied there and
here; they include what a call through the handle of a removed track does) and
adds only

* `handleId` / `handleCopy` — `track::id()` and copy / assignment / destruction
               of a handle: a handle is a value (`shared_ptr` to an impl that
               holds the id); none of the three touches the database.

Every argument is unconstrained: slot indices are any `UInt32` (the C++ `int`),
ids are any `Int`, snapshots are any `Snap` (cue / loop lists and labels of any
length, absent optionals, doubles as arbitrary bit patterns).
-/
import EngineModel.TracksV1.Accessors

namespace EngineModel.Api.C15TracksV1
open EngineModel EngineModel.TracksV1
open Fl (FOps)

inductive Op where
  | create (x : Snap)
  | update (id : Int) (x : Snap)
  | snapshot (id : Int)
  | get (id : Int) (f : Field)
  | getDerived (id : Int) (g : Derived)
  | set (id : Int) (f : Field) (v : f.ty)
  | remove (id : Int)
  | isValid (id : Int)
  | handleId (id : Int)
  | handleCopy (id : Int)

inductive Out where
  | unit
  | id (i : Int)
  | bool (b : Bool)
  | snap (x : Snap)
  | val (f : Field) (v : f.ty)
  | bytes (b : Bytes)

def step (o : FOps) (d : Db) : Op → Db × Res Out
  | .create x =>
    match dbCreate o d x with
    | .ok (d', id) => (d', .ok (.id id))
    | .throw e => (d, .throw e)
    | .ub u => (d, .ub u)
  | .update id x =>
    match dbUpdate o d id x with
    | .ok d' => (d', .ok .unit)
    | .throw e => (d, .throw e)
    | .ub u => (d, .ub u)
  | .snapshot id =>
    match dbSnap o d id with
    | .ok x => (d, .ok (.snap x))
    | .throw e => (d, .throw e)
    | .ub u => (d, .ub u)
  | .get id f =>
    match dbGet o d id f with
    | .ok v => (d, .ok (.val f v))
    | .throw e => (d, .throw e)
    | .ub u => (d, .ub u)
  | .getDerived id g =>
    match d.rows id with
    | some r => (d, .ok (.bytes (getDerived r g)))
    | none => (d, .throw (.dj "track_deleted"))
  | .set id f v =>
    match dbSet o d id f v with
    | .ok d' => (d', .ok .unit)
    | .throw e => (d, .throw e)
    | .ub u => (d, .ub u)
  | .remove id => (dbRemove d id, .ok .unit)
  | .isValid id => (d, .ok (.bool (dbIsValid d id)))
  | .handleId id => (d, .ok (.id id))
  | .handleCopy id => (d, .ok (.id id))

/-- Forget the payload of an outcome (what the property talks about). -/
def void {α} : Res α → Res Unit
  | .ok _ => .ok ()
  | .throw e => .throw e
  | .ub u => .ub u

def run (o : FOps) (d : Db) : List Op → Db
  | [] => d
  | op :: ops => run o (step o d op).1 ops

/-- The outcomes of a script, in order. -/
def outcomes (o : FOps) (d : Db) : List Op → List (Res Out)
  | [] => []
  | op :: ops => (step o d op).2 :: outcomes o (step o d op).1 ops

/-! ### the invariant of stored rows -/

def mulFits (k : Int) (v : Option Int) : Bool :=
  match v with
  | none => true
  | some a => Cxx.inI64 (k * a)

/-- What `snapshot()` / `duration()` / `last_played_at()` rely on: the whole
seconds the library stored can be scaled back to milliseconds / nanoseconds
inside `int64_t`. -/
def rowsOk (r : TrackRows) : Bool :=
  mulFits 1000 r.track.length && mulFits 1000000000 (cell 1 r.mint)

/-- A sufficient form of the one law of double arithmetic the 1.x setters need (`set_bpm`:
`static_cast<int64_t>(std::ceil(bpm))` behind `fabs(bpm) < 2^63`; the law itself is
`EngineModel.TracksV1.CeilInRange`): rounding up keeps a magnitude below 2^63 below 2^63. -/
def CeilBounded (o : FOps) : Prop := ∀ b, Fl.absLt63 b = true → Fl.absLt63 (o.ceil b) = true

/-- IEEE-754 `ceil` on binary64 bit patterns (round toward +∞ to an integral value). -/
def ceilBits (x : F64.Bits) : F64.Bits :=
  let n := x.toNat
  let a := n % 9223372036854775808            -- magnitude bits
  let e := a / 4503599627370496               -- biased exponent
  if e ≥ 1075 then x                          -- already integral (or inf / NaN)
  else if e < 1023 then                       -- |x| < 1
    if a = 0 then x else if n ≥ 9223372036854775808 then F64.negZero else F64.one
  else
    let frac := a % 2 ^ (1075 - e)            -- bits below the binary point
    if frac = 0 then x
    else if n ≥ 9223372036854775808 then UInt64.ofNat (n - frac)   -- negative: toward zero
    else UInt64.ofNat (n - frac + 2 ^ (1075 - e))                  -- positive: next integer (carry into the exponent)


/-- the double arithmetic of a run with the bit-exact `ceil` -/
def withExactCeil (o : FOps) : FOps := { o with ceil := ceilBits }

end EngineModel.Api.C15TracksV1
