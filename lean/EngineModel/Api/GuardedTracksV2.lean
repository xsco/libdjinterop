/-
C15, schema 2.x tracks: the places of src/djinterop/engine/v2/track_impl.cpp and
convert_*.hpp at which the library's own code indexes a vector, dereferences an
optional, converts a double to an integer or divides — written as POSSIBLE `ub`
outcomes behind the C++ guard *as regenerated from the source on every run*
(`Gen.C15Guards`, tools/tr_c15guards.py), and the extents arithmetic of
track_utils.hpp as regenerated by tools/tr_trackutils.py (`Gen.TrackUtils`).

`stepG` = the dispatcher `Api.C15TracksV2.step` with
  * the four per-slot accessors answered by the guarded versions below, and
  * create / update preceded by the guarded mirror of `convert::write::waveform`
    and `convert::write::bpm` (only their `ub` outcome is used: the values are
    the tracks-2.x package's subject).
A guard that is weakened or dropped in the C++ changes `Gen.C15Guards`; `stepG`
then answers `ub …` exactly where the real code misbehaves and the proofs of
Proofs/NoUbGuardsTracksV2.lean (stepG = step, never `ub`) no longer go through.
-/
import EngineModel.Api.C15TracksV2
import EngineModel.Gen.C15Guards
import EngineModel.Gen.TrackUtilsGen
import EngineModel.Api.GuardedUtils

namespace EngineModel.Api.GuardedTracksV2
open EngineModel EngineModel.TracksV2 EngineModel.Api.C15TracksV2 EngineModel.Gen EngineModel.Prim

/-- `*opt` / `opt->member` on a `std::optional`: undefined when it is empty. -/
def deref {α : Type} : Option α → Res α
  | some a => .ok a
  | none => .ub .empty_optional

/-- `v[index]` with an `int` index (converted to `size_type`): undefined outside `0 ≤ index < size()`. -/
def indexAt {α : Type} (l : List α) (i : Int) : Res α :=
  if 0 ≤ i then
    match l[i.toNat]? with
    | some a => .ok a
    | none => .ub .oob_index
  else .ub .oob_index

/-- The guards of the per-slot accessors and of the conversions (see `GuardedV2.Guards`). -/
structure Guards where
  hotCueAt : Int → Nat → Bool        -- track_impl.cpp:399
  setHotCueAt : Int → Nat → Bool     -- track_impl.cpp:412
  loopAt : Int → Nat → Bool          -- track_impl.cpp:473
  setLoopAt : Int → Nat → Bool       -- track_impl.cpp:486
  waveEmpty : Bool → Bool            -- convert_waveform.hpp:70
  waveAbsent : Bool → Bool → Bool    -- :76
  waveRange : Bool → Bool            -- :85
  waveNoExtent : Nat → Bool          -- :99
  waveNonEmpty : Bool → Bool         -- :113
  waveLoop : Nat → Nat → Bool        -- :116
  bpmInRange : Bool → Bool → Bool → Bool   -- convert_track.hpp:134
  tracksByPathFound : Bool → Bool    -- database_impl.cpp:239
  utilOvwZero : Nat → Int → F64.Bits → Bool   -- track_utils.hpp:60

def Guards.source : Guards where
  hotCueAt := C15Guards.v2_track_hot_cue_at_range
  setHotCueAt := C15Guards.v2_track_set_hot_cue_at_range
  loopAt := C15Guards.v2_track_loop_at_range
  setLoopAt := C15Guards.v2_track_set_loop_at_range
  waveEmpty := C15Guards.v2_wave_empty
  waveAbsent := C15Guards.v2_wave_absent
  waveRange := C15Guards.v2_wave_range
  waveNoExtent := C15Guards.v2_wave_noextent
  waveNonEmpty := C15Guards.v2_wave_nonempty
  waveLoop := C15Guards.v2_wave_loop
  bpmInRange := C15Guards.v2_bpm_inrange
  tracksByPathFound := C15Guards.v2_db_tracks_by_path_found
  utilOvwZero := C15Guards.util_ovw_zero

/-! ### per-slot accessors (track_impl.cpp:396-425, 470-499) -/

def getHotCueAtG (g : Guards) (r : Row) (i : UInt32) : Res (Option HotCue) :=
  if g.hotCueAt (s32 i) r.cues.1.cues.length then .throw .out_of_range            -- :399
  else (indexAt r.cues.1.cues (s32 i)).bind fun q => .ok (readHotCue q)           -- :406 quick_cues[index]

def getLoopAtG (g : Guards) (r : Row) (i : UInt32) : Res (Option LoopV) :=
  if g.loopAt (s32 i) r.loops.1.length then .throw .out_of_range                  -- :473
  else (indexAt r.loops.1 (s32 i)).bind fun q => .ok (readLoop q)                 -- :480 loops[index]

/-- The index site of a setter call: the range test, then `v[index] = …` (:419, :493).  `ok` also when the
test throws — which exception, and the value written, are `applySetter`'s. -/
def setSiteG (g : Guards) (r : Row) : Setter → Res Unit
  | .hotCueAt i _ =>
    if g.setHotCueAt (s32 i) r.cues.1.cues.length then .ok ()
    else (indexAt r.cues.1.cues (s32 i)).bind fun _ => .ok ()
  | .loopAt i _ =>
    if g.setLoopAt (s32 i) r.loops.1.length then .ok ()
    else (indexAt r.loops.1 (s32 i)).bind fun _ => .ok ()
  | _ => .ok ()

/-! ### convert::write::waveform (convert_waveform.hpp:62-131) over the generated track_utils -/

/-- the double arithmetic the generated `track_utils` code runs over -/
def cxxOps (ops : FOps) : Cxx.FloatOps F :=
  ⟨toI64, fun i => ops.ofI64 (u64OfInt i), fun n => ops.ofU64 (UInt64.ofNat n), ops.div⟩

/-- `for (i = 0; i < extents.size; ++i) { … w[w.size() * (2 * i + 1) / 2048] … }` -/
def waveLoopG (g : Guards) (w : List WEntry) (size : Nat) : Nat → Nat → Res Unit
  | 0, _ => .ub .nontermination
  | fuel + 1, i =>
    if g.waveLoop i size then                                                          -- :116
      (indexAt w ((w.length * (2 * i + 1) / 2048 : Nat) : Int)).bind fun _ =>          -- :118
        waveLoopG g w size fuel (i + 1)
    else .ok ()

/-- Outcome class of `convert::write::waveform(w, sample_count, sample_rate)`: `ok ()` stands for
"returns or throws" (the package model says which), `ub` for the undefined behaviours of its own code. -/
def waveSiteG (g : Guards) (ops : FOps) (w : List WEntry) (count : Option UInt64) (rate : Option F) : Res Unit :=
  if g.waveEmpty w.isEmpty then .ok ()                                                 -- :70
  else if g.waveAbsent count.isSome rate.isSome then .ok ()                            -- :76 throw
  else (deref rate).bind fun r =>                                                      -- :85 *sample_rate
    if g.waveRange (toI64 r).isSome then .ok ()                                        -- :85 throw
    else (deref count).bind fun n =>                                                   -- :94 *sample_count
      (GuardedUtils.extentsSiteG g.utilOvwZero toI64 n.toNat r).bind fun _ =>          -- :93 track_utils.hpp:52-69
      match Gen.TrackUtils.calculate_overview_waveform_extents (cxxOps ops) n.toNat r with   -- :93 (the same, regenerated whole)
      | none => .ub (if (toI64 r).isNone then .float_cast_range else .div_zero)
      | some (size, _) =>
        if g.waveNoExtent size then .ok ()                                             -- :99 throw
        else if g.waveNonEmpty w.isEmpty then waveLoopG g w size (size + 1) 0          -- :113-127
        else .ok ()

/-! ### convert::write::bpm (convert_track.hpp:124-140) -/

def minI64 : F := 0xc3e0000000000000      -- -9223372036854775808.0
def two63 : F := 0x43e0000000000000       -- 9223372036854775808.0

def bpmSiteG (g : Guards) (bpm : Option F) : Res Unit :=
  let ge := match bpm with | some b => F64.le minI64 b | none => false
  let lt := match bpm with | some b => F64.lt b two63 | none => false
  if g.bpmInRange bpm.isSome ge lt then                                                -- :134
    (deref bpm).bind fun b =>                                                          -- :136 *bpm
      match toI64 b with                                                               -- :136 static_cast<int64_t>
      | some _ => .ok ()
      | none => .ub .float_cast_range
  else .ok ()

/-- The conversions `snapshot_to_row` (track_impl.cpp:44-175) performs, in its order, as far as they carry
sites: nothing is converted before the path and the file type are known (:49, :64). -/
def snapSiteG (g : Guards) (ops : FOps) (x : Snap) : Res Unit :=
  match x.relativePath with
  | none => .ok ()
  | some path =>
    match getFileExtension (getFilename path) with
    | none => .ok ()
    | some _ =>
      (bpmSiteG g x.bpm).bind fun _ => waveSiteG g ops x.waveform x.sampleCount x.sampleRate

/-! ### the dispatcher -/

def stepGW (g : Guards) (ops : FOps) (s : Schema) (db : Db) : Op → Db × Res Out
  | .get id (.hotCueAt i) =>
    match db.get id with
    | some r => lift db (getHotCueAtG g r i) fun q => Out.val (.ocue q)
    | none => (db, .throw .runtime_error)
  | .get id (.loopAt i) =>
    match db.get id with
    | some r => lift db (getLoopAtG g r i) fun q => Out.val (.oloop q)
    | none => (db, .throw .runtime_error)
  | .set id σ =>
    match db.get id with
    | some r =>
      match setSiteG g r σ with
      | .ub u => (db, .ub u)
      | _ => step ops s db (.set id σ)
    | none => step ops s db (.set id σ)
  | .create x =>
    match snapSiteG g ops x with
    | .ub u => (db, .ub u)
    | _ => step ops s db (.create x)
  | .update id x =>
    match snapSiteG g ops x with
    | .ub u => (db, .ub u)
    | _ => step ops s db (.update id x)
  | op => step ops s db op

def stepG (ops : FOps) (s : Schema) (db : Db) (op : Op) : Db × Res Out := stepGW Guards.source ops s db op

def outcomesG (ops : FOps) (s : Schema) (db : Db) : List Op → List (Res Out)
  | [] => []
  | op :: t => (stepG ops s db op).2 :: outcomesG ops s (stepG ops s db op).1 t

/-! ### the whole public alphabet of `database` / `track` over this model

`Call` adds to `Op` the database-level track queries.  `uuid()`, `version_name()`, `directory()` and
`verify()` answer from the Information row / the schema constant / the path the library was opened with /
the schema catalog: they have NO content in this model (outcome `ok`), are exercised by the tie only
(C15 scripts call them on live and emptied libraries) and are C12 / C13 / C17's subject. -/

inductive Call where
  | op (o : Op)
  | dbTracks                          -- database::tracks
  | dbTrackById (id : Nat)            -- database::track_by_id
  | dbTracksByPath (p : Bytes)        -- database::tracks_by_relative_path
  | dbUuid | dbVersionName | dbDirectory | dbVerify
  deriving Repr

inductive CallOut where
  | out (o : Out)
  | ids (l : List Nat)
  | oid (i : Option Nat)
  | unit
  deriving DecidableEq, Repr

/-- `track_table::find_id_by_path`: the callback overwrites `result` (the assert is compiled out). -/
def findIdByPath (db : Db) (p : Bytes) : Option Nat := ((db.rows.filter fun e => e.2.path == p).getLast?).map (·.1)

/-- `database_impl::tracks_by_relative_path` (database_impl.cpp:233-245): `*id_maybe` behind `if (id_maybe)`. -/
def tracksByPathG (g : Guards) (db : Db) (p : Bytes) : Res (List Nat) :=
  let idMaybe := findIdByPath db p                                                     -- :238
  if g.tracksByPathFound idMaybe.isSome then (deref idMaybe).bind fun i => .ok [i]      -- :239, :241
  else .ok []

def callGW (g : Guards) (ops : FOps) (s : Schema) (db : Db) : Call → Db × Res CallOut
  | .op o =>
    let p := stepGW g ops s db o
    (p.1, match p.2 with | .ok a => .ok (.out a) | .throw e => .throw e | .ub u => .ub u)
  | .dbTracks => (db, .ok (.ids (db.rows.map (·.1))))
  | .dbTrackById id => (db, .ok (.oid (if isValid db id then some id else none)))
  | .dbTracksByPath p =>
    (db, match tracksByPathG g db p with | .ok l => .ok (.ids l) | .throw e => .throw e | .ub u => .ub u)
  | .dbUuid | .dbVersionName | .dbDirectory | .dbVerify => (db, .ok .unit)

def callG (ops : FOps) (s : Schema) (db : Db) (c : Call) : Db × Res CallOut := callGW Guards.source ops s db c

def callOutcomes (ops : FOps) (s : Schema) (db : Db) : List Call → List (Res CallOut)
  | [] => []
  | c :: t => (callG ops s db c).2 :: callOutcomes ops s (callG ops s db c).1 t

end EngineModel.Api.GuardedTracksV2
