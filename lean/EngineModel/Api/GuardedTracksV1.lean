/-
C15, schema 1.x tracks: the places of src/djinterop/engine/v1/engine_track_impl.cpp at which the
library's own code indexes a vector, dereferences an optional, converts a double to an integer or
divides — written as POSSIBLE `ub` outcomes behind the C++ guard *as regenerated from the source on
every run* (`Gen.C15Guards`, tools/tr_c15guards.py); the extents arithmetic is the regenerated
`Gen.TrackUtils` (tools/tr_trackutils.py).

`siteG` gives, for one call of the dispatcher `Api.C15TracksV1.step`, the outcome CLASS of those
places only (`ok ()` = "the call goes on": what it returns or throws is the tracks-1.x package's model):
  * the four per-slot accessors: range test, then `v[index]`;
  * `set_bpm`: `static_cast<int64_t>(std::ceil(*bpm))` behind `bpm && fabs(*bpm) < 2^63`;
  * create_track / update: `to_length_calculated`, `to_bpm_fields`, `to_overview_waveform_data`,
    `to_high_res_waveform_data` in the order `create_track` / `update` call them.
`stepG` answers `ub` when `siteG` does and is `step` otherwise.  A guard weakened or dropped in the C++
changes `Gen.C15Guards`; `stepG` then answers `ub` where the real code misbehaves, and the proofs of
Proofs/NoUbGuardsTracksV1.lean (siteG = ok, stepG = step) no longer go through.
-/
import EngineModel.Api.C15TracksV1
import EngineModel.Gen.C15Guards
import EngineModel.Api.GuardedUtils

namespace EngineModel.Api.GuardedTracksV1
open EngineModel EngineModel.TracksV1 EngineModel.Api.C15TracksV1 EngineModel.Gen
open Fl (FOps)

def deref {α : Type} : Option α → Res α
  | some a => .ok a
  | none => .ub .empty_optional

/-- `v[index]` with an `int` index (converted to `size_type`): undefined outside `0 ≤ index < size()`. -/
def indexAt {α : Type} (l : List α) (i : Int) : Res α :=
  if 0 ≤ i then
    match l[i.toNat]? with
    | some a => .ok a
    | none => .ub .oob_index
  else .ub .oob_index

structure Guards where
  hotCueAt : Int → Nat → Bool                    -- engine_track_impl.cpp:781
  setHotCueAt : Int → Nat → Bool                 -- :796
  loopAt : Int → Nat → Bool                      -- :913
  setLoopAt : Int → Nat → Bool                   -- :927
  lengthCalcNone : Bool → Bool → Bool → Bool → Bool   -- :83
  bpmFieldsInRange : Bool → Bool → Bool          -- :130
  setBpmInRange : Bool → Bool → Bool             -- :668
  extentsRateOut : Bool → Bool                   -- :224
  overviewAbsent : Bool → Bool → Bool            -- :237
  overviewNonEmpty : Bool → Bool                 -- :246
  overviewLoop : Nat → Nat → Bool                -- :250
  hiresAbsent : Bool → Bool → Bool → Bool → Bool -- :269
  utilOvwZero : Nat → Int → F64.Bits → Bool      -- track_utils.hpp:60
  utilHiresZero : Nat → Int → F64.Bits → Bool    -- track_utils.hpp:42

def Guards.source : Guards where
  hotCueAt := C15Guards.v1_track_hot_cue_at_range
  setHotCueAt := C15Guards.v1_track_set_hot_cue_at_range
  loopAt := C15Guards.v1_track_loop_at_range
  setLoopAt := C15Guards.v1_track_set_loop_at_range
  lengthCalcNone := C15Guards.v1_length_calc_none
  bpmFieldsInRange := C15Guards.v1_bpm_fields_inrange
  setBpmInRange := C15Guards.v1_set_bpm_inrange
  extentsRateOut := C15Guards.v1_extents_rate_out
  overviewAbsent := C15Guards.v1_overview_absent
  overviewNonEmpty := C15Guards.v1_overview_nonempty
  overviewLoop := C15Guards.v1_overview_loop
  hiresAbsent := C15Guards.v1_hires_absent
  utilOvwZero := C15Guards.util_ovw_zero
  utilHiresZero := C15Guards.util_hires_zero

/-- the rows a per-slot accessor works on: those of the track, or the defaults on the handle of a removed track -/
def slotRows (d : Db) (id : Int) : TrackRows := (d.rows id).getD blankRows

def slotSiteG {α : Type} (guard : Int → Nat → Bool) (l : List α) (i : UInt32) : Res Unit :=
  if guard (Prim.s32 i) l.length then .ok ()                        -- the range test: throws std::out_of_range
  else (indexAt l (Prim.s32 i)).bind fun _ => .ok ()                -- `v[index]`

/-! ### the conversions of create_track / update -/

/-- `to_length_calculated` (engine_track_impl.cpp:75-90) -/
def lengthCalcSiteG (g : Guards) (count : Option UInt64) (rate : Option Bits) : Res Unit :=
  let ge1 := match rate with | some r => F64.le F64.one r | none => false
  let lt := match rate with | some r => F64.lt r Fl.two63 | none => false
  if g.lengthCalcNone count.isSome rate.isSome ge1 lt then .ok ()                       -- :83 return nullopt
  else (deref count).bind fun c => (deref rate).bind fun r =>                           -- :89 *sample_count, *sample_rate
    match Fl.toI64 r with                                                               -- :89 static_cast<int64_t>(…)
    | none => .ub .float_cast_range
    | some dv =>
      match Cxx.I64.div (Prim.s64 c) dv with                                            -- :89 `/`
      | some _ => .ok ()
      | none => .ub .div_zero

/-- `to_bpm_fields` (:125-140) -/
def bpmFieldsSiteG (g : Guards) (bpm : Option Bits) : Res Unit :=
  let lt := match bpm with | some b => Fl.absLt63 b | none => false
  if g.bpmFieldsInRange bpm.isSome lt then                                              -- :130
    (deref bpm).bind fun b =>                                                           -- :132 *bpm
      match Fl.toI64 b with                                                             -- :132 static_cast<int64_t>
      | some _ => .ok ()
      | none => .ub .float_cast_range
  else .ok ()

/-- `engine_track_impl::set_bpm` (:664-680): `static_cast<int64_t>(std::ceil(*bpm))` -/
def setBpmSiteG (g : Guards) (o : FOps) (bpm : Option Bits) : Res Unit :=
  let lt := match bpm with | some b => Fl.absLt63 b | none => false
  if g.setBpmInRange bpm.isSome lt then                                                 -- :668
    (deref bpm).bind fun b =>                                                           -- :670
      match Fl.toI64 (o.ceil b) with
      | some _ => .ok ()
      | none => .ub .float_cast_range
  else .ok ()

/-- `to_extents_sample_rate` (:219-230) -/
def extentsRateG (g : Guards) (r : Bits) : Bits := if g.extentsRateOut (Fl.absLt63 r) then F64.zero else r

/-- `for (i = 0; i < extents.size; ++i) waveform[waveform.size() * (2 * i + 1) / (2 * extents.size)]` (:250-255) -/
def overviewLoopG (g : Guards) (w : List Impl.V1.Entry) (size : Nat) : Nat → Nat → Res Unit
  | 0, _ => .ub .nontermination
  | fuel + 1, i =>
    if g.overviewLoop i size then
      match Cxx.U64.div (w.length * (2 * i + 1)) (2 * size) with                        -- :253 `/`
      | none => .ub .div_zero
      | some k => (indexAt w (k : Int)).bind fun _ => overviewLoopG g w size fuel (i + 1)   -- :252
    else .ok ()

/-- `to_overview_waveform_data` (:232-259) -/
def overviewSiteG (g : Guards) (o : FOps) (count : Option UInt64) (rate : Option Bits) (w : List Impl.V1.Entry) : Res Unit :=
  if g.overviewAbsent count.isSome rate.isSome then .ok ()                              -- :237
  else (deref count).bind fun n => (deref rate).bind fun r =>                           -- :244
    (GuardedUtils.extentsSiteG g.utilOvwZero Fl.toI64 n.toNat (extentsRateG g r)).bind fun _ =>   -- track_utils.hpp:52-69
    match Gen.TrackUtils.calculate_overview_waveform_extents o.cxx n.toNat (extentsRateG g r) with
    | none => .ub .div_zero
    | some (size, _) =>
      if g.overviewNonEmpty w.isEmpty then overviewLoopG g w size (size + 1) 0          -- :246-256
      else .ok ()

/-- `to_high_res_waveform_data` (:261-291) -/
def hiresSiteG (g : Guards) (o : FOps) (count : Option UInt64) (rate : Option Bits) : Res Unit :=
  let cz := match count with | some n => n == 0 | none => false
  let rz := match rate with | some r => F64.isZero r | none => false
  if g.hiresAbsent count.isSome cz rate.isSome rz then .ok ()                           -- :269 returns or throws
  else (deref count).bind fun n => (deref rate).bind fun r =>                           -- :286
    (GuardedUtils.extentsSiteG g.utilHiresZero Fl.toI64 n.toNat (extentsRateG g r)).bind fun _ =>   -- track_utils.hpp:35-49
    match Gen.TrackUtils.calculate_high_resolution_waveform_extents o.cxx n.toNat (extentsRateG g r) with
    | none => .ub .div_zero
    | some _ => .ok ()

def snapSiteG (g : Guards) (o : FOps) (x : Snap) : Res Unit :=
  match x.relativePath with
  | none => .ok ()                                                                      -- :1222 / :495 throws first
  | some _ =>
    (lengthCalcSiteG g x.sampleCount x.sampleRate).bind fun _ =>
    (bpmFieldsSiteG g x.bpm).bind fun _ =>
    (overviewSiteG g o x.sampleCount x.sampleRate x.waveform).bind fun _ =>
    hiresSiteG g o x.sampleCount x.sampleRate

/-! ### the dispatcher -/

def siteG (g : Guards) (o : FOps) (d : Db) : Op → Res Unit
  | .create x => snapSiteG g o x
  | .update _ x => snapSiteG g o x
  | .get id (.hotCueAt i) => slotSiteG g.hotCueAt (colCues (slotRows d id)).cues i
  | .get id (.loopAt i) => slotSiteG g.loopAt (colLoops (slotRows d id)) i
  | .set id (.hotCueAt i) _ => slotSiteG g.setHotCueAt (colCues (slotRows d id)).cues i
  | .set id (.loopAt i) _ => slotSiteG g.setLoopAt (colLoops (slotRows d id)) i
  | .set id .bpm v => if (d.rows id).isSome then setBpmSiteG g o v else .ok ()
  | _ => .ok ()

def stepGW (g : Guards) (o : FOps) (d : Db) (op : Op) : Db × Res Out :=
  match siteG g o d op with
  | .ub u => (d, .ub u)
  | _ => step o d op

def stepG (o : FOps) (d : Db) (op : Op) : Db × Res Out := stepGW Guards.source o d op

def outcomesG (o : FOps) (d : Db) : List Op → List (Res Out)
  | [] => []
  | op :: t => (stepG o d op).2 :: outcomesG o (stepG o d op).1 t

/-! ### the whole public alphabet of `database` / `track` over this model

`Call` adds to `Op` the database-level track queries (single SELECTs with a callback: no dereference /
index / division site in engine_database_impl.cpp — inventory of tools/tr_c15guards.py).  `uuid()`,
`version_name()`, `directory()`, `verify()` have NO content in this model (outcome `ok`); the tie exercises
them. -/

inductive Call where
  | op (o : Op)
  | dbTracks                          -- database::tracks
  | dbTrackById (id : Int)            -- database::track_by_id
  | dbTracksByPath (p : Bytes)        -- database::tracks_by_relative_path
  | dbUuid | dbVersionName | dbDirectory | dbVerify

inductive CallOut where
  | out (o : Out)
  | ids (l : List Int)
  | oid (i : Option Int)
  | unit

def callGW (g : Guards) (o : FOps) (d : Db) : Call → Db × Res CallOut
  | .op op =>
    let p := stepGW g o d op
    (p.1, match p.2 with | .ok a => .ok (.out a) | .throw e => .throw e | .ub u => .ub u)
  | .dbTracks => (d, .ok (.ids (d.tracks.map (·.1))))
  | .dbTrackById id => (d, .ok (.oid (if dbIsValid d id then some id else none)))
  | .dbTracksByPath p => (d, .ok (.ids ((d.tracks.filter fun e => e.2.track.path == some p).map (·.1))))
  | .dbUuid | .dbVersionName | .dbDirectory | .dbVerify => (d, .ok .unit)

def callG (o : FOps) (d : Db) (c : Call) : Db × Res CallOut := callGW Guards.source o d c

def callOutcomes (o : FOps) (d : Db) : List Call → List (Res CallOut)
  | [] => []
  | c :: t => (callG o d c).2 :: callOutcomes o (callG o d c).1 t

end EngineModel.Api.GuardedTracksV1
