/-
C15, schema 1.x crates: the one dereference of the query paths of engine_crate_impl.cpp /
engine_database_impl.cpp (`*name` in `crate::name`, engine_crate_impl.cpp:280) behind its guard as
regenerated from the source (`Gen.C15Guards.v1_crate_name_none`).  Every other 1.x crate query is a
single SELECT with a callback and has no dereference / index / division site (inventory of
tools/tr_c15guards.py); the mutating paths are `Api.CratesV1.step` (its `ub`: the `update_path`
recursion).
-/
import EngineModel.Api.CratesV1
import EngineModel.Gen.C15Guards

namespace EngineModel.Api.GuardedCratesV1
open EngineModel EngineModel.Api.CratesV1 EngineModel.Gen

def deref {α : Type} : Option α → Res α
  | some a => .ok a
  | none => .ub .empty_optional

/-- `engine_crate_impl::name` (engine_crate_impl.cpp:261-282): the callback keeps the first title and throws
on a second row; then `if (!name) throw crate_deleted; return *name;`. -/
def crateNameG (noName : Bool → Bool) (db : Db) (c : Id) : Res Name :=
  match (db.crate.filter (·.id == c)).map (·.title) with
  | _ :: _ :: _ => .throw exCrateInconsistent                                   -- :272 (second row)
  | rows =>
    let name : Option Name := rows.head?                                        -- :268
    if noName name.isSome then .throw exCrateDeleted                            -- :276
    else deref name                                                             -- :280 `*name`

def crateNameSrc (db : Db) (c : Id) : Res Name := crateNameG C15Guards.v1_crate_name_none db c

end EngineModel.Api.GuardedCratesV1
