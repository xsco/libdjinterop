/-
The five schema-2.x performance-data layouts, written from the Engine format
description as data for the codec combinators (this is the *Spec*: the
independent reading of the binary layout, not a transcription of the C++).
Each value's `extra` is the free-form trailing remainder.
Doubles are `UInt64` bit patterns; `int64`/`int32` fields are bit patterns too.
-/
import EngineModel.Format.Codec

namespace EngineModel
namespace V2

open Codec

structure Color where
  a : UInt8
  r : UInt8
  g : UInt8
  b : UInt8
  deriving Repr, DecidableEq, Inhabited

def color : Codec Color :=
  map (fun (p : UInt8 × UInt8 × UInt8 × UInt8) => ⟨p.1, p.2.1, p.2.2.1, p.2.2.2⟩)
      (fun c => (c.a, c.r, c.g, c.b))
      (pair u8 (pair u8 (pair u8 u8)))

theorem color_sound : color.Sound (fun _ => True) :=
  (map_sound (fun _ => rfl)
    (pair_sound u8_sound (pair_sound u8_sound (pair_sound u8_sound u8_sound)))).mono
    (fun _ _ => ⟨trivial, trivial, trivial, trivial⟩)

theorem color_exact : color.Exact (fun _ => True) :=
  (map_exact (fun _ => rfl)
    (pair_exact u8_exact (pair_exact u8_exact (pair_exact u8_exact u8_exact)))).mono
    (fun _ _ => trivial)

theorem color_fixed : color.Fixed 4 :=
  map_fixed (pair_fixed u8_fixed (pair_fixed u8_fixed (pair_fixed u8_fixed u8_fixed)))

structure Marker where
  off : UInt64        -- double LE
  beatNo : UInt64     -- int64 LE
  nBeats : UInt32     -- int32 LE
  unk : UInt32        -- int32 LE
  deriving Repr, DecidableEq, Inhabited

def marker : Codec Marker :=
  map (fun (p : UInt64 × UInt64 × UInt32 × UInt32) => ⟨p.1, p.2.1, p.2.2.1, p.2.2.2⟩)
      (fun m => (m.off, m.beatNo, m.nBeats, m.unk))
      (pair u64le (pair u64le (pair u32le u32le)))

theorem marker_sound : marker.Sound (fun _ => True) :=
  (map_sound (fun _ => rfl)
    (pair_sound u64le_sound (pair_sound u64le_sound (pair_sound u32le_sound u32le_sound)))).mono
    (fun _ _ => ⟨trivial, trivial, trivial, trivial⟩)

theorem marker_exact : marker.Exact (fun _ => True) :=
  (map_exact (fun _ => rfl)
    (pair_exact u64le_exact (pair_exact u64le_exact (pair_exact u32le_exact u32le_exact)))).mono
    (fun _ _ => trivial)

theorem marker_enc_length (m : Marker) : (marker.enc m).length = 24 := rfl

theorem marker_fixed : marker.Fixed 24 :=
  map_fixed (pair_fixed u64le_fixed (pair_fixed u64le_fixed (pair_fixed u32le_fixed u32le_fixed)))

def grid : Codec (List Marker) := counted u64be marker

structure Beat where
  sampleRate : UInt64   -- double BE
  samples : UInt64      -- double BE
  isSet : UInt8
  dflt : List Marker
  adj : List Marker
  deriving Repr, DecidableEq, Inhabited

def beat : Codec Beat :=
  map (fun (p : UInt64 × UInt64 × UInt8 × List Marker × List Marker) =>
        ⟨p.1, p.2.1, p.2.2.1, p.2.2.2.1, p.2.2.2.2⟩)
      (fun v => (v.sampleRate, v.samples, v.isSet, v.dflt, v.adj))
      (pair u64be (pair u64be (pair u8 (pair grid grid))))

def Beat.Valid (v : Beat) : Prop := v.dflt.length < maxCount ∧ v.adj.length < maxCount

theorem grid_sound : grid.Sound (fun l => l.length < maxCount) :=
  (counted_sound u64be_sound marker_sound).mono (fun _ h => ⟨h, fun _ _ => trivial⟩)

theorem grid_exact : grid.Exact (fun l => l.length < maxCount) :=
  (counted_exact u64be_exact marker_exact).mono (fun _ h => h.1)

theorem beat_sound : beat.Sound Beat.Valid :=
  (map_sound (fun _ => rfl)
    (pair_sound u64be_sound (pair_sound u64be_sound (pair_sound u8_sound
      (pair_sound grid_sound grid_sound))))).mono
    (fun _ h => ⟨trivial, trivial, trivial, h.1, h.2⟩)

theorem beat_exact : beat.Exact Beat.Valid :=
  (map_exact (fun _ => rfl)
    (pair_exact u64be_exact (pair_exact u64be_exact (pair_exact u8_exact
      (pair_exact grid_exact grid_exact))))).mono
    (fun _ h => ⟨h.2.2.2.1, h.2.2.2.2⟩)

structure Cue where
  label : Bytes
  off : UInt64          -- double BE
  color : Color
  deriving Repr, DecidableEq, Inhabited

def cue : Codec Cue :=
  map (fun (p : Bytes × UInt64 × Color) => ⟨p.1, p.2.1, p.2.2⟩)
      (fun q => (q.label, q.off, q.color))
      (pair lp8 (pair u64be color))

theorem cue_sound : cue.Sound (fun q => q.label.length ≤ 255) :=
  (map_sound (fun _ => rfl) (pair_sound lp8_sound (pair_sound u64be_sound color_sound))).mono
    (fun _ h => ⟨h, trivial, trivial⟩)

theorem cue_exact : cue.Exact (fun q => q.label.length ≤ 255) :=
  (map_exact (fun _ => rfl) (pair_exact lp8_exact (pair_exact u64be_exact color_exact))).mono
    (fun _ h => h.1)

/-- The wire form keeps the raw flag byte (bijective with the bytes). -/
structure CuesRaw where
  cues : List Cue
  adjMain : UInt64
  isAdj : UInt8
  defMain : UInt64
  deriving Repr, DecidableEq, Inhabited

def cuesRaw : Codec CuesRaw :=
  map (fun (p : List Cue × UInt64 × UInt8 × UInt64) => ⟨p.1, p.2.1, p.2.2.1, p.2.2.2⟩)
      (fun v => (v.cues, v.adjMain, v.isAdj, v.defMain))
      (pair (counted u64be cue) (pair u64be (pair u8 u64be)))

def CuesRaw.Valid (v : CuesRaw) : Prop :=
  v.cues.length < maxCount ∧ ∀ q ∈ v.cues, q.label.length ≤ 255

theorem cuesRaw_sound : cuesRaw.Sound CuesRaw.Valid :=
  (map_sound (fun _ => rfl)
    (pair_sound (counted_sound u64be_sound cue_sound)
      (pair_sound u64be_sound (pair_sound u8_sound u64be_sound)))).mono
    (fun _ h => ⟨h, trivial, trivial, trivial⟩)

theorem cuesRaw_exact : cuesRaw.Exact CuesRaw.Valid :=
  (map_exact (fun _ => rfl)
    (pair_exact (counted_exact u64be_exact cue_exact)
      (pair_exact u64be_exact (pair_exact u8_exact u64be_exact)))).mono
    (fun _ h => h.1)

/-- The library's view: the flag is a `bool`. -/
structure Cues where
  cues : List Cue
  adjMain : UInt64
  isAdj : Bool
  defMain : UInt64
  deriving Repr, DecidableEq, Inhabited

def Cues.toRaw (v : Cues) : CuesRaw := ⟨v.cues, v.adjMain, if v.isAdj then 1 else 0, v.defMain⟩
def CuesRaw.toCues (v : CuesRaw) : Cues := ⟨v.cues, v.adjMain, v.isAdj != 0, v.defMain⟩
/-- The one permitted normalisation of C04: a non-zero flag byte becomes 1. -/
def CuesRaw.normFlag (v : CuesRaw) : CuesRaw := { v with isAdj := if v.isAdj != 0 then 1 else 0 }

def cues : Codec Cues := map CuesRaw.toCues Cues.toRaw cuesRaw

def Cues.Valid (v : Cues) : Prop := v.cues.length < maxCount ∧ ∀ q ∈ v.cues, q.label.length ≤ 255

theorem toCues_toRaw (v : Cues) : v.toRaw.toCues = v := by
  cases v with
  | mk c a i d => cases i <;> rfl

theorem toRaw_toCues (v : CuesRaw) : v.toCues.toRaw = v.normFlag := by
  cases v with
  | mk c a i d => rfl

theorem cues_sound : cues.Sound Cues.Valid :=
  map_sound toCues_toRaw cuesRaw_sound

structure Loop where
  label : Bytes
  start : UInt64        -- double LE
  stop : UInt64         -- double LE
  isStart : UInt8
  isEnd : UInt8
  color : Color
  deriving Repr, DecidableEq, Inhabited

def loop : Codec Loop :=
  map (fun (p : Bytes × UInt64 × UInt64 × UInt8 × UInt8 × Color) =>
        ⟨p.1, p.2.1, p.2.2.1, p.2.2.2.1, p.2.2.2.2.1, p.2.2.2.2.2⟩)
      (fun l => (l.label, l.start, l.stop, l.isStart, l.isEnd, l.color))
      (pair lp8 (pair u64le (pair u64le (pair u8 (pair u8 color)))))

theorem loop_sound : loop.Sound (fun l => l.label.length ≤ 255) :=
  (map_sound (fun _ => rfl)
    (pair_sound lp8_sound (pair_sound u64le_sound (pair_sound u64le_sound
      (pair_sound u8_sound (pair_sound u8_sound color_sound)))))).mono
    (fun _ h => ⟨h, trivial, trivial, trivial, trivial, trivial⟩)

theorem loop_exact : loop.Exact (fun l => l.label.length ≤ 255) :=
  (map_exact (fun _ => rfl)
    (pair_exact lp8_exact (pair_exact u64le_exact (pair_exact u64le_exact
      (pair_exact u8_exact (pair_exact u8_exact color_exact)))))).mono
    (fun _ h => h.1)

abbrev Loops := List Loop

def loops : Codec Loops := counted u64le loop

def LoopsValid (v : Loops) : Prop := v.length < maxCount ∧ ∀ l ∈ v, l.label.length ≤ 255

theorem loops_sound : loops.Sound LoopsValid := counted_sound u64le_sound loop_sound
theorem loops_exact : loops.Exact LoopsValid := counted_exact u64le_exact loop_exact

structure Ovw where
  spp : UInt64          -- double BE: samples per waveform point
  points : Bytes        -- 3 bytes (low, mid, high) per point
  maxPt : Bytes         -- 3 bytes
  deriving Repr, DecidableEq, Inhabited

def Ovw.count (v : Ovw) : UInt64 := UInt64.ofNat (v.points.length / 3)

def ovwBody (n : UInt64) : Codec Ovw :=
  map (fun (p : Unit × UInt64 × Bytes × Bytes) => ⟨p.2.1, p.2.2.1, p.2.2.2⟩)
      (fun v => ((), v.spp, v.points, v.maxPt))
      (pair (expect u64be n) (pair u64be (pair (bytesN (3 * n.toNat)) (bytesN 3))))

/-- Two equal signed counts, the per-point span, the points, one maximum point. -/
def ovw : Codec Ovw := dep (filter (fun k => decide (k.toNat < maxCount)) u64be) Ovw.count ovwBody

def Ovw.Valid (v : Ovw) : Prop :=
  v.points.length % 3 = 0 ∧ v.points.length / 3 < maxCount ∧ v.maxPt.length = 3

theorem ovwBody_sound (n : UInt64) :
    (ovwBody n).Sound (fun v => v.points.length = 3 * n.toNat ∧ v.maxPt.length = 3) :=
  (map_sound (fun _ => rfl)
    (pair_sound (expect_sound n u64be_sound trivial)
      (pair_sound u64be_sound (pair_sound (bytesN_sound _) (bytesN_sound 3))))).mono
    (fun _ h => ⟨trivial, trivial, h.1, h.2⟩)

theorem ovwBody_exact (n : UInt64) :
    (ovwBody n).Exact (fun v => v.points.length = 3 * n.toNat ∧ v.maxPt.length = 3) :=
  (map_exact (fun _ => rfl)
    (pair_exact (expect_exact n u64be_exact)
      (pair_exact u64be_exact (pair_exact (bytesN_exact _) (bytesN_exact 3))))).mono
    (fun _ h => ⟨h.2.2.1, h.2.2.2⟩)

theorem Ovw.count_toNat {v : Ovw} (h : v.points.length / 3 < maxCount) :
    v.count.toNat = v.points.length / 3 := by
  unfold Ovw.count
  simp
  unfold maxCount at h; omega

theorem ovw_sound : ovw.Sound Ovw.Valid := by
  have h := dep_sound (key := Ovw.count) (filter_sound (p := fun k => decide (k.toNat < maxCount)) u64be_sound)
    ovwBody_sound
  refine h.mono ?_
  intro v ⟨h1, h2, h3⟩
  have hc := Ovw.count_toNat h2
  refine ⟨⟨trivial, by simp [hc, h2]⟩, ?_, h3⟩
  rw [hc]; omega

theorem ovw_exact : ovw.Exact Ovw.Valid := by
  have h := dep_exact (key := Ovw.count) (filter_exact (p := fun k => decide (k.toNat < maxCount)) u64be_exact)
    ovwBody_exact (by
      intro k v ⟨h1, _⟩
      unfold Ovw.count
      rw [h1]
      simp)
  refine h.mono ?_
  intro v ⟨⟨_, hk⟩, h1, h3⟩
  simp at hk
  refine ⟨by omega, ?_, h3⟩
  rw [h1]; simpa using hk

structure Track where
  sampleRate : UInt64   -- double BE
  samples : UInt64      -- int64 BE
  key : UInt32          -- int32 BE
  lo : UInt64           -- double BE
  mid : UInt64
  hi : UInt64
  deriving Repr, DecidableEq, Inhabited

def track : Codec Track :=
  map (fun (p : UInt64 × UInt64 × UInt32 × UInt64 × UInt64 × UInt64) =>
        ⟨p.1, p.2.1, p.2.2.1, p.2.2.2.1, p.2.2.2.2.1, p.2.2.2.2.2⟩)
      (fun v => (v.sampleRate, v.samples, v.key, v.lo, v.mid, v.hi))
      (pair u64be (pair u64be (pair u32be (pair u64be (pair u64be u64be)))))

theorem track_sound : track.Sound (fun _ => True) :=
  (map_sound (fun _ => rfl)
    (pair_sound u64be_sound (pair_sound u64be_sound (pair_sound u32be_sound
      (pair_sound u64be_sound (pair_sound u64be_sound u64be_sound)))))).mono
    (fun _ _ => ⟨trivial, trivial, trivial, trivial, trivial, trivial⟩)

theorem track_exact : track.Exact (fun _ => True) :=
  (map_exact (fun _ => rfl)
    (pair_exact u64be_exact (pair_exact u64be_exact (pair_exact u32be_exact
      (pair_exact u64be_exact (pair_exact u64be_exact u64be_exact)))))).mono
    (fun _ _ => trivial)

theorem track_enc_length (v : Track) : (track.enc v).length = 44 := rfl

theorem track_fixed : track.Fixed 44 :=
  map_fixed (pair_fixed u64be_fixed (pair_fixed u64be_fixed (pair_fixed u32be_fixed
    (pair_fixed u64be_fixed (pair_fixed u64be_fixed u64be_fixed)))))

end V2
end EngineModel
