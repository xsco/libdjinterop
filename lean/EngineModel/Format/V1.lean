/-
The six schema-1.x performance-data layouts as a Spec: the wire formats are
codec-combinator layouts (the 1.x wire formats of beat data, quick cues and
loops are the 2.x ones; waveforms and track data are defined here), and the
logical values (`std::optional` fields, absent cue/loop slots, beat grids
without per-marker beat counts, waveforms without their maximum entry) are
related to the wire tuples by explicit `…ToWire` / `…OfWire` maps (`trackToWire`, `cueOfWire`, …) written from
the format description:

* a double / integer field holding 0 means "absent";
* a cue (loop) slot whose (start) offset is exactly −1.0 is an empty slot;
  an empty slot is written with an empty label, offset(s) −1.0 and zero
  colour/flags; a present loop has both flags 1;
* a beat-grid marker carries the number of beats to the next marker, 0 on the
  last; a grid has 0 or 2..32768 markers, strictly increasing in index and
  offset; beat data may be followed by zero bytes only;
* the main-cue flag is 0 iff adjusted = default;
* waveforms end with one extra entry holding the per-channel maxima; the
  overview waveform has no opacity channel (read back as 255);
* quick cues hold exactly 8 slots when written.

`encodeX : value → Option Bytes` (`none` = outside the format) and
`decodeX : Bytes → Option value` (`none` = malformed).
-/
import EngineModel.Format.V2
import EngineModel.Impl.V1

namespace EngineModel
namespace V1
open Codec
open EngineModel.Impl.V1 (GMarker Beat HotCue Cues LoopV Loops Entry Wave Track)

def optZ (x : UInt64) : Option UInt64 := if F64.isZero x then none else some x

/-! ### track data: sample rate, sample count, average loudness, key; exactly 28 bytes -/

def trackWire : Codec (UInt64 × UInt64 × UInt64 × UInt32) := pair u64be (pair u64be (pair u64be u32be))

theorem trackWire_sound : trackWire.Sound (fun _ => True) :=
  (pair_sound u64be_sound (pair_sound u64be_sound (pair_sound u64be_sound u32be_sound))).mono
    (fun _ _ => ⟨trivial, trivial, trivial, trivial⟩)

def trackToWire (v : Track) : UInt64 × UInt64 × UInt64 × UInt32 :=
  (v.sampleRate.getD 0, v.sampleCount.getD 0, v.loudness.getD 0, v.key.getD 0)
def trackOfWire (w : UInt64 × UInt64 × UInt64 × UInt32) : Track :=
  ⟨optZ w.1, if w.2.1 = 0 then none else some w.2.1, optZ w.2.2.1, if w.2.2.2 = 0 then none else some w.2.2.2⟩

def encodeTrack (v : Track) : Option Bytes := some (trackWire.enc (trackToWire v))
def decodeTrack (bs : Bytes) : Option Track :=
  match trackWire.dec bs with
  | some (w, []) => some (trackOfWire w)
  | _ => none

/-! ### waveforms: count, count again, samples per entry, entries, one entry of maxima -/

structure WaveRaw where
  spe : UInt64
  points : Bytes
  maxPt : Bytes
  deriving Repr, DecidableEq, Inhabited

def waveBody (w : Nat) (n : UInt64) : Codec WaveRaw :=
  map (fun (p : Unit × UInt64 × Bytes × Bytes) => ⟨p.2.1, p.2.2.1, p.2.2.2⟩)
      (fun v => ((), v.spe, v.points, v.maxPt))
      (pair (expect u64be n) (pair u64be (pair (bytesN (w * n.toNat)) (bytesN w))))

def waveCount (w : Nat) (v : WaveRaw) : UInt64 := UInt64.ofNat (v.points.length / w)

def wave (w : Nat) : Codec WaveRaw :=
  dep (filter (fun k => decide (k.toNat < maxCount)) u64be) (waveCount w) (waveBody w)

def WaveRaw.Valid (w : Nat) (v : WaveRaw) : Prop :=
  v.points.length % w = 0 ∧ v.points.length / w < maxCount ∧ v.maxPt.length = w

theorem waveBody_sound (w : Nat) (n : UInt64) :
    (waveBody w n).Sound (fun v => v.points.length = w * n.toNat ∧ v.maxPt.length = w) :=
  (map_sound (fun _ => rfl)
    (pair_sound (expect_sound n u64be_sound trivial)
      (pair_sound u64be_sound (pair_sound (bytesN_sound _) (bytesN_sound w))))).mono
    (fun _ h => ⟨trivial, trivial, h.1, h.2⟩)

theorem waveBody_exact (w : Nat) (n : UInt64) :
    (waveBody w n).Exact (fun v => v.points.length = w * n.toNat ∧ v.maxPt.length = w) :=
  (map_exact (fun _ => rfl)
    (pair_exact (expect_exact n u64be_exact)
      (pair_exact u64be_exact (pair_exact (bytesN_exact _) (bytesN_exact w))))).mono
    (fun _ h => ⟨h.2.2.1, h.2.2.2⟩)

theorem waveCount_toNat {w : Nat} {v : WaveRaw} (h : v.points.length / w < maxCount) :
    (waveCount w v).toNat = v.points.length / w := by
  unfold waveCount
  simp
  unfold maxCount at h; omega

theorem wave_sound (w : Nat) : (wave w).Sound (WaveRaw.Valid w) := by
  have h := dep_sound (key := waveCount w)
    (filter_sound (p := fun k => decide (k.toNat < maxCount)) u64be_sound) (waveBody_sound w)
  refine h.mono ?_
  intro v ⟨h1, h2, h3⟩
  have hc := waveCount_toNat h2
  refine ⟨⟨trivial, by simp [hc, h2]⟩, ?_, h3⟩
  rw [hc]
  have := Nat.div_add_mod v.points.length w
  omega

theorem wave_exact (w : Nat) (hw : 0 < w) : (wave w).Exact (WaveRaw.Valid w) := by
  have h := dep_exact (key := waveCount w)
    (filter_exact (p := fun k => decide (k.toNat < maxCount)) u64be_exact) (waveBody_exact w) (by
      intro k v ⟨h1, _⟩
      unfold waveCount
      rw [h1, Nat.mul_div_cancel_left _ hw]
      simp)
  refine h.mono ?_
  intro v ⟨⟨_, hk⟩, h1, h3⟩
  simp at hk
  have hc : v.points.length / w = (waveCount w v).toNat := by
    unfold waveCount at h1 ⊢
    rw [h1, Nat.mul_div_cancel_left _ hw]; simp
  refine ⟨?_, ?_, h3⟩
  · rw [h1]; exact Nat.mul_mod_right _ _
  · rw [hc]; exact hk

def maxOf (f : Entry → UInt8) (es : List Entry) : UInt8 :=
  es.foldl (fun m e => if m < f e then f e else m) 0

def flat3 (es : List Entry) : Bytes := es.flatMap fun e => [e.lv, e.mv, e.hv]
def flat6 (es : List Entry) : Bytes := es.flatMap fun e => [e.lv, e.mv, e.hv, e.lo, e.mo, e.ho]

def chunk3 : Bytes → List Entry
  | a :: b :: c :: r => ⟨a, b, c, 255, 255, 255⟩ :: chunk3 r
  | _ => []
def chunk6 : Bytes → List Entry
  | a :: b :: c :: d :: e :: f :: r => ⟨a, b, c, d, e, f⟩ :: chunk6 r
  | _ => []

def encodeOvw (v : Wave) : Option Bytes :=
  some ((wave 3).enc ⟨v.spe, flat3 v.entries,
    [maxOf (·.lv) v.entries, maxOf (·.mv) v.entries, maxOf (·.hv) v.entries]⟩)
def decodeOvw (bs : Bytes) : Option Wave :=
  match (wave 3).dec bs with
  | some (raw, []) => some ⟨raw.spe, chunk3 raw.points⟩
  | _ => none

def encodeHires (v : Wave) : Option Bytes :=
  some ((wave 6).enc ⟨v.spe, flat6 v.entries,
    [maxOf (·.lv) v.entries, maxOf (·.mv) v.entries, maxOf (·.hv) v.entries,
     maxOf (·.lo) v.entries, maxOf (·.mo) v.entries, maxOf (·.ho) v.entries]⟩)
def decodeHires (bs : Bytes) : Option Wave :=
  match (wave 6).dec bs with
  | some (raw, []) => some ⟨raw.spe, chunk6 raw.points⟩
  | _ => none

/-! ### quick cues (wire format = 2.x `cuesRaw`, no trailing data) -/

def cueToWire : Option HotCue → V2.Cue
  | none => ⟨[], F64.negOne, ⟨0, 0, 0, 0⟩⟩
  | some q => ⟨q.label, q.off, q.color⟩
def cueOfWire (q : V2.Cue) : Option HotCue :=
  if F64.ne q.off F64.negOne then some ⟨q.label, q.off, q.color⟩ else none

def cueSlotOk : Option HotCue → Bool
  | none => true
  | some q => decide (1 ≤ q.label.length ∧ q.label.length ≤ 255)

def encodeCues (v : Cues) : Option Bytes :=
  if v.cues.length = 8 ∧ v.cues.all cueSlotOk then
    some (V2.cuesRaw.enc ⟨v.cues.map cueToWire, v.adjMain, if F64.eq v.adjMain v.defMain then 0 else 1, v.defMain⟩)
  else none

def decodeCues (bs : Bytes) : Option Cues :=
  match V2.cuesRaw.dec bs with
  | some (raw, []) =>
    if raw.isAdj.toNat > 1 ∨ (raw.isAdj.toNat = 0 ∧ F64.ne raw.adjMain raw.defMain) then none
    else some ⟨raw.cues.map cueOfWire, raw.adjMain, raw.defMain⟩
  | _ => none

/-! ### loops (wire format = 2.x `loops`, no trailing data) -/

def loopToWire : Option LoopV → V2.Loop
  | none => ⟨[], F64.negOne, F64.negOne, 0, 0, ⟨0, 0, 0, 0⟩⟩
  | some l => ⟨l.label, l.start, l.stop, 1, 1, l.color⟩
def loopOfWire (l : V2.Loop) : Option LoopV :=
  if F64.ne l.start F64.negOne then some ⟨l.label, l.start, l.stop, l.color⟩ else none

def loopSlotOk : Option LoopV → Bool
  | none => true
  | some l => decide (1 ≤ l.label.length ∧ l.label.length ≤ 255)

def encodeLoops (v : Loops) : Option Bytes :=
  if v.all loopSlotOk then some (V2.loops.enc (v.map loopToWire)) else none

def decodeLoops (bs : Bytes) : Option Loops :=
  match V2.loops.dec bs with
  | some (ws, []) => some (ws.map loopOfWire)
  | _ => none

/-! ### beat data (wire format = 2.x `beat`, followed by zero bytes only) -/

/-- a well-formed grid: empty, or 2..32768 markers strictly increasing in index
(by less than 2^31) and in offset -/
def gridOk : List GMarker → Bool
  | [] => true
  | [_] => false
  | g => decide (g.length ≤ 32768) && go g
where
  go : List GMarker → Bool
    | a :: b :: rest =>
      decide (Prim.s32 a.index < Prim.s32 b.index) &&
      decide (Prim.s32 b.index - Prim.s32 a.index ≤ 2147483647) &&
      !F64.le b.off a.off && go (b :: rest)
    | _ => true

def gridToWire : List GMarker → List V2.Marker
  | [] => []
  | [a] => [⟨a.off, Prim.u64OfInt (Prim.s32 a.index), 0, 0⟩]
  | a :: b :: rest =>
    ⟨a.off, Prim.u64OfInt (Prim.s32 a.index), Prim.u32OfInt (Prim.s32 b.index - Prim.s32 a.index), 0⟩ ::
      gridToWire (b :: rest)

/-- markers read back: index = low 32 bits of the beat number -/
def gridOfWire (ws : List V2.Marker) : List GMarker :=
  ws.map fun m => ⟨UInt32.ofNat (m.beatNo.toNat % 4294967296), m.off⟩

/-- the announced beat counts must equal the index differences, 0 on the last -/
def countsOk : List V2.Marker → Bool
  | [] => true
  | [a] => a.nBeats == 0
  | a :: b :: rest =>
    decide (Prim.s32 (UInt32.ofNat (b.beatNo.toNat % 4294967296)) - Prim.s32 (UInt32.ofNat (a.beatNo.toNat % 4294967296))
      = Prim.s32 a.nBeats) && countsOk (b :: rest)

def wireGridOk (ws : List V2.Marker) : Bool := gridOk (gridOfWire ws) && countsOk ws

def encodeBeat (v : Beat) : Option Bytes :=
  if gridOk v.dflt && gridOk v.adj then
    some (V2.beat.enc ⟨v.sampleRate.getD 0, v.sampleCount.getD 0, 1, gridToWire v.dflt, gridToWire v.adj⟩)
  else none

def decodeBeat (bs : Bytes) : Option Beat :=
  match V2.beat.dec bs with
  | some (w, rest) =>
    if wireGridOk w.dflt && wireGridOk w.adj && rest.all (· == 0) then
      some ⟨optZ w.sampleRate, optZ w.samples, gridOfWire w.dflt, gridOfWire w.adj⟩
    else none
  | none => none

end V1
end EngineModel
