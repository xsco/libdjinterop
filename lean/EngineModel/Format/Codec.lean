/-
A tiny codec-combinator language with its laws proved once, generically.
A `Codec α` is an encoder together with a prefix decoder that returns the
unconsumed remainder.  Two laws:

* `Sound c P`  — every `P`-valid value is decoded back from its encoding,
                 whatever bytes follow (round trip, property C03);
* `Exact c P`  — whatever the decoder accepts *is* the encoding of the decoded
                 value followed by the remainder, and the value is valid
                 (byte preservation, property C04; also: the decoder accepts
                 nothing that the encoder could not have produced).

A third predicate speaks of lengths only: `Fixed c w`, the decoder accepts exactly
the inputs of at least `w` bytes and consumes `w` of them.
-/
import EngineModel.Basic.Prim

namespace EngineModel

structure Codec (α : Type) where
  enc : α → Bytes
  dec : Bytes → Option (α × Bytes)

namespace Codec

def Sound {α} (c : Codec α) (P : α → Prop) : Prop :=
  ∀ a, P a → ∀ r, c.dec (c.enc a ++ r) = some (a, r)

def Exact {α} (c : Codec α) (P : α → Prop) : Prop :=
  ∀ bs a r, c.dec bs = some (a, r) → P a ∧ bs = c.enc a ++ r

theorem Exact.length_le {α} {c : Codec α} {P} (h : c.Exact P) {bs a r}
    (hd : c.dec bs = some (a, r)) : r.length ≤ bs.length := by
  have := (h bs a r hd).2
  rw [this]; simp

def u8 : Codec UInt8 where
  enc x := [x]
  dec
    | b :: r => some (b, r)
    | [] => none

theorem u8_sound : u8.Sound (fun _ => True) := by
  intro a _ r; rfl

theorem u8_exact : u8.Exact (fun _ => True) := by
  intro bs a r h
  cases bs with
  | nil => simp [u8] at h
  | cons b t => simp [u8] at h; obtain ⟨rfl, rfl⟩ := h; simp [u8]

def u32be : Codec UInt32 where
  enc := Prim.encU32BE
  dec
    | a :: b :: c :: d :: r => some (Prim.decU32BE a b c d, r)
    | _ => none

def u32le : Codec UInt32 where
  enc := Prim.encU32LE
  dec
    | a :: b :: c :: d :: r => some (Prim.decU32LE a b c d, r)
    | _ => none

theorem u32be_sound : u32be.Sound (fun _ => True) := by
  intro x _ r
  obtain ⟨a, b, c, d, h, hd⟩ := Prim.encU32BE_cases x
  simp [u32be, h, hd]

theorem u32le_sound : u32le.Sound (fun _ => True) := by
  intro x _ r
  obtain ⟨a, b, c, d, h, hd⟩ := Prim.encU32LE_cases x
  simp [u32le, h, hd]

theorem u32be_exact : u32be.Exact (fun _ => True) := by
  intro bs x r h
  match bs, h with
  | a :: b :: c :: d :: t, h =>
    simp [u32be] at h
    obtain ⟨rfl, rfl⟩ := h
    simp [u32be, Prim.encU32BE_decU32BE]

theorem u32le_exact : u32le.Exact (fun _ => True) := by
  intro bs x r h
  match bs, h with
  | a :: b :: c :: d :: t, h =>
    simp [u32le] at h
    obtain ⟨rfl, rfl⟩ := h
    simp [u32le, Prim.encU32LE_decU32LE]

/-- The decoders of `pair`, `map`, `dep`, `expect` and `filter` are a `match` on a first decoding step at a
generic value type; an accepted input went through its `some` branch.  (`decN` and `counted` match at a concrete
type, which is another `match` constant: their laws open it by `split`.) -/
theorem dec_match_some {α β} {o : Option (α × Bytes)} {F : α → Bytes → Option β} {x : β}
    (h : (match o with | none => none | some (a, r) => F a r) = some x) :
    ∃ a r, o = some (a, r) ∧ F a r = some x := by
  match o, h with
  | some (a, r), h => exact ⟨a, r, rfl, h⟩

def pair {α β} (c : Codec α) (d : Codec β) : Codec (α × β) where
  enc p := c.enc p.1 ++ d.enc p.2
  dec bs :=
    match c.dec bs with
    | none => none
    | some (a, r) =>
      match d.dec r with
      | none => none
      | some (b, r') => some ((a, b), r')

theorem pair_sound {α β} {c : Codec α} {d : Codec β} {P Q}
    (hc : c.Sound P) (hd : d.Sound Q) : (pair c d).Sound (fun p => P p.1 ∧ Q p.2) := by
  intro ⟨a, b⟩ ⟨ha, hb⟩ r
  simp only [pair, List.append_assoc]
  rw [hc a ha]; simp only []; rw [hd b hb]

theorem pair_exact {α β} {c : Codec α} {d : Codec β} {P Q}
    (hc : c.Exact P) (hd : d.Exact Q) : (pair c d).Exact (fun p => P p.1 ∧ Q p.2) := by
  intro bs ⟨a, b⟩ r h
  obtain ⟨a', r1, h1, h⟩ := dec_match_some h
  obtain ⟨b', r2, h2, h⟩ := dec_match_some h
  cases h
  obtain ⟨pa, e1⟩ := hc _ _ _ h1
  obtain ⟨pb, e2⟩ := hd _ _ _ h2
  exact ⟨⟨pa, pb⟩, by simp only [pair, List.append_assoc]; rw [e1, e2]⟩

/-- Transport along a bijection between the wire tuple and the value struct. -/
def map {α β} (f : α → β) (g : β → α) (c : Codec α) : Codec β where
  enc b := c.enc (g b)
  dec bs :=
    match c.dec bs with
    | none => none
    | some (a, r) => some (f a, r)

theorem map_sound {α β} {f : α → β} {g : β → α} {c : Codec α} {P}
    (hfg : ∀ b, f (g b) = b) (hc : c.Sound P) : (map f g c).Sound (fun b => P (g b)) := by
  intro b hb r
  simp only [map]
  rw [hc _ hb]; simp only [hfg]

theorem map_exact {α β} {f : α → β} {g : β → α} {c : Codec α} {P}
    (hgf : ∀ a, g (f a) = a) (hc : c.Exact P) : (map f g c).Exact (fun b => P (g b)) := by
  intro bs b r h
  obtain ⟨a, r1, h1, h⟩ := dec_match_some h
  cases h
  simp only [map, hgf]
  exact hc _ _ _ h1

/-- 64-bit big-endian = two 32-bit big-endian halves, high first. -/
def u64be : Codec UInt64 :=
  map (fun p => Prim.join64 p.1 p.2) (fun x => (Prim.hi32 x, Prim.lo32 x)) (pair u32be u32be)

/-- 64-bit little-endian = two 32-bit little-endian halves, low first. -/
def u64le : Codec UInt64 :=
  map (fun p => Prim.join64 p.2 p.1) (fun x => (Prim.lo32 x, Prim.hi32 x)) (pair u32le u32le)

theorem u64be_sound : u64be.Sound (fun _ => True) := by
  have := map_sound (f := fun p : UInt32 × UInt32 => Prim.join64 p.1 p.2)
    (g := fun x => (Prim.hi32 x, Prim.lo32 x)) (fun b => Prim.join64_hi_lo b)
    (pair_sound u32be_sound u32be_sound)
  intro a _ r; exact this a ⟨trivial, trivial⟩ r

theorem u64le_sound : u64le.Sound (fun _ => True) := by
  have := map_sound (f := fun p : UInt32 × UInt32 => Prim.join64 p.2 p.1)
    (g := fun x => (Prim.lo32 x, Prim.hi32 x)) (fun b => Prim.join64_hi_lo b)
    (pair_sound u32le_sound u32le_sound)
  intro a _ r; exact this a ⟨trivial, trivial⟩ r

theorem u64be_exact : u64be.Exact (fun _ => True) := by
  have := map_exact (f := fun p : UInt32 × UInt32 => Prim.join64 p.1 p.2)
    (g := fun x => (Prim.hi32 x, Prim.lo32 x))
    (fun a => by simp [Prim.hi32_join64, Prim.lo32_join64])
    (pair_exact u32be_exact u32be_exact)
  intro bs a r h; exact ⟨trivial, (this bs a r h).2⟩

theorem u64le_exact : u64le.Exact (fun _ => True) := by
  have := map_exact (f := fun p : UInt32 × UInt32 => Prim.join64 p.2 p.1)
    (g := fun x => (Prim.lo32 x, Prim.hi32 x))
    (fun a => by simp [Prim.hi32_join64, Prim.lo32_join64])
    (pair_exact u32le_exact u32le_exact)
  intro bs a r h; exact ⟨trivial, (this bs a r h).2⟩

def bytesN (n : Nat) : Codec Bytes where
  enc s := s
  dec bs := if n ≤ bs.length then some (bs.take n, bs.drop n) else none

theorem bytesN_sound (n : Nat) : (bytesN n).Sound (fun s => s.length = n) := by
  intro s hs r
  simp [bytesN, ← hs]

theorem bytesN_exact (n : Nat) : (bytesN n).Exact (fun s => s.length = n) := by
  intro bs s r h
  simp only [bytesN] at h
  split at h
  · simp at h
    obtain ⟨rfl, rfl⟩ := h
    simp [bytesN]; omega
  · simp at h

/-! ### layouts of fixed width -/

/-- `c` reads exactly `w` bytes: it accepts every input of at least `w` bytes, consuming
those, and no shorter one.  Width adds up along `pair`, so the length guard in front of a
run of primitive reads is checked against one number, with no arithmetic on offsets. -/
structure Fixed {α} (c : Codec α) (w : Nat) : Prop where
  dec_some : ∀ {bs : Bytes}, w ≤ bs.length → ∃ a, c.dec bs = some (a, bs.drop w)
  dec_none : ∀ {bs : Bytes}, bs.length < w → c.dec bs = none

theorem u8_fixed : u8.Fixed 1 where
  dec_some {bs} h := by
    match bs, h with
    | a :: r, _ => exact ⟨a, rfl⟩
  dec_none {bs} h := by
    match bs, h with
    | [], _ => rfl

theorem fixed_of_four {α} {c : Codec α} (f : UInt8 → UInt8 → UInt8 → UInt8 → α)
    (hc : c.dec = fun | a :: b :: c :: d :: r => some (f a b c d, r) | _ => none) : c.Fixed 4 where
  dec_some {bs} h := by
    match bs, h with
    | a :: b :: c :: d :: r, _ => exact ⟨_, by rw [hc]; rfl⟩
  dec_none {bs} h := by
    match bs, h with
    | [], _ | [_], _ | [_, _], _ | [_, _, _], _ => rw [hc]

theorem u32be_fixed : u32be.Fixed 4 := fixed_of_four Prim.decU32BE rfl
theorem u32le_fixed : u32le.Fixed 4 := fixed_of_four Prim.decU32LE rfl

theorem pair_fixed {α β} {c : Codec α} {d : Codec β} {w v : Nat} (hc : c.Fixed w) (hd : d.Fixed v) :
    (pair c d).Fixed (w + v) where
  dec_some {bs} h := by
    obtain ⟨a, ha⟩ := hc.dec_some (bs := bs) (by omega)
    obtain ⟨b, hb⟩ := hd.dec_some (bs := bs.drop w) (by rw [List.length_drop]; omega)
    exact ⟨(a, b), by simp only [pair, ha, hb, List.drop_drop]⟩
  dec_none {bs} h := by
    by_cases hw : w ≤ bs.length
    · obtain ⟨a, ha⟩ := hc.dec_some hw
      simp only [pair, ha, hd.dec_none (bs := bs.drop w) (by rw [List.length_drop]; omega)]
    · simp only [pair, hc.dec_none (Nat.lt_of_not_le hw)]

theorem map_fixed {α β} {f : α → β} {g : β → α} {c : Codec α} {w : Nat} (hc : c.Fixed w) :
    (map f g c).Fixed w where
  dec_some {bs} h := by
    obtain ⟨a, ha⟩ := hc.dec_some h
    exact ⟨f a, by simp only [map, ha]⟩
  dec_none {bs} h := by simp only [map, hc.dec_none h]

theorem u64be_fixed : u64be.Fixed 8 := map_fixed (pair_fixed u32be_fixed u32be_fixed)
theorem u64le_fixed : u64le.Fixed 8 := map_fixed (pair_fixed u32le_fixed u32le_fixed)

def encL {α} (c : Codec α) : List α → Bytes
  | [] => []
  | a :: l => c.enc a ++ encL c l

def decN {α} (c : Codec α) : Nat → Bytes → Option (List α × Bytes)
  | 0, bs => some ([], bs)
  | n + 1, bs =>
    match c.dec bs with
    | none => none
    | some (a, r) =>
      match decN c n r with
      | none => none
      | some (l, r') => some (a :: l, r')

def rep {α} (n : Nat) (c : Codec α) : Codec (List α) := ⟨encL c, decN c n⟩

theorem decN_sound {α} {c : Codec α} {P} (hc : c.Sound P) :
    ∀ (l : List α), (∀ x ∈ l, P x) → ∀ r, decN c l.length (encL c l ++ r) = some (l, r) := by
  intro l
  induction l with
  | nil => intro _ r; rfl
  | cons a l ih =>
    intro hl r
    simp only [List.length_cons, decN, encL, List.append_assoc]
    rw [hc a (hl a (by simp))]; simp only []
    rw [ih (fun x hx => hl x (by simp [hx]))]

theorem decN_exact {α} {c : Codec α} {P} (hc : c.Exact P) :
    ∀ (n : Nat) (bs : Bytes) (l : List α) (r : Bytes), decN c n bs = some (l, r) →
      l.length = n ∧ (∀ x ∈ l, P x) ∧ bs = encL c l ++ r := by
  intro n
  induction n with
  | zero =>
    intro bs l r h
    simp [decN] at h
    obtain ⟨rfl, rfl⟩ := h
    simp [encL]
  | succ n ih =>
    intro bs l r h
    simp only [decN] at h
    split at h
    · simp at h
    · rename_i a r1 h1
      split at h
      · simp at h
      · rename_i l' r2 h2
        simp at h
        obtain ⟨rfl, rfl⟩ := h
        obtain ⟨pa, e1⟩ := hc _ _ _ h1
        obtain ⟨hl, hp, e2⟩ := ih _ _ _ h2
        refine ⟨by simp [hl], ?_, ?_⟩
        · intro x hx
          simp at hx
          rcases hx with rfl | hx
          · exact pa
          · exact hp x hx
        · simp only [encL, List.append_assoc]
          rw [e1, e2]

theorem rep_sound {α} {c : Codec α} {P} (n : Nat) (hc : c.Sound P) :
    (rep n c).Sound (fun l => l.length = n ∧ ∀ x ∈ l, P x) := by
  intro l ⟨hn, hl⟩ r
  subst hn
  exact decN_sound hc l hl r

theorem rep_exact {α} {c : Codec α} {P} (n : Nat) (hc : c.Exact P) :
    (rep n c).Exact (fun l => l.length = n ∧ ∀ x ∈ l, P x) := by
  intro bs l r h
  obtain ⟨h1, h2, h3⟩ := decN_exact hc n bs l r h
  exact ⟨⟨h1, h2⟩, h3⟩

/-! ### count-prefixed lists (signed 64-bit count, must be non-negative) -/

def maxCount : Nat := 9223372036854775808  -- 2^63

def counted {α} (cnt : Codec UInt64) (c : Codec α) : Codec (List α) where
  enc l := cnt.enc (UInt64.ofNat l.length) ++ encL c l
  dec bs :=
    match cnt.dec bs with
    | none => none
    | some (k, r) => if k.toNat < maxCount then decN c k.toNat r else none

theorem counted_sound {α} {cnt : Codec UInt64} {c : Codec α} {P}
    (hk : cnt.Sound (fun _ => True)) (hc : c.Sound P) :
    (counted cnt c).Sound (fun l => l.length < maxCount ∧ ∀ x ∈ l, P x) := by
  intro l ⟨hn, hl⟩ r
  simp only [counted, List.append_assoc]
  rw [hk _ trivial]
  have : (UInt64.ofNat l.length).toNat = l.length := by
    simp
    unfold maxCount at hn; omega
  simp only [this, hn, if_true]
  exact decN_sound hc l hl r

theorem counted_exact {α} {cnt : Codec UInt64} {c : Codec α} {P}
    (hk : cnt.Exact (fun _ => True)) (hc : c.Exact P) :
    (counted cnt c).Exact (fun l => l.length < maxCount ∧ ∀ x ∈ l, P x) := by
  intro bs l r h
  simp only [counted] at h
  split at h
  · simp at h
  · rename_i k r1 h1
    split at h
    · rename_i hlt
      obtain ⟨_, e1⟩ := hk _ _ _ h1
      obtain ⟨hl, hp, e2⟩ := decN_exact hc _ _ _ _ h
      refine ⟨⟨by omega, hp⟩, ?_⟩
      simp only [counted, List.append_assoc]
      rw [e1, e2, hl]
      simp
    · simp at h

/-! ### u8-length-prefixed byte strings (labels) -/

def lp8 : Codec Bytes where
  enc s := s.length.toUInt8 :: s
  dec
    | [] => none
    | n :: r => if n.toNat ≤ r.length then some (r.take n.toNat, r.drop n.toNat) else none

theorem lp8_sound : lp8.Sound (fun s => s.length ≤ 255) := by
  intro s hs r
  have : s.length.toUInt8.toNat = s.length := by
    simp [Nat.toUInt8]; omega
  simp [lp8, this]

theorem lp8_exact : lp8.Exact (fun s => s.length ≤ 255) := by
  intro bs s r h
  cases bs with
  | nil => simp [lp8] at h
  | cons n t =>
    simp only [lp8] at h
    split at h
    · rename_i hle
      simp at h
      obtain ⟨rfl, rfl⟩ := h
      have hn := n.toNat_lt
      refine ⟨by simp; omega, ?_⟩
      simp only [lp8, List.cons_append, List.take_append_drop, List.length_take]
      congr 1
      apply UInt8.toNat_inj.mp
      simp [Nat.toUInt8]
      omega
    · simp at h

/-! ### a byte read as a boolean (any non-zero is true; written back as 1) -/

def boolByte : Codec Bool where
  enc b := [if b then 1 else 0]
  dec
    | [] => none
    | x :: r => some (x != 0, r)

theorem boolByte_sound : boolByte.Sound (fun _ => True) := by
  intro b _ r
  cases b <;> simp [boolByte]

/-! ### dependent sequencing, expected constants, side conditions -/

/-- A key is written first and selects the codec for the whole value
(count-prefixed and length-prefixed layouts are instances). -/
def dep {κ β} (c : Codec κ) (key : β → κ) (f : κ → Codec β) : Codec β where
  enc b := c.enc (key b) ++ (f (key b)).enc b
  dec bs :=
    match c.dec bs with
    | none => none
    | some (k, r) => (f k).dec r

theorem dep_sound {κ β} {c : Codec κ} {key : β → κ} {f : κ → Codec β} {Pk} {Pf : κ → β → Prop}
    (hc : c.Sound Pk) (hf : ∀ k, (f k).Sound (Pf k)) :
    (dep c key f).Sound (fun b => Pk (key b) ∧ Pf (key b) b) := by
  intro b ⟨h1, h2⟩ r
  simp only [dep, List.append_assoc]
  rw [hc _ h1]; simp only []
  exact hf _ b h2 r

theorem dep_exact {κ β} {c : Codec κ} {key : β → κ} {f : κ → Codec β} {Pk} {Pf : κ → β → Prop}
    (hc : c.Exact Pk) (hf : ∀ k, (f k).Exact (Pf k)) (hkey : ∀ k b, Pf k b → key b = k) :
    (dep c key f).Exact (fun b => Pk (key b) ∧ Pf (key b) b) := by
  intro bs b r h
  simp only [dep] at h
  obtain ⟨k, r1, h1, h⟩ := dec_match_some h
  obtain ⟨pk, e1⟩ := hc _ _ _ h1
  obtain ⟨pb, e2⟩ := hf k _ _ _ h
  have hk := hkey k b pb
  subst hk
  refine ⟨⟨pk, pb⟩, ?_⟩
  simp only [dep, List.append_assoc]
  rw [e1, e2]

/-- A field whose value is determined by context: written from `k`, and
required to equal `k` when read. -/
def expect {κ} [DecidableEq κ] (c : Codec κ) (k : κ) : Codec Unit where
  enc _ := c.enc k
  dec bs :=
    match c.dec bs with
    | none => none
    | some (k', r) => if k' = k then some ((), r) else none

theorem expect_sound {κ} [DecidableEq κ] {c : Codec κ} {Pk} (k : κ) (hc : c.Sound Pk) (hk : Pk k) :
    (expect c k).Sound (fun _ => True) := by
  intro _ _ r
  simp only [expect]
  rw [hc _ hk]; simp

theorem expect_exact {κ} [DecidableEq κ] {c : Codec κ} {Pk} (k : κ) (hc : c.Exact Pk) :
    (expect c k).Exact (fun _ => True) := by
  intro bs u r h
  simp only [expect] at h
  obtain ⟨k', r1, h1, h⟩ := dec_match_some h
  split at h
  · rename_i hk
    cases h; subst hk
    exact ⟨trivial, (hc _ _ _ h1).2⟩
  · cases h

/-- Reject decoded values that fail a side condition. -/
def filter {α} (p : α → Bool) (c : Codec α) : Codec α where
  enc := c.enc
  dec bs :=
    match c.dec bs with
    | none => none
    | some (a, r) => if p a then some (a, r) else none

theorem filter_sound {α} {p : α → Bool} {c : Codec α} {P} (hc : c.Sound P) :
    (filter p c).Sound (fun a => P a ∧ p a = true) := by
  intro a ⟨h1, h2⟩ r
  simp only [filter]
  rw [hc _ h1]; simp [h2]

theorem filter_exact {α} {p : α → Bool} {c : Codec α} {P} (hc : c.Exact P) :
    (filter p c).Exact (fun a => P a ∧ p a = true) := by
  intro bs a r h
  simp only [filter] at h
  obtain ⟨a', r1, h1, h⟩ := dec_match_some h
  split at h
  · rename_i hp
    cases h
    exact ⟨⟨(hc _ _ _ h1).1, hp⟩, (hc _ _ _ h1).2⟩
  · cases h

theorem Sound.mono {α} {c : Codec α} {P Q : α → Prop} (h : c.Sound P) (hq : ∀ a, Q a → P a) :
    c.Sound Q := fun a ha r => h a (hq a ha) r

theorem Exact.mono {α} {c : Codec α} {P Q : α → Prop} (h : c.Exact P) (hq : ∀ a, P a → Q a) :
    c.Exact Q := fun bs a r hd => ⟨hq a (h bs a r hd).1, (h bs a r hd).2⟩

/-- Top-level round trip with a trailing free-form remainder (`extra_data`). -/
theorem Sound.top {α} {c : Codec α} {P} (h : c.Sound P) (a : α) (ha : P a) (extra : Bytes) :
    c.dec (c.enc a ++ extra) = some (a, extra) := h a ha extra

theorem Exact.reencode {α} {c : Codec α} {P} (h : c.Exact P) {bs a extra}
    (hd : c.dec bs = some (a, extra)) : c.enc a ++ extra = bs := ((h bs a extra hd).2).symm

end Codec
end EngineModel
