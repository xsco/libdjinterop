-- the proof modules, grouped as in DESIGN.md §11.11
-- histories of calls
import Proofs.Machine
-- byte codecs, hand model
import Proofs.MonadLaws
import Proofs.CursorLemmas
import Proofs.CheckedArith
import Proofs.ImplV2
import Proofs.ImplV2Lists
import Proofs.ImplV1
import Proofs.ImplV1Beat
import Proofs.ImplV1Lists
import Proofs.ImplV1Roundtrip
import Proofs.PayloadNonempty
-- byte codecs, regenerated from the C++
import Proofs.CursorCxxLemmas
import Proofs.CursorCxxV1Lemmas
import Proofs.CxxPrimsLemmas
import Proofs.WrLemmas
import Proofs.PrimGen
import Proofs.ImplV2Gen
import Proofs.ImplV2GenEnc
import Proofs.ImplV2GenTransfer
import Proofs.ImplV2GenC04
import Proofs.ImplV1Gen
import Proofs.ImplV1GenBeat
import Proofs.ImplV1GenBeatDec
import Proofs.ImplV1GenEnc
import Proofs.ImplV1GenLists
import Proofs.ImplV1GenTransfer
import Proofs.ImplV1GenEncTransfer
import Proofs.ImplV1GenBeatTransfer
-- decoder bounds, zlib loops, blob frames
import Proofs.DecodeSteps
import Proofs.DecodeReads
import Proofs.ZlibLoop
import Proofs.ZlibCompressLoop
import Proofs.ZlibCompressChunks
import Proofs.ZlibGenEq
import Proofs.ZlibGenCompressEq
import Proofs.InflateStored
import Proofs.BlobLevel
import Proofs.SetterFrame
-- tracks 1.x
import Proofs.TracksV1AList
import Proofs.TracksV1Float
import Proofs.TracksV1Steps
import Proofs.TracksV1Codec
import Proofs.TracksV1Write
import Proofs.TracksV1RoundTrip
import Proofs.TracksV1Spec
import Proofs.TracksV1Repr
import Proofs.TracksV1NaN
import Proofs.TracksV1PathCols
import Proofs.TracksV1Accept
import Proofs.TracksV1Lens
import Proofs.TracksV1SetForm
import Proofs.TracksV1Link
import Proofs.TracksV1SetRefines
import Proofs.TracksV1Db
import Proofs.TracksV1Table
import Proofs.TracksV1AcceptSet
import Proofs.TracksV1AcceptDb
import Proofs.TracksV1AcceptHist
import Proofs.TracksV1BlobBytes
import Proofs.TracksV1Txn
import Proofs.TracksV1Stmts
import Proofs.BindingsV1
import Proofs.NoUbTracksV1
import Proofs.NoUbStaleTracksV1
import Proofs.NoUbGuardsGen
import Proofs.NoUbGuardsTracksV1
import Proofs.C15GuardValues
import Proofs.C15FaultsTracksV1
-- tracks 2.x
import Proofs.TracksV2Basic
import Proofs.TracksV2Convert
import Proofs.TracksV2Idem
import Proofs.TracksV2Lens
import Proofs.TracksV2RoundTrip
import Proofs.TracksV2Db
import Proofs.TracksV2Eff
import Proofs.TracksV2Hist
import Proofs.TracksV2Get
import Proofs.TracksV2Table
import Proofs.TracksV2SetAtomic
import Proofs.TracksV2Wf
import Proofs.TracksV2Gone
import Proofs.TracksV2Bridge
import Proofs.TracksV2Stmts
import Proofs.ConvertV2GenEq
import Proofs.NoUbTracksV2
import Proofs.NoUbStaleTracksV2
import Proofs.NoUbGuardsTracksV2
import Proofs.C15FaultsTracksV2
-- table API 2.x
import Proofs.TableCore
import Proofs.TableTrack
import Proofs.TableTrackTyped
import Proofs.TableTrackWf
import Proofs.TableTrackQueries
import Proofs.TableLists
import Proofs.TableListsWf
import Proofs.TableListsTyped
import Proofs.TableEntity
import Proofs.TableInfo
-- forest and membership Specs
import Proofs.ListAux
import Proofs.SpecForest
import Proofs.SpecForestStep
import Proofs.SpecForestWf
-- crates 1.x
import Proofs.CratesV1Sql
import Proofs.CratesV1Forest
import Proofs.CratesV1Struct
import Proofs.CratesV1Inv
import Proofs.CratesV1Path
import Proofs.CratesV1SetName
import Proofs.CratesV1SetParent
import Proofs.CratesV1Remove
import Proofs.CratesV1Cases
import Proofs.NoUbCratesV1
import Proofs.CratesV1Abs
import Proofs.CratesV1Members
import Proofs.CratesV1Query
import Proofs.CratesV1Sim
import Proofs.CratesV1Ids
import Proofs.CratesV1MemSim
import Proofs.CratesV1WfConv
import Proofs.CratesV1Suffix
import Proofs.CratesV1Stmts
import Proofs.C15FaultsV1
-- whole library 1.x
import Proofs.Lib1Inv
import Proofs.Lib1Proj
import Proofs.Lib1Members
import Proofs.Lib1Autoinc
import Proofs.Lib1Raw
import Proofs.Lib1Refs
import Proofs.Lib1Blobs
import Proofs.Lib1Clean
-- chains, crates and playlists 2.x
import Proofs.Chain
import Proofs.ChainCore
import Proofs.CratesV2Abs
import Proofs.CratesV2Does
import Proofs.CratesV2Bridge
import Proofs.CratesV2Forest
import Proofs.CratesV2ForestRun
import Proofs.CratesV2Pairs
import Proofs.CratesV2Rep
import Proofs.CratesV2Change
import Proofs.CratesV2Members
import Proofs.CratesV2MembersQueries
import Proofs.CratesV2ForestQueries
import Proofs.CratesV2WfRaw
import Proofs.CratesV2Run
import Proofs.CratesV2WfConv
import Proofs.NoUbCratesV2
import Proofs.NoUbStaleCratesV2
import Proofs.V2CratesStmts
import Proofs.C15FaultsV2
-- whole library 2.x
import Proofs.Lib2Crate
import Proofs.Lib2Track
import Proofs.Lib2Inv
import Proofs.Lib2Step
import Proofs.Lib2Exec
import Proofs.Lib2Sim
import Proofs.Lib2Stmts
import Proofs.Lib2Stale
-- transactions
import Proofs.Txn
import Proofs.Observe
import Proofs.Stmts
import Proofs.SqlSites
-- schema, SQL text, directory
import Proofs.SqlCanon
import Proofs.SchemaFacts
import Proofs.SchemaFactsEval
import Proofs.Validator
import Proofs.ValidatorEval
import Proofs.Dir
-- pure numeric cores
import Proofs.Cxx
import Proofs.Waveform
import Proofs.F64Val
import Proofs.BeatgridNum
import Proofs.BeatgridWindow
import Proofs.BeatgridGenEq
import Proofs.Beatgrid
